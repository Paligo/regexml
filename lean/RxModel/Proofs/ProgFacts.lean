/-
  Proofs/ProgFacts — what `ReProgram::new` (`mkProgram`) derives from the tree.  A recorded precondition is the
  operation `add_precondition` records at a node of the numbered tree, renumbered by `numberPres`
  (`mkProgram_pres_node`) — so whatever passes to all children of the tree holds at that node, and what is left to
  argue is the step from the node to the recorded operation, `PreAt`.  `prefix.len ≤ minimum_length` unless the
  minimum is saturated.  The instance C05 needs: a tree without back-reference has preconditions without.
-/
import RxModel.Proofs.TreeInv
import RxModel.Proofs.AddPre
import RxModel.Proofs.CompileLemmas
namespace Rx

theorem mem_numberPres : ∀ (ps : List Pre) (n : Nat) (q : Pre), q ∈ numberPres ps n →
    ∃ p ∈ ps, ∃ b, q = { p with op := (numberReps p.op b).1 } := by
  intro ps
  induction ps with
  | nil => intro n q hq; simp only [numberPres] at hq; cases hq
  | cons p ps ih =>
    intro n q hq
    simp only [numberPres, List.mem_cons] at hq
    rcases hq with hq | hq
    · exact ⟨p, List.mem_cons_self, _, hq⟩
    · obtain ⟨p', hp', b, hb⟩ := ih _ q hq
      exact ⟨p', List.mem_cons_of_mem _ hp', b, hb⟩

theorem mkProgram_pres_node {P : Op → Prop} {PL : List Op → Prop} (H : Down P PL) (pat : List Nat) (op : Op)
    (mp : Nat) (fl : CFlags) (hb : Bool) (hP : P (numberReps op 0).1) {q : Pre}
    (hq : q ∈ (mkProgram pat op mp fl hb).pres) :
    ∃ n t b, P n ∧ PreAt n t ∧ q.op = (numberReps t b).1 := by
  obtain ⟨_, _, _, hpres⟩ := MkProgram.shortcuts pat op mp fl hb
  rcases hpres with he | ⟨k, he⟩
  · rw [he] at hq; cases hq
  · rw [he] at hq
    obtain ⟨p, hp, b, rfl⟩ := mem_numberPres _ _ _ hq
    obtain ⟨n, hn, hat⟩ := addPre_node H fl.multiLine hP none 0 hp
    exact ⟨n, p.op, b, hn, hat, rfl⟩

theorem le_satAdd_or (a b : Nat) : a ≤ satAdd a b ∨ satAdd a b = usizeMax := by
  show a ≤ min (a + b) usizeMax ∨ min (a + b) usizeMax = usizeMax
  omega

/-- the prefix is the first element of the sequence the minimum is taken of -/
theorem mkProgram_prefixLen (pat : List Nat) (op : Op) (mp : Nat) (fl : CFlags) (hb : Bool) :
    ∀ cs, (mkProgram pat op mp fl hb).prefix_ = some cs →
      cs.length ≤ (mkProgram pat op mp fl hb).minLen ∨ (mkProgram pat op mp fl hb).minLen = usizeMax := by
  intro cs hcs
  obtain ⟨rest, hr⟩ := (MkProgram.shortcuts pat op mp fl hb).2.1 cs hcs
  rw [MkProgram.minLen, hr]
  simp only [minLenOp, minLenSeq]
  exact le_satAdd_or _ _

theorem hasBackref_numRel :
    NumRel (fun o o' => hasBackref o' = hasBackref o) (fun l l' => hasBackrefL l' = hasBackrefL l) where
  refl _ := rfl
  capture _ h := by simp only [hasBackref, h]
  choice h := by simp only [hasBackref, h]
  seq h := by simp only [hasBackref, h]
  gfixed _ _ _ h := by simp only [hasBackref, h]
  rfixed _ _ _ h := by simp only [hasBackref, h]
  unamb _ _ h := by simp only [hasBackref, h]
  nil := rfl
  cons h hl := by simp only [hasBackrefL, h, hl]
  rep _ _ _ _ _ h := by simp only [hasBackref, h]

theorem hasBackref_numberReps (op : Op) (n : Nat) : hasBackref (numberReps op n).1 = hasBackref op :=
  numberReps_rel hasBackref_numRel op n

theorem hasBackrefL_numberRepsL : (ops : List Op) → ∀ n, hasBackrefL (numberRepsL ops n).1 = hasBackrefL ops :=
  fun ops n => numberRepsL_rel hasBackref_numRel ops n

theorem preAt_noBackref {n t : Op} (hn : hasBackref n = false) (h : PreAt n t) : hasBackref t = false := by
  cases h with
  | leaf _ => exact hn
  | self _ _ => exact hn
  | fixed hp _ _ =>
    simp only [hasBackref]
    exact down_noBackref.rpt hp hn

theorem addPreSeq_noBackref (ml : Bool) : (ops : List Op) → ∀ fp mp, hasBackrefL ops = false →
    ∀ q ∈ addPreSeq ml ops fp mp, hasBackref q.op = false := by
  intro ops fp mp h q hq
  obtain ⟨n, hn, hat⟩ := addPreSeq_node down_noBackref ml h fp mp hq
  exact preAt_noBackref hn hat

theorem mkProgram_facts (pat : List Nat) (op : Op) (mp : Nat) (fl : CFlags) (hop : hasBackref op = false) :
    (∀ pre, (mkProgram pat op mp fl false).prefix_ = some pre →
      pre.length ≤ (mkProgram pat op mp fl false).minLen ∨ (mkProgram pat op mp fl false).minLen = usizeMax) ∧
    (∀ q ∈ (mkProgram pat op mp fl false).pres, hasBackref q.op = false) := by
  refine ⟨mkProgram_prefixLen pat op mp fl false, fun q hq => ?_⟩
  obtain ⟨n, t, b, hn, hat, he⟩ := mkProgram_pres_node down_noBackref pat op mp fl false
    (by rw [hasBackref_numberReps]; exact hop) hq
  rw [he, hasBackref_numberReps]
  exact preAt_noBackref hn hat

end Rx
