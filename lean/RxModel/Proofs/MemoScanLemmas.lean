/-
  Proofs/MemoScanLemmas — the memo invariant RELATIVE to the starts still to be tried, `HRG (From i)`: every entry
  reachable from a start `≥ i` is dead.  A failed search from `i` keeps it, a successful one leaves every reachable
  entry dead or on the path to the reported end (`matchesFrom_outcomeG`).  After a success ending at `n` the entries
  excused by `Path n` are not reachable from a start `≥ n`, unless the whole pattern has a zero-length match at `n`
  (`path_to_from`): the invariant for the continuation position.
-/
import RxModel.Proofs.MemoSeqLemmas
namespace Rx.MemoScan
open Rx Rx.SearchComplete Rx.Memo
open Rx.C08 (noEmptyAtoms noEmptyAtomsL clsCanon clsCanonL)

theorem HRX_mono (ctx : Ctx) {E E' : List Op → Nat → Prop} (hE : ∀ os p, E os p → E' os p) :
    ∀ R (A A' : Nat → Prop), (∀ p, A' p → A p) → ∀ st, HRX ctx E A R st → HRX ctx E' A' R st
  | [], _, _, _, _, _ => trivial
  | o :: os, A, A', hA, st, h => by
    refine ⟨fun id hid p hp hA' hm => ?_, HRX_mono ctx hE os _ _ ?_ st h.2⟩
    · rcases h.1 id hid p hp (hA p hA') hm with h1 | h1
      · exact .inl h1
      · exact .inr (hE os p h1)
    · rintro m ⟨q, hq, hAq, hr⟩
      exact ⟨q, hq, hA q hAq, hr⟩

theorem HRG_of_nil (ctx : Ctx) (l : List Op) (A : Nat → Prop) (st : St) (h : st.hist = []) : HRG ctx A l st :=
  HRG_of_HR ctx l A st (HR_of_nil ctx l st h)

/-- what a successful attempt leaves: the reported end `n`, and every reachable entry dead or on the path -/
def SuccG (ctx : Ctx) (A : Nat → Prop) (l : List Op) (st' : St) : Prop :=
  ∃ n, getParenEnd st' 0 = some n ∧ HRX ctx (Path ctx n) A l st'

def OutcomeG (ctx : Ctx) (l : List Op) (i : Nat) (r : Bool × St) : Prop :=
  Outcome ctx (.seq l) i r ∧ (r.1 = false → HRG ctx (From i) l r.2) ∧ (r.1 = true → SuccG ctx (From i) l r.2)

section
variable {env : Env} {ctx : Ctx} {pr : Prog} {l : List Op}

theorem matchesFrom_outcomeG (hop : pr.op = .seq l) (T : TreeM env ctx l) (F : SearchFacts ctx pr)
    (hlen : ctx.len < usizeMax) (hP : ∀ q ∈ pr.pres, PreM ctx q)
    (i : Nat) (hi : i ≤ ctx.len) (st0 : St) (hp : st0.panic = none) (hm : HRG ctx (From i) l st0) :
    OutcomeG ctx l i (matchesFrom ctx pr i st0) := by
  have h := matchesFrom_grown hop T F hlen hP i hi st0 hp hm
  refine ⟨h.outcome (fun _ h => h.1) (fun _ _ h => h.1), fun hf => (h.fail hf).2.hrx hm, fun ht => ?_⟩
  obtain ⟨_, _, _, _, _, _, _, _, n, he, _, hg⟩ := h.hit ht
  exact ⟨n, he, hg.hrx hm⟩

theorem matchesFrom_span (hop : pr.op = .seq l) (T : TreeM env ctx l) (F : SearchFacts ctx pr)
    (hlen : ctx.len < usizeMax) (hcp : C02.capsPos (.seq l) = true) (hP : ∀ q ∈ pr.pres, PreM ctx q)
    (i : Nat) (hi : i ≤ ctx.len) (st0 : St) (hp : st0.panic = none) (hm : HRG ctx (From i) l st0) {st' : St}
    (h : matchesFrom ctx pr i st0 = (true, st')) :
    ∃ j n, getParenStart st' 0 = some j ∧ getParenEnd st' 0 = some n ∧ i ≤ j ∧ j ≤ n ∧ n ≤ ctx.len ∧
      OpR ctx (.seq l) j n ∧ (∀ k q, i ≤ k → k < j → ¬ OpR ctx (.seq l) k q) ∧
      (enumSeq3 ctx l j).head? = some n ∧ st'.panic = none ∧ HRX ctx (Path ctx n) (From i) l st' := by
  have hg := matchesFrom_grown hop T F hlen hP i hi st0 hp hm
  rw [h] at hg
  obtain ⟨j, stj, hij, hjl, _, hleft, hma, hcl, n, he, hh, hgr⟩ := hg.hit rfl
  obtain ⟨hs, n', he', hjn, hnl, hopr⟩ := C02.matchAt_span ctx (.seq l) T.wf hcp j hjl stj _ hma
  cases Option.some.inj (he'.symm.trans he)
  exact ⟨j, n, hs, he, hij, hjn, hnl, hopr, fun k q h1 h2 hq => hleft k h1 h2 ⟨q, hq⟩, hh, hcl, hgr.hrx hm⟩

end

theorem path_to_from (ctx : Ctx) (n : Nat) (hn : n ≤ ctx.len) (st : St) : ∀ (R : List Op) (A A' : Nat → Prop) (N : Prop),
    (∀ q, A' q → A q ∧ n ≤ q ∧ (q = n → N)) → (N → ¬ OpRSeq ctx R n n) →
    HRX ctx (Path ctx n) A R st → HRG ctx A' R st
  | [], _, _, _, _, _, _ => trivial
  | o :: os, A, A', N, hA, hN, h => by
    refine ⟨fun id hid p hp hA' hm => ?_, path_to_from ctx n hn st os _ _ (N ∧ OpR ctx o n n) ?_ ?_ h.2⟩
    · obtain ⟨a1, a2, a3⟩ := hA p hA'
      rcases h.1 id hid p hp a1 hm with h1 | ⟨h1, h2⟩
      · exact .inl h1
      · exfalso
        have hpn : p = n := by omega
        subst hpn
        refine hN (a3 rfl) ?_
        simp only [OpRSeq]
        exact ⟨p, rep0Id_self ctx hid p, h2 rfl⟩
    · rintro m ⟨q, hq, hA'q, hr⟩
      obtain ⟨a1, a2, a3⟩ := hA q hA'q
      have b := OpR_bounds_op ctx o q m hq hr
      refine ⟨⟨q, hq, a1, hr⟩, by omega, fun he => ?_⟩
      have hqn : q = n := by omega
      subst hqn
      subst he
      exact ⟨a3 rfl, hr⟩
    · rintro ⟨hN', hr⟩ hos
      refine hN hN' ?_
      simp only [OpRSeq]
      exact ⟨n, hr, hos⟩

end Rx.MemoScan
