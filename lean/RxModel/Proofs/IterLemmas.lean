/-
  Proofs/IterLemmas — the two quantifier enumerations `greedyIter` / `reluctIter` over a body enumeration that
  makes progress: the reluctant list is strictly increasing, so no end is listed twice; the greedy facts are the
  reluctant ones read backwards (`reluctIter_eq_reverse`).
-/
import RxModel.Proofs.EnumLemmas

namespace Rx
open Rx.Clean2End (Progress)

theorem reluctIter_sorted {e : Nat → List Nat} {L : Nat} (hp : Progress e L) (mn : Nat) :
    ∀ b k p, p ≤ L →
      (∀ x, x ∈ reluctIter e mn b k p → p ≤ x) ∧ (reluctIter e mn b k p).Pairwise (· < ·) := by
  intro b
  induction b with
  | zero =>
    intro k p _
    simp only [reluctIter]
    split <;> simp
  | succ b ih =>
    intro k p hpL
    simp only [reluctIter]
    cases hl : e p with
    | nil =>
      simp only [List.append_nil]
      split <;> simp
    | cons q t =>
      -- everything reached through the next iteration lies at or after `q`, and `p < q`
      obtain ⟨hq1, hq2⟩ := hp p hpL q (by rw [hl]; exact List.mem_cons_self)
      obtain ⟨i1, i2⟩ := ih (k + 1) q hq2
      simp only
      split
      · rw [List.singleton_append, List.pairwise_cons]
        refine ⟨fun x hx => ?_, fun x hx => by have := i1 x hx; omega, i2⟩
        rcases List.mem_cons.1 hx with rfl | hx
        · exact Nat.le_refl _
        · have := i1 x hx; omega
      · rw [List.nil_append]
        exact ⟨fun x hx => by have := i1 x hx; omega, i2⟩

theorem reluctIter_nodup {e : Nat → List Nat} {L : Nat} (hp : Progress e L) (mn b k p : Nat) (hpL : p ≤ L) :
    (∀ x, x ∈ reluctIter e mn b k p → p ≤ x) ∧ (reluctIter e mn b k p).Nodup :=
  ⟨(reluctIter_sorted hp mn b k p hpL).1, (reluctIter_sorted hp mn b k p hpL).2.imp Nat.ne_of_lt⟩

theorem greedyIter_nodup {e : Nat → List Nat} {L : Nat} (hp : Progress e L) (mn : Nat) :
    ∀ b k p, p ≤ L → (∀ x, x ∈ greedyIter e mn b k p → p ≤ x) ∧ (greedyIter e mn b k p).Nodup := by
  intro b k p hpL
  obtain ⟨h1, h2⟩ := reluctIter_sorted hp mn b k p hpL
  rw [reluctIter_eq_reverse] at h1 h2
  exact ⟨fun x hx => h1 x (List.mem_reverse.2 hx), (List.pairwise_reverse.1 h2).imp Nat.ne_of_gt⟩

end Rx
