/-
  Proofs/LawLemmas — the quantifier spellings `{1}` / `{0}` that `pieceQuant` identifies.
-/
import RxModel.Model.Parser
import RxModel.Proofs.ParserStepLemmas
namespace Rx

theorem pieceQuant_brace (c : PC) (ret : Op) (s s' : PS) (hlt : s.idx < c.len) (hq : c.at s.idx = 123)
    (hb : bracket c s = .ok () s')
    (hnr : relAt c s' = false) :
    pieceQuant c ret s = .ok (quantOp ret true 123 s'.bmin s'.bmax true) s' := by
  have hh : quantHead c s = .ok true s' := by simp [quantHead, hq, hb]
  rw [pieceQuant_eq, if_neg (by omega), hh]
  simp only [hnr, hq, Bool.false_and, Bool.false_eq_true, if_false, Bool.not_false]

theorem pieceQuant_brace_one (c : PC) (ret : Op) (s s' : PS) (hlt : s.idx < c.len) (hq : c.at s.idx = 123)
    (hb : bracket c s = .ok () s') (hmin : s'.bmin = 1) (hmax : s'.bmax = 1)
    (hnr : relAt c s' = false)
    (hna : isAnchor ret = false) (hnz : mzs ret ≠ ZLS_ANYWHERE) :
    pieceQuant c ret s = .ok ret s' := by
  rw [pieceQuant_brace c ret s s' hlt hq hb hnr, hmin, hmax]
  simp [quantOp, hna, hnz]

theorem pieceQuant_brace_zero (c : PC) (ret : Op) (s s' : PS) (hlt : s.idx < c.len) (hq : c.at s.idx = 123)
    (hb : bracket c s = .ok () s') (hmin : s'.bmin = 0) (hmax : s'.bmax = 0)
    (hnr : relAt c s' = false)
    (hnz : mzs ret ≠ ZLS_ANYWHERE) :
    pieceQuant c ret s = .ok .nothing s' := by
  rw [pieceQuant_brace c ret s s' hlt hq hb hnr, hmin, hmax]
  cases hna : isAnchor ret
  · simp [quantOp, hna, hnz]
  · simp [quantOp, hna, mzs]

theorem PC.no_reluctant {c : PC} {i : Nat} {rest : List Nat} (h : c.pat.drop i = rest)
    (hnr : rest.head? ≠ some 63) : (decide (i < c.len) && c.at i == 63) = false := by
  cases rest with
  | nil => simp [PC.drop_nil h]
  | cons x t =>
    obtain ⟨_, hx, _⟩ := PC.drop_cons h
    have : x ≠ 63 := by intro e; apply hnr; simp [e]
    simp [hx, this]

theorem bracket_one_digit (c : PC) (s : PS) (d : Nat) (rest : List Nat) (hd : isDigit d = true)
    (hv : Spec.digitsVal [d] ≤ usizeMax)
    (hpat : c.pat.drop s.idx = 123 :: d :: 125 :: rest) (hnr : rest.head? ≠ some 63) :
    s.idx < c.len ∧ c.at s.idx = 123 ∧
    bracket c s = .ok () { s with idx := s.idx + 3, bmin := Spec.digitsVal [d], bmax := Spec.digitsVal [d] } ∧
    (decide (s.idx + 3 < c.len) && c.at (s.idx + 3) == 63) = false := by
  obtain ⟨h1, h2, h3⟩ := PC.drop_cons hpat
  obtain ⟨_, _, h4⟩ := PC.drop_cons h3
  obtain ⟨_, _, h5⟩ := PC.drop_cons h4
  refine ⟨h1, h2, ?_, PC.no_reluctant h5 hnr⟩
  exact bracket_exact' c s [d] rest (by simp) (by simp [hd]) hv hpat

end Rx
