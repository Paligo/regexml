/-
  Proofs/CleanSearchLemmas — for ANY tree with an exact enumeration `e` of its ends (`Enumerates`): the engine test is
  complete, and a search from `i` reports `firstSpanOf e len i` (Proofs/FirstHit), so that two searches agree as soon
  as the heads of their enumerations do (`Outcome.agree_of_heads`).  Then the clean fragment of Spec/Enum, and the one
  precondition shape that leaves it: `add_precondition` records `x{n}` (n ≥ 2, `x` a literal or a class) as a GENERAL
  greedy repeat `rep 0 x n n true` (`preShape`).
-/
import RxModel.Proofs.SearchLemmas
import RxModel.Proofs.FirstHit
import RxModel.Proofs.Enum4Lemmas
import RxModel.Proofs.Clean2OptLemmas
namespace Rx.SearchComplete
open Rx

theorem cleanOp_numRel : NumRel (fun o o' => cleanOp o' = cleanOp o) (fun l l' => cleanOps l' = cleanOps l) where
  refl _ := rfl
  capture _ h := by simp only [cleanOp, h]
  choice h := by simp only [cleanOp, h]
  seq h := by simp only [cleanOp, h]
  gfixed _ _ _ h := by simp only [cleanOp, h]
  rfixed _ _ _ h := by simp only [cleanOp, h]
  unamb _ _ _ := rfl
  nil := rfl
  cons h hl := by simp only [cleanOps, h, hl]
  rep _ _ _ _ _ _ := rfl

theorem cleanOp_numberReps : (op : Op) → ∀ n, cleanOp (numberReps op n).1 = cleanOp op :=
  numberReps_rel cleanOp_numRel

theorem cleanOps_numberRepsL : (l : List Op) → ∀ n, cleanOps (numberRepsL l n).1 = cleanOps l :=
  numberRepsL_rel cleanOp_numRel

theorem completeAt_of_ex (ctx : Ctx) (op : Op) (l : Nat → List Nat)
    (hex : ∀ j, j ≤ ctx.len → ∀ st, Step.Ex (sem ctx op j st) (l j))
    (hiff : ∀ j, j ≤ ctx.len → (l j ≠ [] ↔ ∃ q, OpR ctx op j q)) : CompleteAt ctx op :=
  fun j st hj _ => (hex j hj st).first1_isSome.trans (hiff j hj)

theorem _root_.Rx.Enumerates.completeAt {ctx : Ctx} {o : Op} {e : Nat → List Nat} (E : Enumerates ctx o e) :
    CompleteAt ctx o :=
  fun j st hj _ => E.first1_iff j hj st

theorem Outcome.hit {ctx : Ctx} {o : Op} {e : Nat → List Nat} (E : Enumerates ctx o e)
    {i : Nat} {r : Bool × St} (h : Outcome ctx o i r) :
    (r.1 = true ∧ ∃ j n, i ≤ j ∧ j ≤ ctx.len ∧ (∃ stj, matchAt ctx o j stj = r) ∧ getParenEnd r.2 0 = some n ∧
      firstSpanOf e ctx.len i = some (j, n) ∧ ∀ k, i ≤ k → k < j → ¬ Has ctx o k) ∨
    (r.1 = false ∧ firstSpanOf e ctx.len i = none) := by
  rcases h.2 with ⟨ht, j, stj, h1, h2, _, hmin, hma⟩ | ⟨hf, hno⟩
  · have hm := Clean.matchAt_of_ex ctx o j _ stj (E.ex j h2 _)
    rw [hma] at hm
    have hend := hm.2 ht
    cases hl : e j with
    | nil => exact absurd hl (hm.1.1 ht)
    | cons n t =>
      rw [hl] at hend
      exact .inl ⟨ht, j, n, h1, h2, ⟨stj, hma⟩, hend,
        firstSpanOf_some_iff.2 ⟨h1, h2, by rw [hl]; rfl, fun k hk1 hk2 =>
          E.head_none k (Nat.le_trans (Nat.le_of_lt hk2) h2) (hmin k hk1 hk2)⟩, hmin⟩
  · exact .inr ⟨hf, firstSpanOf_none_iff.2 (fun k hk1 hk2 => E.head_none k hk2 (hno k hk1 hk2))⟩

theorem Outcome.found {ctx : Ctx} {o : Op} {e : Nat → List Nat} (E : Enumerates ctx o e)
    {i : Nat} {r : Bool × St} (h : Outcome ctx o i r) : r.1 = (firstSpanOf e ctx.len i).isSome := by
  rcases h.hit E with ⟨ht, _, _, _, _, _, _, hf, _⟩ | ⟨ht, hf⟩ <;> rw [ht, hf] <;> rfl

theorem Outcome.finds {ctx : Ctx} {o : Op} {e : Nat → List Nat} (E : Enumerates ctx o e) (hwf : wfOp o = true)
    (hcp : C02.capsPos o = true) {i : Nat} {r : Bool × St} (h : Outcome ctx o i r) :
    Finds r (firstSpanOf e ctx.len i) := by
  rcases h.hit E with ⟨ht, j, n, _, h2, ⟨stj, hma⟩, hend, hf, _⟩ | ⟨ht, hf⟩
  · rw [hf]
    exact ⟨ht, (C02.matchAt_span ctx o hwf hcp j h2 stj r.2 (by rw [hma, ← ht])).1, hend⟩
  · rw [hf]
    exact ht

theorem Outcome.span_of_ex {ctx : Ctx} {o : Op} {e : Nat → List Nat} (E : Enumerates ctx o e)
    (hwf : wfOp o = true) (hcp : C02.capsPos o = true) {i : Nat} {r : Bool × St}
    (h : Outcome ctx o i r) (ht : r.1 = true) :
    ∃ j n, getParenStart r.2 0 = some j ∧ getParenEnd r.2 0 = some n ∧
      (e j).head? = some n ∧ i ≤ j ∧ j ≤ n ∧ n ≤ ctx.len ∧ OpR ctx o j n ∧
      ∀ k q, i ≤ k → k < j → ¬ OpR ctx o k q := by
  rcases h.hit E with ⟨_, j, n, h1, h2, ⟨stj, hma⟩, hend, hf, hmin⟩ | ⟨hf, _⟩
  · obtain ⟨hs, n', he, hjn, hnl, hopr⟩ := C02.matchAt_span ctx o hwf hcp j h2 stj r.2 (by rw [hma, ← ht])
    cases Option.some.inj (hend.symm.trans he)
    exact ⟨j, n, hs, hend, (firstSpanOf_some_iff.1 hf).2.2.1, h1, hjn, hnl, hopr, fun k q hik hkj hq => hmin k hik hkj ⟨q, hq⟩⟩
  · rw [hf] at ht; cases ht

theorem Outcome.agree_of_heads {ctx1 ctx2 : Ctx} {o1 o2 : Op} {e1 e2 : Nat → List Nat}
    (E1 : Enumerates ctx1 o1 e1) (E2 : Enumerates ctx2 o2 e2)
    (hw1 : wfOp o1 = true) (hw2 : wfOp o2 = true) (hlen : ctx1.len = ctx2.len) {i : Nat}
    (hh : ∀ k, i ≤ k → k ≤ ctx1.len → (e1 k).head? = (e2 k).head?) {r1 r2 : Bool × St}
    (h1 : Outcome ctx1 o1 i r1) (h2 : Outcome ctx2 o2 i r2) :
    r1.1 = r2.1 ∧ (C02.capsPos o1 = true → C02.capsPos o2 = true → r1.1 = true →
      getParenStart r1.2 0 = getParenStart r2.2 0 ∧ getParenEnd r1.2 0 = getParenEnd r2.2 0) := by
  have hF : firstSpanOf e1 ctx1.len i = firstSpanOf e2 ctx2.len i := by rw [← hlen]; exact firstSpanOf_congr hh
  exact ⟨by rw [h1.found E1, h2.found E2, hF], fun c1 c2 =>
    ((h1.finds E1 hw1 c1).agree (hF ▸ h2.finds E2 hw2 c2)).2⟩

theorem completeAt_clean (ctx : Ctx) (op : Op) (hc : cleanOp op = true) (hwf : wfOp op = true) :
    CompleteAt ctx op :=
  (enumerates_clean ctx op hc hwf).completeAt

theorem quiet_clean (ctx : Ctx) (hb : ctx.hasBackrefs = false) (op : Op) (hc : cleanOp op = true)
    (hwf : wfOp op = true) : Quiet ctx op :=
  quiet_of_wf ctx hb op (Clean.clean_noBackref.op' op hc) hwf ((Clean.clean_smallMin _).op' op hc)

/-- the shapes `add_precondition` records for a clean well-formed tree: a clean well-formed tree
    (literal, class, `x{1,m}` as it stands), or `x{n}` as a general greedy repeat over a single
    non-empty literal / class -/
def preShape (o : Op) : Bool :=
  (cleanOp o && wfOp o) ||
  (match o with
   | .rep _ c mn mx g => g && isAtomOrClass c && C08.noEmptyAtoms c && (mn == mx) && decide (1 ≤ mn)
   | _ => false)

theorem preShape_numberReps (o : Op) (n : Nat) (h : preShape o = true) :
    preShape (numberReps o n).1 = true := by
  unfold preShape at h ⊢
  rcases Bool.or_eq_true_iff.1 h with h | h
  · rw [cleanOp_numberReps, WF.wfOp_numberReps, h]; rfl
  · cases o with
    | rep id c mn mx g =>
      simp only [Bool.and_eq_true] at h
      have hac := h.1.1.1.2
      simp only [numberReps, ApiL.numberReps_leaf c hac]
      exact Bool.or_eq_true_iff.2 (.inr (by simpa only [Bool.and_eq_true] using h))
    | _ => simp at h

abbrev CleanWF (o : Op) : Prop := (cleanOp o = true ∧ wfOp o = true) ∧ C08.noEmptyAtoms o = true

theorem down_cleanWF : Down CleanWF
    (fun l => (cleanOps l = true ∧ wfOps l = true) ∧ C08.noEmptyAtomsL l = true) :=
  (Clean2Opt.down_cleanOp.and down_wfOp).and C08.down_noEmptyAtoms

theorem preShape_of_preAt {n t : Op} (h : PreAt n t) (hn : CleanWF n) : preShape t = true := by
  obtain ⟨⟨hc, hwf⟩, hne⟩ := hn
  cases h with
  | leaf _ => unfold preShape; rw [hc, hwf]; rfl
  | self _ _ => unfold preShape; rw [hc, hwf]; rfl
  | fixed hp hac h2 =>
    have hnc := C08.down_noEmptyAtoms.rpt hp hne
    have h1 : 1 ≤ _ := Nat.le_trans (by decide : 1 ≤ 2) h2
    simp only [preShape, cleanOp, Bool.false_and, Bool.false_or, hac, hnc, beq_self_eq_true, h1, decide_true,
      Bool.and_self]

theorem addPreSeq_preShape (ml : Bool) : (ops : List Op) → cleanOps ops = true → wfOps ops = true →
    C08.noEmptyAtomsL ops = true → ∀ fp mp, ∀ q ∈ addPreSeq ml ops fp mp, preShape q.op = true :=
  fun _ hc hwf hne fp mp _ hq => by
    obtain ⟨n, hn, h⟩ := addPreSeq_node down_cleanWF ml ⟨⟨hc, hwf⟩, hne⟩ fp mp hq
    exact preShape_of_preAt h hn

theorem mkProgram_pres_preShape (pat : List Nat) (op : Op) (mp : Nat) (fl : CFlags) (hb : Bool)
    (hc : cleanOp op = true) (hwf : wfOp op = true) (hne : C08.noEmptyAtoms op = true) :
    ∀ q ∈ (mkProgram pat op mp fl hb).pres, preShape q.op = true := fun q hq => by
  obtain ⟨n, t, b, hn, hat, he⟩ := mkProgram_pres_node down_cleanWF pat op mp fl hb
    ⟨⟨by rw [cleanOp_numberReps]; exact hc, by rw [WF.wfOp_numberReps]; exact hwf⟩,
      by rw [ApiL.noEmptyAtoms_numberReps]; exact hne⟩ hq
  rw [he]
  exact preShape_numberReps t b (preShape_of_preAt hat hn)

theorem clean_prog (pat : List Nat) (op : Op) (mp : Nat) (fl : CFlags) (hb : Bool)
    (hc : cleanOp op = true) (hwf : wfOp op = true) :
    cleanOp (mkProgram pat op mp fl hb).op = true ∧ wfOp (mkProgram pat op mp fl hb).op = true ∧
    (C02.capsPos op = true → C02.capsPos (mkProgram pat op mp fl hb).op = true) := by
  have hop := MkProgram.op pat op mp fl hb
  rw [hop, cleanOp_numberReps, WF.wfOp_numberReps, WF.capsPos_numberReps]
  exact ⟨hc, hwf, id⟩

open Rx.C08 (noEmptyAtoms noEmptyAtomsL)

theorem noEmptyAtoms_makeSequence (a b : Op) (ha : noEmptyAtoms a = true) (hb : noEmptyAtoms b = true) :
    noEmptyAtoms (makeSequence a b) = true := by
  rw [ApiL.noEmptyAtoms_hered.makeSequence, ha, hb]; rfl

theorem optimize_NE (env : Env) (fl : CFlags) : ∀ (op : Op), noEmptyAtoms op = true →
    noEmptyAtoms (optimize env fl op) = true :=
  ApiL.noEmptyAtoms_hered.optimize env fl

theorem optimizeL_NE (env : Env) (fl : CFlags) : ∀ (l : List Op), noEmptyAtomsL l = true →
    noEmptyAtomsL (optimizeL env fl l) = true :=
  ApiL.noEmptyAtoms_hered.optimizeL env fl

end Rx.SearchComplete
