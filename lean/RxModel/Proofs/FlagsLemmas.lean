/-
  Proofs/FlagsLemmas — `ReFlags::new` (`parseFlags`): which flag strings it accepts and the flags it
  returns.
-/
import RxModel.Model.Flags
namespace Rx

/-- `isMainFlag'`, `isTailFlag'`, `flagsOK'`: the accepted flag strings, for the lemmas of this file; the
    statements of Props/C07 are written with its own `C07.flagsOK`, the same function (`C07.flagsOK_eq`) -/
def isMainFlag' (xsd : Bool) (c : Nat) : Bool :=
  c == 105 || c == 109 || c == 115 || c == 120 || (c == 113 && !xsd)
def isTailFlag' (c : Nat) : Bool := c == 103 || c == 107 || c == 75
def flagsOK' (xsd : Bool) : List Nat → Bool
  | [] => true
  | c :: cs => if c == 59 then cs.all isTailFlag' else isMainFlag' xsd c && flagsOK' xsd cs

theorem parseFlagsTail_isSome (cs : List Nat) : ∀ r : Flags, (parseFlagsTail cs r).isSome = cs.all isTailFlag' := by
  induction cs with
  | nil => intro r; simp [parseFlagsTail]
  | cons c cs ih =>
    intro r
    simp only [parseFlagsTail, List.all_cons, isTailFlag']
    by_cases h1 : c = 103
    · simp [h1, ih]
    · by_cases h2 : c = 107
      · simp [h2, ih]
      · by_cases h3 : c = 75
        · simp [h3, ih]
        · simp [h1, h2, h3]

theorem parseFlagsGo_isSome (fs : List Nat) : ∀ r : Flags, (parseFlagsGo fs r).isSome = flagsOK' r.xsd fs := by
  induction fs with
  | nil => intro r; simp [parseFlagsGo, flagsOK']
  | cons c cs ih =>
    intro r
    simp only [parseFlagsGo, flagsOK', isMainFlag']
    by_cases h0 : c = 59
    · simp [h0, parseFlagsTail_isSome]
    · by_cases h1 : c = 105
      · simp [h1, ih]
      · by_cases h2 : c = 109
        · simp [h2, ih]
        · by_cases h3 : c = 115
          · simp [h3, ih]
          · by_cases h4 : c = 113
            · cases hx : r.xsd <;> simp [h4, ih]
            · by_cases h5 : c = 120
              · simp [h5, ih]
              · simp [h0, h1, h2, h3, h4, h5]

theorem parseFlagsTail_values (cs : List Nat) : ∀ (r fl : Flags), parseFlagsTail cs r = some fl →
    fl.xsd = r.xsd ∧ fl.caseBlind = r.caseBlind ∧ fl.multiLine = r.multiLine ∧ fl.singleLine = r.singleLine ∧
    fl.allowWs = r.allowWs ∧ fl.literal = r.literal := by
  induction cs with
  | nil => intro r fl h; simp [parseFlagsTail] at h; subst h; simp
  | cons c cs ih =>
    intro r fl h
    rw [parseFlagsTail] at h
    -- `g`, `k`, `K` set fields that the statement does not mention
    by_cases h1 : (c == 103) = true
    · rw [if_pos h1] at h; exact ih { r with debug := true } _ h
    rw [if_neg h1] at h
    by_cases h2 : (c == 107) = true
    · rw [if_pos h2] at h; exact ih { r with allowUnknownBlocks := true } _ h
    rw [if_neg h2] at h
    by_cases h3 : (c == 75) = true
    · rw [if_pos h3] at h; exact ih { r with allowUnknownBlocks := false } _ h
    · rw [if_neg h3] at h; cases h

theorem parseFlagsGo_values (fs : List Nat) : ∀ (r fl : Flags), parseFlagsGo fs r = some fl →
    fl.xsd = r.xsd ∧
    fl.caseBlind = (r.caseBlind || (fs.takeWhile (· != 59)).contains 105) ∧
    fl.multiLine = (r.multiLine || (fs.takeWhile (· != 59)).contains 109) ∧
    fl.singleLine = (r.singleLine || (fs.takeWhile (· != 59)).contains 115) ∧
    fl.allowWs = (r.allowWs || (fs.takeWhile (· != 59)).contains 120) ∧
    fl.literal = (r.literal || (fs.takeWhile (· != 59)).contains 113) := by
  induction fs with
  | nil => intro r fl h; simp [parseFlagsGo] at h; subst h; simp
  | cons c cs ih =>
    intro r fl h
    rw [parseFlagsGo] at h
    by_cases h0 : (c == 59) = true
    · rw [if_pos h0] at h
      have := parseFlagsTail_values _ _ _ h
      rw [List.takeWhile_cons, if_neg (by simpa using h0)]
      simpa using this
    rw [if_neg h0] at h
    rw [List.takeWhile_cons, if_pos (by simpa using h0)]
    -- `fl` comes from `r'`, which is `r` with the letter `c` recorded
    have step : ∀ r' : Flags, parseFlagsGo cs r' = some fl → r'.xsd = r.xsd →
        r'.caseBlind = (r.caseBlind || 105 == c) → r'.multiLine = (r.multiLine || 109 == c) →
        r'.singleLine = (r.singleLine || 115 == c) → r'.allowWs = (r.allowWs || 120 == c) →
        r'.literal = (r.literal || 113 == c) →
        fl.xsd = r.xsd ∧
        fl.caseBlind = (r.caseBlind || (c :: cs.takeWhile (· != 59)).contains 105) ∧
        fl.multiLine = (r.multiLine || (c :: cs.takeWhile (· != 59)).contains 109) ∧
        fl.singleLine = (r.singleLine || (c :: cs.takeWhile (· != 59)).contains 115) ∧
        fl.allowWs = (r.allowWs || (c :: cs.takeWhile (· != 59)).contains 120) ∧
        fl.literal = (r.literal || (c :: cs.takeWhile (· != 59)).contains 113) := by
      intro r' h' e0 e1 e2 e3 e4 e5
      obtain ⟨g0, g1, g2, g3, g4, g5⟩ := ih r' fl h'
      simp only [List.contains_cons, ← Bool.or_assoc, ← e1, ← e2, ← e3, ← e4, ← e5]
      exact ⟨g0.trans e0, g1, g2, g3, g4, g5⟩
    -- the flag of the letter is set, the others stay
    have set := fun b : Bool => (Bool.or_true b).symm
    have keep := fun b : Bool => (Bool.or_false b).symm
    by_cases h1 : (c == 105) = true
    · rw [if_pos h1] at h; cases eq_of_beq h1
      exact step _ h rfl (set _) (keep _) (keep _) (keep _) (keep _)
    rw [if_neg h1] at h
    by_cases h2 : (c == 109) = true
    · rw [if_pos h2] at h; cases eq_of_beq h2
      exact step _ h rfl (keep _) (set _) (keep _) (keep _) (keep _)
    rw [if_neg h2] at h
    by_cases h3 : (c == 115) = true
    · rw [if_pos h3] at h; cases eq_of_beq h3
      exact step _ h rfl (keep _) (keep _) (set _) (keep _) (keep _)
    rw [if_neg h3] at h
    by_cases h4 : (c == 113) = true
    · rw [if_pos h4] at h; cases eq_of_beq h4
      by_cases hx : r.xsd = true
      · rw [if_pos hx] at h; cases h
      · rw [if_neg hx] at h
        exact step _ h rfl (keep _) (keep _) (keep _) (keep _) (set _)
    rw [if_neg h4] at h
    by_cases h5 : (c == 120) = true
    · rw [if_pos h5] at h; cases eq_of_beq h5
      exact step _ h rfl (keep _) (keep _) (keep _) (set _) (keep _)
    · rw [if_neg h5] at h; cases h

theorem parseFlagsGo_unknown (pre post : List Nat) (c : Nat) (xsd : Bool)
    (hpre : pre.all (isMainFlag' xsd) = true) (hc : isMainFlag' xsd c = false) (hsemi : c ≠ 59) :
    ∀ r : Flags, r.xsd = xsd → parseFlagsGo (pre ++ c :: post) r = none := by
  intro r hr
  have h1 := parseFlagsGo_isSome (pre ++ c :: post) r
  have h2 : flagsOK' r.xsd (pre ++ c :: post) = false := by
    rw [hr]
    clear h1
    induction pre with
    | nil => simp [flagsOK', hsemi, hc]
    | cons a pre ih =>
      simp only [List.all_cons, Bool.and_eq_true] at hpre
      have ha : a ≠ 59 := by
        intro h; subst h; have := hpre.1; simp [isMainFlag'] at this
      simp [flagsOK', ha, ih hpre.2]
  rw [h2] at h1
  simpa using h1

end Rx
