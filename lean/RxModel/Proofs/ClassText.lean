/-
  Proofs/ClassText — the class parser read through the text at the position.  `parseClass`, `classLoop` and
  `clsSimple` test the pattern through `c.at`, `c.len` and `thereFollows`; here each is given once as an
  equation in `c.pat.drop idx` (`clsSimple_text`, `classLoop_text`, `parseClass_text`), with the
  continuations of an iteration named.  What is proved about the class parser starts from these equations
  and does not unfold the functions.
-/
import RxModel.Proofs.ParserSpec
namespace Rx
open C09

/-- the parser's look-ahead after a single character `x` (plain, escaped, or a literal `-`):
    `x` is a member; `x--` is an error; `x-` begins a range -/
inductive After where
  | member | bad | dash
deriving DecidableEq

def after : List Nat → After
  | 45 :: 91 :: _ => .member        -- `x-[`: a subtraction follows
  | 45 :: 93 :: _ => .member        -- `x-]`: the hyphen is the last member
  | 45 :: 45 :: 91 :: _ => .member  -- `x--[`
  | 45 :: 45 :: _ => .bad
  | 45 :: _ => .dash
  | _ => .member

theorem after_ne {x : Nat} (tl : List Nat) (h : x ≠ 45) : after (x :: tl) = .member := by
  unfold after
  split <;> first | rfl | (rename_i h'; cases h'; exact absurd rfl h)

theorem addClosureRange_eq (c : PC) : ∀ (f a b : Nat) (rs : Ranges),
    addClosureRange c f a b rs = closRange c.env f a b rs := by
  intro f
  induction f with
  | zero => intro a b rs; rfl
  | succ f ih => intro a b rs; simp only [addClosureRange, closRange, ih]

def ClsSt.put (c : PC) (k : ClsSt) : Option Nat → ClsSt
  | some ch => { k with builder := addCharG c.env c.fl.caseBlind ch k.builder }
  | none => k

def ClsSt.endRange (c : PC) (k : ClsSt) : Option Nat → Option ClsSt
  | some en =>
    match k.rangeStart with
    | some st =>
      if st > en then none
      else some { k with builder := addRangeG c.env c.fl.caseBlind st en k.builder,
                         definingRange := false, rangeStart := none }
    | none => some k
  | none => some k

theorem after_tests (l : List Nat) :
    after l =
      if (l.take 1 == [45]) = true then
        if (l.take 2 == [45, 91] || l.take 2 == [45, 93] || l.take 3 == [45, 45, 91]) = true then .member
        else if (l.take 2 == [45, 45]) = true then .bad
        else .dash
      else .member := by
  rcases l with _ | ⟨x, tl⟩
  · rfl
  by_cases hx : x ≠ 45
  · simp [after_ne _ hx, hx]
  obtain rfl : x = 45 := Decidable.not_not.1 hx
  rcases tl with _ | ⟨y, tl⟩
  · rfl
  by_cases h91 : y = 91
  · subst h91; rfl
  by_cases h93 : y = 93
  · subst h93; rfl
  by_cases h45 : y ≠ 45
  · simp [after, h91, h93, h45]
  obtain rfl : y = 45 := Decidable.not_not.1 h45
  rcases tl with _ | ⟨z, tl⟩
  · rfl
  by_cases hz : z = 91
  · subst hz; rfl
  · simp [after, hz]

theorem clsSimple_text {c : PC} {i : Nat} {l : List Nat} (h : c.pat.drop i = l) (k : ClsSt)
    (o : Option Nat) :
    clsSimple c i k o =
      if k.definingRange then k.endRange c o
      else match after l with
        | .member => some (k.put c o)
        | .bad => none
        | .dash => some { k with rangeStart := o } := by
  unfold clsSimple
  by_cases hk : k.definingRange = true
  · rw [if_pos hk, if_pos hk]
    cases o <;> cases hr : k.rangeStart <;>
      simp only [ClsSt.endRange, hr, addRangeG, addClosureRange_eq]
  rw [if_neg hk, if_neg hk, after_tests]
  simp only [thereFollows_eq h (List.cons_ne_nil _ _), List.length_cons, List.length_nil, Nat.reduceAdd]
  -- the same three tests on both sides; `put` is the model's "add the character if there is one"
  generalize (l.take 1 == [45]) = t1
  generalize (l.take 2 == [45, 91] || l.take 2 == [45, 93] || l.take 3 == [45, 45, 91]) = t2
  generalize (l.take 2 == [45, 45]) = t3
  cases o <;> cases t1 <;> cases t2 <;> cases t3 <;> rfl

def simpleThen (c : PC) (f : Nat) (s1 : PS) (k : ClsSt) (o : Option Nat) : PRes Ranges :=
  match clsSimple c s1.idx k o with
  | none => .err .syntax
  | some k' => classLoop c f s1 k'

def escThen (c : PC) (f : Nat) (s : PS) (k : ClsSt) : PRes Ranges :=
  match escape c s true with
  | .err e => .err e
  | .ok (.chr x) s' => simpleThen c f s' k (some x)
  | .ok (.set rs) s' =>
    if k.definingRange then .err .syntax
    else classLoop c f s' { k with addend := some (addU k.addend rs) }
  | .ok (.backref _) _ => .err .internal

/-- the iteration at `-[` -/
def subThen (c : PC) (f : Nat) (s : PS) (k : ClsSt) : PRes Ranges :=
  match parseClass c f { s with idx := s.idx + 1 } with
  | .err e => .err e
  | .ok sub s' =>
    match c.pat.drop s'.idx with
    | 93 :: _ => classLoop c f s' { k with subtrahend := some sub }
    | _ => .err .syntax

/-- the iteration at `-[` as the model has it: `clsSimple` with no character after the subtrahend -/
def subThen' (c : PC) (f : Nat) (s : PS) (k : ClsSt) : PRes Ranges :=
  match parseClass c f { s with idx := s.idx + 1 } with
  | .err e => .err e
  | .ok sub s' =>
    if !thereFollows c s'.idx [93] then .err .syntax
    else simpleThen c f s' { k with subtrahend := some sub } none

/-- after a subtrahend the class must close: `clsSimple` with no character is then the identity -/
theorem subThen'_eq (c : PC) (f : Nat) (s : PS) (k : ClsSt) : subThen' c f s k = subThen c f s k := by
  unfold subThen' subThen
  cases parseClass c f { s with idx := s.idx + 1 } with
  | err e => rfl
  | ok sub s' =>
    dsimp only
    rw [thereFollows_eq rfl (List.cons_ne_nil _ _), simpleThen, clsSimple_text rfl]
    rcases c.pat.drop s'.idx with _ | ⟨y, tl⟩
    · rfl
    by_cases h93 : y = 93
    · subst h93
      cases hk : k.definingRange <;> simp [after, ClsSt.put, ClsSt.endRange]
    · simp [h93]

/-- the iteration at a `-` that `l'` follows: a subtraction, the last member, the dash of a range,
    or a literal hyphen -/
def hyphenThen (c : PC) (f : Nat) (s : PS) (k : ClsSt) (l' : List Nat) : PRes Ranges :=
  match l' with
  | 91 :: _ => subThen c f s k
  | 93 :: _ => simpleThen c f { s with idx := s.idx + 1 } k (some 45)
  | _ =>
    if k.rangeStart.isSome then
      classLoop c f { s with idx := s.idx + 1 } { k with definingRange := true }
    else if k.definingRange then .err .syntax
    else if after (45 :: l') = .bad then .err .syntax
    else simpleThen c f { s with idx := s.idx + 1 } k (some 45)

theorem classLoop_succ (c : PC) (f : Nat) (s : PS) (k : ClsSt) :
    classLoop c (f + 1) s k =
      if s.idx < c.len && c.at s.idx != 93 then
        if c.at s.idx == 91 then .err .syntax
        else if c.at s.idx == 92 then escThen c f s k
        else if c.at s.idx == 45 then
          if thereFollows c s.idx [45, 91] then subThen' c f s k
          else if thereFollows c s.idx [45, 93] then simpleThen c f { s with idx := s.idx + 1 } k (some 45)
          else if k.rangeStart.isSome then
            classLoop c f { s with idx := s.idx + 1 } { k with definingRange := true }
          else if k.definingRange then .err .syntax
          else if thereFollows c s.idx [45, 45] && !thereFollows c s.idx [45, 45, 91] then .err .syntax
          else simpleThen c f { s with idx := s.idx + 1 } k (some 45)
        else simpleThen c f { s with idx := s.idx + 1 } k (some (c.at s.idx))
      else if s.idx == c.len then .err .syntax
      else .ok k.finish { s with idx := s.idx + 1 } := by
  rw [classLoop]; rfl

theorem classLoop_end {c : PC} {s : PS} (hs : s.idx ≤ c.len) (h : c.pat.drop s.idx = []) (f : Nat)
    (k : ClsSt) : classLoop c (f + 1) s k = .err .syntax := by
  have h2 : s.idx = c.len := Nat.le_antisymm hs (Nat.le_of_not_lt (PC.drop_nil h))
  rw [classLoop_succ, if_neg (by simp [h2]), if_pos (by simp [h2])]

theorem classLoop_at {c : PC} {s : PS} {x : Nat} {tl : List Nat} (h : c.pat.drop s.idx = x :: tl)
    (f : Nat) (k : ClsSt) :
    classLoop c (f + 1) s k =
      if x = 93 then .ok k.finish { s with idx := s.idx + 1 }
      else if x = 91 then .err .syntax
      else if x = 92 then escThen c f s k
      else if x = 45 then hyphenThen c f s k tl
      else simpleThen c f { s with idx := s.idx + 1 } k (some x) := by
  obtain ⟨hlt, hat, _⟩ := PC.drop_cons h
  rw [classLoop_succ, hat]
  by_cases h93 : x = 93
  · rw [if_pos h93, if_neg (by simp [h93]), if_neg (by simp; omega)]
  rw [if_neg h93, if_pos (by simp [hlt, h93])]
  by_cases h91 : x = 91
  · rw [if_pos h91, if_pos (by simp [h91])]
  rw [if_neg h91, if_neg (by simpa using h91)]
  by_cases h92 : x = 92
  · rw [if_pos h92, if_pos (by simp [h92])]
  rw [if_neg h92, if_neg (by simpa using h92)]
  by_cases h45 : x ≠ 45
  · rw [if_neg h45, if_neg (by simpa using h45)]
  obtain rfl : x = 45 := Decidable.not_not.1 h45
  rw [if_pos (rfl : (45 : Nat) = 45), if_pos (show ((45 : Nat) == 45) = true from rfl), subThen'_eq]
  -- the look-ahead tests after the hyphen, against the shape of `tl`
  have hb : (thereFollows c s.idx [45, 45] && !thereFollows c s.idx [45, 45, 91]) =
      decide (after (45 :: tl) = .bad) := by
    rw [thereFollows_eq h (List.cons_ne_nil _ _), thereFollows_eq h (List.cons_ne_nil _ _)]
    rcases tl with _ | ⟨y, tl⟩
    · rfl
    by_cases hy : y = 45
    · subst hy
      rcases tl with _ | ⟨z, tl⟩
      · rfl
      by_cases hz : z = 91
      · subst hz; rfl
      · simp [after, hz]
    · by_cases h91 : y = 91
      · subst h91; rfl
      by_cases h93 : y = 93
      · subst h93; rfl
      · simp [after, hy, h91, h93]
  rw [hb, thereFollows_eq h (List.cons_ne_nil _ _), thereFollows_eq h (List.cons_ne_nil _ _)]
  rcases tl with _ | ⟨y, tl⟩
  · simp [hyphenThen]
  by_cases h91 : y = 91
  · subst h91; simp [hyphenThen]
  by_cases h93 : y = 93
  · subst h93; simp [hyphenThen]
  · simp [hyphenThen, h91, h93]

theorem classLoop_stop {c : PC} {f : Nat} {st : PS} {k : ClsSt} {tl : List Nat}
    (h : c.pat.drop st.idx = 93 :: tl) :
    classLoop c (f + 1) st k = .ok k.finish { st with idx := st.idx + 1 } :=
  classLoop_at h f k

theorem classLoop_esc {c : PC} {f : Nat} {s : PS} {k : ClsSt} {tl : List Nat}
    (h : c.pat.drop s.idx = 92 :: tl) : classLoop c (f + 1) s k = escThen c f s k :=
  classLoop_at h f k

theorem classLoop_hyphen {c : PC} {f : Nat} {s : PS} {k : ClsSt} {tl : List Nat}
    (h : c.pat.drop s.idx = 45 :: tl) : classLoop c (f + 1) s k = hyphenThen c f s k tl :=
  classLoop_at h f k

theorem classLoop_chr {c : PC} {s : PS} {x : Nat} {tl : List Nat} (h : c.pat.drop s.idx = x :: tl)
    (h93 : x ≠ 93) (h91 : x ≠ 91) (h92 : x ≠ 92) (h45 : x ≠ 45) (f : Nat) (k : ClsSt) :
    classLoop c (f + 1) s k = simpleThen c f { s with idx := s.idx + 1 } k (some x) := by
  rw [classLoop_at h, if_neg h93, if_neg h91, if_neg h92, if_neg h45]

theorem classLoop_text {c : PC} {s : PS} {l : List Nat} (hs : s.idx ≤ c.len)
    (h : c.pat.drop s.idx = l) (f : Nat) (k : ClsSt) :
    classLoop c (f + 1) s k =
      match (generalizing := false) l with
      | [] => .err .syntax
      | x :: tl =>
        if x = 93 then .ok k.finish { s with idx := s.idx + 1 }
        else if x = 91 then .err .syntax
        else if x = 92 then escThen c f s k
        else if x = 45 then hyphenThen c f s k tl
        else simpleThen c f { s with idx := s.idx + 1 } k (some x) := by
  cases l with
  | nil => exact classLoop_end hs h f k
  | cons x tl => exact classLoop_at h f k

/-! The loop is outside a range (`Idle`), has read a range start and stands at its dash
  (`classLoop_dash`), or has read the dash and stands at the end point (`simpleThen_range`). -/

structure Idle (k : ClsSt) : Prop where
  dr : k.definingRange = false
  rs : k.rangeStart = none

/-- the state in which the end point of a range leaves the loop -/
theorem Idle.range_state {k : ClsSt} (hk : Idle k) (b : Ranges) :
    ({ k with builder := b, definingRange := false, rangeStart := none } : ClsSt) = { k with builder := b } := by
  obtain ⟨p, d, r, bb, ad, su⟩ := k
  obtain ⟨hd, hr⟩ := hk
  simp only at hd hr
  subst hd hr
  rfl

theorem after_dash {l : List Nat} (h : after l = .dash) :
    ∃ l', l = 45 :: l' ∧ (∀ tl, l' ≠ 91 :: tl) ∧ (∀ tl, l' ≠ 93 :: tl) ∧ (∀ tl, l' ≠ 45 :: tl) := by
  unfold after at h
  split at h <;> first | cases h | skip
  rename_i l' h91 h93 _ h45
  exact ⟨l', rfl, fun tl e => h91 tl (by rw [e]), fun tl e => h93 tl (by rw [e]), fun tl e => h45 tl (by rw [e])⟩

theorem simpleThen_idle {c : PC} {f : Nat} {s1 : PS} {k : ClsSt} (hk : k.definingRange = false) (x : Nat) :
    simpleThen c f s1 k (some x) =
      match after (c.pat.drop s1.idx) with
      | .member => classLoop c f s1 { k with builder := addCharG c.env c.fl.caseBlind x k.builder }
      | .bad => .err .syntax
      | .dash => classLoop c f s1 { k with rangeStart := some x } := by
  rw [simpleThen, clsSimple_text rfl, if_neg (by rw [hk]; exact Bool.false_ne_true)]
  cases after (c.pat.drop s1.idx) <;> rfl

theorem simpleThen_range {c : PC} {f : Nat} {s1 : PS} {k : ClsSt} (hk : k.definingRange = true) {a : Nat}
    (hr : k.rangeStart = some a) (x : Nat) :
    simpleThen c f s1 k (some x) =
      if a > x then .err .syntax
      else classLoop c f s1 { k with builder := addRangeG c.env c.fl.caseBlind a x k.builder,
                                     definingRange := false, rangeStart := none } := by
  rw [simpleThen, clsSimple_text rfl, if_pos hk, ClsSt.endRange, hr]
  by_cases h : a > x
  · simp only [if_pos h]
  · simp only [if_neg h]

theorem escThen_set {c : PC} {f : Nat} {s s' : PS} {k : ClsSt} {rs : Ranges}
    (he : escape c s true = .ok (.set rs) s') (hk : k.definingRange = false) :
    escThen c f s k = classLoop c f s' { k with addend := some (addU k.addend rs) } := by
  simp only [escThen, he, hk, Bool.false_eq_true, if_false]

/-- the look-ahead after a bare hyphen that makes it a member: not `[` (that is a subtraction), and
    no second hyphen unless `-[` follows -/
def hyphenOk : List Nat → Bool
  | 91 :: _ => false
  | 45 :: 91 :: _ => true
  | 45 :: _ => false
  | _ => true

theorem hyphenThen_idle {c : PC} {s : PS} {k : ClsSt} (hk : Idle k) {l' : List Nat}
    (h : c.pat.drop (s.idx + 1) = l') (f : Nat) :
    hyphenThen c f s k l' =
      match (generalizing := false) l' with
      | 91 :: _ => subThen c f s k
      | _ =>
        if hyphenOk l' then
          classLoop c f { s with idx := s.idx + 1 } { k with builder := addCharG c.env c.fl.caseBlind 45 k.builder }
        else .err .syntax := by
  have hr : ¬ k.rangeStart.isSome = true := by rw [hk.rs]; exact Bool.false_ne_true
  have hd : ¬ k.definingRange = true := by rw [hk.dr]; exact Bool.false_ne_true
  have hS := simpleThen_idle (c := c) (f := f) (s1 := { s with idx := s.idx + 1 }) hk.dr 45
  rw [show c.pat.drop ({ s with idx := s.idx + 1 } : PS).idx = l' from h] at hS
  rcases l' with _ | ⟨y, tl⟩
  · simp only [hyphenThen, if_neg hr, if_neg hd, hS]; rfl
  by_cases h91 : y = 91
  · subst h91; rfl
  by_cases h93 : y = 93
  · subst h93; simp only [hyphenThen, hS]; rfl
  by_cases h45 : y ≠ 45
  · simp [hyphenThen, hyphenOk, h91, h93, h45, hr, hd, hS, after]
  obtain rfl : y = 45 := Decidable.not_not.1 h45
  rcases tl with _ | ⟨z, tl⟩
  · simp [hyphenThen, hyphenOk, hr, hd, after]
  by_cases hz : z = 91
  · subst hz; simp [hyphenThen, hyphenOk, hr, hd, hS, after]
  · simp [hyphenThen, hyphenOk, hz, hr, hd, after]

theorem hyphenThen_ok {c : PC} {s : PS} {k : ClsSt} (hk : Idle k) {l' : List Nat}
    (h : c.pat.drop (s.idx + 1) = l') (hc : hyphenOk l' = true) (f : Nat) :
    hyphenThen c f s k l' =
      classLoop c f { s with idx := s.idx + 1 } { k with builder := addCharG c.env c.fl.caseBlind 45 k.builder } := by
  rw [hyphenThen_idle hk h]
  split
  · cases hc
  · rw [if_pos hc]

theorem classLoop_dash {c : PC} {s : PS} {l' : List Nat} {k : ClsSt} (h : c.pat.drop s.idx = 45 :: l')
    (hd : after (45 :: l') = .dash) (hr : k.rangeStart.isSome = true) (f : Nat) :
    classLoop c (f + 1) s k =
      classLoop c f { s with idx := s.idx + 1 } { k with definingRange := true } := by
  obtain ⟨_, e, h91, h93, _⟩ := after_dash hd
  obtain rfl := (List.cons.inj e).2
  rw [classLoop_at h, if_neg (by decide), if_neg (by decide), if_neg (by decide), if_pos rfl, hyphenThen,
    if_pos hr]
  · exact h91
  · exact h93

theorem subThen_ok {c : PC} {f : Nat} {s s' : PS} {k : ClsSt} {R : Ranges} (h : subThen c f s k = .ok R s') :
    ∃ sub s1 tl, parseClass c f { s with idx := s.idx + 1 } = .ok sub s1 ∧ c.pat.drop s1.idx = 93 :: tl ∧
      classLoop c f s1 { k with subtrahend := some sub } = .ok R s' := by
  unfold subThen at h
  cases hp : parseClass c f { s with idx := s.idx + 1 } with
  | err e => rw [hp] at h; cases h
  | ok sub s1 =>
    rw [hp] at h
    dsimp only at h
    split at h
    · exact ⟨sub, s1, _, rfl, ‹_›, h⟩
    · cases h

/-- the text closes the member list: `]`, or the `-[` of a subtraction -/
def closes : List Nat → Bool
  | 93 :: _ => true
  | 45 :: 91 :: _ => true
  | _ => false

theorem closes_cons (z : Nat) (tl : List Nat) :
    closes (z :: tl) = (z == 93 || (z == 45 && tl.head? == some 91)) := by
  by_cases h93 : z = 93
  · subst h93; rfl
  by_cases h45 : z = 45
  · subst h45
    rcases tl with _ | ⟨y, tl⟩
    · rfl
    by_cases h91 : y = 91
    · subst h91; rfl
    · simp [closes, h91]
  · simp [closes, h93, h45]

theorem closes_ne {y : Nat} (h93 : y ≠ 93) (h45 : y ≠ 45) (tl : List Nat) : closes (y :: tl) = false := by
  rw [closes_cons, beq_eq_false_iff_ne.2 h93, beq_eq_false_iff_ne.2 h45]
  rfl

theorem closes_cases {l : List Nat} (h : closes l = true) :
    (∃ tl, l = 93 :: tl) ∨ (∃ tl, l = 45 :: 91 :: tl) := by
  unfold closes at h
  split at h
  · exact .inl ⟨_, rfl⟩
  · exact .inr ⟨_, rfl⟩
  · cases h

/-- the member list must not be empty: `[]`, `[^]`, `[-[`, `[^-[` are errors -/
theorem parseClass_text {c : PC} {s : PS} {l : List Nat} (h : c.pat.drop s.idx = l) (f : Nat) :
    parseClass c (f + 1) s =
      match (generalizing := false) l with
      | 91 :: y :: z :: tl =>
        if closes (if y = 94 then z :: tl else y :: z :: tl) then .err .syntax
        else classLoop c f { s with idx := s.idx + 1 + (if y = 94 then 1 else 0) } { positive := decide (y ≠ 94) }
      | 91 :: _ => .err .syntax
      | _ => .err .internal := by
  rw [parseClass]
  rcases l with _ | ⟨x, tl⟩
  · have : c.at s.idx = 0 := PC.at_of_ge (Nat.le_of_not_lt (PC.drop_nil h))
    rw [if_pos (by rw [this]; rfl)]
  obtain ⟨hlt, hat, h1⟩ := PC.drop_cons h
  by_cases h91 : x ≠ 91
  · rw [if_pos (by simpa [hat] using h91)]
    split <;> first | rfl | (rename_i e; exact absurd (List.cons.inj e).1 h91)
  obtain rfl : x = 91 := Decidable.not_not.1 h91
  rw [if_neg (by simp [hat])]
  have hl := PC.drop_len h1
  rcases tl with _ | ⟨y, _ | ⟨z, tl⟩⟩
  · rw [if_pos (by simp at hl; simp; omega)]
    rfl
  · rw [if_pos (by simp at hl; simp; omega)]
    rfl
  obtain ⟨_, hat1, h2⟩ := PC.drop_cons h1
  have hlen : ¬ s.idx + 1 + 1 ≥ c.len := by simp at hl; omega
  -- the tests of the model on `y`, `z` and the head of `tl`
  have t94 : thereFollows c (s.idx + 1) [94] = (y == 94) := by
    rw [thereFollows_eq h1 (List.cons_ne_nil _ _)]; simp
  have t9493 : thereFollows c (s.idx + 1) [94, 93] = (y == 94 && z == 93) := by
    rw [thereFollows_eq h1 (List.cons_ne_nil _ _)]; simp
  have t4591 : thereFollows c (s.idx + 1) [45, 91] = (y == 45 && z == 91) := by
    rw [thereFollows_eq h1 (List.cons_ne_nil _ _)]; simp
  have t944591 : thereFollows c (s.idx + 1) [94, 45, 91] = (y == 94 && (z == 45 && tl.head? == some 91)) := by
    rw [thereFollows_eq h1 (List.cons_ne_nil _ _)]
    cases tl <;> simp
  simp only [hat1, hlen, decide_false, Bool.false_or, t94, t9493, t4591, t944591]
  by_cases h94 : y = 94
  · subst h94
    rw [if_pos rfl, if_pos rfl, closes_cons]
    cases z == 93 <;> cases (z == 45 && tl.head? == some 91) <;> rfl
  · rw [if_neg h94, if_neg h94, closes_cons, List.head?_cons]
    simp only [beq_eq_false_iff_ne.2 h94, Bool.false_and, Bool.false_eq_true, if_false, decide_not,
      decide_eq_false h94, Bool.not_false, Option.some_beq_some]
    cases y == 93 <;> cases y == 45 <;> cases (z == 91) <;> rfl

/-- What does not depend on the set the class denotes, for `parseClass` and its loop together: only
    the position changes, the result state is just past a `]` inside the pattern, and the error is
    `Syntax` unless the fuel ran out. -/
def ClassRes (c : PC) (f : Nat) (s : PS) : PRes Ranges → Prop
  | .ok _ s' => s' = { s with idx := s'.idx } ∧ s.idx < s'.idx ∧ s'.idx ≤ c.len ∧ c.at (s'.idx - 1) = 93
  | .err e => e = .syntax ∨ (e = .internal ∧ f + s.idx ≤ c.len)

theorem ClassRes.syn {c : PC} {f : Nat} {s : PS} : ClassRes c f s (.err .syntax) := .inl rfl

theorem ClassRes.step {c : PC} {f : Nat} {s s1 : PS} {r : PRes Ranges}
    (hs : s1 = { s with idx := s1.idx }) (hlt : s.idx < s1.idx) (h : ClassRes c f s1 r) :
    ClassRes c (f + 1) s r := by
  cases r with
  | ok R s' =>
    obtain ⟨h1, h2, h3, h4⟩ := h
    exact ⟨by rw [h1, hs], by omega, h3, h4⟩
  | err e =>
    rcases h with h | ⟨h, hf⟩
    · exact .inl h
    · exact .inr ⟨h, by omega⟩

theorem ClassRes.ite {c : PC} {f : Nat} {s : PS} {p : Prop} [Decidable p] {a b : PRes Ranges}
    (ha : p → ClassRes c f s a) (hb : ¬ p → ClassRes c f s b) : ClassRes c f s (if p then a else b) := by
  by_cases h : p
  · rw [if_pos h]; exact ha h
  · rw [if_neg h]; exact hb h

theorem class_res (c : PC) : ∀ f,
    (∀ s, c.at s.idx = 91 → ClassRes c f s (parseClass c f s)) ∧
    (∀ s k, s.idx ≤ c.len → ClassRes c f s (classLoop c f s k)) := by
  intro f
  induction f with
  | zero =>
    refine ⟨fun s h91 => ?_, fun s k hs => ?_⟩
    · have := PC.lt_of_at_ne_zero (c := c) (i := s.idx) (by rw [h91]; decide)
      exact .inr ⟨rfl, by omega⟩
    · exact .inr ⟨rfl, by omega⟩
  | succ f ih =>
    obtain ⟨ihP, ihL⟩ := ih
    refine ⟨fun s h91 => ?_, fun s k hs => ?_⟩
    · rw [parseClass_text rfl]
      split
      · rename_i y z tl ht
        have := PC.drop_len ht
        simp only [List.length_cons] at this
        have h1 : (if y = 94 then 1 else 0) ≤ 1 := by split <;> omega
        exact .ite (fun _ => .syn) fun _ => ClassRes.step (s1 := { s with idx := s.idx + 1 + _ }) rfl
          (by simp only; omega) (ihL _ _ (by simp only; omega))
      · exact ClassRes.syn
      · rename_i hx
        have hlt := PC.lt_of_at_ne_zero (c := c) (i := s.idx) (by rw [h91]; decide)
        exact absurd (by rw [PC.drop_at hlt, h91]) (hx (c.pat.drop (s.idx + 1)))
    · -- every continuation of an iteration starts further right, inside the pattern
      have next : ∀ k' (s1 : PS), s1 = { s with idx := s1.idx } → s.idx < s1.idx → s1.idx ≤ c.len →
          ClassRes c (f + 1) s (classLoop c f s1 k') := fun k' s1 h1 h2 h3 =>
        ClassRes.step h1 h2 (ihL _ _ h3)
      have simple : ∀ (s1 : PS) o, s1 = { s with idx := s1.idx } → s.idx < s1.idx → s1.idx ≤ c.len →
          ClassRes c (f + 1) s (simpleThen c f s1 k o) := fun s1 o h1 h2 h3 => by
        unfold simpleThen
        split
        · exact ClassRes.syn
        · exact next _ s1 h1 h2 h3
      rw [classLoop_text hs rfl]
      split
      · exact ClassRes.syn
      rename_i x tl ht
      obtain ⟨hlt, hat, _⟩ := PC.drop_cons ht
      have here : ∀ o, ClassRes c (f + 1) s (simpleThen c f { s with idx := s.idx + 1 } k o) :=
        fun o => simple _ o rfl (Nat.lt_succ_self _) hlt
      refine .ite (fun h93 => ?_) fun _ => .ite (fun _ => .syn) fun _ => .ite (fun h92 => ?_) fun _ =>
        .ite (fun _ => ?_) fun _ => here _
      · -- `]`
        exact ⟨rfl, Nat.lt_succ_self _, hlt, by rw [← h93]; simpa using hat⟩
      · -- an escape
        unfold escThen
        cases hesc : escape c s true with
        | err e =>
          rcases escape_err hesc with rfl | ⟨_, hne⟩
          · exact ClassRes.syn
          · exact absurd (hat.trans h92) hne
        | ok r s1 =>
          obtain ⟨_, h2, h3, h4, h5⟩ := escape_ok hesc
          cases r with
          | chr x => exact simple s1 _ (by rw [h4]; simp [Esc.isBackref]) (by omega) h3
          | set rs =>
            exact .ite (fun _ => .syn) fun _ => next _ s1 (by rw [h4]; simp [Esc.isBackref]) (by omega) h3
          | backref n => exact absurd (h5 _ rfl).1 (by decide)
      · -- a hyphen
        unfold hyphenThen
        split
        · -- a subtraction
          have h91 : c.at ({ s with idx := s.idx + 1 } : PS).idx = 91 :=
            (PC.drop_cons (PC.drop_cons ht).2.2).2.1
          have := ihP { s with idx := s.idx + 1 } h91
          unfold subThen
          cases hp : parseClass c f { s with idx := s.idx + 1 } with
          | err e =>
            rw [hp] at this
            exact ClassRes.step (s1 := { s with idx := s.idx + 1 }) rfl (Nat.lt_succ_self _) this
          | ok sub s1 =>
            rw [hp] at this
            obtain ⟨h1, h2, h3, _⟩ := this
            dsimp only
            split
            · exact next _ s1 (by rw [h1]) (Nat.lt_trans (Nat.lt_succ_self _) h2) h3
            · exact ClassRes.syn
        · exact here _
        · exact .ite (fun _ => next _ _ rfl (Nat.lt_succ_self _) hlt) fun _ =>
            .ite (fun _ => .syn) fun _ => .ite (fun _ => .syn) fun _ => here _

theorem parseClass_at {c : PC} {f : Nat} {s s' : PS} {R : Ranges} (h : parseClass c f s = .ok R s') :
    c.at s.idx = 91 := by
  cases f with
  | zero => cases h
  | succ f =>
    rw [parseClass] at h
    by_cases h1 : (c.at s.idx != 91) = true
    · rw [if_pos h1] at h; cases h
    · simpa using h1

theorem parseClass_ok {c : PC} {f : Nat} {s s' : PS} {R : Ranges} (h : parseClass c f s = .ok R s') :
    s' = { s with idx := s'.idx } ∧ s.idx < s'.idx ∧ s'.idx ≤ c.len ∧ c.at (s'.idx - 1) = 93 := by
  have := (class_res c f).1 s (parseClass_at h)
  rwa [h] at this

theorem parseClass_err {c : PC} {f : Nat} {s : PS} {e : Err} (h91 : c.at s.idx = 91)
    (hf : c.len + 1 ≤ f + s.idx) (h : parseClass c f s = .err e) : e = .syntax := by
  have := (class_res c f).1 s h91
  rw [h] at this
  rcases this with h | ⟨_, h⟩
  · exact h
  · omega

end Rx
