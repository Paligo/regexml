/-
  Proofs/AddPre — what `add_precondition` (`addPre`, Model/Program) records for a tree: `PreAt n t`.  `addPre`
  reaches a node by descending through captures, the elements of a sequence, and the body of a repeat with minimum
  ≥ 1 over something longer than a leaf, so a property of the tree that passes to all children (`Down`) holds at the
  node an operation was recorded at (`addPre_node`).  Facts about recorded operations are case analyses of `PreAt`
  under such a property.
-/
import RxModel.Model.Program
import RxModel.Proofs.OpRCalc
namespace Rx

/-- the recorded operation `t` at the node `n` that `addPre` stopped at -/
inductive PreAt : Op → Op → Prop
  | leaf {n : Op} : isAtomOrClass n = true → PreAt n n
  | self {n c : Op} {mx : Nat} {g : Bool} :
      repeatParts n = some (c, 1, mx, g) → isAtomOrClass c = true → PreAt n n
  | fixed {n c : Op} {mn mx : Nat} {g : Bool} :
      repeatParts n = some (c, mn, mx, g) → isAtomOrClass c = true → 2 ≤ mn → PreAt n (.rep 0 c mn mn true)

theorem addPre_rpt (ml : Bool) {o c : Op} {mn mx : Nat} {g : Bool} (e : repeatParts o = some (c, mn, mx, g))
    (fp : Option Nat) (mp : Nat) :
    addPre ml o fp mp = if mn ≥ 1 then
        (if isAtomOrClass c then
          (if mn == 1 then [({ op := o, fixed := fp, minPos := mp } : Pre)]
           else [{ op := .rep 0 c mn mn true, fixed := fp, minPos := mp }])
         else addPre ml c fp mp)
      else [] := by
  rcases repeatParts_cases e with ⟨_, rfl⟩ | ⟨_, rfl, _⟩ | ⟨_, rfl, _⟩ | ⟨rfl, _⟩ <;> simp only [addPre]

theorem addPre_node_both {N : Op → Prop} {NL : List Op → Prop} (D : Down N NL) (ml : Bool) :
    (∀ o, N o → ∀ fp mp, ∀ q ∈ addPre ml o fp mp, ∃ n, N n ∧ PreAt n q.op) ∧
    ∀ ops, NL ops → ∀ fp mp, ∀ q ∈ addPreSeq ml ops fp mp, ∃ n, N n ∧ PreAt n q.op := by
  apply Op.ind_rpt
  case bol | eol | nothing | endProgram => intro _ _ _ _ hq; simp only [addPre] at hq; cases hq
  case backref => intro _ _ _ _ _ hq; simp only [addPre] at hq; cases hq
  case choice => intro _ _ _ _ _ _ hq; simp only [addPre] at hq; cases hq
  case atom | cls =>
    intro _ ho _ _ _ hq
    simp only [addPre, List.mem_singleton] at hq
    subst hq
    exact ⟨_, ho, .leaf rfl⟩
  case capture => intro _ _ ih ho fp mp q hq; simp only [addPre] at hq; exact ih (D.capture ho) fp mp q hq
  case seq => intro _ ih ho fp mp q hq; simp only [addPre] at hq; exact ih (D.seq ho) fp mp q hq
  case rpt =>
    intro o c mn mx g e ih ho fp mp q hq
    rw [addPre_rpt ml e] at hq
    by_cases h1 : mn ≥ 1
    · rw [if_pos h1] at hq
      by_cases hac : isAtomOrClass c = true
      · rw [if_pos hac] at hq
        by_cases h2 : mn = 1
        · subst h2
          rw [if_pos (beq_self_eq_true 1), List.mem_singleton] at hq
          subst hq
          exact ⟨_, ho, .self e hac⟩
        · rw [if_neg (by simpa using h2), List.mem_singleton] at hq
          subst hq
          exact ⟨_, ho, .fixed e hac (by omega)⟩
      · rw [if_neg hac] at hq
        exact ih (D.rpt e ho) fp mp q hq
    · rw [if_neg h1] at hq
      cases hq
  case nil => intro _ _ _ _ hq; simp only [addPreSeq] at hq; cases hq
  case cons =>
    intro o _ ih ihl ho fp mp q hq
    simp only [addPreSeq, List.mem_append] at hq
    exact hq.elim (ih (D.head ho) _ mp q) (ihl (D.tail ho) _ _ q)

theorem addPre_node {N : Op → Prop} {NL : List Op → Prop} (D : Down N NL) (ml : Bool) {o : Op} (ho : N o)
    (fp : Option Nat) (mp : Nat) {q : Pre} (hq : q ∈ addPre ml o fp mp) : ∃ n, N n ∧ PreAt n q.op :=
  (addPre_node_both D ml).1 o ho fp mp q hq

theorem addPreSeq_node {N : Op → Prop} {NL : List Op → Prop} (D : Down N NL) (ml : Bool) {ops : List Op}
    (ho : NL ops) (fp : Option Nat) (mp : Nat) {q : Pre} (hq : q ∈ addPreSeq ml ops fp mp) :
    ∃ n, N n ∧ PreAt n q.op :=
  (addPre_node_both D ml).2 ops ho fp mp q hq

end Rx
