/-
  Proofs/TermCalc — `Step.Term I s`: `s` never reaches `.diverge` and every state it exposes satisfies `I`, provided
  the consumer hands back states satisfying `I` (the corner `dv = False` of `Step.Sat`).  With `I := fun _ => True`
  it is `Step.NoDiv`, and in general it implies `Step.Inv I`: one proof, generic in `I`, gives both facts of a stream.
-/
import RxModel.Proofs.InvCalc
namespace Rx

inductive Step.Term (I : St → Prop) : Step → Prop
  | nil (st) : I st → Term I (.nil st)
  | cons (n st r) : I st → (∀ st', I st' → Term I (r st')) → Term I (.cons n st r)

theorem Step.Sat.term {I : St → Prop} {P : Nat → Prop} {s : Step} (h : s.Sat False I P) : s.Term I := by
  induction h with
  | nil st hi => exact .nil st hi
  | cons n st r _ hi _ ih => exact .cons _ _ _ hi ih
  | diverge hd => exact hd.elim

namespace Step.Term
variable {I : St → Prop} {P : Nat → Prop}

theorem sat {s : Step} (ht : s.Term I) (hp : s.All P) : s.Sat False I P := by
  induction ht with
  | nil st h => exact .nil st h
  | cons n st r h _ ih =>
    cases hp with
    | cons _ _ _ hn hr => exact .cons _ _ _ hn h (fun st' h' => ih st' h' (hr st'))

theorem toInv {s : Step} (h : s.Term I) : s.Inv I :=
  (h.sat (.trivial _)).inv

theorem toNoDiv {s : Step} (hI : ∀ st, I st) (h : s.Term I) : s.NoDiv :=
  (h.sat (.trivial _)).noDiv hI

theorem ofNoDiv {s : Step} (hI : ∀ st, I st) (h : s.NoDiv) : s.Term I := by
  induction h with
  | nil st => exact .nil st (hI st)
  | cons n st r _ ih => exact .cons n st r (hI st) (fun st' _ => ih st')

theorem not_diverge (h : Step.diverge.Term I) : False := by
  cases h

theorem once {n : Nat} {st : St} (h : I st) : (Step.once n st).Term I :=
  .cons _ _ _ h (fun st' h' => .nil st' h')

theorem guard {c : Bool} {r s : Step} (hr : r.Term I) (hs : s.Term I) :
    (if c = true then r else s).Term I := by
  cases c
  · exact hs
  · exact hr

theorem append {s : Step} {f : St → Step}
    (hs : s.Term I) (hf : ∀ st, I st → (f st).Term I) : (s.append f).Term I :=
  ((hs.sat (.trivial _)).append fun st h => (hf st h).sat (.trivial _)).term

theorem bind {s : Step} {f : Nat → St → Step}
    (hs : s.Term I) (ha : s.All P) (hf : ∀ n st, P n → I st → (f n st).Term I) :
    (s.bind f).Term I :=
  ((hs.sat ha).bind fun n st hn h => (hf n st hn h).sat (.trivial _)).term

theorem bindFR {s : Step} {f g : Nat → St → Step}
    (hs : s.Term I) (ha : s.All P) (hf : ∀ n st, P n → I st → (f n st).Term I)
    (hg : ∀ n st, P n → I st → (g n st).Term I) : (s.bindFR f g).Term I :=
  ((hs.sat ha).bindFR (fun n st hn h => (hf n st hn h).sat (.trivial _))
    fun n st hn h => (hg n st hn h).sat (.trivial _)).term

theorem mapSt {s : Step} {f : Nat → St → St} (hs : s.Term I) (hf : ∀ n st, I st → I (f n st)) :
    (s.mapSt f).Term I :=
  ((hs.sat (.trivial _)).mapSt fun n st _ h => hf n st h).term

theorem onNil {s : Step} {f : St → St} (hs : s.Term I) (hf : ∀ st, I st → I (f st)) :
    (s.onNil f).Term I :=
  ((hs.sat (.trivial _)).onNil hf).term

theorem force {s : Step} (hs : s.Term I) (cnt : Nat) (cur : Option Nat) : (s.force cnt cur).Term I :=
  ((hs.sat (.trivial _)).force cnt cur).term

theorem first1 {s : Step} (hs : s.Term I) : I (first1 s).2 :=
  ((hs.sat (.trivial _)).pull False.elim rfl).1

end Step.Term

end Rx
