/-
  Proofs/InvCalc — the closure lemmas of `Step.Inv` and `Step.NoDiv`; what `first1` hands on; the leaves that do not
  touch the state (`PureLeaf`) and the back-reference; the sequence iterator in the form proofs use (`seqK`).
-/
import RxModel.Proofs.StreamCalc
import RxModel.Model.Engine
namespace Rx

/-- the state `first1` makes up when the iterator it pulls from does not terminate -/
def junkSt : St := ({} : St).setPanic panicDiverge

/-- the state `captureGen` enters the body of group `g` with at `p` -/
abbrev captureEntry (ctx : Ctx) (g p : Nat) (st : St) : St :=
  if ctx.hasBackrefs then
    (if g ≥ st.startBr.length then st.setPanic panicCaptureIndex
     else { st with startBr := setIn st.startBr g (some p) })
  else st

/-- `seqGo` with the empty rest yielding its start once, so that the last element is continued like the
    others: the form the specifications have (`enumSeq ctx [] p = [p]`).  `seqGo` itself treats the last element
    apart and is `nil` on the empty list, which the compiler never builds. -/
def seqK : List Gen → Gen
  | [] => Step.once
  | g :: gs => fun p st => ((g p st).mapSt (fun n st' => clearBeyond st' n)).bind (seqK gs)

theorem seqGo_cons (g : Gen) : ∀ gs, seqGo (g :: gs) = seqK (g :: gs)
  | [] => by
    funext p st
    simp only [seqGo, seqK, bind_once]
  | g2 :: gs => by
    funext p st
    simp only [seqGo, seqK, seqGo_cons g2 gs]

theorem Step.All.head {P : Nat → Prop} {n : Nat} {st : St} {r : St → Step}
    (h : (Step.cons n st r).All P) : P n := by
  cases h with
  | cons _ _ _ hn _ => exact hn

theorem Step.All.tail {P : Nat → Prop} {n : Nat} {st : St} {r : St → Step}
    (h : (Step.cons n st r).All P) (st' : St) : (r st').All P := by
  cases h with
  | cons _ _ _ _ hr => exact hr st'

namespace Step.Inv
variable {I : St → Prop} {P : Nat → Prop}

theorem nil_inv {st : St} (h : (Step.nil st).Inv I) : I st := by
  cases h with
  | nil _ h => exact h

theorem head {n : Nat} {st : St} {r : St → Step} (h : (Step.cons n st r).Inv I) : I st := by
  cases h with
  | cons _ _ _ h _ => exact h

theorem tail {n : Nat} {st : St} {r : St → Step} (h : (Step.cons n st r).Inv I)
    (st' : St) (h' : I st') : (r st').Inv I := by
  cases h with
  | cons _ _ _ _ hr => exact hr st' h'

theorem guard {c : Bool} {r s : Step} (hr : r.Inv I) (hs : s.Inv I) :
    (if c = true then r else s).Inv I := by
  cases c
  · exact hs
  · exact hr

theorem append {s : Step} {f : St → Step}
    (hs : s.Inv I) (hf : ∀ st, I st → (f st).Inv I) : (s.append f).Inv I :=
  ((hs.sat (.trivial _)).append fun st h => (hf st h).sat (.trivial _)).inv

theorem bindP {s : Step} {f : Nat → St → Step}
    (hs : s.Inv I) (hp : s.All P) (hf : ∀ n st, P n → I st → (f n st).Inv I) : (s.bind f).Inv I :=
  ((hs.sat hp).bind fun n st hn h => (hf n st hn h).sat (.trivial _)).inv

theorem bind {s : Step} {f : Nat → St → Step}
    (hs : s.Inv I) (hf : ∀ n st, I st → (f n st).Inv I) : (s.bind f).Inv I :=
  bindP hs (.trivial s) (fun n st _ h => hf n st h)

theorem bindFRP {s : Step} {f g : Nat → St → Step}
    (hs : s.Inv I) (hp : s.All P) (hf : ∀ n st, P n → I st → (f n st).Inv I)
    (hg : ∀ n st, P n → I st → (g n st).Inv I) : (s.bindFR f g).Inv I :=
  ((hs.sat hp).bindFR (fun n st hn h => (hf n st hn h).sat (.trivial _))
    fun n st hn h => (hg n st hn h).sat (.trivial _)).inv

theorem bindFR {s : Step} {f g : Nat → St → Step}
    (hs : s.Inv I) (hf : ∀ n st, I st → (f n st).Inv I)
    (hg : ∀ n st, I st → (g n st).Inv I) : (s.bindFR f g).Inv I :=
  bindFRP hs (.trivial s) (fun n st _ h => hf n st h) (fun n st _ h => hg n st h)

theorem mapStOn {s : Step} {f : Nat → St → St} (hs : s.Inv I) (hp : s.All P)
    (hf : ∀ n st, P n → I st → I (f n st)) : (s.mapSt f).Inv I :=
  ((hs.sat hp).mapSt hf).inv

theorem mapSt {s : Step} {f : Nat → St → St} (hs : s.Inv I) (hf : ∀ n st, I st → I (f n st)) :
    (s.mapSt f).Inv I :=
  mapStOn hs (.trivial s) (fun n st _ h => hf n st h)

theorem onNil {s : Step} {f : St → St} (hs : s.Inv I) (hf : ∀ st, I st → I (f st)) :
    (s.onNil f).Inv I :=
  ((hs.sat (.trivial _)).onNil hf).inv

theorem force {s : Step} (hs : s.Inv I) (cnt : Nat) (cur : Option Nat) : (s.force cnt cur).Inv I :=
  ((hs.sat (.trivial _)).force cnt cur).inv

theorem once {n : Nat} {st : St} (h : I st) : (Step.once n st).Inv I :=
  .cons _ _ _ h (fun _ h' => .nil _ h')

theorem mono {J : St → Prop} (hij : ∀ st, I st ↔ J st) {s : Step} (hs : s.Inv I) : s.Inv J := by
  induction hs with
  | nil st h => exact .nil _ ((hij st).1 h)
  | cons n st r h _ ih => exact .cons _ _ _ ((hij st).1 h) (fun st' h' => ih st' ((hij st').2 h'))
  | diverge => exact .diverge

end Step.Inv

namespace Step.NoDiv
variable {P : Nat → Prop}

theorem ne_diverge {s : Step} (hs : s.NoDiv) : s ≠ .diverge := by
  intro h
  rw [h] at hs
  cases hs

theorem tail {n : Nat} {st : St} {r : St → Step} (h : (Step.cons n st r).NoDiv) (st' : St) :
    (r st').NoDiv := by
  cases h with
  | cons _ _ _ hr => exact hr st'

theorem append {s : Step} {f : St → Step} (hs : s.NoDiv) (hf : ∀ st, (f st).NoDiv) :
    (s.append f).NoDiv :=
  ((hs.sat (.trivial _)).append fun st _ => (hf st).sat (.trivial _)).noDiv fun _ => True.intro

theorem bind {s : Step} {f : Nat → St → Step} (hs : s.NoDiv) (hp : s.All P)
    (hf : ∀ n st, P n → (f n st).NoDiv) : (s.bind f).NoDiv :=
  ((hs.sat hp).bind fun n st hn _ => (hf n st hn).sat (.trivial _)).noDiv fun _ => True.intro

theorem bindFR {s : Step} {f g : Nat → St → Step} (hs : s.NoDiv) (hp : s.All P)
    (hf : ∀ n st, P n → (f n st).NoDiv) (hg : ∀ n st, P n → (g n st).NoDiv) :
    (s.bindFR f g).NoDiv :=
  ((hs.sat hp).bindFR (fun n st hn _ => (hf n st hn).sat (.trivial _))
    fun n st hn _ => (hg n st hn).sat (.trivial _)).noDiv fun _ => True.intro

end Step.NoDiv

def PureLeaf (g : Gen) : Prop := ∀ p st, g p st = .nil st ∨ ∃ n, g p st = .once n st

theorem once_or_nil (c : Prop) [Decidable c] (n : Nat) (st : St) :
    (if c then Step.once n st else .nil st) = .nil st ∨ ∃ m, (if c then Step.once n st else .nil st) = .once m st := by
  split
  · exact .inr ⟨_, rfl⟩
  · exact .inl rfl

theorem atomGen_pure (ctx : Ctx) (cs : List Nat) : PureLeaf (atomGen ctx cs) := by
  intro p st
  unfold atomGen
  split
  · exact .inl rfl
  · exact once_or_nil _ _ _

theorem clsGen_pure (ctx : Ctx) (rs : Ranges) : PureLeaf (clsGen ctx rs) := by
  intro p st
  unfold clsGen
  split
  · exact once_or_nil _ _ _
  · exact .inl rfl

theorem bolGen_pure (ctx : Ctx) : PureLeaf (bolGen ctx) := by
  intro p st
  unfold bolGen
  split
  · exact once_or_nil _ _ _
  · exact .inr ⟨_, rfl⟩

theorem eolGen_pure (ctx : Ctx) : PureLeaf (eolGen ctx) := by
  intro p st
  unfold eolGen
  split
  · exact once_or_nil _ _ _
  · exact once_or_nil _ _ _

theorem nothingGen_pure : PureLeaf nothingGen := fun _ _ => .inr ⟨_, rfl⟩

theorem backrefGen_sat {dv : Prop} {I : St → Prop} (ctx : Ctx) (g p : Nat) (st : St) (h : I st)
    (hpanic : g ≥ st.startBr.length → I (st.setPanic panicBackrefIndex)) :
    (backrefGen ctx g p st).Sat dv I (fun n => n = p ∨ (p ≤ n ∧ n ≤ ctx.len)) := by
  unfold backrefGen
  by_cases hge : g ≥ st.startBr.length
  · rw [if_pos hge]; exact .nil _ (hpanic hge)
  · rw [if_neg hge]
    cases getO st.startBr g with
    | none => exact .once (.inl rfl) h
    | some s =>
      cases getO st.endBr g with
      | none => exact .once (.inl rfl) h
      | some e =>
        simp only
        by_cases hes : e ≤ s
        · rw [if_pos hes]; exact .once (.inl rfl) h
        · rw [if_neg hes]
          by_cases hlen : p + (e - s) - 1 ≥ ctx.len
          · rw [if_pos hlen]; exact .nil _ h
          · rw [if_neg hlen]
            split
            · exact .once (.inr ⟨by omega, by omega⟩) h
            · exact .nil _ h

theorem backrefGen_inv_of {I : St → Prop} {ctx : Ctx} {g p : Nat} {st : St} (hI : I st)
    (hpanic : g ≥ st.startBr.length → I (st.setPanic panicBackrefIndex)) : (backrefGen ctx g p st).Inv I :=
  (backrefGen_sat (dv := True) ctx g p st hI hpanic).inv

namespace Step.Sat
variable {dv : Prop} {I : St → Prop} {P : Nat → Prop}

theorem pull {s : Step} (hs : s.Sat dv I P) (hj : dv → I junkSt) {o : Option (Nat × St)} {st' : St}
    (h : first1 s = (o, st')) : I st' ∧ ∀ x, o = some x → P x.1 := by
  cases hs with
  | nil st hi =>
    simp only [first1, Prod.mk.injEq] at h
    obtain ⟨rfl, rfl⟩ := h
    exact ⟨hi, fun _ hx => by cases hx⟩
  | cons n st r hn hi _ =>
    simp only [first1, Prod.mk.injEq] at h
    obtain ⟨rfl, rfl⟩ := h
    exact ⟨hi, fun x hx => by cases hx; exact hn⟩
  | diverge hd =>
    simp only [first1, Prod.mk.injEq] at h
    obtain ⟨rfl, rfl⟩ := h
    exact ⟨hj hd, fun _ hx => by cases hx⟩

end Step.Sat

theorem first1_inv {I : St → Prop} {s : Step} (hs : s.Inv I) (hd : s = .diverge → I junkSt) :
    I (first1 s).2 := by
  cases hs with
  | nil st h => exact h
  | cons n st r h _ => exact h
  | diverge => exact hd rfl

theorem first1_inv_nodiv {I : St → Prop} {s : Step} (hs : s.Inv I) (hd : s.NoDiv) :
    I (first1 s).2 :=
  first1_inv hs (fun h => absurd h hd.ne_diverge)

theorem first1_all {P : Nat → Prop} {s : Step} (hs : s.All P) {x : Nat × St} {st' : St}
    (h : first1 s = (some x, st')) : P x.1 := by
  cases hs with
  | nil st => simp [first1] at h
  | cons m st r hm _ =>
    simp only [first1, Prod.mk.injEq, Option.some.injEq] at h
    obtain ⟨rfl, _⟩ := h
    exact hm
  | diverge => simp [first1] at h

theorem first1_snd {s : Step} {o : Option (Nat × St)} {st' : St} (h : first1 s = (o, st')) :
    st' = (first1 s).2 := by
  rw [h]

end Rx
