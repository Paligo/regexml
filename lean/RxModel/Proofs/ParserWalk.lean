/-
  Proofs/ParserWalk — the recursive descent one call at a time: a call of `parseExpr` / `parseBranches` /
  `parseBranch` / `parseTerminal` returns `.ok` exactly if the calls it made returned as `ExprRes` /
  `BranchesRes` / `BranchRes` / `TerminalRes` list them (`parseExpr_res` … invert a successful call,
  `ExprRes.run` … put a run together).  Two inductions over the four functions rest on these: how the
  compiler state grows (`parse_MS`), and a property of the tree, relative to the state reached, that every
  constructor the parser applies preserves (`parse_inv`).
-/
import RxModel.Proofs.ParserStepLemmas
namespace Rx

def POk {α : Type} (P : α → PS → Prop) (x : PRes α) : Prop := ∀ r s, x = .ok r s → P r s

theorem POk.err {α : Type} {P : α → PS → Prop} {e : Err} : POk P (.err e) := fun _ _ h => by cases h
theorem POk.mono {α : Type} {P Q : α → PS → Prop} {x : PRes α} (h : POk P x)
    (hPQ : ∀ a s, P a s → Q a s) : POk Q x := fun r s hx => hPQ r s (h r s hx)

theorem parseExpr_zero {c : PC} {s s' : PS} {top : Bool} {op : Op} : ¬ parseExpr c 0 s top = .ok op s' := by
  rw [parseExpr]; nofun
theorem parseBranches_zero {c : PC} {s s' : PS} {acc l : List Op} : ¬ parseBranches c 0 s acc = .ok l s' := by
  rw [parseBranches]; nofun
theorem parseBranch_zero {c : PC} {s s' : PS} {cur : Option Op} {op : Op} :
    ¬ parseBranch c 0 s cur = .ok op s' := by
  rw [parseBranch]; nofun
theorem parseTerminal_zero {c : PC} {s s' : PS} {op : Op} : ¬ parseTerminal c 0 s = .ok op s' := by
  rw [parseTerminal]; nofun

abbrev SOk {α : Type} (P : PS → Prop) (x : PRes α) : Prop := POk (fun _ s => P s) x

theorem SOk.err {α : Type} {P : PS → Prop} {e : Err} : SOk P (.err e : PRes α) := POk.err

/-- the compiler state only grows: no group number is given back, the back-reference flag is not cleared -/
def MS (s s' : PS) : Prop := s.parens ≤ s'.parens ∧ (s.hasBackrefs = true → s'.hasBackrefs = true)

theorem MS.refl (s : PS) : MS s s := ⟨Nat.le_refl _, id⟩
theorem MS.trans {a b c : PS} (h1 : MS a b) (h2 : MS b c) : MS a c :=
  ⟨Nat.le_trans h1.1 h2.1, fun h => h2.2 (h1.2 h)⟩

/-- `MS`, and the XSD dialect has no back-reference, so it leaves the flag alone -/
def Grows (c : PC) (s s' : PS) : Prop := MS s s' ∧ (c.fl.xsd = true → s'.hasBackrefs = s.hasBackrefs)

theorem Grows.refl (c : PC) (s : PS) : Grows c s s := ⟨MS.refl s, fun _ => rfl⟩
theorem Grows.trans {c : PC} {s1 s2 s3 : PS} (h1 : Grows c s1 s2) (h2 : Grows c s2 s3) : Grows c s1 s3 :=
  ⟨h1.1.trans h2.1, fun hx => (h2.2 hx).trans (h1.2 hx)⟩
theorem escape_grows {c : PC} {s s' : PS} {inB : Bool} {r : Esc} (h : escape c s inB = .ok r s') :
    Grows c s s' := by
  obtain ⟨_, _, _, hs, hbr⟩ := escape_ok h
  rw [hs]
  refine ⟨⟨Nat.le_refl _, fun hb => by simp only [hb, Bool.true_or]⟩, fun hx => ?_⟩
  cases r with
  | backref n => rw [(hbr n rfl).2.1] at hx; cases hx
  | chr x => exact Bool.or_false _
  | set rs => exact Bool.or_false _

/-- `p = .nothing`: a quantified anchor -/
theorem pieceQuant_quantOf {c : PC} {ret op : Op} {s s' : PS} (h : pieceQuant c ret s = .ok op s') :
    s' = { s with idx := s'.idx, bmin := s'.bmin, bmax := s'.bmax } ∧
    ∃ p, (p = ret ∨ p = .nothing) ∧ QuantOf c.fl.xsd p op := by
  rcases pieceQuant_res h with ⟨_, rfl, rfl⟩ | ⟨_, hasQ, s1, hq, hx, rfl, rfl⟩
  · exact ⟨rfl, op, .inl rfl, .same⟩
  · obtain ⟨hs1, _, _, hb⟩ := quantHead_frame hq
    -- a reluctant marker has been read in the XPath dialect only
    have hg : (!relAt c s1) = true ∨ c.fl.xsd = false := by
      cases hr : relAt c s1 with
      | false => exact .inl rfl
      | true => rw [hr] at hx; exact .inr hx
    refine ⟨?_, quantOp_of _ ret hasQ _ _ _ _ hb hg⟩
    by_cases hrel : relAt c s1 = true
    · rw [if_pos hrel, hs1]
    · rw [if_neg hrel]; exact hs1

structure RepTransparent (f : Op → Prop) : Prop where
  nothing : f .nothing
  gfixed : ∀ {o : Op} (mn mx l : Nat), f o → f (.gfixed o mn mx l)
  rfixed : ∀ {o : Op} (mn mx l : Nat), f o → f (.rfixed o mn mx l)
  rep : ∀ {o : Op} (mn mx : Nat) (g : Bool), f o → f (.rep 0 o mn mx g)

theorem RepTransparent.pieceQuant {f : Op → Prop} (H : RepTransparent f) {c : PC} {ret op : Op} {s s' : PS}
    (h : pieceQuant c ret s = .ok op s') (hret : f ret) : f op := by
  obtain ⟨_, p, hp, hq⟩ := pieceQuant_quantOf h
  have hp' : f p := by
    rcases hp with rfl | rfl
    · exact hret
    · exact H.nothing
  cases hq with
  | nothing => exact H.nothing
  | same => exact hp'
  | gfixed mn mx l => exact H.gfixed mn mx l hp'
  | rfixed mn mx l => exact H.rfixed mn mx l hp'
  | rep mn mx g => exact H.rep mn mx g hp'

theorem pieceQuant_grows {c : PC} {ret op : Op} {s s' : PS} (h : pieceQuant c ret s = .ok op s') :
    Grows c s s' := by
  rw [(pieceQuant_quantOf h).1]
  exact Grows.refl c s

theorem parseAtom_res {c : PC} {s s' : PS} {op : Op} (h : parseAtom c s = .ok op s') :
    Grows c s s' ∧ ∃ ub, ub.isEmpty = false ∧ op = .atom ub := by
  rw [parseAtom] at h
  cases hg : parseAtomGo c (c.len + 2) s [] with
  | err e => rw [hg] at h; cases h
  | ok ub s1 =>
    rw [hg] at h
    dsimp only at h
    by_cases he : ub.isEmpty = true
    · rw [if_pos he] at h; cases h
    · rw [if_neg he] at h
      injection h with h1 h2
      subst h2
      obtain ⟨hs, _, _, _, hb, hx⟩ := parseAtomGo_ok hg
      exact ⟨by rw [hs]; exact ⟨⟨Nat.le_refl _, hb⟩, hx⟩, ub, by simpa using he, h1.symm⟩

inductive ExprRes (c : PC) (f : Nat) (s : PS) (top : Bool) : Op → PS → Prop
  | plain {b1 : Op} {s2 : PS} {bs : List Op} {s3 : PS} (h0 : top = true ∨ c.at s.idx ≠ 40)
      (hb : parseBranch c f s none = .ok b1 s2) (hbs : parseBranches c f s2 [b1] = .ok bs s3) :
      ExprRes c f s top (makeSequence (altOf bs) .endProgram) s3
  | group {b1 : Op} {s2 : PS} {bs : List Op} {s3 : PS} (ht : top = false) (h40 : c.at s.idx = 40)
      (hnc : ¬ ncAt c s)
      (hb : parseBranch c f { s with idx := s.idx + 1, parens := s.parens + 1 } none = .ok b1 s2)
      (hbs : parseBranches c f s2 [b1] = .ok bs s3) (hlt : s3.idx < c.len) (h41 : c.at s3.idx = 41) :
      ExprRes c f s top (.capture s.parens (altOf bs))
        { s3 with idx := s3.idx + 1, captures := s.parens :: s3.captures }
  | cluster {b1 : Op} {s2 : PS} {bs : List Op} {s3 : PS} (ht : top = false) (hx : c.fl.xsd = false)
      (h40 : c.at s.idx = 40) (hq : ncAt c s)
      (hb : parseBranch c f { s with idx := s.idx + 3 } none = .ok b1 s2)
      (hbs : parseBranches c f s2 [b1] = .ok bs s3) (hlt : s3.idx < c.len) (h41 : c.at s3.idx = 41) :
      ExprRes c f s top (altOf bs) { s3 with idx := s3.idx + 1 }

theorem parseExpr_res {c : PC} {f : Nat} {s s' : PS} {top : Bool} {op : Op}
    (h : parseExpr c (f + 1) s top = .ok op s') : ExprRes c f s top op s' := by
  rw [parseExpr_succ] at h
  cases ho : exprOpen c s top with
  | err e => rw [ho] at h; cases h
  | ok paren s1 =>
    rw [ho] at h
    dsimp only at h
    unfold exprBody at h
    cases hb : parseBranch c f s1 none with
    | err e => rw [hb] at h; cases h
    | ok b1 s2 =>
      rw [hb] at h
      dsimp only at h
      cases hbs : parseBranches c f s2 [b1] with
      | err e => rw [hbs] at h; cases h
      | ok bs s3 =>
        rw [hbs] at h
        dsimp only at h
        rcases exprOpen_res ho with ⟨rfl, rfl, h0⟩ | ⟨rfl, ht, h40, hnc, rfl⟩ | ⟨rfl, ht, hx, h40, hq, rfl⟩
        · rw [if_neg (by decide)] at h
          injection h with h1 h2
          subst h1 h2
          exact .plain h0 hb hbs
        · rw [if_pos (by decide)] at h
          by_cases hc : (decide (s3.idx < c.len) && c.at s3.idx == 41) = true
          · rw [if_pos hc, if_pos (by decide)] at h
            simp only [Bool.and_eq_true, decide_eq_true_eq, beq_iff_eq] at hc
            injection h with h1 h2
            subst h1 h2
            exact .group ht h40 hnc hb hbs hc.1 hc.2
          · rw [if_neg hc] at h; cases h
        · rw [if_pos (by decide)] at h
          by_cases hc : (decide (s3.idx < c.len) && c.at s3.idx == 41) = true
          · rw [if_pos hc, if_neg (by decide)] at h
            simp only [Bool.and_eq_true, decide_eq_true_eq, beq_iff_eq] at hc
            injection h with h1 h2
            subst h1 h2
            exact .cluster ht hx h40 hq hb hbs hc.1 hc.2
          · rw [if_neg hc] at h; cases h

theorem ExprRes.run {c : PC} {f : Nat} {s s' : PS} {top : Bool} {op : Op} (h : ExprRes c f s top op s') :
    parseExpr c (f + 1) s top = .ok op s' := by
  cases h with
  | plain h0 hb hbs =>
    rw [parseExpr_succ, exprOpen_of.1 h0]
    simp only [exprBody, hb, hbs]
    rfl
  | group ht h40 hnc hb hbs hlt h41 =>
    rw [parseExpr_succ, exprOpen_of.2.1 ht h40 hnc]
    simp only [exprBody, hb, hbs]
    simp [hlt, h41]
  | cluster ht hx h40 hq hb hbs hlt h41 =>
    rw [parseExpr_succ, exprOpen_of.2.2 ht h40 hq, hx, if_neg Bool.false_ne_true]
    simp only [exprBody, hb, hbs]
    simp [hlt, h41]

inductive BranchesRes (c : PC) (f : Nat) (s : PS) (acc : List Op) : List Op → PS → Prop
  | stop (h : ¬ (s.idx < c.len ∧ c.at s.idx = 124)) : BranchesRes c f s acc acc s
  | more {b : Op} {s1 : PS} {l : List Op} {s' : PS} (hlt : s.idx < c.len) (h124 : c.at s.idx = 124)
      (hb : parseBranch c f { s with idx := s.idx + 1 } none = .ok b s1)
      (hbs : parseBranches c f s1 (acc ++ [b]) = .ok l s') : BranchesRes c f s acc l s'

theorem parseBranches_res {c : PC} {f : Nat} {s s' : PS} {acc l : List Op}
    (h : parseBranches c (f + 1) s acc = .ok l s') : BranchesRes c f s acc l s' := by
  rw [parseBranches] at h
  by_cases hc : (decide (s.idx < c.len) && c.at s.idx == 124) = true
  · rw [if_pos hc] at h
    simp only [Bool.and_eq_true, decide_eq_true_eq, beq_iff_eq] at hc
    cases hb : parseBranch c f { s with idx := s.idx + 1 } none with
    | err e => rw [hb] at h; cases h
    | ok b s1 =>
      rw [hb] at h
      exact .more hc.1 hc.2 hb h
  · rw [if_neg hc] at h
    simp only [Bool.and_eq_true, decide_eq_true_eq, beq_iff_eq] at hc
    injection h with h1 h2
    subst h1 h2
    exact .stop hc

theorem BranchesRes.run {c : PC} {f : Nat} {s s' : PS} {acc l : List Op} (h : BranchesRes c f s acc l s') :
    parseBranches c (f + 1) s acc = .ok l s' := by
  cases h with
  | stop h => rw [parseBranches, if_neg (by simpa using h)]
  | more hlt h124 hb hbs => rw [parseBranches, if_pos (by simp [hlt, h124]), hb]; exact hbs

def seqCur (cur : Option Op) (q : Op) : Op :=
  match cur with
  | some cu => makeSequence cu q
  | none => q

inductive BranchRes (c : PC) (f : Nat) (s : PS) (cur : Option Op) : Op → PS → Prop
  | stop (h : ¬ (s.idx < c.len ∧ c.at s.idx ≠ 124 ∧ c.at s.idx ≠ 41)) :
      BranchRes c f s cur (cur.getD .nothing) s
  | piece {ret q op : Op} {s1 s2 s' : PS} (hlt : s.idx < c.len) (h124 : c.at s.idx ≠ 124)
      (h41 : c.at s.idx ≠ 41) (ht : parseTerminal c f s = .ok ret s1)
      (hq : pieceQuant c ret s1 = .ok q s2) (hb : parseBranch c f s2 (some (seqCur cur q)) = .ok op s') :
      BranchRes c f s cur op s'

theorem parseBranch_res {c : PC} {f : Nat} {s s' : PS} {cur : Option Op} {op : Op}
    (h : parseBranch c (f + 1) s cur = .ok op s') : BranchRes c f s cur op s' := by
  rw [parseBranch] at h
  by_cases hc : (decide (s.idx < c.len) && c.at s.idx != 124 && c.at s.idx != 41) = true
  · rw [if_pos hc] at h
    simp only [Bool.and_eq_true, decide_eq_true_eq, bne_iff_ne, ne_eq] at hc
    cases ht : parseTerminal c f s with
    | err e => rw [ht] at h; cases h
    | ok ret s1 =>
      rw [ht] at h
      dsimp only at h
      cases hq : pieceQuant c ret s1 with
      | err e => rw [hq] at h; cases h
      | ok q s2 =>
        rw [hq] at h
        exact .piece hc.1.1 hc.1.2 hc.2 ht hq h
  · rw [if_neg hc] at h
    simp only [Bool.and_eq_true, decide_eq_true_eq, bne_iff_ne, ne_eq, and_assoc] at hc
    injection h with h1 h2
    subst h1 h2
    exact .stop hc

theorem BranchRes.run {c : PC} {f : Nat} {s s' : PS} {cur : Option Op} {op : Op}
    (h : BranchRes c f s cur op s') : parseBranch c (f + 1) s cur = .ok op s' := by
  cases h with
  | stop h => rw [parseBranch, if_neg (by simpa [and_assoc] using h)]
  | piece hlt h124 h41 ht hq hb =>
    rw [parseBranch, if_pos (by simp [hlt, h124, h41]), ht]
    simp only [hq]
    exact hb

inductive TerminalRes (c : PC) (f : Nat) (s : PS) : Op → PS → Prop
  | eol (hx : c.fl.xsd = false) (h : c.at s.idx = 36) : TerminalRes c f s .eol { s with idx := s.idx + 1 }
  | bol (hx : c.fl.xsd = false) (h : c.at s.idx = 94) : TerminalRes c f s .bol { s with idx := s.idx + 1 }
  | dot (h : c.at s.idx = 46) :
      TerminalRes c f s (.cls (if c.fl.singleLine then allR else complR (addChars [10, 13] [])))
        { s with idx := s.idx + 1 }
  | cls {rs : Ranges} {s' : PS} (h : parseClass c (c.len + 2) s = .ok rs s') : TerminalRes c f s (.cls rs) s'
  | group {op : Op} {s' : PS} (h40 : c.at s.idx = 40) (h : parseExpr c f s false = .ok op s') :
      TerminalRes c f s op s'
  | backref {n : Nat} {s' : PS} (h : escape c s false = .ok (.backref n) s') (hn : n < s'.parens) :
      TerminalRes c f s (.backref n) s'
  | escSet {rs : Ranges} {s' : PS} (h : escape c s false = .ok (.set rs) s') : TerminalRes c f s (.cls rs) s'
  | escChr {x : Nat} {s1 : PS} {op : Op} {s' : PS} (h : escape c s false = .ok (.chr x) s1)
      (ha : parseAtom c { s1 with idx := s.idx } = .ok op s') : TerminalRes c f s op s'
  | atom {op : Op} {s' : PS} (hch : Grammar.normalChar c.fl.xsd (c.at s.idx) = true)
      (ha : parseAtom c s = .ok op s') : TerminalRes c f s op s'

theorem parseAtom_start {c : PC} {s s' : PS} {op : Op} (h : parseAtom c s = .ok op s')
    (h92 : c.at s.idx ≠ 92) : Grammar.normalChar c.fl.xsd (c.at s.idx) = true := by
  rw [parseAtom] at h
  have hit := parseAtomGo_iter c (c.len + 1) s []
  generalize parseAtomGo c (c.len + 1 + 1) s [] = X at hit h
  cases hit with
  | stop _ _ => simp at h
  | syn => cases h
  | char _ hch => exact hch
  | esc h0 he => exact absurd (by rw [← (escape_ok he).1, h0.frame.1]) h92

theorem parseTerminal_res {c : PC} {f : Nat} {s s' : PS} {op : Op}
    (h : parseTerminal c (f + 1) s = .ok op s') : TerminalRes c f s op s' := by
  rw [parseTerminal] at h
  by_cases hEol : (c.at s.idx == 36 && !c.fl.xsd) = true
  · rw [if_pos hEol] at h
    simp only [Bool.and_eq_true, beq_iff_eq, Bool.not_eq_true'] at hEol
    injection h with h1 h2
    subst h1 h2
    exact .eol hEol.2 hEol.1
  rw [if_neg hEol] at h
  by_cases hBol : (c.at s.idx == 94 && !c.fl.xsd) = true
  · rw [if_pos hBol] at h
    simp only [Bool.and_eq_true, beq_iff_eq, Bool.not_eq_true'] at hBol
    injection h with h1 h2
    subst h1 h2
    exact .bol hBol.2 hBol.1
  rw [if_neg hBol] at h
  by_cases hDot : (c.at s.idx == 46) = true
  · rw [if_pos hDot] at h
    injection h with h1 h2
    subst h1 h2
    exact .dot (eq_of_beq hDot)
  rw [if_neg hDot] at h
  by_cases hCls : (c.at s.idx == 91) = true
  · rw [if_pos hCls] at h
    cases hc : parseClass c (c.len + 2) s with
    | err e => rw [hc] at h; cases h
    | ok rs s1 =>
      rw [hc] at h
      injection h with h1 h2
      subst h1 h2
      exact .cls hc
  rw [if_neg hCls] at h
  by_cases hGroup : (c.at s.idx == 40) = true
  · rw [if_pos hGroup] at h
    exact .group (eq_of_beq hGroup) h
  rw [if_neg hGroup] at h
  -- `)`, `|`, `]` and a quantifier character are errors here
  by_cases h41 : (c.at s.idx == 41) = true
  · rw [if_pos h41] at h; cases h
  rw [if_neg h41] at h
  by_cases h124 : (c.at s.idx == 124) = true
  · rw [if_pos h124] at h; cases h
  rw [if_neg h124] at h
  by_cases h93 : (c.at s.idx == 93) = true
  · rw [if_pos h93] at h; cases h
  rw [if_neg h93] at h
  by_cases hQuant : (c.at s.idx == 63 || c.at s.idx == 43 || c.at s.idx == 123 || c.at s.idx == 42) = true
  · rw [if_pos hQuant] at h; cases h
  rw [if_neg hQuant] at h
  by_cases hEsc : (c.at s.idx == 92) = true
  · rw [if_pos hEsc] at h
    cases he : escape c s false with
    | err e => rw [he] at h; cases h
    | ok r s1 =>
      rw [he] at h
      cases r with
      | chr x => exact .escChr he h
      | set rs =>
        injection h with h1 h2
        subst h1 h2
        exact .escSet he
      | backref n =>
        dsimp only at h
        by_cases hn : s1.parens ≤ n
        · rw [if_pos hn] at h; cases h
        · rw [if_neg hn] at h
          injection h with h1 h2
          subst h1 h2
          exact .backref he (by omega)
  · rw [if_neg hEsc] at h
    exact .atom (parseAtom_start h (by simpa using hEsc)) h

theorem parseTerminal_normalChar {c : PC} {f : Nat} {s : PS} (hn : Grammar.normalChar c.fl.xsd (c.at s.idx) = true) :
    parseTerminal c (f + 1) s = parseAtom c s := by
  obtain ⟨h46, h92, h63, h42, h43, h123, _, h40, h41, h124, h91, h93, hx⟩ := normalChar_ne hn
  rw [parseTerminal]
  simp only [h46, h91, h40, h41, h124, h93, h63, h43, h123, h42, h92, Bool.or_self, Bool.false_eq_true,
    if_false]
  rcases hx with hx | hx
  · simp [hx]
  · simp [hx.1, hx.2]

theorem parseTerminal_esc {c : PC} {f : Nat} {s : PS} (h : c.at s.idx = 92) :
    parseTerminal c (f + 1) s =
      match escape c s false with
      | .err e => .err e
      | .ok (.backref n) s' => if s'.parens ≤ n then .err .syntax else .ok (.backref n) s'
      | .ok (.chr _) s' => parseAtom c { s' with idx := s.idx }
      | .ok (.set rs) s' => .ok (.cls rs) s' := by
  rw [parseTerminal]
  simp only [h, Nat.reduceBEq, Bool.false_and, Bool.false_eq_true, if_false, Bool.or_self, if_true]
  cases escape c s false with
  | err e => rfl
  | ok r s' => cases r <;> rfl

theorem TerminalRes.run {c : PC} {f : Nat} {s s' : PS} {op : Op} (h : TerminalRes c f s op s') :
    parseTerminal c (f + 1) s = .ok op s' := by
  cases h with
  | eol hx h => rw [parseTerminal]; simp [h, hx]
  | bol hx h => rw [parseTerminal]; simp [h, hx]
  | dot h => rw [parseTerminal]; simp [h]
  | cls h => rw [parseTerminal]; simp [parseClass_at h, h]
  | group h40 h => rw [parseTerminal]; simp [h40, h]
  | backref h hn => rw [parseTerminal_esc (escape_ok h).1, h]; exact if_neg (by omega)
  | escSet h => rw [parseTerminal_esc (escape_ok h).1, h]
  | escChr h ha => rw [parseTerminal_esc (escape_ok h).1, h]; exact ha
  | atom hch ha => rw [parseTerminal_normalChar hch]; exact ha

/-- every successful call satisfies `Grows`; `parseExpr_MS` … read off its `MS` half -/
theorem parse_MS (c : PC) (f : Nat) :
    (∀ s top r s', parseExpr c f s top = .ok r s' → Grows c s s') ∧
    (∀ s acc r s', parseBranches c f s acc = .ok r s' → Grows c s s') ∧
    (∀ s cur r s', parseBranch c f s cur = .ok r s' → Grows c s s') ∧
    (∀ s r s', parseTerminal c f s = .ok r s' → Grows c s s') := by
  induction f with
  | zero =>
    exact ⟨fun _ _ _ _ h => (parseExpr_zero h).elim, fun _ _ _ _ h => (parseBranches_zero h).elim,
      fun _ _ _ _ h => (parseBranch_zero h).elim, fun _ _ _ h => (parseTerminal_zero h).elim⟩
  | succ f ih =>
    obtain ⟨ihE, ihBs, ihB, ihT⟩ := ih
    refine ⟨fun s top r s' h => ?_, fun s acc r s' h => ?_, fun s cur r s' h => ?_, fun s r s' h => ?_⟩
    · cases parseExpr_res h with
      | plain _ hb hbs => exact (ihB _ _ _ _ hb).trans (ihBs _ _ _ _ hbs)
      | group _ _ _ hb hbs =>
        have h := (ihB _ _ _ _ hb).trans (ihBs _ _ _ _ hbs)
        exact ⟨⟨Nat.le_trans (Nat.le_succ _) h.1.1, h.1.2⟩, h.2⟩
      | cluster _ _ _ _ hb hbs =>
        have h := (ihB _ _ _ _ hb).trans (ihBs _ _ _ _ hbs)
        exact h
    · cases parseBranches_res h with
      | stop => exact Grows.refl c _
      | more _ _ hb hbs =>
        have h := (ihB _ _ _ _ hb).trans (ihBs _ _ _ _ hbs)
        exact h
    · cases parseBranch_res h with
      | stop => exact Grows.refl c _
      | piece _ _ _ ht hq hb => exact ((ihT _ _ _ ht).trans (pieceQuant_grows hq)).trans (ihB _ _ _ _ hb)
    · cases parseTerminal_res h with
      | eol | bol | dot => exact Grows.refl c s
      | cls hc => rw [(parseClass_ok hc).1]; exact Grows.refl c s
      | group _ he => exact ihE _ _ _ _ he
      | backref he | escSet he => exact escape_grows he
      | escChr he ha =>
        have h := (parseAtom_res ha).1
        exact (escape_grows he).trans h
      | atom _ ha => exact (parseAtom_res ha).1

theorem parseExpr_grows {c : PC} {f : Nat} {s s' : PS} {top : Bool} {op : Op}
    (h : parseExpr c f s top = .ok op s') : Grows c s s' := (parse_MS c f).1 s top op s' h

theorem parseExpr_MS {c : PC} {f : Nat} {s s' : PS} {top : Bool} {op : Op}
    (h : parseExpr c f s top = .ok op s') : MS s s' := (parseExpr_grows h).1

theorem parseBranches_MS {c : PC} {f : Nat} {s s' : PS} {acc l : List Op}
    (h : parseBranches c f s acc = .ok l s') : MS s s' := ((parse_MS c f).2.1 s acc l s' h).1

theorem parseBranch_MS {c : PC} {f : Nat} {s s' : PS} {cur : Option Op} {op : Op}
    (h : parseBranch c f s cur = .ok op s') : MS s s' := ((parse_MS c f).2.2.1 s cur op s' h).1

theorem parseTerminal_MS {c : PC} {f : Nat} {s s' : PS} {op : Op}
    (h : parseTerminal c f s = .ok op s') : MS s s' := ((parse_MS c f).2.2.2 s op s' h).1

/-- a predicate on lists that holds of `[]` and passes from a member and a list to the longer list holds of every
    list of members (the branches of an alternation: what `choice` of the records below is given) -/
theorem list_of_forall {α : Type} {P : α → Prop} {PL : List α → Prop} (nil : PL [])
    (cons : ∀ a l, P a → PL l → PL (a :: l)) : ∀ l, (∀ b ∈ l, P b) → PL l
  | [], _ => nil
  | b :: t, h => cons b t (h b List.mem_cons_self) (list_of_forall nil cons t fun x hx => h x (List.mem_cons_of_mem _ hx))

/-- `P`, of a tree and the compiler state reached when it was built, holds of the leaves the parser builds,
    is kept when the state grows, and is preserved by every constructor the parser applies, under the side
    conditions the parser guarantees.  `lo`: a lower bound of the group counter at the start. -/
structure ParserInv (xsd : Bool) (lo : Nat) (P : Op → PS → Prop) : Prop where
  mono : ∀ {o s s'}, P o s → MS s s' → P o s'
  bol : xsd = false → ∀ s, P .bol s
  eol : xsd = false → ∀ s, P .eol s
  nothing : ∀ s, P .nothing s
  cls : ∀ rs s, P (.cls rs) s
  atom : ∀ cs s, cs.isEmpty = false → P (.atom cs) s
  backref : xsd = false → ∀ n s, n < s.parens → s.hasBackrefs = true → P (.backref n) s
  capture : ∀ g o s, lo ≤ g → g < s.parens → P o s → P (.capture g o) s
  choice : ∀ l s, (∀ b ∈ l, P b s) → 2 ≤ l.length → P (.choice l) s
  seq : ∀ a b s, P a s → P b s → P (makeSequence a b) s
  gfixed : ∀ o mn mx l s, P o s → matchLen o = some l → 0 < l → mn ≤ mx → mx ≠ 0 → P (.gfixed o mn mx l) s
  rfixed : xsd = false → ∀ o mn mx l s, P o s → matchLen o = some l → 0 < l → mn ≤ mx → mx ≠ 0 →
    P (.rfixed o mn mx l) s
  rep : ∀ o mn mx g s, g = true ∨ xsd = false → P o s → matchLen o = none → mn ≤ mx → mx ≠ 0 →
    P (.rep 0 o mn mx g) s

variable {xsd : Bool} {lo : Nat} {P : Op → PS → Prop}

theorem ParserInv.quant (H : ParserInv xsd lo P) {p o : Op} {s : PS} (hp : P p s) (hq : QuantOf xsd p o) :
    P o s := by
  cases hq with
  | nothing => exact H.nothing s
  | same => exact hp
  | gfixed mn mx l hm hl hle hmx => exact H.gfixed p mn mx l s hp hm hl hle hmx
  | rfixed mn mx l hx hm hl hle hmx => exact H.rfixed hx p mn mx l s hp hm hl hle hmx
  | rep mn mx g hg hm hle hmx => exact H.rep p mn mx g s hg hp hm hle hmx

theorem ParserInv.alt (H : ParserInv xsd lo P) {bs : List Op} {s : PS} (h : ∀ b ∈ bs, P b s)
    (hne : bs ≠ []) : P (altOf bs) s := by
  match bs, hne with
  | [b], _ => exact h b List.mem_cons_self
  | b1 :: b2 :: t, _ => exact H.choice _ s h (by simp only [List.length_cons]; omega)

theorem ParserInv.parseAtom (H : ParserInv xsd lo P) {c : PC} {s s' : PS} {op : Op}
    (h : parseAtom c s = .ok op s') : P op s' := by
  obtain ⟨_, ub, hub, rfl⟩ := parseAtom_res h
  exact H.atom ub s' hub

theorem ParserInv.pieceQuant {c : PC} (H : ParserInv c.fl.xsd lo P) {ret op : Op} {s s' : PS}
    (h : pieceQuant c ret s = .ok op s') (hret : P ret s) : P op s' := by
  obtain ⟨_, p, hp, hq⟩ := pieceQuant_quantOf h
  have hp' : P p s := by
    rcases hp with rfl | rfl
    · exact hret
    · exact H.nothing s
  exact H.mono (H.quant hp' hq) (pieceQuant_grows h).1

/-- `parseExpr` returns a `P`-tree, or (the top-level call) one closed with `EndProgram`; entered at an opening
    parenthesis below the top level — the only way `parseTerminal` calls it — a `P`-tree. -/
theorem parse_inv (c : PC) (H : ParserInv c.fl.xsd lo P) (f : Nat) :
    (∀ s top op s', lo ≤ s.parens → parseExpr c f s top = .ok op s' →
      (top = false → c.at s.idx = 40 → P op s') ∧
      (P op s' ∨ ∃ o, P o s' ∧ op = makeSequence o .endProgram)) ∧
    (∀ s acc l s', lo ≤ s.parens → (∀ b ∈ acc, P b s) →
      parseBranches c f s acc = .ok l s' → (∀ b ∈ l, P b s') ∧ (acc ≠ [] → l ≠ [])) ∧
    (∀ s cur op s', lo ≤ s.parens → (∀ o, cur = some o → P o s) →
      parseBranch c f s cur = .ok op s' → P op s') ∧
    (∀ s op s', lo ≤ s.parens → parseTerminal c f s = .ok op s' → P op s') := by
  induction f with
  | zero =>
    exact ⟨fun _ _ _ _ _ h => (parseExpr_zero h).elim, fun _ _ _ _ _ _ h => (parseBranches_zero h).elim,
      fun _ _ _ _ _ _ h => (parseBranch_zero h).elim, fun _ _ _ _ h => (parseTerminal_zero h).elim⟩
  | succ f ih =>
    obtain ⟨ihE, ihBs, ihB, ihT⟩ := ih
    have body : ∀ s1 b1 s2 bs s3, lo ≤ s1.parens → parseBranch c f s1 none = .ok b1 s2 →
        parseBranches c f s2 [b1] = .ok bs s3 → P (altOf bs) s3 ∧ s1.parens ≤ s3.parens := by
      intro s1 b1 s2 bs s3 hlo hb hbs
      have m1 := parseBranch_MS hb
      have g1 : P b1 s2 := ihB _ _ _ _ hlo (fun _ ho => by cases ho) hb
      obtain ⟨g2, hne⟩ := ihBs _ _ _ _ (Nat.le_trans hlo m1.1)
        (fun b hb => by rw [List.mem_singleton] at hb; rw [hb]; exact g1) hbs
      exact ⟨H.alt g2 (hne (List.cons_ne_nil _ _)), Nat.le_trans m1.1 (parseBranches_MS hbs).1⟩
    refine ⟨fun s top r s' hlo h => ?_, fun s acc r s' hlo hacc h => ?_,
      fun s cur r s' hlo hcur h => ?_, fun s r s' hlo h => ?_⟩
    · have atGroup : ∀ {op s'}, P op s' → (top = false → c.at s.idx = 40 → P op s') ∧
          (P op s' ∨ ∃ o, P o s' ∧ op = makeSequence o .endProgram) := fun g => ⟨fun _ _ => g, .inl g⟩
      cases parseExpr_res h with
      | plain h0 hb hbs =>
        refine ⟨fun ht h40 => ?_, .inr ⟨_, (body _ _ _ _ _ hlo hb hbs).1, rfl⟩⟩
        rcases h0 with h0 | h0
        · rw [ht] at h0; cases h0
        · exact absurd h40 h0
      | group _ _ _ hb hbs =>
        obtain ⟨g, hle⟩ := body _ _ _ _ _ (Nat.le_succ_of_le hlo) hb hbs
        exact atGroup (H.capture _ _ _ hlo hle (H.mono g ⟨Nat.le_refl _, id⟩))
      | cluster _ _ _ _ hb hbs =>
        exact atGroup (H.mono (body _ _ _ _ _ (by exact hlo) hb hbs).1 ⟨Nat.le_refl _, id⟩)
    · cases parseBranches_res h with
      | stop => exact ⟨hacc, id⟩
      | @more b s1 _ _ _ _ hb hbs =>
        have m1 := parseBranch_MS hb
        have g1 : P b s1 := ihB _ _ _ _ (by exact hlo) (fun _ ho => by cases ho) hb
        have hacc' : ∀ x ∈ acc ++ [b], P x s1 := by
          intro x hx
          rcases List.mem_append.1 hx with hx | hx
          · exact H.mono (hacc x hx) m1
          · rw [List.mem_singleton] at hx; rw [hx]; exact g1
        obtain ⟨g2, hne⟩ := ihBs _ _ _ _ (Nat.le_trans hlo m1.1) hacc' hbs
        exact ⟨g2, fun _ => hne (by simp)⟩
    · cases parseBranch_res h with
      | stop =>
        cases cur with
        | none => exact H.nothing _
        | some cu => exact hcur cu rfl
      | @piece ret q _ s1 s2 _ _ _ _ ht hq hb =>
        have m1 := parseTerminal_MS ht
        have m2 := (pieceQuant_grows hq).1
        have gq : P q s2 := H.pieceQuant hq (ihT _ _ _ hlo ht)
        refine ihB _ _ _ _ (Nat.le_trans hlo (Nat.le_trans m1.1 m2.1)) (fun o ho => ?_) hb
        injection ho with ho
        subst ho
        cases cur with
        | none => exact gq
        | some cu => exact H.seq _ _ _ (H.mono (hcur cu rfl) (m1.trans m2)) gq
    · cases parseTerminal_res h with
      | eol hx => exact H.eol hx _
      | bol hx => exact H.bol hx _
      | dot => exact H.cls _ _
      | cls => exact H.cls _ _
      | group h40 he => exact (ihE _ _ _ _ hlo he).1 rfl h40
      | backref he hn =>
        refine H.backref ((escape_ok he).2.2.2.2 _ rfl).2.1 _ _ hn ?_
        rw [(escape_ok he).2.2.2.1]
        exact Bool.or_true _
      | escSet => exact H.cls _ _
      | escChr _ ha => exact H.parseAtom ha
      | atom _ ha => exact H.parseAtom ha

theorem parseExpr_inv {c : PC} (H : ParserInv c.fl.xsd lo P) (hend : ∀ s, P .endProgram s) {f : Nat} {s s' : PS}
    {top : Bool} {op : Op} (hlo : lo ≤ s.parens) (h : parseExpr c f s top = .ok op s') : P op s' := by
  rcases ((parse_inv c H f).1 s top op s' hlo h).2 with h | ⟨o, ho, rfl⟩
  · exact h
  · exact H.seq _ _ _ ho (hend _)

end Rx
