/-
  Proofs/Clean2SearchLemmas — what is specific to the fragment of Spec/Enum2 in the search-loop theorems: a tree of the
  fragment has no general repeat, so numbering is the identity (`numberReps_shape2`); the shapes `add_precondition`
  records for it (`preShape2`).  The outcome of the search itself is that of the fragment of Spec/Enum4.
-/
import RxModel.Proofs.PreComplete
namespace Rx.SearchComplete
open Rx
open Rx.C08 (noEmptyAtoms noEmptyAtomsL)

theorem numberReps_shape2_both :
    (∀ op, shape2 op = true → ∀ n, numberReps op n = (op, n)) ∧
    ∀ ops, shape2L ops = true → ∀ n, numberRepsL ops n = (ops, n) :=
  Op.ind_both (M := fun op => shape2 op = true → ∀ n, numberReps op n = (op, n))
    (ML := fun ops => shape2L ops = true → ∀ n, numberRepsL ops n = (ops, n))
    (bol := fun _ _ => by simp only [numberReps]) (eol := fun _ _ => by simp only [numberReps])
    (nothing := fun _ _ => by simp only [numberReps]) (endProgram := fun _ _ => by simp only [numberReps])
    (atom := fun _ _ _ => by simp only [numberReps]) (cls := fun _ _ _ => by simp only [numberReps])
    (backref := fun _ h _ => by simp [shape2] at h)
    (capture := fun _ _ ih h n => by
      simp only [shape2] at h
      simp only [numberReps, ih h n])
    (choice := fun _ ih h n => by
      simp only [shape2] at h
      simp only [numberReps, ih h n])
    (seq := fun _ ih h n => by
      simp only [shape2] at h
      simp only [numberReps, ih h n])
    (rep := fun _ _ _ _ _ _ h _ => by simp [shape2] at h)
    (gfixed := fun _ _ _ _ ih h n => by
      simp only [shape2] at h
      simp only [numberReps, ih h n])
    (rfixed := fun _ _ _ _ ih h n => by
      simp only [shape2] at h
      simp only [numberReps, ih h n])
    (unamb := fun x _ _ _ h n => by
      simp only [shape2] at h
      cases x with
      | atom _ => simp only [numberReps]
      | cls _ => simp only [numberReps]
      | _ => simp [isAtomOrClass] at h)
    (nil := fun _ _ => by simp only [numberRepsL])
    (cons := fun _ _ ih ihl h n => by
      simp only [shape2L, Bool.and_eq_true] at h
      simp only [numberRepsL, ih h.1 n, ihl h.2 n])

theorem numberReps_shape2 (op : Op) (h : shape2 op = true) (n : Nat) : numberReps op n = (op, n) :=
  numberReps_shape2_both.1 op h n

theorem numberRepsL_shape2 : (ops : List Op) → shape2L ops = true → ∀ n, numberRepsL ops n = (ops, n) :=
  numberReps_shape2_both.2

theorem mkProgram_op_shape2 (pat : List Nat) (op : Op) (mp : Nat) (fl : CFlags) (hb : Bool)
    (hs : shape2 op = true) : (mkProgram pat op mp fl hb).op = op := by
  rw [MkProgram.op pat op mp fl hb, numberReps_shape2 op hs 0]

/-- the shapes `add_precondition` records for a tree of the fragment: those of the clean fragment
    (`preShape`), or `x{1,m}` as a non-backtracking repeat over one non-empty literal / class -/
def preShape2 (o : Op) : Bool :=
  preShape o ||
  (match o with
   | .unamb c mn mx => isAtomOrClass c && noEmptyAtoms c && decide (mn ≤ mx) && decide (0 < mx)
   | _ => false)

theorem down_shape2 : Down (fun o => shape2 o = true) (fun l => shape2L l = true) :=
  .ofBool (fun _ _ h => by simpa only [shape2] using h) (fun _ h => by simpa only [shape2] using h)
    (fun _ h => by simpa only [shape2] using h)
    (fun _ _ _ _ _ h => by simp only [shape2, Bool.false_eq_true] at h)
    (fun _ _ _ _ h => by simpa only [shape2] using h) (fun _ _ _ _ h => by simpa only [shape2] using h)
    (fun _ _ _ h => shape2_of_leaf (by simpa only [shape2] using h))
    (fun _ _ h => by simpa only [shape2L, Bool.and_eq_true] using h)

theorem preAt_cases {n t : Op} (h : PreAt n t) (hwf : wfOp n = true) (hne : noEmptyAtoms n = true) :
    preShape2 t = true ∨ ∃ id c mx g, n = .rep id c 1 mx g ∧ t = n ∧ isAtomOrClass c = true := by
  have of1 : ∀ {o : Op}, preShape o = true → preShape2 o = true := fun h => by unfold preShape2; rw [h]; rfl
  cases h with
  | leaf hl =>
    obtain ⟨hc, _⟩ := leaf_clean n hl
    exact .inl (of1 (by unfold preShape; rw [hc, hwf]; rfl))
  | @self c mx g hp hac =>
    have hnc := C08.down_noEmptyAtoms.rpt hp hne
    rcases repeatParts_cases hp with ⟨_, rfl⟩ | ⟨len, rfl, _⟩ | ⟨len, rfl, _⟩ | ⟨rfl, _⟩
    · exact .inr ⟨_, _, _, _, rfl, rfl, hac⟩
    · have : cleanOp (.gfixed c 1 mx len) = true := by simp only [cleanOp]; exact (leaf_clean _ hac).1
      exact .inl (of1 (by unfold preShape; rw [this, hwf]; rfl))
    · have : cleanOp (.rfixed c 1 mx len) = true := by simp only [cleanOp]; exact (leaf_clean _ hac).1
      exact .inl (of1 (by unfold preShape; rw [this, hwf]; rfl))
    · simp only [wfOp, Bool.and_eq_true, decide_eq_true_eq] at hwf
      exact .inl (by simp only [preShape2, hac, hnc, hwf.1.2, hwf.2, decide_true, Bool.and_self, Bool.or_true])
  | fixed hp hac h2 =>
    have hnc := C08.down_noEmptyAtoms.rpt hp hne
    have h1 : 1 ≤ _ := Nat.le_trans (by decide : 1 ≤ 2) h2
    exact .inl (by simp only [preShape2, preShape, cleanOp, Bool.false_and, Bool.false_or, hac, hnc,
      beq_self_eq_true, h1, decide_true, Bool.and_self, Bool.or_false])

theorem addPreSeq_preShape2 (ml : Bool) : (ops : List Op) → shape2L ops = true → wfOps ops = true →
    noEmptyAtomsL ops = true → ∀ fp mp, ∀ q ∈ addPreSeq ml ops fp mp, preShape2 q.op = true :=
  fun _ hs hwf hne fp mp _ hq => by
    obtain ⟨n, ⟨⟨hsn, hwn⟩, hnn⟩, h⟩ := addPreSeq_node
      ((down_shape2.and down_wfOp).and C08.down_noEmptyAtoms) ml ⟨⟨hs, hwf⟩, hne⟩ fp mp hq
    rcases preAt_cases h hwn hnn with h | ⟨_, _, _, _, rfl, _⟩
    · exact h
    · simp [shape2] at hsn

theorem InputOKFor.ctx {env : Env} {fl : CFlags} {lower : Nat → Nat} {input : List Nat}
    (h : InputOKFor env fl lower input) (pat : List Nat) (op : Op) (mp : Nat) (hb : Bool) :
    InputOK env ((mkProgram pat op mp fl hb).ctx lower input) := by
  rw [MkProgram.ctx]
  exact ⟨h.hcase, h.hce, h.hin, h.hsc⟩

theorem InputOKFor.of_caseSensitive {env : Env} {fl : CFlags} {lower : Nat → Nat} {input : List Nat}
    (hcb : fl.caseBlind = false) (hce : ∀ a x, x ∈ env.closure a → x < cpLimit)
    (hin : ∀ c ∈ input, c < cpLimit) (hsc : ∀ c ∈ input, isSurrogate c = false) :
    InputOKFor env fl lower input :=
  ⟨fun h => (by rw [hcb] at h; cases h), hce, hin, hsc⟩

end Rx.SearchComplete
