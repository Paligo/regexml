/-
  Proofs/CapsFragments — the two capture fragments provide `CapsOK` (Proofs/CapsMatchLemmas): their leaves are
  exact, and `match_at` does not diverge on them — by the termination theorems of C06 for `straightCaps` (under
  `smallMin`) and of C06b for `straightCaps3` (under `unambLeaf`).  Declared in the namespaces of the Props files
  that state the results, `Rx.C03b` and `Rx.C03f`, with the decidable bundles `progOK` / `progOK3` of their side
  conditions.
-/
import RxModel.Proofs.CapsMatchLemmas
import RxModel.Proofs.Clean4SearchLemmas
import RxModel.Props.C06
import RxModel.Props.C06b

namespace Rx.C03b
open Rx

theorem straight_smallMin_both (n : Nat) :
    (∀ op, straightCaps op = true → C06.smallMin n op = true) ∧
    (∀ ops, straightCapsL ops = true → C06.smallMinL n ops = true) :=
  spine_impl straight_spineDown (.ofGen (smallP_transp n).gen (fun _ => rfl))
    (fun o hn h => (Clean.clean_smallMin n).op' o (plain_clean.op' o (straight_leaf_plain o hn h)))

theorem straight_smallMin (n : Nat) : (op : Op) → straightCaps op = true → C06.smallMin n op = true :=
  (straight_smallMin_both n).1

theorem straight_smallMinL (n : Nat) : (ops : List Op) → straightCapsL ops = true → C06.smallMinL n ops = true :=
  (straight_smallMin_both n).2

theorem capsOK_of_straight (ctx : Ctx) (op : Op) (hs : straightCaps op = true) (hwf : wfOp op = true)
    (hcp : C02.capsPos op = true) (hsc : scopeOK ctx.hasBackrefs ctx.maxParens op [] [] = true) :
    CapsOK ctx op :=
  ⟨leavesOK_of_straight ctx op hs hwf, hwf, hcp, hsc,
    fun j hj st h => C06.matchAt_no_diverge ctx op hwf (straight_smallMin _ op hs) j hj st h⟩

/-- every hypothesis of `matchAt_caps` / `matchAt_nested` on the program side -/
def progOK (hbr : Bool) (mp : Nat) (op : Op) : Bool :=
  straightCaps op && wfOp op && C02.capsPos op && scopeOK hbr mp op [] [] && decide (capsOf op).Nodup

end Rx.C03b

namespace Rx.C03f
open Rx
open Rx.C08 (noEmptyAtoms noEmptyAtomsL clsCanon clsCanonL)

theorem unambLeaf_spineUp : SpineUp (C06b.unambLeaf · = true) (C06b.unambLeafL · = true) :=
  ⟨fun h => by simpa only [C06b.unambLeaf] using h, fun h => by simpa only [C06b.unambLeaf] using h, fun _ => rfl, rfl,
    fun h1 h2 => by simp only [C06b.unambLeafL, Bool.and_eq_true]; exact ⟨h1, h2⟩⟩

theorem straight3_unambLeaf_both (env : Env) (cb ml : Bool) :
    (∀ op, straightCaps3 env cb ml op = true ∧ noEmptyAtoms op = true → C06b.unambLeaf op = true) ∧
    (∀ ops, straightCaps3L env cb ml ops = true ∧ noEmptyAtomsL ops = true → C06b.unambLeafL ops = true) :=
  spine_impl ((straight3_spineDown env cb ml).and (.ofDesc neP_transp.desc)) unambLeaf_spineUp (fun o hn h => by
    rcases straight3_leaf o hn h.1 with hp | ⟨_, _, _, _, _, rfl⟩
    · exact C06b.smallMin_unambLeaf 0 o ((Clean.clean_smallMin 0).op' o (plain_clean.op' o hp))
    · exact (SearchComplete.clean4_unambLeaf env cb ml).op (top := false) (F := []) ⟨(rep3_split h.1).1, h.2⟩)

theorem straight3_unambLeaf (env : Env) (cb ml : Bool) : (op : Op) → straightCaps3 env cb ml op = true →
    noEmptyAtoms op = true → C06b.unambLeaf op = true :=
  fun op hs hne => (straight3_unambLeaf_both env cb ml).1 op ⟨hs, hne⟩

theorem straight3_unambLeafL (env : Env) (cb ml : Bool) : (ops : List Op) →
    straightCaps3L env cb ml ops = true → noEmptyAtomsL ops = true → C06b.unambLeafL ops = true :=
  fun ops hs hne => (straight3_unambLeaf_both env cb ml).2 ops ⟨hs, hne⟩

theorem capsOK_of_straight3 (env : Env) (ctx : Ctx) (hI : InputOK env ctx) (op : Op)
    (hs : straightCaps3 env ctx.caseBlind ctx.multiLine op = true) (hwf : wfOp op = true)
    (hne : noEmptyAtoms op = true) (hcc : clsCanon op)
    (hcp : C02.capsPos op = true) (hsc : scopeOK ctx.hasBackrefs ctx.maxParens op [] [] = true) :
    CapsOK ctx op :=
  ⟨leavesOK_of_straight3 env ctx hI op hs hwf hne hcc, hwf, hcp, hsc,
    fun j hj st h => C06b.matchAt_no_diverge_all ctx op hwf (straight3_unambLeaf env _ _ op hs hne) j hj st h⟩

/-- every hypothesis of `matchAt_caps3` on the program side -/
def progOK3 (env : Env) (cb ml hbr : Bool) (mp : Nat) (op : Op) : Bool :=
  straightCaps3 env cb ml op && wfOp op && noEmptyAtoms op && clsCanonB op && C02.capsPos op &&
    scopeOK hbr mp op [] [] && decide (capsOf op).Nodup

end Rx.C03f
