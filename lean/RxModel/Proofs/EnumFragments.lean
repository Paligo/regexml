/-
  Proofs/EnumFragments — the fragments of Spec/Enum … Spec/Enum4 against each other: each is inside the next, and
  two of the four enumerations agree on a class of trees closed under sub-trees once they agree at `.unamb` and
  `.rep` (`enumK_agree`: they are instances of one recursion, Proofs/EnumK).  No induction here looks at the engine.
-/
import RxModel.Spec.Enum4
import RxModel.Proofs.Enum2Lemmas
import RxModel.Proofs.EnumK
import RxModel.Proofs.TreePredInst

namespace Rx
open Rx.C08 (noEmptyAtoms noEmptyAtomsL clsCanon clsCanonL)
open TreePred

theorem enumK_agree (H H' : EnumH) (ctx : Ctx) {A : Op → Prop} {AL : List Op → Prop} (hA : (plain A AL).Desc)
    (unamb : ∀ c mn mx, A (.unamb c mn mx) → enumK H ctx (.unamb c mn mx) = enumK H' ctx (.unamb c mn mx))
    (rep : ∀ id c mn mx g, A (.rep id c mn mx g) →
      enumK H ctx (.rep id c mn mx g) = enumK H' ctx (.rep id c mn mx g)) :
    (∀ op, A op → enumK H ctx op = enumK H' ctx op) ∧
    ∀ l, AL l → enumAnyK H ctx l = enumAnyK H' ctx l ∧ enumSeqK H ctx l = enumSeqK H' ctx l :=
  have cons : ∀ o l, enumK H ctx o = enumK H' ctx o →
      enumAnyK H ctx l = enumAnyK H' ctx l ∧ enumSeqK H ctx l = enumSeqK H' ctx l →
      enumAnyK H ctx (o :: l) = enumAnyK H' ctx (o :: l) ∧ enumSeqK H ctx (o :: l) = enumSeqK H' ctx (o :: l) :=
    fun o l ih ihl => ⟨by funext p; simp only [enumAnyK, ih, ihl.1], by funext p; simp only [enumSeqK, ih, ihl.2]⟩
  have h := ind hA (M := fun _ _ op => enumK H ctx op = enumK H' ctx op)
    (MA := fun l => enumAnyK H ctx l = enumAnyK H' ctx l ∧ enumSeqK H ctx l = enumSeqK H' ctx l)
    (MS := fun _ l => enumAnyK H ctx l = enumAnyK H' ctx l ∧ enumSeqK H ctx l = enumSeqK H' ctx l)
    (leaf := fun _ _ _ hl _ => by cases hl <;> (funext p; simp only [enumK]))
    (capture := fun _ _ _ _ _ ih => by funext p; simp only [enumK, ih])
    (choice := fun _ _ _ _ ih => by funext p; simp only [enumK, ih.1])
    (seq := fun _ _ _ _ ih => by funext p; simp only [enumK, ih.2])
    (rep := fun _ _ id c mn mx g h _ => rep id c mn mx g h)
    (gfixed := fun _ _ _ _ _ _ _ ih => by funext p; simp only [enumK, ih])
    (rfixed := fun _ _ _ _ _ _ _ ih => by funext p; simp only [enumK, ih])
    (unamb := fun _ _ c mn mx h _ => unamb c mn mx h)
    (allNil := ⟨rfl, rfl⟩) (allCons := fun o l _ => cons o l)
    (seqNil := fun _ => ⟨rfl, rfl⟩) (seqCons := fun _ o l _ => cons o l)
  ⟨h.op', fun _ => h.all⟩

theorem enumK_leaf (H H' : EnumH) (ctx : Ctx) (x : Op) (hx : isAtomOrClass x = true) :
    enumK H ctx x = enumK H' ctx x := by
  cases x with
  | atom _ => funext p; simp only [enumK]
  | cls _ => funext p; simp only [enumK]
  | _ => simp [isAtomOrClass] at hx

theorem enumK_agree_clean (H H' : EnumH) (ctx : Ctx) :
    (∀ op, cleanOp op = true → enumK H ctx op = enumK H' ctx op) ∧
    ∀ l, cleanOps l = true → enumAnyK H ctx l = enumAnyK H' ctx l ∧ enumSeqK H ctx l = enumSeqK H' ctx l :=
  enumK_agree H H' ctx cleanP_transp.desc
    (fun _ _ _ h => by simp [cleanOp] at h) (fun _ _ _ _ _ h => by simp [cleanOp] at h)

theorem enumK_agree_shape2 (H H' : EnumH) (hU : H.unamb = H'.unamb) (ctx : Ctx) :
    (∀ op, shape2 op = true → enumK H ctx op = enumK H' ctx op) ∧
    ∀ l, shape2L l = true → enumAnyK H ctx l = enumAnyK H' ctx l ∧ enumSeqK H ctx l = enumSeqK H' ctx l :=
  enumK_agree H H' ctx shapeP2_transp.desc
    (fun c mn mx h => by
      simp only [shape2] at h
      funext p; simp only [enumK, hU, enumK_leaf H H' ctx c h])
    (fun _ _ _ _ _ h => by simp [shape2] at h)

theorem enumK_agree_shape3 (H H' : EnumH) (hU : H.unamb = H'.unamb)
    (hR : ∀ e mn mx, H.rep e mn mx true = H'.rep e mn mx true) (ctx : Ctx) :
    (∀ op, shape3 op = true → enumK H ctx op = enumK H' ctx op) ∧
    ∀ l, shape3L l = true → enumAnyK H ctx l = enumAnyK H' ctx l ∧ enumSeqK H ctx l = enumSeqK H' ctx l :=
  enumK_agree H H' ctx shapeP3_transp.desc
    (fun c mn mx h => by
      simp only [shape3] at h
      funext p; simp only [enumK, hU, enumK_leaf H H' ctx c h])
    (fun id c mn mx g h => by
      simp only [shape3, Bool.and_eq_true] at h
      obtain ⟨⟨rfl, _⟩, hs⟩ := h
      funext p; simp only [enumK, hR, (enumK_agree_shape2 H H' hU ctx).1 c hs])

theorem enum4_eq_enum (ctx : Ctx) (op : Op) (h : cleanOp op = true) : enum4 ctx op = enum ctx op := by
  rw [enum4_eq_K, enum_eq_K]; exact (enumK_agree_clean enumH4 enumH1 ctx).1 op h

theorem Clean4EndL.enumAny4_eq_enumAny (ctx : Ctx) : (bs : List Op) → cleanOps bs = true → enumAny4 ctx bs = enumAny ctx bs := by
  intro bs h; rw [enumAny4_eq_K, enumAny_eq_K]; exact ((enumK_agree_clean enumH4 enumH1 ctx).2 bs h).1

theorem Clean4EndL.enumSeq4_eq_enumSeq (ctx : Ctx) : (ops : List Op) → cleanOps ops = true → enumSeq4 ctx ops = enumSeq ctx ops := by
  intro ops h; rw [enumSeq4_eq_K, enumSeq_eq_K]; exact ((enumK_agree_clean enumH4 enumH1 ctx).2 ops h).2

theorem enum3_eq_enum2 (ctx : Ctx) : (op : Op) → shape2 op = true → enum3 ctx op = enum2 ctx op := by
  intro op h; rw [enum3_eq_K, enum2_eq_K]; exact (enumK_agree_shape2 enumH3 enumH2 rfl ctx).1 op h

theorem enumAny3_eq (ctx : Ctx) : (bs : List Op) → shape2L bs = true → enumAny3 ctx bs = enumAny2 ctx bs := by
  intro bs h; rw [enumAny3_eq_K, enumAny2_eq_K]; exact ((enumK_agree_shape2 enumH3 enumH2 rfl ctx).2 bs h).1

theorem enumSeq3_eq (ctx : Ctx) : (ops : List Op) → shape2L ops = true → enumSeq3 ctx ops = enumSeq2 ctx ops := by
  intro ops h; rw [enumSeq3_eq_K, enumSeq2_eq_K]; exact ((enumK_agree_shape2 enumH3 enumH2 rfl ctx).2 ops h).2

theorem enum4_eq_enum2 (ctx : Ctx) : (op : Op) → shape2 op = true → enum4 ctx op = enum2 ctx op := by
  intro op h; rw [enum4_eq_K, enum2_eq_K]; exact (enumK_agree_shape2 enumH4 enumH2 rfl ctx).1 op h

theorem enumAny4_eq (ctx : Ctx) : (bs : List Op) → shape2L bs = true → enumAny4 ctx bs = enumAny2 ctx bs := by
  intro bs h; rw [enumAny4_eq_K, enumAny2_eq_K]; exact ((enumK_agree_shape2 enumH4 enumH2 rfl ctx).2 bs h).1

theorem enumSeq4_eq (ctx : Ctx) : (ops : List Op) → shape2L ops = true → enumSeq4 ctx ops = enumSeq2 ctx ops := by
  intro ops h; rw [enumSeq4_eq_K, enumSeq2_eq_K]; exact ((enumK_agree_shape2 enumH4 enumH2 rfl ctx).2 ops h).2

theorem enum4_eq_enum3 (ctx : Ctx) (c : Op) (h : shape2 c = true) : enum4 ctx c = enum3 ctx c := by
  rw [enum4_eq_enum2 ctx c h, enum3_eq_enum2 ctx c h]

theorem enum4_eq_enum3_shape (ctx : Ctx) : (op : Op) → shape3 op = true → enum4 ctx op = enum3 ctx op := by
  intro op h; rw [enum4_eq_K, enum3_eq_K]
  exact (enumK_agree_shape3 enumH4 enumH3 rfl (fun _ _ _ => rfl) ctx).1 op h

theorem enumAny4_eq3 (ctx : Ctx) : (bs : List Op) → shape3L bs = true → enumAny4 ctx bs = enumAny3 ctx bs := by
  intro bs h; rw [enumAny4_eq_K, enumAny3_eq_K]
  exact ((enumK_agree_shape3 enumH4 enumH3 rfl (fun _ _ _ => rfl) ctx).2 bs h).1

theorem enumSeq4_eq3 (ctx : Ctx) : (ops : List Op) → shape3L ops = true → enumSeq4 ctx ops = enumSeq3 ctx ops := by
  intro ops h; rw [enumSeq4_eq_K, enumSeq3_eq_K]
  exact ((enumK_agree_shape3 enumH4 enumH3 rfl (fun _ _ _ => rfl) ctx).2 ops h).2

theorem cleanOp3F_unamb (env : Env) (cb ml top : Bool) (F : List Op) (x : Op) (mn mx : Nat) :
    cleanOp3F env cb ml top F (.unamb x mn mx) = cleanOp2F env cb ml top F (.unamb x mn mx) := by
  simp only [cleanOp3F, cleanOp2F]

theorem enum3_unamb (ctx : Ctx) (x : Op) (mn mx : Nat) (hx : isAtomOrClass x = true) :
    enum3 ctx (.unamb x mn mx) = enum2 ctx (.unamb x mn mx) :=
  enum3_eq_enum2 ctx _ (by simp only [shape2]; exact hx)

theorem cleanOp4F_irrel (env : Env) (cb ml top : Bool) (F : List Op) (o : Op) (h : ¬ isUnamb o = true) :
    cleanOp4F env cb ml top F o = cleanOp4F env cb ml false [] o := by
  cases o with
  | unamb x mn mx => exact absurd rfl h
  | _ => simp only [cleanOp4F]

theorem cleanOp4F_unamb (env : Env) (cb ml top : Bool) (F : List Op) (x : Op) (mn mx : Nat) :
    cleanOp4F env cb ml top F (.unamb x mn mx) = cleanOp2F env cb ml top F (.unamb x mn mx) := by
  simp only [cleanOp4F, cleanOp2F]

theorem enum4_unamb (ctx : Ctx) (x : Op) (mn mx : Nat) (hx : isAtomOrClass x = true) :
    enum4 ctx (.unamb x mn mx) = enum2 ctx (.unamb x mn mx) :=
  enum4_eq_enum2 ctx _ (by simp only [shape2]; exact hx)

theorem clean3_of_clean2 (env : Env) (cb ml : Bool) : (cleanP2 env cb ml).Sub (cleanP3 env cb ml) :=
  impl0 (cleanP2_transp env cb ml).desc (cleanP3_transp env cb ml).gen cleanP2_backref
    (leaf := fun _ _ _ hl _ => by cases hl <;> rfl)
    (rep := fun _ _ _ _ _ _ _ _ h => absurd h cleanP2_rep)
    (unamb := fun _ _ _ _ _ _ h => h)

theorem clean3_of_clean2All (env : Env) (cb ml : Bool) : (ops : List Op) →
    cleanAll2 env cb ml ops = true → cleanAll3 env cb ml ops = true :=
  fun _ => (clean3_of_clean2 env cb ml).all

theorem clean4_of_clean3 (env : Env) (cb ml : Bool) : (cleanP3 env cb ml).Sub (cleanP4 env cb ml) :=
  impl0 (cleanP3_transp env cb ml).desc (cleanP4_transp env cb ml).gen cleanP3_backref
    (leaf := fun _ _ _ hl _ => by cases hl <;> rfl)
    (rep := fun _ _ _ c mn _ g _ h => by
      simp only [cleanP3, cleanOp3F, Bool.and_eq_true] at h
      simp only [cleanP4, cleanOp4F, Bool.and_eq_true, Bool.or_eq_true]
      exact ⟨⟨⟨.inr h.1.1.1.2, h.1.1.2⟩, h.1.2⟩, h.2⟩)
    (unamb := fun _ _ _ _ _ _ h => h)

theorem clean4_of_clean3All (env : Env) (cb ml : Bool) : (ops : List Op) →
    cleanAll3 env cb ml ops = true → cleanAll4 env cb ml ops = true :=
  fun _ => (clean4_of_clean3 env cb ml).all

theorem clean4_of_clean2 (env : Env) (cb ml : Bool) : (cleanP2 env cb ml).Sub (cleanP4 env cb ml) :=
  (clean3_of_clean2 env cb ml).trans (clean4_of_clean3 env cb ml)

theorem clean4_of_clean2All (env : Env) (cb ml : Bool) : (ops : List Op) →
    cleanAll2 env cb ml ops = true → cleanAll4 env cb ml ops = true :=
  fun _ => (clean4_of_clean2 env cb ml).all

theorem cleanProg3_iff {env : Env} {cb ml : Bool} {op : Op} :
    cleanProg3 env cb ml op = true ↔ (cleanP3 env cb ml).prog op := by cases op <;> exact Iff.rfl

theorem cleanProg4_iff {env : Env} {cb ml : Bool} {op : Op} :
    cleanProg4 env cb ml op = true ↔ (cleanP4 env cb ml).prog op := by cases op <;> exact Iff.rfl

theorem cleanProg4_of_prog3 (env : Env) (cb ml : Bool) (op : Op) (h : cleanProg3 env cb ml op = true) :
    cleanProg4 env cb ml op = true :=
  cleanProg4_iff.2 ((clean4_of_clean3 env cb ml).prog (cleanProg3_iff.1 h))

theorem cleanProg4_of_prog2 (env : Env) (cb ml : Bool) (op : Op) (h : cleanProg2 env cb ml op = true) :
    cleanProg4 env cb ml op = true :=
  cleanProg4_iff.2 ((clean4_of_clean2 env cb ml).prog (cleanProg2_iff.1 h))

theorem shape3_of_clean3 (env : Env) (cb ml : Bool) : (cleanP3 env cb ml).Sub shapeP3 :=
  impl0 (cleanP3_transp env cb ml).desc shapeP3_transp.gen cleanP3_backref
    (leaf := fun _ _ _ hl _ => by cases hl <;> rfl)
    (rep := fun _ _ _ c _ _ _ _ h => by
      simp only [cleanP3, cleanOp3F, Bool.and_eq_true] at h
      simp only [shapeP3, plain, shape3, Bool.and_eq_true]
      exact ⟨⟨h.1.1.1.1, h.1.1.1.2⟩, (shape_of_clean2 env cb ml).op h.1.1.2⟩)
    (unamb := fun _ _ _ _ _ _ h => by
      simp only [cleanP3, cleanOp3F, Bool.and_eq_true] at h
      exact h.1)

theorem SearchComplete.shape3_of_cleanAll3 (env : Env) (cb ml : Bool) : (ops : List Op) →
    cleanAll3 env cb ml ops = true → shape3L ops = true :=
  fun _ => (shape3_of_clean3 env cb ml).all

theorem shape3_of_cleanProg3 (env : Env) (cb ml : Bool) (op : Op) (h : cleanProg3 env cb ml op = true) :
    shape3 op = true :=
  shapeP3_transp.prog_iff.1 ((shape3_of_clean3 env cb ml).prog (cleanProg3_iff.1 h))

theorem shape2_noBackref : shapeP2.Sub noBrP :=
  impl0 shapeP2_transp.desc noBrP_transp.gen shapeP2_backref
    (leaf := fun _ _ _ hl _ => by cases hl <;> rfl)
    (rep := fun _ _ _ _ _ _ _ _ h => absurd h shapeP2_rep)
    (unamb := fun _ _ x _ _ _ h => by
      simp only [shapeP2, plain, shape2] at h
      simp only [noBrP, plain, hasBackref]
      cases x <;> first | rfl | (simp [isAtomOrClass] at h))

theorem Clean2.shape2_noBackrefL : (ops : List Op) → shape2L ops = true → hasBackrefL ops = false :=
  fun _ => shape2_noBackref.all

theorem shape2_smallMin (n : Nat) : (shapeP2.and neP).Sub (smallP n) :=
  impl0 (shapeP2_transp.desc.and neP_transp.desc) (smallP_transp n).gen (fun h => shapeP2_backref h.1)
    (leaf := fun _ _ _ hl _ => by cases hl <;> rfl)
    (rep := fun _ _ _ _ _ _ _ _ h => absurd h.1 shapeP2_rep)
    (unamb := fun _ _ x _ _ _ ⟨h, hne⟩ => by
      simp only [shapeP2, plain, shape2] at h
      simp only [neP, plain, noEmptyAtoms] at hne
      cases x with
      | atom cs => simpa only [smallP, plain, C06.smallMin, noEmptyAtoms] using hne
      | cls rs => rfl
      | _ => simp [isAtomOrClass] at h)

theorem Clean2.shape2_smallMinL (n : Nat) : (ops : List Op) → shape2L ops = true → noEmptyAtomsL ops = true →
    C06.smallMinL n ops = true :=
  fun _ hs hne => (shape2_smallMin n).all ⟨hs, hne⟩

theorem clean4_noBackref (env : Env) (cb ml : Bool) : (cleanP4 env cb ml).Sub noBrP :=
  impl0 (cleanP4_transp env cb ml).desc noBrP_transp.gen cleanP4_backref
    (leaf := fun _ _ _ hl _ => by cases hl <;> rfl)
    (rep := fun _ _ _ c _ _ _ _ h => by
      simp only [cleanP4, cleanOp4F, Bool.and_eq_true] at h
      exact shape2_noBackref.op (o := c) (top := false) (F := []) ((shape_of_clean2 env cb ml).op h.1.1.2))
    (unamb := fun _ _ x _ _ _ h => by
      simp only [cleanP4, cleanOp4F, Bool.and_eq_true] at h
      exact shape2_noBackref.op (top := false) (F := []) (show shape2 (.unamb x _ _) = true from h.1))

theorem clean3_noBackref (env : Env) (cb ml : Bool) : (cleanP3 env cb ml).Sub noBrP :=
  (clean4_of_clean3 env cb ml).trans (clean4_noBackref env cb ml)

theorem clean3_smallMin (env : Env) (cb ml : Bool) (n : Nat) : ((cleanP3 env cb ml).and neP).Sub (smallP n) :=
  impl0 ((cleanP3_transp env cb ml).desc.and neP_transp.desc) (smallP_transp n).gen (fun h => cleanP3_backref h.1)
    (leaf := fun _ _ _ hl _ => by cases hl <;> rfl)
    (rep := fun _ _ _ c _ _ g _ ⟨h, hne⟩ => by
      simp only [cleanP3, cleanOp3F, Bool.and_eq_true] at h
      simp only [smallP, plain, C06.smallMin, Bool.and_eq_true, Bool.or_eq_true]
      exact ⟨(shape2_smallMin n).op (o := c) (top := false) (F := []) ⟨(shape_of_clean2 env cb ml).op h.1.1.2, hne⟩,
        .inl h.1.1.1.1⟩)
    (unamb := fun _ _ x _ _ _ ⟨h, hne⟩ => by
      simp only [cleanP3, cleanOp3F, Bool.and_eq_true] at h
      exact (shape2_smallMin n).op (top := false) (F := []) ⟨show shape2 (.unamb x _ _) = true from h.1, hne⟩)

theorem clean3_smallMinAll (env : Env) (cb ml : Bool) (n : Nat) : (ops : List Op) →
    cleanAll3 env cb ml ops = true → noEmptyAtomsL ops = true → C06.smallMinL n ops = true :=
  fun _ hc hne => (clean3_smallMin env cb ml n).all ⟨hc, hne⟩

end Rx
