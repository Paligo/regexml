/-
  Proofs/Clean4OptLemmas — what `optimize` does to a parser tree of the fragment of Spec/Enum4 (`src4`).
  On such a tree (well-formed, every sequence of at least two elements) `optimize` keeps every node and marks
  elements of sequences: `seqElem_src` says which — a fixed-length quantifier over one literal / class, judged
  against the UN-optimised next element.  Three facts, each by its own induction: no general repeat appears where
  there was none (`shape2_optRel`); the first set of every sub-tree is unchanged (`ic_optimize`) — which is why the
  test against the un-optimised next element is valid for the element that ends up in the tree (`optimizeSeq_head`);
  hence the optimised tree is in the fragment `cleanProg4` (`clean4_optimize`).
-/
import RxModel.Props.WF
import RxModel.Proofs.OptLemmas
import RxModel.Proofs.Clean2OptLemmas
import RxModel.Proofs.TreePredInst
import RxModel.Proofs.Enum3Lemmas
import RxModel.Proofs.EnumFragments
namespace Rx.Clean4OptL
open Rx Rx.Clean2Opt
open Rx.OptL (seqElem optimizeSeq_cons2 seqElem_spec optimize_gfixed_wf)

mutual
/-- the un-optimised fragment: `cleanOp` (Spec/Enum) plus the general repeat whose body `c` is a tree of `cleanOp`
    (no repeat inside), not a single literal / class (the parser builds `gfixed` / `rfixed` for those), not nullable
    and end-deterministic — both before and after `optimize` (all conjuncts are decidable on the parser tree) -/
def src4 (env : Env) (fl : CFlags) : Op → Bool
  | .bol | .eol | .nothing | .endProgram | .atom _ | .cls _ => true
  | .capture _ c => src4 env fl c
  | .choice bs => src4L env fl bs
  | .seq ops => src4L env fl ops
  | .gfixed c _ _ _ => src4 env fl c
  | .rfixed c _ _ _ => src4 env fl c
  | .rep _ c mn _ g =>
      (!g || decide (1 ≤ mn)) && cleanOp c && !isAtomOrClass c && nonNull c && detB env fl.caseBlind c &&
        nonNull (optimize env fl c) && detB env fl.caseBlind (optimize env fl c)
  | .backref _ | .unamb _ _ _ => false
termination_by structural o => o
def src4L (env : Env) (fl : CFlags) : List Op → Bool
  | [] => true
  | o :: os => src4 env fl o && src4L env fl os
termination_by structural l => l
end

def src4P (env : Env) (fl : CFlags) : TreePred := .plain (src4 env fl · = true) (src4L env fl · = true)

theorem src4P_transp (env : Env) (fl : CFlags) : (src4P env fl).Transp :=
  ⟨Iff.rfl, Iff.rfl, Iff.rfl, Iff.rfl, Iff.rfl, rfl, rfl, Bool.and_eq_true_iff, Bool.and_eq_true_iff⟩

theorem src4_of_cleanOp (env : Env) (fl : CFlags) : cleanP.Sub (src4P env fl) :=
  cleanP_sub (src4P_transp env fl).gen fun _ _ _ hl => by cases hl <;> rfl

theorem down_src4 (env : Env) (fl : CFlags) : Down (fun o => src4 env fl o = true) (fun l => src4L env fl l = true) :=
  (src4P_transp env fl).down
    (fun {_ c _ _ _} h => by
      simp only [src4, Bool.and_eq_true] at h
      exact (src4_of_cleanOp env fl).op' c h.1.1.1.1.1.2)
    (fun h => by simp only [src4, Bool.false_eq_true] at h)

theorem clean2_of_clean4 (env : Env) (cb ml : Bool) :
    (shapeP2.and (cleanP4 env cb ml)).Sub (cleanP2 env cb ml) :=
  TreePred.impl (shapeP2_transp.desc.and (cleanP4_transp env cb ml).desc) (cleanP2_transp env cb ml).gen
    (leaf := fun _ _ _ hl h => by cases hl <;> exact h.2)
    (rep := fun _ _ _ _ _ _ _ _ h => absurd h.1 shapeP2_rep)
    (unamb := fun top F x mn mx _ h => (cleanOp4F_unamb env cb ml top F x mn mx).symm.trans h.2)

theorem nonNull_mzs (c : Op) (hw : wfOp c = true) (hn : nonNull c = true) :
    (mzs c == ZLS_ANYWHERE) = false := by
  cases h : mzs c == ZLS_ANYWHERE with
  | false => rfl
  | true =>
    exfalso
    have h7 : mzs c = 7 := by simpa [ZLS_ANYWHERE] using h
    let ctx : Ctx :=
      { input := [], caseBlind := false, multiLine := false, hasBackrefs := false, maxParens := 1, lower := id }
    have h0 := OptL.anywhere_op ctx c (OptL.bnd_of_wf c hw) h7 0 (Nat.zero_le _)
    exact Nat.lt_irrefl 0 (nonNull_sound ctx c hn 0 0 h0)

theorem seq_two {ops : List Op} (h2 : 2 ≤ ops.length) : ∃ o o2 os, ops = o :: o2 :: os := by
  cases ops with
  | nil => simp at h2
  | cons o t =>
    cases t with
    | nil => simp at h2
    | cons o2 os => exact ⟨o, o2, os, rfl⟩

theorem isAtomOrClass_optimize (env : Env) (fl : CFlags) (c : Op) (hw : wfOp c = true) (h2 : seqGe2 c = true)
    (h : isAtomOrClass (optimize env fl c) = true) : isAtomOrClass c = true := by
  cases c with
  | atom cs => rfl
  | cls rs => rfl
  | gfixed c0 a b l => rw [optimize_gfixed_wf env fl c0 a b l hw] at h; simp [isAtomOrClass] at h
  | seq ops =>
    simp only [seqGe2, Bool.and_eq_true, decide_eq_true_eq] at h2
    obtain ⟨a, b, r, rfl⟩ := seq_two h2.1
    simp only [optimize, isAtomOrClass, Bool.false_eq_true] at h
  | rep id c mn mx g => simp [optimize, isAtomOrClass] at h
  | _ => simp only [optimize, isAtomOrClass, Bool.false_eq_true] at h


theorem optimize_eq_leaf (env : Env) (fl : CFlags) (c : Op) (hw : wfOp c = true) (h2 : seqGe2 c = true)
    (h : isAtomOrClass (optimize env fl c) = true) : optimize env fl c = c := by
  have hc := isAtomOrClass_optimize env fl c hw h2 h
  cases c <;> first | rfl | (simp only [isAtomOrClass, Bool.false_eq_true] at hc)

/-- on the fragment the rewrite of `min` never fires: a non-nullable well-formed body never answers ANYWHERE -/
theorem optimize_rep_src4 (env : Env) (fl : CFlags) (id : Nat) (c : Op) (mn mx : Nat) (g : Bool)
    (hs : src4 env fl (.rep id c mn mx g) = true) (hwf : wfOp (.rep id c mn mx g) = true) :
    optimize env fl (.rep id c mn mx g) = .rep id (optimize env fl c) mn mx g := by
  simp only [src4, Bool.and_eq_true] at hs
  have hwc : wfOp c = true := down_wfOp.rpt (o := .rep id c mn mx g) rfl hwf
  have hm : (mzs (optimize env fl c) == ZLS_ANYWHERE) = false :=
    nonNull_mzs _ (WF.optimize_wf env fl c hwc) hs.1.2
  simp only [optimize, hm, Bool.and_false, Bool.false_eq_true, if_false]

abbrev SrcOK (env : Env) (fl : CFlags) (o : Op) : Prop := src4 env fl o = true ∧ wfOp o = true ∧ seqGe2 o = true

abbrev SrcOKL (env : Env) (fl : CFlags) (l : List Op) : Prop :=
  src4L env fl l = true ∧ wfOps l = true ∧ seqGe2L l = true

theorem down_srcOK (env : Env) (fl : CFlags) : Down (SrcOK env fl) (SrcOKL env fl) :=
  (down_src4 env fl).and (down_wfOp.and down_seqGe2)

theorem SrcOK.seq_two {env : Env} {fl : CFlags} {l : List Op} (h : SrcOK env fl (.seq l)) :
    ∃ o o2 os, l = o :: o2 :: os := by
  have := h.2.2
  simp only [seqGe2, Bool.and_eq_true, decide_eq_true_eq] at this
  exact Clean4OptL.seq_two this.1

variable {env : Env} {fl : CFlags}

theorem optimize_notUnamb {o : Op} (h : SrcOK env fl o) : isUnamb (optimize env fl o) = false := by
  cases o with
  | gfixed c mn mx len => rw [optimize_gfixed_wf env fl c mn mx len h.2.1]; rfl
  | seq l => obtain ⟨a, b, r, rfl⟩ := h.seq_two; rfl
  | unamb => have := h.1; simp only [src4, Bool.false_eq_true] at this
  | _ => rfl

theorem seqElem_src (o nxt : Op) (h : SrcOK env fl o) :
    seqElem env fl (optimize env fl o) nxt = optimize env fl o ∨
    ∃ child mn mx g,
      ((∃ len, o = .gfixed child mn mx len ∧ g = true) ∨ (∃ len, o = .rfixed child mn mx len ∧ g = false)) ∧
      isAtomOrClass child = true ∧
      (mn = mx ∨ noAmbiguity env child nxt fl.caseBlind (!g) fl.multiLine = true) ∧
      seqElem env fl (optimize env fl o) nxt = .unamb child mn mx := by
  rcases seqElem_spec env fl (optimize env fl o) nxt with e | ⟨child, mn, mx, g, hrp, hac, hj, e⟩
  · exact .inl e
  refine .inr ⟨child, mn, mx, g, ?_, hac, hj, e⟩
  obtain ⟨hs, hwf, h2⟩ := h
  cases o with
  | gfixed c0 a b l =>
    rw [optimize_gfixed_wf env fl c0 a b l hwf] at hrp
    simp only [repeatParts, Option.some.injEq, Prod.mk.injEq] at hrp
    obtain ⟨h1, rfl, rfl, h4⟩ := hrp
    rw [optimize_eq_leaf env fl c0 (down_wfOp.rpt (o := .gfixed c0 a b l) rfl hwf) h2 (by rw [h1]; exact hac)] at h1
    exact .inl ⟨l, by rw [h1], h4.symm⟩
  | rfixed c0 a b l =>
    simp only [optimize, repeatParts, Option.some.injEq, Prod.mk.injEq] at hrp
    obtain ⟨h1, rfl, rfl, h4⟩ := hrp
    rw [optimize_eq_leaf env fl c0 (down_wfOp.rpt (o := .rfixed c0 a b l) rfl hwf) h2 (by rw [h1]; exact hac)] at h1
    exact .inr ⟨l, by rw [h1], h4.symm⟩
  | rep id c a b g' =>
    -- a general repeat keeps a body that is not one literal / class
    exfalso
    rw [optimize_rep_src4 env fl id c a b g' hs hwf] at hrp
    simp only [repeatParts, Option.some.injEq, Prod.mk.injEq] at hrp
    have := isAtomOrClass_optimize env fl c (down_wfOp.rpt (o := .rep id c a b g') rfl hwf) h2
      (by rw [hrp.1]; exact hac)
    simp only [src4, Bool.and_eq_true, Bool.not_eq_true'] at hs
    rw [hs.1.1.1.1.2] at this
    cases this
  | seq ops =>
    simp only [seqGe2, Bool.and_eq_true, decide_eq_true_eq] at h2
    obtain ⟨a, b, r, rfl⟩ := seq_two h2.1
    simp only [optimize, repeatParts, reduceCtorEq] at hrp
  | backref | unamb => simp only [src4, Bool.false_eq_true] at hs
  | _ => simp only [optimize, repeatParts, reduceCtorEq] at hrp

/-- the element that ends up in the tree looks to its predecessor like the un-optimised one -/
theorem seqElem_first (o nxt : Op) (h : SrcOK env fl o)
    (hic : initialClass env fl.caseBlind (optimize env fl o) = initialClass env fl.caseBlind o) :
    mzs (seqElem env fl (optimize env fl o) nxt) = mzs o ∧
    initialClass env fl.caseBlind (seqElem env fl (optimize env fl o) nxt) = initialClass env fl.caseBlind o ∧
    (isEol o = true → isEol (seqElem env fl (optimize env fl o) nxt) = true) := by
  rcases seqElem_src o nxt h with e | ⟨child, mn, mx, g, hsrc, _, _, e⟩
  · rw [e]
    exact ⟨mzs_optimize env fl o h.2.1 h.2.2, hic, fun he => by obtain rfl := isEol_iff.1 he; rfl⟩
  · rw [e]
    rcases hsrc with ⟨len, rfl, _⟩ | ⟨len, rfl, _⟩ <;> exact ⟨rfl, rfl, fun he => by cases he⟩

theorem shape2_optRel (env : Env) :
    OptRel (fun o o' => cleanOp o = true → shape2 o' = true) (fun l l' => cleanOps l = true → shape2L l' = true) where
  refl o h := (shape_of_clean2 env false false).op (Clean2.cleanOp2_of_cleanOp env _ _ o h)
  capture _ ih h := ih h
  choice ih h := ih h
  seq ih h := ih h
  rep _ _ _ _ _ _ h := by cases h
  gfixed _ _ _ ih h := ih h
  rfixed _ _ _ ih h := ih h
  unamb _ _ _ h := by cases h
  nil _ := rfl
  cons ih ihl h := by
    simp only [cleanOps, Bool.and_eq_true] at h
    simp only [shape2L, ih h.1, ihl h.2, Bool.and_self]
  rep01 _ _ _ _ _ h := by cases h
  seq0 _ := rfl
  seq1 o h := by
    simp only [cleanOp, cleanOps, Bool.and_true] at h
    exact (shape_of_clean2 env false false).op (Clean2.cleanOp2_of_cleanOp env _ _ o h)
  gfixed0 _ _ _ _ := rfl
  gfixedZ c _ _ _ _ h := (shape_of_clean2 env false false).op (Clean2.cleanOp2_of_cleanOp env _ _ c h)
  unambRep _ _ _ _ _ hac _ := hac
  unambG _ _ _ _ hac _ := hac
  unambR _ _ _ _ hac _ := hac

theorem shape2_optimize (env : Env) (fl : CFlags) (o : Op) (h : cleanOp o = true) :
    shape2 (optimize env fl o) = true :=
  optimize_rel (shape2_optRel env) env fl o h

theorem shape2_optimizeL (env : Env) (fl : CFlags) (l : List Op) (h : cleanOps l = true) :
    shape2L (optimizeL env fl l) = true :=
  optimizeL_rel (shape2_optRel env) env fl l h

theorem shape2_optimizeSeq (env : Env) (fl : CFlags) (l : List Op) (h : cleanOps l = true) :
    shape2L (optimizeSeq env fl l) = true :=
  optimizeSeq_rel (shape2_optRel env) env fl l h

theorem ic_optimize_both (env : Env) (fl : CFlags) :
    (∀ o, SrcOK env fl o →
      initialClass env fl.caseBlind (optimize env fl o) = initialClass env fl.caseBlind o) ∧
    (∀ l, SrcOKL env fl l →
      initialClassChoice env fl.caseBlind (optimizeL env fl l) = initialClassChoice env fl.caseBlind l ∧
      initialClassSeq env fl.caseBlind (optimizeSeq env fl l) = initialClassSeq env fl.caseBlind l) := by
  refine Op.ind_down (down_srcOK env fl) (fun _ => rfl) (fun _ => rfl) (fun _ => rfl) (fun _ => rfl)
    (fun _ _ => rfl) (fun _ _ => rfl) (fun _ _ => rfl) (fun _ _ _ _ => rfl) ?choice ?seq ?rpt
    (fun _ => ⟨rfl, rfl⟩) ?cons
  case choice => intro l _ ih; simp only [optimize, initialClass]; exact ih.1
  case seq =>
    intro l h ih
    obtain ⟨o, o2, os, rfl⟩ := h.seq_two
    simp only [optimize, initialClass]; exact ih.2
  case rpt =>
    intro o c mn mx g e h ih
    rcases repeatParts_cases e with ⟨id, rfl⟩ | ⟨len, rfl, _⟩ | ⟨len, rfl, _⟩ | ⟨rfl, _⟩
    · rw [optimize_rep_src4 env fl id c mn mx g h.1 h.2.1]; simp only [initialClass, ih]
    · rw [optimize_gfixed_wf env fl c mn mx len h.2.1]; rfl
    · rfl
    · rfl
  case cons =>
    intro o l h ih ihl
    refine ⟨by simp only [optimizeL, initialClassChoice, ih, ihl.1], ?_⟩
    have ho := (down_srcOK env fl).head h
    cases l with
    | nil => simp only [optimizeSeq, initialClassSeq, ih, mzs_optimize env fl o ho.2.1 ho.2.2]
    | cons nxt os =>
      obtain ⟨s1, s2, _⟩ := seqElem_first o nxt ho ih
      rw [optimizeSeq_cons2]
      simp only [initialClassSeq, s1, s2, ihl.2]

theorem ic_optimize (o : Op) (h : SrcOK env fl o) :
    initialClass env fl.caseBlind (optimize env fl o) = initialClass env fl.caseBlind o :=
  (ic_optimize_both env fl).1 o h

/-- the follower that ends up in the tree looks to `unambJust` like the un-optimised one -/
theorem optimizeSeq_head (o : Op) (os : List Op) (h : SrcOK env fl o) :
    ∃ a t, optimizeSeq env fl (o :: os) = a :: t ∧
      initialClass env fl.caseBlind a = initialClass env fl.caseBlind o ∧
      (isEol o = true → isEol a = true) ∧ (isEnd o = true → os = [] → isEnd a = true ∧ t = []) := by
  cases os with
  | nil =>
    exact ⟨_, [], rfl, ic_optimize o h, fun he => by obtain rfl := isEol_iff.1 he; rfl,
      fun he _ => by obtain rfl := isEnd_iff.1 he; exact ⟨rfl, rfl⟩⟩
  | cons nxt r =>
    obtain ⟨_, s2, s3⟩ := seqElem_first o nxt h (ic_optimize o h)
    exact ⟨_, _, optimizeSeq_cons2 env fl o nxt r, s2, s3, fun _ he => by cases he⟩

theorem clean4_optimize_both (env : Env) (fl : CFlags) :
    (∀ o, SrcOK env fl o → noEnd o = true →
      cleanOp4F env fl.caseBlind fl.multiLine false [] (optimize env fl o) = true) ∧
    (∀ l, SrcOKL env fl l →
      (noEndL l = true → cleanAll4 env fl.caseBlind fl.multiLine (optimizeL env fl l) = true) ∧
      (endLast l = true → ∀ top, (top = false → noEndL l = true) →
        cleanSeq4 env fl.caseBlind fl.multiLine top (optimizeSeq env fl l) = true)) := by
  refine Op.ind_down (down_srcOK env fl) (fun _ _ => rfl) (fun _ _ => rfl) (fun _ _ => rfl)
    (fun _ he => by cases he) (fun _ _ _ => rfl) (fun _ _ _ => rfl)
    (fun _ h => by have := h.1; simp only [src4, Bool.false_eq_true] at this)
    ?capture ?choice ?seq ?rpt (fun _ => ⟨fun _ => rfl, fun _ _ _ => rfl⟩) ?cons
  case capture => intro g c _ ih he; simp only [optimize, cleanOp4F]; exact ih (down_noEnd.capture he)
  case choice => intro l _ ih he; simp only [optimize, cleanOp4F]; exact ih.1 (down_noEnd.choice he)
  case seq =>
    intro l h ih he
    obtain ⟨o, o2, os, rfl⟩ := h.seq_two
    have he := down_noEnd.seq he
    simp only [optimize, cleanOp4F]
    exact ih.2 (endLast_of_noEndL _ he) false (fun _ => he)
  case rpt =>
    intro o c mn mx g e h ih he
    have ih := ih (down_noEnd.rpt e he)
    rcases repeatParts_cases e with ⟨id, rfl⟩ | ⟨len, rfl, _⟩ | ⟨len, rfl, _⟩ | ⟨rfl, _⟩
    · rw [optimize_rep_src4 env fl id c mn mx g h.1 h.2.1]
      have hs := h.1
      simp only [src4, Bool.and_eq_true] at hs
      obtain ⟨⟨⟨⟨⟨⟨hg, hc⟩, _⟩, _⟩, _⟩, hnn⟩, hdet⟩ := hs
      simp only [cleanOp4F, Bool.and_eq_true]
      exact ⟨⟨⟨hg, (clean2_of_clean4 env _ _).op' _ ⟨shape2_optimize env fl c hc, ih⟩⟩, hnn⟩, hdet⟩
    · rw [optimize_gfixed_wf env fl c mn mx len h.2.1]; simp only [cleanOp4F]; exact ih
    · simp only [optimize, cleanOp4F]; exact ih
    · have := h.1; simp only [src4, Bool.false_eq_true] at this
  case cons =>
    intro o l h ih ihl
    have ho := (down_srcOK env fl).head h
    refine ⟨fun he => ?_, fun he top hno => ?_⟩
    · simp only [optimizeL, cleanAll4, ih (down_noEnd.head he), ihl.1 (down_noEnd.tail he), Bool.and_self]
    -- an element that is not marked does not look at its followers
    have hkeep : noEnd o = true → ∀ F, cleanOp4F env fl.caseBlind fl.multiLine top F (optimize env fl o) = true :=
      fun hne F => by
        rw [cleanOp4F_irrel _ _ _ top F _ (by rw [optimize_notUnamb ho]; exact Bool.false_ne_true)]; exact ih hne
    cases l with
    | nil =>
      simp only [endLast, List.isEmpty_nil, if_true, Bool.or_eq_true] at he
      simp only [optimizeSeq, cleanSeq4, Bool.and_true]
      rcases he with he | he
      · obtain rfl := isEnd_iff.1 he; rfl
      · exact hkeep he []
    | cons nxt os =>
      have he1 : noEnd o = true ∧ endLast (nxt :: os) = true := by
        simpa only [endLast, List.isEmpty_cons, Bool.false_eq_true, if_false, Bool.and_eq_true] using he
      rw [optimizeSeq_cons2]
      simp only [cleanSeq4, Bool.and_eq_true]
      refine ⟨?_, ihl.2 he1.2 top (fun ht => down_noEnd.tail (hno ht))⟩
      rcases seqElem_src o nxt ho with e | ⟨child, mn, mx, g, _, hac, hj, e⟩
      · rw [e]; exact hkeep he1.1 _
      · rw [e]
        simp only [cleanOp4F, Bool.and_eq_true, Bool.or_eq_true, beq_iff_eq]
        refine ⟨hac, hj.imp id (fun hj => ?_)⟩
        obtain ⟨a, t, hat, hic, heol, hend⟩ :=
          optimizeSeq_head nxt os ((down_srcOK env fl).head ((down_srcOK env fl).tail h))
        rw [hat]
        refine just_of_noAmbiguity env _ _ top child nxt a t _ hj hic heol (fun hen => ?_)
        -- the follower is EndProgram: it closes the list, and the list is the root sequence
        obtain rfl := isEnd_iff.1 hen
        have hos : os = [] := by
          cases os with
          | nil => rfl
          | cons y r => simp [endLast, noEnd] at he1
        have ht : top = true := by
          cases top with
          | true => rfl
          | false => have := hno rfl; simp [noEndL, noEnd] at this
        exact ⟨(hend hen hos).1, (hend hen hos).2, ht⟩

theorem clean4_optimize (o : Op) (h : SrcOK env fl o) (he : noEnd o = true) :
    cleanOp4F env fl.caseBlind fl.multiLine false [] (optimize env fl o) = true :=
  (clean4_optimize_both env fl).1 o h he

theorem optOK4_choice (env : Env) (fl : CFlags) : (bs : List Op) → src4L env fl bs = true → wfOps bs = true →
    seqGe2L bs = true → noEndL bs = true →
    mzsChoice (optimizeL env fl bs) = mzsChoice bs ∧
    initialClassChoice env fl.caseBlind (optimizeL env fl bs) = initialClassChoice env fl.caseBlind bs ∧
    cleanAll4 env fl.caseBlind fl.multiLine (optimizeL env fl bs) = true :=
  fun bs hc hwf h2 he => ⟨mzsChoice_optimizeL env fl bs hwf h2, ((ic_optimize_both env fl).2 bs ⟨hc, hwf, h2⟩).1,
    ((clean4_optimize_both env fl).2 bs ⟨hc, hwf, h2⟩).1 he⟩

theorem src4_clean (env : Env) (fl : CFlags) :
    (src4P env fl).Sub (cleanP4 env fl.caseBlind fl.multiLine) :=
  TreePred.impl0 (src4P_transp env fl).desc (cleanP4_transp env fl.caseBlind fl.multiLine).gen
    (fun h => by simp [src4P, TreePred.plain, src4] at h)
    (leaf := fun _ _ _ hl _ => by cases hl <;> rfl)
    (rep := fun _ _ _ c _ _ _ _ h => by
      simp only [src4P, TreePred.plain, src4, Bool.and_eq_true, Bool.not_eq_true'] at h
      obtain ⟨⟨⟨⟨⟨⟨hg, hc⟩, _⟩, hn⟩, hd⟩, _⟩, _⟩ := h
      simp only [cleanP4, cleanOp4F, Bool.and_eq_true]
      exact ⟨⟨⟨hg, Clean2.cleanOp2_of_cleanOp env _ _ c hc⟩, hn⟩, hd⟩)
    (unamb := fun _ _ _ _ _ _ h => by simp [src4P, TreePred.plain, src4] at h)

theorem src4_cleanAll (env : Env) (fl : CFlags) : (bs : List Op) → src4L env fl bs = true →
    cleanAll4 env fl.caseBlind fl.multiLine bs = true :=
  fun _ => (src4_clean env fl).all

theorem cleanProg4_of_src4 (env : Env) (fl : CFlags) (t : Op) (h : src4 env fl t = true) :
    cleanProg4 env fl.caseBlind fl.multiLine t = true :=
  cleanProg4_iff.2 ((src4_clean env fl).prog ((src4P_transp env fl).prog_iff.2 h))

theorem cleanProg2_of_cleanProg4 (env : Env) (cb ml : Bool) (o : Op) (hs : shape2 o = true)
    (h : cleanProg4 env cb ml o = true) : cleanProg2 env cb ml o = true :=
  cleanProg2_iff.2 ((clean2_of_clean4 env cb ml).prog
    (TreePred.prog_and.2 ⟨shapeP2_transp.prog_iff.2 hs, cleanProg4_iff.1 h⟩))

theorem clean4_optimize_prog (t : Op) (h : SrcOK env fl t) (he : endTop t = true) :
    cleanProg4 env fl.caseBlind fl.multiLine (optimize env fl t) = true := by
  rcases endTop_cases he with ⟨l, rfl, he⟩ | ⟨hns, hne⟩
  · obtain ⟨o, o2, os, rfl⟩ := h.seq_two
    exact ((clean4_optimize_both env fl).2 _ ((down_srcOK env fl).seq h)).2 he true (fun h => by cases h)
  · have hcl := clean4_optimize t h hne
    -- `optimize` of a non-sequence is not a sequence, so `cleanProg4` is `cleanOp4` there
    cases t with
    | seq l => exact absurd rfl (hns l)
    | gfixed c mn mx len => rw [optimize_gfixed_wf env fl c mn mx len h.2.1] at hcl ⊢; exact hcl
    | _ => exact hcl

end Rx.Clean4OptL
