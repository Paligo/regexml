/-
  Proofs/SearchLemmas — the search loop of `ReMatcher::matches` (Model/Search) is complete relative to
  completeness of the per-position engine test.

  The vocabulary of Props/SearchComplete — `CompleteAt`, `Quiet`, `QuietAll`, `SearchFacts`, `Has`, `Outcome`, all in
  namespace `Rx.SearchComplete` — is defined in this file.  `SearchFacts.search` is `Decides.search`
  (Proofs/SearchNF) for a program whose recorded facts are true of its language and any predicate on starts that
  implies "a member of the language starts here" (the language itself for clean states and the memo invariants,
  "a path starts here" for captures).
-/
import RxModel.Spec.OpLang
import RxModel.Model.Program
import RxModel.Props.C01
import RxModel.Props.C02
import RxModel.Props.C05
import RxModel.Props.C06
import RxModel.Props.C08
import RxModel.Props.C08b
import RxModel.Proofs.ApiLemmas
import RxModel.Proofs.FirstHit
namespace Rx.SearchComplete
open Rx

/-- the engine decides membership at every start inside the input: pulling the first result of
    `sem ctx o` at `j` succeeds iff `o` has a match from `j`.  (`match_at`, `preHolds` and
    `findFrom` all test exactly "is the stream a `cons`", i.e. `(first1 …).1.isSome`; `match_at`
    first re-initialises the capture state, which is covered by quantifying over every state whose
    panic marker is clear.) -/
def CompleteAt (ctx : Ctx) (o : Op) : Prop :=
  ∀ j st, j ≤ ctx.len → st.panic = none →
    (((first1 (sem ctx o j st)).1.isSome = true) ↔ ∃ q, OpR ctx o j q)

def Quiet (ctx : Ctx) (o : Op) : Prop :=
  ∀ j st, j ≤ ctx.len → st.panic = none →
    sem ctx o j st ≠ .diverge ∧ (first1 (sem ctx o j st)).2.panic = none

/-- `Quiet` at every start whatsoever: a precondition with a fixed position may be evaluated beyond the end of
    the input -/
def QuietAll (ctx : Ctx) (o : Op) : Prop :=
  ∀ j st, st.panic = none →
    sem ctx o j st ≠ .diverge ∧ (first1 (sem ctx o j st)).2.panic = none

theorem QuietAll.quiet {ctx : Ctx} {o : Op} (h : QuietAll ctx o) : Quiet ctx o :=
  fun j st _ hst => h j st hst

def Has (ctx : Ctx) (o : Op) (j : Nat) : Prop := ∃ q, OpR ctx o j q

theorem sem_cases {ctx : Ctx} {o : Op} (hC : CompleteAt ctx o) (hQ : Quiet ctx o)
    (j : Nat) (st : St) (hj : j ≤ ctx.len) (hst : st.panic = none) :
    (Has ctx o j ∧ ∃ n st' r, sem ctx o j st = .cons n st' r ∧ st'.panic = none) ∨
    (¬ Has ctx o j ∧ ∃ st', sem ctx o j st = .nil st' ∧ st'.panic = none) := by
  have h1 := hC j st hj hst
  have h2 := hQ j st hj hst
  cases hs : sem ctx o j st with
  | nil st' =>
    rw [hs] at h1 h2
    right
    refine ⟨fun hm => ?_, st', rfl, h2.2⟩
    have := h1.2 hm
    simp [first1] at this
  | cons n st' r =>
    rw [hs] at h1 h2
    left
    exact ⟨h1.1 rfl, n, st', r, rfl, h2.2⟩
  | diverge => exact absurd hs h2.1

theorem matchAt_cases {ctx : Ctx} {o : Op} (hC : CompleteAt ctx o) (hQ : Quiet ctx o)
    (j : Nat) (st : St) (hj : j ≤ ctx.len) (hst : st.panic = none) :
    (Has ctx o j ∧ ∃ st', matchAt ctx o j st = (true, st') ∧ st'.panic = none) ∨
    (¬ Has ctx o j ∧ ∃ st', matchAt ctx o j st = (false, st') ∧ st'.panic = none) := by
  have hp : (matchStart ctx j st).panic = none := by rw [matchStart_panic]; exact hst
  rw [matchAt_eq]
  rcases sem_cases hC hQ j (matchStart ctx j st) hj hp with ⟨hm, n, st', r, hs, hc⟩ | ⟨hm, st', hs, hc⟩
  · left
    rw [hs]
    exact ⟨hm, _, rfl, hc⟩
  · right
    rw [hs]
    exact ⟨hm, _, rfl, hc⟩

theorem matchAt_clean {ctx : Ctx} {o : Op} (hQ : Quiet ctx o) (j : Nat) (st : St) (hj : j ≤ ctx.len)
    (hst : st.panic = none) : (matchAt ctx o j st).2.panic = none := by
  have hp : (matchStart ctx j st).panic = none := by rw [matchStart_panic]; exact hst
  obtain ⟨hnd, hpn⟩ := hQ j (matchStart ctx j st) hj hp
  rw [matchAt_eq]
  cases hs : sem ctx o j (matchStart ctx j st) with
  | nil st' => rw [hs] at hpn; exact hpn
  | cons n st' r => rw [hs] at hpn; exact hpn
  | diverge => exact absurd hs hnd

theorem preHolds_cases {ctx : Ctx} {o : Op} (hC : CompleteAt ctx o) (hQ : Quiet ctx o)
    (j : Nat) (st : St) (hj : j ≤ ctx.len) (hst : st.panic = none) :
    (Has ctx o j ∧ ∃ st', preHolds ctx o j st = (true, st') ∧ st'.panic = none) ∨
    (¬ Has ctx o j ∧ ∃ st', preHolds ctx o j st = (false, st') ∧ st'.panic = none) := by
  unfold preHolds
  rcases sem_cases hC hQ j st hj hst with ⟨hm, n, st', r, hs, hc⟩ | ⟨hm, st', hs, hc⟩
  · left
    rw [hs]
    exact ⟨hm, _, rfl, hc⟩
  · right
    rw [hs]
    exact ⟨hm, _, rfl, hc⟩

theorem preHolds_clean {ctx : Ctx} {o : Op} (hQ : QuietAll ctx o) (j : Nat) (st : St)
    (hst : st.panic = none) : (preHolds ctx o j st).2.panic = none := by
  have h := hQ j st hst
  unfold preHolds
  cases hs : sem ctx o j st with
  | nil st' => rw [hs] at h; exact h.2
  | cons n st' r => rw [hs] at h; exact h.2
  | diverge => exact absurd hs h.1

theorem tests_clean {ctx : Ctx} {o : Op} (hC : CompleteAt ctx o) (hQ : Quiet ctx o) (i : Nat) :
    Decides ctx o (Has ctx o) (fun st => st.panic = none) (fun _ s => s.panic = none) i :=
  fun j st _ hjl hst => matchAt_cases hC hQ j st hjl hst

/-- what a search for the first match starting at or after `i` has to return: a clean state, and
    either `true` by a successful `match_at(j)` at the LEAST `j ≥ i` that has a match, or `false`
    and no `j ≥ i` (inside the input) has a match -/
def Outcome (ctx : Ctx) (o : Op) (i : Nat) (r : Bool × St) : Prop :=
  r.2.panic = none ∧
  ((r.1 = true ∧ ∃ j stj, i ≤ j ∧ j ≤ ctx.len ∧ Has ctx o j ∧ (∀ k, i ≤ k → k < j → ¬ Has ctx o k) ∧
      matchAt ctx o j stj = r) ∨
   (r.1 = false ∧ ∀ j, i ≤ j → j ≤ ctx.len → ¬ Has ctx o j))

theorem _root_.Rx.Found.outcome {ctx : Ctx} {o : Op} {I : St → Prop} {S : Nat → St → Prop} {i : Nat} {r : Bool × St}
    (h : Found ctx o (Has ctx o) I S i r) (hcl : ∀ st, I st → st.panic = none)
    (hS : ∀ j st, S j st → st.panic = none) : Outcome ctx o i r := by
  rcases h with ⟨ht, j, stj, h1, h2, h3, h4, h5, h6⟩ | ⟨hf, hI, hno⟩
  · exact ⟨hS j _ h6, .inl ⟨ht, j, stj, h1, h2, h3, h4, h5⟩⟩
  · exact ⟨hcl _ hI, .inr ⟨hf, hno⟩⟩

theorem findFrom_spec {ctx : Ctx} {o : Op} (hC : CompleteAt ctx o) (hQ : Quiet ctx o) :
    ∀ (fuel j : Nat) (st : St), ctx.len ≤ j + fuel → st.panic = none →
    ((∃ k, j ≤ k ∧ k < ctx.len ∧ Has ctx o k) ∧
        ∃ st', findFrom ctx o fuel j st = (true, st') ∧ st'.panic = none) ∨
    ((¬ ∃ k, j ≤ k ∧ k < ctx.len ∧ Has ctx o k) ∧
        ∃ st', findFrom ctx o fuel j st = (false, st') ∧ st'.panic = none) := by
  intro fuel
  induction fuel with
  | zero =>
    intro j st hf hst
    right
    exact ⟨fun ⟨k, h1, h2, _⟩ => by omega, st, rfl, hst⟩
  | succ f ih =>
    intro j st hf hst
    unfold findFrom
    by_cases hj : j < ctx.len
    · rw [if_pos hj]
      rcases preHolds_cases hC hQ j st (by omega) hst with ⟨hm, st', he, hc⟩ | ⟨hm, st1, he, hc⟩
      · left
        rw [he]
        exact ⟨⟨j, Nat.le_refl _, hj, hm⟩, st', rfl, hc⟩
      · rw [he]
        have hp : ¬ st1.panic.isSome = true := by rw [hc]; simp
        simp only [hp]
        rcases ih (j + 1) st1 (by omega) hc with ⟨⟨k, h1, h2, h3⟩, hr⟩ | ⟨hno, hr⟩
        · left
          exact ⟨⟨k, by omega, h2, h3⟩, hr⟩
        · right
          refine ⟨?_, hr⟩
          rintro ⟨k, h1, h2, h3⟩
          by_cases hkj : k = j
          · subst hkj; exact hm h3
          · exact hno ⟨k, by omega, h2, h3⟩
    · rw [if_neg hj]
      right
      exact ⟨fun ⟨k, h1, h2, _⟩ => by omega, st, rfl, hst⟩

theorem checkPre_clean {ctx : Ctx} (start : Nat) (pres : List Pre) (st : St)
    (hq : ∀ q ∈ pres, QuietAll ctx q.op) (hst : st.panic = none) :
    (checkPre ctx start pres st).2.panic = none :=
  checkPre_keeps (I := fun s => s.panic = none) start pres
    (fun q hm p s hs => preHolds_clean (hq q hm) p s hs) st hst

theorem checkPre_spec {ctx : Ctx} (start : Nat) :
    ∀ (pres : List Pre) (st : St), (∀ q ∈ pres, CompleteAt ctx q.op ∧ Quiet ctx q.op) →
      (∀ q ∈ pres, ∀ f, q.fixed = some f → f ≤ ctx.len) → st.panic = none →
      ((∀ q ∈ pres, C08.PreOK ctx q start) ∧
          ∃ st', checkPre ctx start pres st = (true, st') ∧ st'.panic = none) ∨
      ((¬ ∀ q ∈ pres, C08.PreOK ctx q start) ∧
          ∃ st', checkPre ctx start pres st = (false, st') ∧ st'.panic = none) := by
  intro pres
  induction pres with
  | nil =>
    intro st _ _ hst
    left
    exact ⟨fun q hq => (by cases hq), st, rfl, hst⟩
  | cons pre rest ih =>
    intro st hq hfix hst
    obtain ⟨hC, hQ⟩ := hq pre List.mem_cons_self
    have hrest : ∀ q ∈ rest, CompleteAt ctx q.op ∧ Quiet ctx q.op :=
      fun q hm => hq q (List.mem_cons_of_mem _ hm)
    have hfixr : ∀ q ∈ rest, ∀ f, q.fixed = some f → f ≤ ctx.len :=
      fun q hm => hfix q (List.mem_cons_of_mem _ hm)
    -- the verdict on the first precondition
    have hhead : (C08.PreOK ctx pre start ∧ ∃ st1, st1.panic = none ∧
          checkPre ctx start (pre :: rest) st = checkPre ctx start rest st1) ∨
        (¬ C08.PreOK ctx pre start ∧ ∃ st1, st1.panic = none ∧
          checkPre ctx start (pre :: rest) st = (false, st1)) := by
      cases hf : pre.fixed with
      | some f =>
        have hfl := hfix pre List.mem_cons_self f hf
        rcases preHolds_cases hC hQ f st hfl hst with ⟨hm, st1, he, hc⟩ | ⟨hm, st1, he, hc⟩
        · left
          refine ⟨?_, st1, hc, ?_⟩
          · simp only [C08.PreOK, hf]; exact hm
          · rw [checkPre]; simp only [hf, he]
        · right
          refine ⟨?_, st1, hc, ?_⟩
          · simp only [C08.PreOK, hf]; exact hm
          · rw [checkPre]; simp only [hf, he]
      | none =>
        rcases findFrom_spec hC hQ (ctx.len + 1) (if start < pre.minPos then pre.minPos else start) st
            (by omega) hst with ⟨⟨k, h1, h2, h3⟩, st1, he, hc⟩ | ⟨hno, st1, he, hc⟩
        · left
          refine ⟨?_, st1, hc, ?_⟩
          · simp only [C08.PreOK, hf]
            obtain ⟨n, hn⟩ := h3
            refine ⟨k, n, ?_, ?_, h2, hn⟩
            · split at h1 <;> omega
            · split at h1 <;> omega
          · rw [checkPre]; simp only [hf, he]
        · right
          refine ⟨?_, st1, hc, ?_⟩
          · simp only [C08.PreOK, hf]
            rintro ⟨k, n, h1, h2, h3, hn⟩
            refine hno ⟨k, ?_, h3, n, hn⟩
            split <;> omega
          · rw [checkPre]; simp only [hf, he]
    rcases hhead with ⟨hp, st1, hc, he⟩ | ⟨hp, st1, hc, he⟩
    · rw [he]
      rcases ih st1 hrest hfixr hc with ⟨hall, hr⟩ | ⟨hno, hr⟩
      · left
        refine ⟨?_, hr⟩
        intro q hq'
        rcases List.mem_cons.1 hq' with rfl | hq'
        · exact hp
        · exact hall q hq'
      · right
        exact ⟨fun hall => hno (fun q hq' => hall q (List.mem_cons_of_mem _ hq')), hr⟩
    · rw [he]
      right
      exact ⟨fun hall => hp (hall pre List.mem_cons_self), st1, rfl, hc⟩

/-- what the search loop relies on about the facts recorded in the program — each a statement
    about the language of `pr.op` (so: "the shortcut skips no member").  `mkProgram_searchFacts`
    shows that `ReProgram::new` establishes them. -/
structure SearchFacts (ctx : Ctx) (pr : Prog) : Prop where
  minLen : ∀ j q, OpR ctx pr.op j q → j + pr.minLen ≤ q
  /-- the literal prefix is not longer than the minimum length (so `len + 1 - prefix.len` cannot
      underflow once the minimum-length cut-off has been passed) -/
  prefixLen : ∀ cs, pr.prefix_ = some cs → cs.length ≤ pr.minLen ∨ pr.minLen = usizeMax
  prefix_ : ∀ cs, pr.prefix_ = some cs → ∀ j q, OpR ctx pr.op j q →
    j + cs.length ≤ ctx.len ∧ prefixMatch ctx cs (ctx.input.drop j) = true
  icc : ∀ rs, pr.icc = some rs → ∀ j q, OpR ctx pr.op j q →
    ∃ c, ctx.input[j]? = some c ∧ clsContains rs c = true
  bol : pr.hasBol = true → ∀ j q, OpR ctx pr.op j q →
    j = 0 ∨ (ctx.multiLine = true ∧ ctx.input[j - 1]? = some 10 ∧ j < ctx.len)
  pres : ∀ start j q, start ≤ j → j ≤ ctx.len → OpR ctx pr.op j q →
    ∀ pre ∈ pr.pres, C08.PreOK ctx pre start ∧ ∀ f, pre.fixed = some f → f ≤ ctx.len

theorem SearchFacts.shortcuts {ctx : Ctx} {pr : Prog} (F : SearchFacts ctx pr) :
    Shortcuts ctx pr (Has ctx pr.op) where
  minLen := fun j hjl ⟨q, hq⟩ => by
    have h1 := F.minLen j q hq
    have h2 := (C01.OpR_bounds ctx pr.op j q hjl hq).2
    omega
  prefix_ := fun cs hcs j _ ⟨q, hq⟩ => F.prefix_ cs hcs j q hq
  icc := fun rs hrs j _ ⟨q, hq⟩ => F.icc rs hrs j q hq
  bol := fun hb j _ ⟨q, hq⟩ => F.bol hb j q hq

theorem SearchFacts.search {ctx : Ctx} {pr : Prog} {Has' : Nat → Prop} {I : St → Prop} {S : Nat → St → Prop}
    {i : Nat} (F : SearchFacts ctx pr) (hsub : ∀ j, j ≤ ctx.len → Has' j → Has ctx pr.op j)
    (hT : Decides ctx pr.op Has' I S i) (hlen : ctx.len < usizeMax) (hi : i ≤ ctx.len)
    (hcl : ∀ st, I st → st.panic = none) (hP : ∀ q ∈ pr.pres, CompleteAt ctx q.op ∧ Quiet ctx q.op)
    (hPI : ∀ q ∈ pr.pres, ∀ p st, I st → I (preHolds ctx q.op p st).2)
    (st0 : St) (h1 : I { st0 with cap := {} }) : Found ctx pr.op Has' I S i (matchesFrom ctx pr i st0) := by
  refine hT.search (F.shortcuts.mono hsub) F.prefixLen hlen hi hcl hPI ?_ st0 h1
  -- a precondition that fails is one that every match from `i` on would satisfy
  intro st st' hI h j hij hjl hj
  obtain ⟨q, hq⟩ := hsub j hjl hj
  have hf := F.pres i j q hij hjl hq
  rcases checkPre_spec i pr.pres st hP (fun p hp => (hf p hp).2) (hcl _ hI) with ⟨_, st2, he, _⟩ | ⟨hno, _⟩
  · rw [h] at he; cases he
  · exact hno (fun p hp => (hf p hp).1)

theorem matchesFrom_outcome {ctx : Ctx} {pr : Prog} (F : SearchFacts ctx pr) (hlen : ctx.len < usizeMax)
    (hC : CompleteAt ctx pr.op) (hQ : Quiet ctx pr.op)
    (hP : ∀ q ∈ pr.pres, CompleteAt ctx q.op ∧ QuietAll ctx q.op)
    (i : Nat) (hi : i ≤ ctx.len) (st0 : St) (hst0 : st0.panic = none) :
    Outcome ctx pr.op i (matchesFrom ctx pr i st0) :=
  (F.search (fun _ _ h => h) (tests_clean hC hQ i) hlen hi (fun _ h => h)
    (fun q hq => ⟨(hP q hq).1, (hP q hq).2.quiet⟩)
    (fun q hq p st h => preHolds_clean (hP q hq).2 p st h) st0 hst0).outcome (fun _ h => h) (fun _ _ h => h)

theorem matchesNaive_outcome {ctx : Ctx} {o : Op} (hC : CompleteAt ctx o) (hQ : Quiet ctx o)
    (i : Nat) (st0 : St) (hst0 : st0.panic = none) :
    Outcome ctx o i (matchesNaive ctx o i st0) :=
  ((tests_clean hC hQ i).cands (fun _ h => h) (rangeFrom i (ctx.len + 1)) (rangeFrom_pairwise _ _)
    (fun j hj => by have := mem_rangeFrom_iff.1 hj; omega)
    (fun j hij hjl _ => by rw [mem_rangeFrom_iff]; omega) { st0 with cap := {} } hst0).outcome
    (fun _ h => h) (fun _ _ h => h)

theorem satMul_pos {a b : Nat} (ha : 1 ≤ a) (hb : 1 ≤ b) : 1 ≤ satMul a b := by
  rw [satMul_eq_min]
  have h1 : 1 ≤ a * b := Nat.mul_pos ha hb
  have h2 : 1 ≤ usizeMax := by decide
  exact Nat.le_min.2 ⟨h1, h2⟩

theorem leaf_minLen_pos (c : Op) (hac : isAtomOrClass c = true) (hne : C08.noEmptyAtoms c = true) :
    1 ≤ minLenOp c := by
  cases c with
  | atom cs =>
    cases cs with
    | nil => simp [C08.noEmptyAtoms] at hne
    | cons a t => simp [minLenOp]
  | cls rs => simp [minLenOp]
  | _ => simp [isAtomOrClass] at hac

theorem preAt_minLen_pos {n t : Op} (h : PreAt n t) (hne : C08.noEmptyAtoms n = true) : 1 ≤ minLenOp t := by
  cases h with
  | leaf hl => exact leaf_minLen_pos _ hl hne
  | self hp hac =>
    have hc := leaf_minLen_pos _ hac (C08.down_noEmptyAtoms.rpt hp hne)
    rcases repeatParts_cases hp with ⟨_, rfl⟩ | ⟨_, rfl, _⟩ | ⟨_, rfl, _⟩ | ⟨rfl, _⟩
    all_goals
      simp only [minLenOp]
      exact satMul_pos (Nat.le_refl 1) hc
  | fixed hp hac h2 =>
    simp only [minLenOp]
    exact satMul_pos (by omega) (leaf_minLen_pos _ hac (C08.down_noEmptyAtoms.rpt hp hne))

theorem addPreSeq_minLen_pos (ml : Bool) : (ops : List Op) → ∀ fp mp, C08.noEmptyAtomsL ops = true →
    ∀ q ∈ addPreSeq ml ops fp mp, 1 ≤ minLenOp q.op := by
  intro ops fp mp h q hq
  obtain ⟨n, hn, hat⟩ := addPreSeq_node C08.down_noEmptyAtoms ml h fp mp hq
  exact preAt_minLen_pos hat hn

theorem pres_fact (ctx : Ctx) (hlen : ctx.len < usizeMax) (op : Op) (hwf : wfOp op = true)
    (hne : C08.noEmptyAtoms op = true) (n : Nat)
    (start j q : Nat) (hsj : start ≤ j) (hjl : j ≤ ctx.len) (h : OpR ctx op j q) :
    ∀ pre ∈ numberPres (addPre ctx.multiLine op none 0) n,
      C08.PreOK ctx pre start ∧ ∀ f, pre.fixed = some f → f ≤ ctx.len := by
  intro pre hpre
  obtain ⟨p, hp, b, rfl⟩ := mem_numberPres _ _ _ hpre
  obtain ⟨hok, hin⟩ := PreL.addPre_op ctx hlen op hwf hne none 0 start j q h hjl (fun _ hf => nomatch hf)
    (Nat.zero_le _) hsj p hp
  refine ⟨?_, fun f hf => Nat.le_of_lt (hin f hf)⟩
  unfold C08.PreOK at hok ⊢
  simp only
  cases hf : p.fixed with
  | some f =>
    simp only [hf] at hok ⊢
    obtain ⟨m, hm⟩ := hok
    exact ⟨m, (OptL.num_op ctx p.op b f m).2 hm⟩
  | none =>
    simp only [hf] at hok ⊢
    obtain ⟨k, m, h1, h2, h3, hm⟩ := hok
    exact ⟨k, m, h1, h2, h3, (OptL.num_op ctx p.op b k m).2 hm⟩

theorem mkProgram_searchFacts (pat : List Nat) (op : Op) (mp : Nat) (fl : CFlags) (hb : Bool)
    (lower : Nat → Nat) (input : List Nat)
    (hwf : wfOp op = true) (hne : C08.noEmptyAtoms op = true) (hlen : input.length < usizeMax) :
    SearchFacts ((mkProgram pat op mp fl hb).ctx lower input) (mkProgram pat op mp fl hb) := by
  obtain ⟨hbol, hpre, hicc, hpres⟩ := MkProgram.shortcuts pat op mp fl hb
  have hop := MkProgram.op pat op mp fl hb
  have hml := MkProgram.multiLine pat op mp fl hb
  have hmin := MkProgram.minLen pat op mp fl hb
  have hw : wfOp (numberReps op 0).1 = true := by rw [WF.wfOp_numberReps]; exact hwf
  have hn : C08.noEmptyAtoms (numberReps op 0).1 = true := by
    rw [ApiL.noEmptyAtoms_numberReps]; exact hne
  have hplen := mkProgram_prefixLen pat op mp fl hb
  generalize hpr : mkProgram pat op mp fl hb = pr at *
  have hctxml : (pr.ctx lower input).multiLine = fl.multiLine := hml
  have hctxlen : (pr.ctx lower input).len < usizeMax := hlen
  generalize pr.ctx lower input = ctx at *
  constructor
  · intro j q h
    rw [hop] at h
    rw [hmin]
    exact OptL.minLen_op ctx _ j q h
  · exact hplen
  · intro cs hcs j q h
    obtain ⟨rest, hr⟩ := hpre cs hcs
    rw [hop, hr] at h
    exact C08.prefix_sound ctx cs rest j q h
  · intro rs hrs j q h
    obtain ⟨rest, hr⟩ := hicc rs hrs
    rw [hop, hr] at h
    exact C08.icc_sound ctx rs rest j q h
  · intro hb' j q h
    obtain ⟨rest, hr⟩ := hbol hb'
    rw [hop, hr] at h
    exact C08.hasbol_sound ctx rest j q h
  · intro start j q hsj hjl h pre hmem
    rw [hop] at h
    rcases hpres with he | ⟨n, he⟩
    · rw [he] at hmem; cases hmem
    · rw [he, ← hctxml] at hmem
      exact pres_fact ctx hctxlen _ hw hn n start j q hsj hjl h pre hmem

theorem clean_of {st : St} (h1 : C05.NoPanic st) (h2 : C06.NoDivMark st) : st.panic = none := by
  rcases h1 with h | h
  · exact h
  · exact absurd h h2

theorem quiet_of_wf (ctx : Ctx) (hb : ctx.hasBackrefs = false) (op : Op) (hop : hasBackref op = false)
    (hwf : wfOp op = true) (hs : C06.smallMin ctx.len op = true) : Quiet ctx op := by
  intro j st hj hst
  have hnp : C05.NoPanic st := .inl hst
  have h1 := C05.sem_no_panic ctx hb op hop j st hnp
  obtain ⟨h2, h3⟩ := C06.sem_no_diverge ctx op hwf hs j hj st (noDivMark_of_clean hst)
  exact ⟨h2.ne_diverge, clean_of (first1_inv_nodiv h1 h2) (first1_inv_nodiv h3 h2)⟩

theorem _root_.Rx.simplePre_inv {I : St → Prop} (W : Writes I) (ctx : Ctx) (op : Op) (h : C06.simplePre op = true) :
    GenInv (fun _ => True) I (sem ctx op) :=
  fun p st _ hI => (C06.simplePre_sat W.clear ctx op h (fun _ _ _ _ _ st h => W.hist st _ h) p st hI).inv

theorem quietAll_of_simplePre (ctx : Ctx) (o : Op) (ho : C06.simplePre o = true) : QuietAll ctx o := by
  intro j st hst
  obtain ⟨hnd, hdm⟩ := C06.pre_no_diverge ctx o ho j st (noDivMark_of_clean hst)
  exact ⟨hnd.ne_diverge,
    clean_of (first1_inv_nodiv (simplePre_inv writes_np ctx o ho j st trivial (.inl hst)) hnd) (first1_inv_nodiv hdm hnd)⟩

theorem _root_.Rx.preHolds_writes {I : St → Prop} (W : Writes I) (ctx : Ctx) (o : Op)
    (ho : C06.simplePre o = true) (j : Nat) (st : St) (hst : I st ∧ st.panic = none) :
    I (preHolds ctx o j st).2 ∧ (preHolds ctx o j st).2.panic = none :=
  ⟨preHolds_keeps (simplePre_inv W ctx o ho j st trivial hst.1)
      (fun hd => absurd hd (quietAll_of_simplePre ctx o ho j st hst.2).1),
    preHolds_clean (quietAll_of_simplePre ctx o ho) j st hst.2⟩

theorem Outcome.clean {ctx : Ctx} {o : Op} {i : Nat} {r : Bool × St} (h : Outcome ctx o i r) :
    r.2.panic = none := h.1

theorem Outcome.iff {ctx : Ctx} {o : Op} {i : Nat} {r : Bool × St} (h : Outcome ctx o i r) :
    r.1 = true ↔ ∃ j q, i ≤ j ∧ j ≤ ctx.len ∧ OpR ctx o j q := by
  rcases h.2 with ⟨ht, j, _, h1, h2, ⟨q, hq⟩, _, _⟩ | ⟨hf, hno⟩
  · exact ⟨fun _ => ⟨j, q, h1, h2, hq⟩, fun _ => ht⟩
  · constructor
    · intro ht; rw [hf] at ht; cases ht
    · rintro ⟨j, q, h1, h2, hq⟩
      exact absurd ⟨q, hq⟩ (hno j h1 h2)

theorem Outcome.leftmost {ctx : Ctx} {o : Op} (hwf : wfOp o = true) (hcp : C02.capsPos o = true)
    {i : Nat} {r : Bool × St} (h : Outcome ctx o i r) (ht : r.1 = true) :
    ∃ j n, getParenStart r.2 0 = some j ∧ getParenEnd r.2 0 = some n ∧
      i ≤ j ∧ j ≤ n ∧ n ≤ ctx.len ∧ OpR ctx o j n ∧
      ∀ k q, i ≤ k → k < j → ¬ OpR ctx o k q := by
  rcases h.2 with ⟨_, j, stj, h1, h2, _, hmin, hma⟩ | ⟨hf, _⟩
  · obtain ⟨b, st'⟩ := r
    simp only at ht
    subst ht
    obtain ⟨hs, n, he, hjn, hnl, hopr⟩ := C02.matchAt_span ctx o hwf hcp j h2 stj st' hma
    exact ⟨j, n, hs, he, h1, hjn, hnl, hopr, fun k q hik hkj hq => hmin k hik hkj ⟨q, hq⟩⟩
  · rw [hf] at ht; cases ht

/-! Two searches agree on the Boolean and on the start as soon as the languages agree; on the end as soon as the
    heads of the two enumerations do (`Outcome.finds`, Proofs/CleanSearchLemmas). -/

theorem Outcome.found_congr {ctx1 ctx2 : Ctx} {o1 o2 : Op} (hlen : ctx1.len = ctx2.len)
    (hlang : ∀ p q, p ≤ ctx1.len → (OpR ctx1 o1 p q ↔ OpR ctx2 o2 p q))
    {i : Nat} {r1 r2 : Bool × St} (h1 : Outcome ctx1 o1 i r1) (h2 : Outcome ctx2 o2 i r2) : r1.1 = r2.1 := by
  rw [Bool.eq_iff_iff, h1.iff, h2.iff, ← hlen]
  constructor
  · rintro ⟨j, q, a, b, c⟩; exact ⟨j, q, a, b, (hlang j q b).1 c⟩
  · rintro ⟨j, q, a, b, c⟩; exact ⟨j, q, a, b, (hlang j q b).2 c⟩

theorem Outcome.start_congr {ctx1 ctx2 : Ctx} {o1 o2 : Op} (hlen : ctx1.len = ctx2.len)
    (hlang : ∀ p q, p ≤ ctx1.len → (OpR ctx1 o1 p q ↔ OpR ctx2 o2 p q))
    (hw1 : wfOp o1 = true) (hw2 : wfOp o2 = true) (hc1 : C02.capsPos o1 = true) (hc2 : C02.capsPos o2 = true)
    {i : Nat} {r1 r2 : Bool × St} (h1 : Outcome ctx1 o1 i r1) (h2 : Outcome ctx2 o2 i r2) (ht : r1.1 = true) :
    getParenStart r1.2 0 = getParenStart r2.2 0 := by
  obtain ⟨j1, n1, hs1, _, a1, b1, c1, hm1, hl1⟩ := h1.leftmost hw1 hc1 ht
  obtain ⟨j2, n2, hs2, _, a2, b2, c2, hm2, hl2⟩ := h2.leftmost hw2 hc2 (h1.found_congr hlen hlang h2 ▸ ht)
  have : j1 = j2 :=
    least_start_eq a1 a2 hm1 hm2 hl1 hl2 (hlang j1 n1 (Nat.le_trans b1 c1)).1
      (hlang j2 n2 (hlen ▸ Nat.le_trans b2 c2)).2
  rw [hs1, hs2, this]

theorem Outcome.agree {ctx : Ctx} {o : Op} (hwf : wfOp o = true) (hcp : C02.capsPos o = true)
    {i : Nat} {r1 r2 : Bool × St} (h1 : Outcome ctx o i r1) (h2 : Outcome ctx o i r2) :
    r1.1 = r2.1 ∧ (r1.1 = true → getParenStart r1.2 0 = getParenStart r2.2 0 ∧
      ∃ j, getParenStart r1.2 0 = some j) :=
  ⟨h1.found_congr rfl (fun _ _ _ => Iff.rfl) h2, fun ht =>
    ⟨h1.start_congr rfl (fun _ _ _ => Iff.rfl) hwf hwf hcp hcp h2 ht,
      let ⟨j, _, hs, _⟩ := h1.leftmost hwf hcp ht; ⟨j, hs⟩⟩⟩

theorem mkProgram_tree (pat : List Nat) (op : Op) (mp : Nat) (fl : CFlags) (hb : Bool) :
    wfOp (mkProgram pat op mp fl hb).op = wfOp op ∧
    C08.noEmptyAtoms (mkProgram pat op mp fl hb).op = C08.noEmptyAtoms op ∧
    C02.capsPos (mkProgram pat op mp fl hb).op = C02.capsPos op := by
  rw [MkProgram.op, WF.wfOp_numberReps, ApiL.noEmptyAtoms_numberReps, WF.capsPos_numberReps]
  exact ⟨rfl, rfl, rfl⟩

end Rx.SearchComplete
