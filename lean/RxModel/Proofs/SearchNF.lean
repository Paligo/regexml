/-
  Proofs/SearchNF — `ReMatcher::matches(i)` in normal form.

  Whatever shortcut it takes, `matches(i)` answers `false` at once, or runs the candidate loop `tryCands`
  over a list of starts, possibly after `check_preconditions`; `planOf` computes which
  (`matchesFrom_eq_exec`).  What the loop returns is read off once, for an arbitrary state invariant
  (`tryCands_out`); every statement about `matches` is that plus a fact about one `match_at`.
-/
import RxModel.Model.Search
import RxModel.Proofs.InvCalc
namespace Rx

theorem mem_rangeFrom_iff {lo hi j : Nat} : j ∈ rangeFrom lo hi ↔ lo ≤ j ∧ j < hi := by
  simp only [rangeFrom, List.mem_filter, List.mem_range, decide_eq_true_eq]
  omega

theorem rangeFrom_pairwise (lo hi : Nat) : (rangeFrom lo hi).Pairwise (· < ·) :=
  List.Pairwise.filter _ List.pairwise_lt_range

theorem rangeFrom_nil {lo hi : Nat} (h : hi ≤ lo) : rangeFrom lo hi = [] := by
  rw [List.eq_nil_iff_forall_not_mem]
  intro a ha
  have := mem_rangeFrom_iff.1 ha
  omega

theorem rangeFrom_succ (lo hi : Nat) :
    rangeFrom lo (hi + 1) = if lo ≤ hi then rangeFrom lo hi ++ [hi] else rangeFrom lo hi := by
  unfold rangeFrom
  rw [List.range_succ, List.filter_append]
  by_cases h : lo ≤ hi
  · simp [h]
  · simp [h]

theorem rangeFrom_cons : ∀ (hi lo : Nat), lo < hi → rangeFrom lo hi = lo :: rangeFrom (lo + 1) hi := by
  intro hi
  induction hi with
  | zero => intro lo h; omega
  | succ hi ih =>
    intro lo h
    rw [rangeFrom_succ, rangeFrom_succ]
    by_cases hlt : lo < hi
    · rw [ih lo hlt]
      have h1 : lo ≤ hi := by omega
      have h2 : lo + 1 ≤ hi := by omega
      simp only [h1, h2, if_true, List.cons_append]
    · have heq : lo = hi := by omega
      subst heq
      have h2 : ¬ (lo + 1 ≤ lo) := by omega
      simp only [Nat.le_refl, if_true, h2, if_false]
      rw [rangeFrom_nil (Nat.le_refl lo), rangeFrom_nil (Nat.le_succ lo)]
      rfl

/-- the state `match_at(j)` starts the iterator in -/
def matchStart (ctx : Ctx) (j : Nat) (st : St) : St :=
  let st1 : St := { st with cap := ({ st.cap with parenCount := 1 } : Cap).setStart 0 j }
  if ctx.hasBackrefs then
    { st1 with startBr := List.replicate ctx.maxParens none, endBr := List.replicate ctx.maxParens none }
  else st1

theorem matchAt_eq (ctx : Ctx) (op : Op) (j : Nat) (st : St) :
    matchAt ctx op j st =
      match sem ctx op j (matchStart ctx j st) with
      | .cons n st' _ => (true, { st' with cap := st'.cap.setEnd 0 n })
      | .nil st' => (false, { st' with cap := { st'.cap with parenCount := 0 } })
      | .diverge => (false, (matchStart ctx j st).setPanic panicDiverge) := rfl

/-- a successful `match_at`: the iterator yielded, and the state is that of the first yield with the end of
    group 0 set -/
theorem matchAt_hit {ctx : Ctx} {op : Op} {j : Nat} {st st' : St} (h : matchAt ctx op j st = (true, st')) :
    ∃ n s r, sem ctx op j (matchStart ctx j st) = .cons n s r ∧ st' = { s with cap := s.cap.setEnd 0 n } := by
  rw [matchAt_eq] at h
  split at h
  · rename_i n s r heq
    exact ⟨n, s, r, heq, (Prod.mk.inj h).2.symm⟩
  · cases h
  · cases h

theorem matchStart_panic (ctx : Ctx) (j : Nat) (st : St) : (matchStart ctx j st).panic = st.panic := by
  unfold matchStart
  simp only
  split <;> rfl

theorem matchAt_keeps {I J : St → Prop} {ctx : Ctx} {op : Op} {j : Nat} {st : St}
    (hs : (sem ctx op j (matchStart ctx j st)).Inv J)
    (hend : ∀ s n, J s → I { s with cap := s.cap.setEnd 0 n })
    (hnil : ∀ s, J s → I { s with cap := { s.cap with parenCount := 0 } })
    (hdiv : sem ctx op j (matchStart ctx j st) = .diverge → I ((matchStart ctx j st).setPanic panicDiverge)) :
    I (matchAt ctx op j st).2 := by
  rw [matchAt_eq]
  split
  · rename_i n st' r heq
    rw [heq] at hs
    exact hend _ _ hs.head
  · rename_i st' heq
    rw [heq] at hs
    exact hnil _ hs.nil_inv
  · rename_i heq
    exact hdiv heq

theorem preHolds_keeps {I : St → Prop} {ctx : Ctx} {op : Op} {p : Nat} {st : St}
    (hs : (sem ctx op p st).Inv I) (hdiv : sem ctx op p st = .diverge → I (st.setPanic panicDiverge)) :
    I (preHolds ctx op p st).2 := by
  unfold preHolds
  split
  · rename_i n st' r heq
    rw [heq] at hs
    exact hs.head
  · rename_i st' heq
    rw [heq] at hs
    exact hs.nil_inv
  · rename_i heq
    exact hdiv heq

theorem findFrom_keeps {I : St → Prop} {ctx : Ctx} {op : Op}
    (h : ∀ p st, I st → I (preHolds ctx op p st).2) :
    ∀ fuel j st, I st → I (findFrom ctx op fuel j st).2 := by
  intro fuel
  induction fuel with
  | zero => intro j st hI; exact hI
  | succ f ih =>
    intro j st hI
    unfold findFrom
    split
    · have hp := h j st hI
      split
      · rename_i st' heq
        rw [heq] at hp; exact hp
      · rename_i st' heq
        rw [heq] at hp
        split
        · exact hp
        · exact ih _ _ hp
    · exact hI

theorem checkPre_keeps {I : St → Prop} {ctx : Ctx} (start : Nat) :
    ∀ (pres : List Pre), (∀ q ∈ pres, ∀ p st, I st → I (preHolds ctx q.op p st).2) →
      ∀ st, I st → I (checkPre ctx start pres st).2 := by
  intro pres
  induction pres with
  | nil => intro _ st hI; exact hI
  | cons pre rest ih =>
    intro h st hI
    have hpre := h pre List.mem_cons_self
    have hrest : ∀ q ∈ rest, ∀ p st, I st → I (preHolds ctx q.op p st).2 :=
      fun q hm => h q (List.mem_cons_of_mem _ hm)
    unfold checkPre
    split
    · rename_i fixed _
      have hp := hpre fixed st hI
      split
      · rename_i st' heq
        rw [heq] at hp; exact ih hrest _ hp
      · rename_i st' heq
        rw [heq] at hp; exact hp
    · simp only
      have hp := findFrom_keeps hpre (ctx.len + 1) (if start < pre.minPos then pre.minPos else start) st hI
      split
      · rename_i st' heq
        rw [heq] at hp; exact ih hrest _ hp
      · rename_i st' heq
        rw [heq] at hp; exact hp

theorem tryCands_cons_true {ctx : Ctx} {op : Op} {j : Nat} {js : List Nat} {st st1 : St}
    (hm : matchAt ctx op j st = (true, st1)) : tryCands ctx op (j :: js) st = (true, st1) := by
  rw [tryCands, hm]

theorem tryCands_cons_false {ctx : Ctx} {op : Op} {j : Nat} {js : List Nat} {st st1 : St}
    (hm : matchAt ctx op j st = (false, st1)) (hp : ¬ st1.panic.isSome = true) :
    tryCands ctx op (j :: js) st = tryCands ctx op js st1 := by
  rw [tryCands]
  simp only [hm, hp]
  rfl

theorem tryCands_cons_panic {ctx : Ctx} {op : Op} {j : Nat} {js : List Nat} {st st1 : St}
    (hm : matchAt ctx op j st = (false, st1)) (hp : st1.panic.isSome = true) :
    tryCands ctx op (j :: js) st = (false, st1) := by
  rw [tryCands]
  simp only [hm, hp, if_true]

theorem tryCands_single (ctx : Ctx) (op : Op) (i : Nat) (st : St) :
    tryCands ctx op [i] st = matchAt ctx op i st := by
  cases hm : matchAt ctx op i st with
  | mk b st1 =>
    cases b with
    | true => exact tryCands_cons_true hm
    | false =>
      by_cases hp : st1.panic.isSome = true
      · exact tryCands_cons_panic hm hp
      · rw [tryCands_cons_false hm hp]; rfl

/-- what `tryCands … js st` returns, for a state invariant `I` that failed tests keep, a property `S j` of the
    state a successful test at `j` leaves and a property `N j` that a failed test at `j` establishes: a hit at the
    FIRST candidate whose test succeeds (every candidate before it has `N`), or no hit, `I` still holds, and —
    unless a panic cut the loop short — every candidate has `N` -/
def TryOut (ctx : Ctx) (op : Op) (I : St → Prop) (S : Nat → St → Prop) (N : Nat → Prop) (js : List Nat) (st : St)
    (r : Bool × St) : Prop :=
  (∃ pre j post sj s, js = pre ++ j :: post ∧ r = (true, s) ∧ matchAt ctx op j sj = (true, s) ∧
      S j s ∧ (∀ k ∈ pre, N k) ∧ tryCands ctx op pre st = (false, sj)) ∨
  (∃ s, r = (false, s) ∧ I s ∧ (s.panic = none → ∀ k ∈ js, N k))

theorem tryCands_out {ctx : Ctx} {op : Op} {I : St → Prop} {S : Nat → St → Prop} {N : Nat → Prop} :
    ∀ (js : List Nat),
      (∀ j ∈ js, ∀ st s, I st → matchAt ctx op j st = (true, s) → S j s) →
      (∀ j ∈ js, ∀ st s, I st → matchAt ctx op j st = (false, s) → I s ∧ N j) →
      ∀ st, I st → TryOut ctx op I S N js st (tryCands ctx op js st) := by
  intro js
  induction js with
  | nil => intro _ _ st hI; exact .inr ⟨st, rfl, hI, fun _ _ hk => (by cases hk)⟩
  | cons j js ih =>
    intro hT hF st hI
    have hT' : ∀ k ∈ js, ∀ st s, I st → matchAt ctx op k st = (true, s) → S k s :=
      fun k hk => hT k (List.mem_cons_of_mem _ hk)
    have hF' : ∀ k ∈ js, ∀ st s, I st → matchAt ctx op k st = (false, s) → I s ∧ N k :=
      fun k hk => hF k (List.mem_cons_of_mem _ hk)
    cases hm : matchAt ctx op j st with
    | mk b st1 =>
      cases b with
      | true =>
        rw [tryCands_cons_true hm]
        exact .inl ⟨[], j, js, st, st1, rfl, rfl, hm, hT j List.mem_cons_self st st1 hI hm,
          fun _ hk => (by cases hk), rfl⟩
      | false =>
        obtain ⟨hI1, hN⟩ := hF j List.mem_cons_self st st1 hI hm
        by_cases hp : st1.panic.isSome = true
        · rw [tryCands_cons_panic hm hp]
          refine .inr ⟨st1, rfl, hI1, fun hn => ?_⟩
          rw [hn] at hp
          cases hp
        · rw [tryCands_cons_false hm hp]
          rcases ih hT' hF' st1 hI1 with ⟨pre, k, post, sk, s, e1, e2, a2, a3, a4, a5⟩ | ⟨s, e, a1, a2⟩
          · refine .inl ⟨j :: pre, k, post, sk, s, by rw [e1]; rfl, e2, a2, a3,
              List.forall_mem_cons.2 ⟨hN, a4⟩, ?_⟩
            rw [tryCands_cons_false hm hp]
            exact a5
          · exact .inr ⟨s, e, a1, fun hn => List.forall_mem_cons.2 ⟨hN, a2 hn⟩⟩

theorem TryOut.snd {ctx : Ctx} {op : Op} {I : St → Prop} {S : Nat → St → Prop} {N : Nat → Prop} {js : List Nat}
    {st : St} {r : Bool × St} (h : TryOut ctx op I S N js st r) (hS : ∀ j s, S j s → I s) : I r.2 := by
  rcases h with ⟨_, j, _, _, s, _, rfl, _, a, _, _⟩ | ⟨s, rfl, a, _⟩
  · exact hS j s a
  · exact a

theorem tryCands_keeps {ctx : Ctx} {op : Op} {I : St → Prop} (js : List Nat)
    (h : ∀ j ∈ js, ∀ st, I st → I (matchAt ctx op j st).2) (st : St) (hI : I st) :
    I (tryCands ctx op js st).2 :=
  (tryCands_out (S := fun _ s => I s) (N := fun _ => True) js
    (fun j hj st s hI hm => by have := h j hj st hI; rw [hm] at this; exact this)
    (fun j hj st s hI hm => by have := h j hj st hI; rw [hm] at this; exact ⟨this, trivial⟩) st hI).snd
    (fun _ _ hs => hs)

theorem tryCands_first {ctx : Ctx} {op : Op} {js : List Nat} {st st' : St}
    (h : tryCands ctx op js st = (true, st')) :
    ∃ pre j post stj, js = pre ++ j :: post ∧ matchAt ctx op j stj = (true, st') ∧
      tryCands ctx op pre st = (false, stj) := by
  have ho := tryCands_out (ctx := ctx) (op := op) (I := fun _ => True) (S := fun _ _ => True) (N := fun _ => True)
    js (fun _ _ _ _ _ _ => trivial) (fun _ _ _ _ _ _ => ⟨trivial, trivial⟩) st trivial
  rw [h] at ho
  rcases ho with ⟨pre, j, post, sj, s, e1, e2, a2, _, _, a5⟩ | ⟨s, e, _, _⟩
  · cases e2
    exact ⟨pre, j, post, sj, e1, a2, a5⟩
  · cases e

/-- what `matches(i)` does around its engine tests -/
inductive Plan where
  /-- it answers `false` at once (raising a panic marker, if any) -/
  | stop (panic : Option Nat)
  /-- it runs `check_preconditions` (if `pre`) and then `match_at` at each start of `cands` in turn -/
  | run (pre : Bool) (cands : List Nat)

/-- the positions after a newline in `[i, len)` that are inside the input -/
abbrev lineStarts (ctx : Ctx) (i : Nat) : List Nat :=
  ((rangeFrom i ctx.len).filter (fun k => ctx.nlAt k)).map (· + 1) |>.filter (fun k => decide (k < ctx.len))

def planOf (ctx : Ctx) (pr : Prog) (i : Nat) : Plan :=
  if pr.hasBol then
    if !ctx.multiLine then
      if i != 0 then .stop none else .run true [i]
    else
      .run false (i :: lineStarts ctx i)
  else
    if i > ctx.len then .stop (some panicMinLenUnderflow) else
    if ctx.len - i < pr.minLen then .stop none else
    match pr.prefix_ with
    | some pre =>
      if pre.length > ctx.len + 1 then .stop (some panicPrefixUnderflow) else
      .run false ((rangeFrom i (ctx.len + 1 - pre.length)).filter
        (fun j => prefixMatch ctx pre (ctx.input.drop j)))
    | none =>
      match pr.icc with
      | some rs =>
        .run false ((rangeFrom i ctx.len).filter (fun j =>
          match ctx.input[j]? with | some c => clsContains rs c | none => false))
      | none => .run true (rangeFrom i (ctx.len + 1))

def Plan.exec (ctx : Ctx) (pr : Prog) (i : Nat) (st : St) : Plan → Bool × St
  | .stop none => (false, st)
  | .stop (some c) => (false, st.setPanic c)
  | .run false js => tryCands ctx pr.op js st
  | .run true js =>
    match checkPre ctx i pr.pres st with
    | (false, st') => (false, st')
    | (true, st') => tryCands ctx pr.op js st'

theorem matchesFrom_eq_exec (ctx : Ctx) (pr : Prog) (i : Nat) (st0 : St) :
    matchesFrom ctx pr i st0 = (planOf ctx pr i).exec ctx pr i { st0 with cap := {} } := by
  unfold matchesFrom planOf
  by_cases hbol : pr.hasBol = true
  · rw [if_pos hbol, if_pos hbol]
    by_cases hml : (!ctx.multiLine) = true
    · rw [if_pos hml, if_pos hml]
      by_cases h0 : (i != 0) = true
      · rw [if_pos h0, if_pos h0, Plan.exec]
      · rw [if_neg h0, if_neg h0]
        simp only [Plan.exec, tryCands_single]
        rfl
    · rw [if_neg hml, if_neg hml, Plan.exec]
  · rw [if_neg hbol, if_neg hbol]
    by_cases hgt : i > ctx.len
    · rw [if_pos hgt, if_pos hgt, Plan.exec]
    · rw [if_neg hgt, if_neg hgt]
      by_cases hcut : ctx.len - i < pr.minLen
      · rw [if_pos hcut, if_pos hcut, Plan.exec]
      · rw [if_neg hcut, if_neg hcut]
        cases pr.prefix_ with
        | some pre =>
          simp only
          by_cases hl : pre.length > ctx.len + 1
          · simp only [hl, if_true, Plan.exec]
          · simp only [hl, if_false, Plan.exec]
        | none =>
          cases pr.icc with
          | some rs => rfl
          | none => rfl

/-- the branches of `planOf`, each with the conditions under which it is taken -/
inductive PlanCase (ctx : Ctx) (pr : Prog) (i : Nat) : Plan → Prop
  | bolOff : pr.hasBol = true → ctx.multiLine = false → i ≠ 0 → PlanCase ctx pr i (.stop none)
  | bolOne : pr.hasBol = true → ctx.multiLine = false → i = 0 → PlanCase ctx pr i (.run true [i])
  | bolLines : pr.hasBol = true → ctx.multiLine = true → PlanCase ctx pr i (.run false (i :: lineStarts ctx i))
  | beyond : ¬ pr.hasBol = true → i > ctx.len → PlanCase ctx pr i (.stop (some panicMinLenUnderflow))
  | short : ¬ pr.hasBol = true → ctx.len - i < pr.minLen → PlanCase ctx pr i (.stop none)
  | prefixLong (pre : List Nat) : ¬ pr.hasBol = true → ¬ ctx.len - i < pr.minLen → pr.prefix_ = some pre →
      pre.length > ctx.len + 1 → PlanCase ctx pr i (.stop (some panicPrefixUnderflow))
  | prefix_ (pre : List Nat) : ¬ pr.hasBol = true → pr.prefix_ = some pre →
      PlanCase ctx pr i (.run false ((rangeFrom i (ctx.len + 1 - pre.length)).filter
        (fun j => prefixMatch ctx pre (ctx.input.drop j))))
  | icc (rs : Ranges) : ¬ pr.hasBol = true → pr.icc = some rs →
      PlanCase ctx pr i (.run false ((rangeFrom i ctx.len).filter (fun j =>
        match ctx.input[j]? with | some c => clsContains rs c | none => false)))
  | all : ¬ pr.hasBol = true → PlanCase ctx pr i (.run true (rangeFrom i (ctx.len + 1)))

theorem planOf_case (ctx : Ctx) (pr : Prog) (i : Nat) : PlanCase ctx pr i (planOf ctx pr i) := by
  unfold planOf
  by_cases hbol : pr.hasBol = true
  · rw [if_pos hbol]
    by_cases hml : (!ctx.multiLine) = true
    · rw [if_pos hml]
      have hml' : ctx.multiLine = false := by simpa using hml
      by_cases h0 : (i != 0) = true
      · rw [if_pos h0]
        exact .bolOff hbol hml' (by simpa using h0)
      · rw [if_neg h0]
        exact .bolOne hbol hml' (by simpa using h0)
    · rw [if_neg hml]
      exact .bolLines hbol (by simpa using hml)
  · rw [if_neg hbol]
    by_cases hgt : i > ctx.len
    · rw [if_pos hgt]
      exact .beyond hbol hgt
    · rw [if_neg hgt]
      by_cases hcut : ctx.len - i < pr.minLen
      · rw [if_pos hcut]
        exact .short hbol hcut
      · rw [if_neg hcut]
        split
        · rename_i pre hpre
          split
          · rename_i hlong
            exact .prefixLong pre hbol hcut hpre hlong
          · exact .prefix_ pre hbol hpre
        · split
          · rename_i rs hicc
            exact .icc rs hbol hicc
          · exact .all hbol

theorem planOf_mem {ctx : Ctx} {pr : Prog} {i : Nat} (hi : i ≤ ctx.len) {b : Bool} {js : List Nat}
    (h : planOf ctx pr i = .run b js) {j : Nat} (hj : j ∈ js) : i ≤ j ∧ j ≤ ctx.len := by
  have hc := planOf_case ctx pr i
  rw [h] at hc
  cases hc with
  | bolOne =>
    rw [List.mem_singleton.1 hj]
    exact ⟨Nat.le_refl _, hi⟩
  | bolLines =>
    simp only [List.mem_cons, List.mem_filter, List.mem_map, decide_eq_true_eq] at hj
    rcases hj with rfl | ⟨⟨k, ⟨hk, _⟩, rfl⟩, hlt⟩
    · exact ⟨Nat.le_refl _, hi⟩
    · have := mem_rangeFrom_iff.1 hk
      omega
  | prefix_ pre =>
    have := mem_rangeFrom_iff.1 (List.mem_filter.1 hj).1
    omega
  | icc rs =>
    have := mem_rangeFrom_iff.1 (List.mem_filter.1 hj).1
    omega
  | all =>
    have := mem_rangeFrom_iff.1 hj
    omega

theorem planOf_sorted {ctx : Ctx} {pr : Prog} {i : Nat} {b : Bool} {js : List Nat}
    (h : planOf ctx pr i = .run b js) : js.Pairwise (· < ·) := by
  have hc := planOf_case ctx pr i
  rw [h] at hc
  cases hc with
  | bolOne => exact List.pairwise_singleton _ _
  | bolLines =>
    rw [List.pairwise_cons]
    refine ⟨?_, ?_⟩
    · intro a ha
      simp only [List.mem_filter, List.mem_map, decide_eq_true_eq] at ha
      obtain ⟨⟨k, ⟨hk, _⟩, rfl⟩, _⟩ := ha
      have := mem_rangeFrom_iff.1 hk
      omega
    · apply List.Pairwise.filter
      apply List.Pairwise.map _ _ (List.Pairwise.filter _ (rangeFrom_pairwise i ctx.len))
      intro a b hab
      exact Nat.add_lt_add_right hab 1
  | prefix_ pre => exact List.Pairwise.filter _ (rangeFrom_pairwise _ _)
  | icc rs => exact List.Pairwise.filter _ (rangeFrom_pairwise _ _)
  | all => exact rangeFrom_pairwise _ _

theorem planOf_stop_code {ctx : Ctx} {pr : Prog} {i c : Nat} (h : planOf ctx pr i = .stop (some c)) :
    c = panicMinLenUnderflow ∨ c = panicPrefixUnderflow := by
  have hc := planOf_case ctx pr i
  rw [h] at hc
  cases hc with
  | beyond => exact .inl rfl
  | prefixLong => exact .inr rfl

/-- `hpre` is what `ReProgram::new` guarantees -/
theorem planOf_no_panic {ctx : Ctx} {pr : Prog} {i : Nat} (hi : i ≤ ctx.len) (hlen : ctx.len < usizeMax)
    (hpre : ∀ pre, pr.prefix_ = some pre → pre.length ≤ pr.minLen ∨ pr.minLen = usizeMax) (c : Nat) :
    planOf ctx pr i ≠ .stop (some c) := by
  intro h
  have hc := planOf_case ctx pr i
  rw [h] at hc
  cases hc with
  | beyond _ hgt => omega
  | prefixLong pre _ hcut hpeq hlong =>
    rcases hpre pre hpeq with hp | hp
    · omega
    · omega

/-- what the shortcuts of `matches` rely on, for a predicate `Has j` ("a match starts at `j`"): the
    minimum length, the literal prefix, the initial character class and the start anchor recorded in
    the program are necessary conditions for `Has` -/
structure Shortcuts (ctx : Ctx) (pr : Prog) (Has : Nat → Prop) : Prop where
  minLen : ∀ j, j ≤ ctx.len → Has j → j + pr.minLen ≤ ctx.len
  prefix_ : ∀ cs, pr.prefix_ = some cs → ∀ j, j ≤ ctx.len → Has j →
    j + cs.length ≤ ctx.len ∧ prefixMatch ctx cs (ctx.input.drop j) = true
  icc : ∀ rs, pr.icc = some rs → ∀ j, j ≤ ctx.len → Has j →
    ∃ c, ctx.input[j]? = some c ∧ clsContains rs c = true
  bol : pr.hasBol = true → ∀ j, j ≤ ctx.len → Has j →
    j = 0 ∨ (ctx.multiLine = true ∧ ctx.input[j - 1]? = some 10 ∧ j < ctx.len)

theorem Shortcuts.mono {ctx : Ctx} {pr : Prog} {Has Has' : Nat → Prop} (F : Shortcuts ctx pr Has)
    (h : ∀ j, j ≤ ctx.len → Has' j → Has j) : Shortcuts ctx pr Has' where
  minLen j hj hm := F.minLen j hj (h j hj hm)
  prefix_ cs hcs j hj hm := F.prefix_ cs hcs j hj (h j hj hm)
  icc rs hrs j hj hm := F.icc rs hrs j hj (h j hj hm)
  bol hb j hj hm := F.bol hb j hj (h j hj hm)

theorem planOf_stop {ctx : Ctx} {pr : Prog} {Has : Nat → Prop} (F : Shortcuts ctx pr Has) {i : Nat}
    {c : Option Nat} (h : planOf ctx pr i = .stop c) (j : Nat) (hij : i ≤ j) (hjl : j ≤ ctx.len) : ¬ Has j := by
  intro hm
  have hc := planOf_case ctx pr i
  rw [h] at hc
  cases hc with
  | bolOff hbol hml hi0 =>
    rcases F.bol hbol j hjl hm with h0 | h0
    · omega
    · rw [h0.1] at hml
      cases hml
  | beyond _ hgt => omega
  | short _ hcut =>
    have := F.minLen j hjl hm
    omega
  | prefixLong pre _ _ hpeq hlong =>
    have := (F.prefix_ pre hpeq j hjl hm).1
    omega

theorem planOf_cover {ctx : Ctx} {pr : Prog} {Has : Nat → Prop} (F : Shortcuts ctx pr Has) {i : Nat}
    {b : Bool} {js : List Nat} (h : planOf ctx pr i = .run b js) (j : Nat) (hij : i ≤ j) (hjl : j ≤ ctx.len)
    (hm : Has j) : j ∈ js := by
  have hc := planOf_case ctx pr i
  rw [h] at hc
  cases hc with
  | bolOne hbol hml hi0 =>
    rcases F.bol hbol j hjl hm with h0 | h0
    · rw [List.mem_singleton]
      omega
    · rw [h0.1] at hml
      cases hml
  | bolLines hbol =>
    by_cases hji : j = i
    · subst hji; exact List.mem_cons_self
    · apply List.mem_cons_of_mem
      rcases F.bol hbol j hjl hm with h0 | ⟨_, hnl, hlt⟩
      · omega
      · simp only [List.mem_filter, List.mem_map, decide_eq_true_eq]
        refine ⟨⟨j - 1, ⟨?_, ?_⟩, by omega⟩, hlt⟩
        · rw [mem_rangeFrom_iff]
          omega
        · simp only [Ctx.nlAt, hnl, beq_self_eq_true]
  | prefix_ pre _ hpeq =>
    obtain ⟨h1, h2⟩ := F.prefix_ pre hpeq j hjl hm
    rw [List.mem_filter, mem_rangeFrom_iff]
    exact ⟨⟨hij, by omega⟩, h2⟩
  | icc rs _ hicc =>
    obtain ⟨c, h1, h2⟩ := F.icc rs hicc j hjl hm
    rw [List.mem_filter, mem_rangeFrom_iff]
    refine ⟨⟨hij, (List.getElem?_eq_some_iff.1 h1).1⟩, ?_⟩
    rw [h1]
    exact h2
  | all =>
    rw [mem_rangeFrom_iff]
    omega

theorem matchesFrom_keeps {I : St → Prop} {ctx : Ctx} {pr : Prog} {i : Nat} (hi : i ≤ ctx.len)
    (hcap : ∀ st, I st → I { st with cap := {} })
    (hstop : ∀ c, planOf ctx pr i = .stop (some c) → ∀ st, I st → I (st.setPanic c))
    (hM : ∀ j, i ≤ j → j ≤ ctx.len → ∀ st, I st → I (matchAt ctx pr.op j st).2)
    (hP : ∀ q ∈ pr.pres, ∀ p st, I st → I (preHolds ctx q.op p st).2)
    (st0 : St) (h0 : I st0) : I (matchesFrom ctx pr i st0).2 := by
  rw [matchesFrom_eq_exec]
  have h1 := hcap st0 h0
  generalize ({ st0 with cap := {} } : St) = st at h1
  cases hpl : planOf ctx pr i with
  | stop c =>
    cases c with
    | none => exact h1
    | some c => exact hstop c hpl st h1
  | run b js =>
    have hjs : ∀ j ∈ js, ∀ st, I st → I (matchAt ctx pr.op j st).2 :=
      fun j hj => hM j (planOf_mem hi hpl hj).1 (planOf_mem hi hpl hj).2
    cases b with
    | false => exact tryCands_keeps js hjs st h1
    | true =>
      have hc := checkPre_keeps i pr.pres hP st h1
      simp only [Plan.exec]
      split
      · rename_i st' heq
        rw [heq] at hc; exact hc
      · rename_i st' heq
        rw [heq] at hc
        exact tryCands_keeps js hjs st' hc

theorem matchesFrom_cand (ctx : Ctx) (pr : Prog) (i : Nat) (st0 st' : St) (hi : i ≤ ctx.len)
    (h : matchesFrom ctx pr i st0 = (true, st')) :
    ∃ j stj, i ≤ j ∧ j ≤ ctx.len ∧ matchAt ctx pr.op j stj = (true, st') := by
  rw [matchesFrom_eq_exec] at h
  cases hpl : planOf ctx pr i with
  | stop c =>
    rw [hpl] at h
    cases c <;> cases h
  | run b js =>
    rw [hpl] at h
    have key : ∀ st, tryCands ctx pr.op js st = (true, st') →
        ∃ j stj, i ≤ j ∧ j ≤ ctx.len ∧ matchAt ctx pr.op j stj = (true, st') := by
      intro st ht
      obtain ⟨pre, j, post, stj, hc, hm, _⟩ := tryCands_first ht
      have hj := planOf_mem hi hpl (show j ∈ js by rw [hc]; simp)
      exact ⟨j, stj, hj.1, hj.2, hm⟩
    cases b with
    | false => exact key _ h
    | true =>
      simp only [Plan.exec] at h
      split at h
      · cases h
      · exact key _ h

/-- what the search loop needs of one `match_at`.  `Has` is left abstract: "a member of the language starts
    at `j`", or, with back-references, "a path of the semantics with environments starts at `j`" (the
    language `OpR` is too coarse there) -/
def Decides (ctx : Ctx) (op : Op) (Has : Nat → Prop) (I : St → Prop) (S : Nat → St → Prop) (i : Nat) : Prop :=
  ∀ j st, i ≤ j → j ≤ ctx.len → I st →
    (Has j ∧ ∃ st', matchAt ctx op j st = (true, st') ∧ S j st') ∨
    (¬ Has j ∧ ∃ st', matchAt ctx op j st = (false, st') ∧ I st')

/-- the result of a search from `i`: `true` by a successful `match_at(j)` at the least `j ≥ i` with `Has j`,
    leaving `S j`; or `false`, `I`, and no such `j` inside the input -/
def Found (ctx : Ctx) (op : Op) (Has : Nat → Prop) (I : St → Prop) (S : Nat → St → Prop) (i : Nat)
    (r : Bool × St) : Prop :=
  (r.1 = true ∧ ∃ j stj, i ≤ j ∧ j ≤ ctx.len ∧ Has j ∧ (∀ k, i ≤ k → k < j → ¬ Has k) ∧
      matchAt ctx op j stj = r ∧ S j r.2) ∨
  (r.1 = false ∧ I r.2 ∧ ∀ j, i ≤ j → j ≤ ctx.len → ¬ Has j)

section decides
variable {ctx : Ctx} {op : Op} {Has : Nat → Prop} {I : St → Prop} {S : Nat → St → Prop} {i : Nat}

theorem Decides.of_true (hT : Decides ctx op Has I S i) {j : Nat} {st s : St} (hij : i ≤ j) (hjl : j ≤ ctx.len)
    (hI : I st) (hm : matchAt ctx op j st = (true, s)) : Has j ∧ S j s := by
  rcases hT j st hij hjl hI with ⟨h1, st', he, h2⟩ | ⟨_, st', he, _⟩
  · rw [hm] at he; cases he; exact ⟨h1, h2⟩
  · rw [hm] at he; cases he

theorem Decides.of_false (hT : Decides ctx op Has I S i) {j : Nat} {st s : St} (hij : i ≤ j) (hjl : j ≤ ctx.len)
    (hI : I st) (hm : matchAt ctx op j st = (false, s)) : I s ∧ ¬ Has j := by
  rcases hT j st hij hjl hI with ⟨_, st', he, _⟩ | ⟨h1, st', he, h2⟩
  · rw [hm] at he; cases he
  · rw [hm] at he; cases he; exact ⟨h2, h1⟩

theorem Decides.tryOut (hT : Decides ctx op Has I S i) (cands : List Nat)
    (hb : ∀ j ∈ cands, i ≤ j ∧ j ≤ ctx.len) (st : St) (hI : I st) :
    TryOut ctx op I (fun j s => Has j ∧ S j s) (fun j => ¬ Has j) cands st (tryCands ctx op cands st) :=
  tryCands_out cands (fun j hj _ _ hIj hm => hT.of_true (hb j hj).1 (hb j hj).2 hIj hm)
    (fun j hj _ _ hIj hm => hT.of_false (hb j hj).1 (hb j hj).2 hIj hm) st hI

theorem Decides.hit (hT : Decides ctx op Has I S i) (cands : List Nat)
    (hb : ∀ j ∈ cands, i ≤ j ∧ j ≤ ctx.len) (st st' : St) (hI : I st)
    (h : tryCands ctx op cands st = (true, st')) :
    ∃ pre j post, cands = pre ++ j :: post ∧ (∀ k ∈ pre, ¬ Has k) ∧ S j st' := by
  have ho := hT.tryOut cands hb st hI
  rw [h] at ho
  rcases ho with ⟨pre, j, post, sj, s, e1, e2, _, a3, a4, _⟩ | ⟨s, e, _, _⟩
  · cases e2
    exact ⟨pre, j, post, e1, a4, a3.2⟩
  · cases e

theorem Decides.cands (hT : Decides ctx op Has I S i) (hcl : ∀ st, I st → st.panic = none)
    (cands : List Nat) (hsort : cands.Pairwise (· < ·)) (hb : ∀ j ∈ cands, i ≤ j ∧ j ≤ ctx.len)
    (hcover : ∀ j, i ≤ j → j ≤ ctx.len → Has j → j ∈ cands) (st : St) (hI : I st) :
    Found ctx op Has I S i (tryCands ctx op cands st) := by
  rcases hT.tryOut cands hb st hI with ⟨pre, j, post, sj, s, e1, e2, a2, a3, a4, _⟩ | ⟨s, e, a1, a2⟩
  · rw [e2]
    have hj := hb j (by rw [e1]; simp)
    refine .inl ⟨rfl, j, sj, hj.1, hj.2, a3.1, fun k hik hkj hk => ?_, a2, a3.2⟩
    have hmem := hcover k hik (by omega) hk
    rw [e1] at hmem hsort
    rw [List.pairwise_append] at hsort
    obtain ⟨_, hs2, _⟩ := hsort
    rw [List.pairwise_cons] at hs2
    rcases List.mem_append.1 hmem with hmem | hmem
    · exact a4 k hmem hk
    · rcases List.mem_cons.1 hmem with rfl | hmem
      · omega
      · have := hs2.1 k hmem
        omega
  · rw [e]
    exact .inr ⟨rfl, a1, fun j hij hjl hj => a2 (hcl s a1) j (hcover j hij hjl hj) hj⟩

theorem Decides.search {pr : Prog} {Has : Nat → Prop} (hT : Decides ctx pr.op Has I S i)
    (F : Shortcuts ctx pr Has)
    (hpre : ∀ pre, pr.prefix_ = some pre → pre.length ≤ pr.minLen ∨ pr.minLen = usizeMax)
    (hlen : ctx.len < usizeMax) (hi : i ≤ ctx.len) (hcl : ∀ st, I st → st.panic = none)
    (hPI : ∀ q ∈ pr.pres, ∀ p st, I st → I (preHolds ctx q.op p st).2)
    (hPF : ∀ st st', I st → checkPre ctx i pr.pres st = (false, st') → ∀ j, i ≤ j → j ≤ ctx.len → ¬ Has j)
    (st0 : St) (h1 : I { st0 with cap := {} }) : Found ctx pr.op Has I S i (matchesFrom ctx pr i st0) := by
  rw [matchesFrom_eq_exec]
  generalize ({ st0 with cap := {} } : St) = st at h1
  cases hpl : planOf ctx pr i with
  | stop c =>
    cases c with
    | none => exact .inr ⟨rfl, h1, planOf_stop F hpl⟩
    | some c => exact absurd hpl (planOf_no_panic hi hlen hpre c)
  | run b js =>
    have hrun : ∀ st, I st → Found ctx pr.op Has I S i (tryCands ctx pr.op js st) := fun st hI =>
      hT.cands hcl js (planOf_sorted hpl) (fun j hj => planOf_mem hi hpl hj) (planOf_cover F hpl) st hI
    cases b with
    | false => exact hrun st h1
    | true =>
      have hI' := checkPre_keeps i pr.pres hPI st h1
      simp only [Plan.exec]
      cases h : checkPre ctx i pr.pres st with
      | mk b st' =>
        rw [h] at hI'
        cases b with
        | true => exact hrun st' hI'
        | false => exact .inr ⟨rfl, hI', hPF st st' h1 h⟩

theorem Found.fail {r : Bool × St} (h : Found ctx op Has I S i r) (hf : r.1 = false) : I r.2 := by
  rcases h with ⟨ht, _⟩ | ⟨_, hI, _⟩
  · rw [hf] at ht; cases ht
  · exact hI

theorem Found.hit {r : Bool × St} (h : Found ctx op Has I S i r) (ht : r.1 = true) :
    ∃ j stj, i ≤ j ∧ j ≤ ctx.len ∧ Has j ∧ (∀ k, i ≤ k → k < j → ¬ Has k) ∧ matchAt ctx op j stj = r ∧ S j r.2 := by
  rcases h with ⟨_, h⟩ | ⟨hf, _⟩
  · exact h
  · rw [hf] at ht; cases ht

end decides

end Rx
