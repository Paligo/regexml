/-
  Proofs/Clean4SearchLemmas — the fragment of Spec/Enum4 in the search-loop theorems: `Quiet` WITHOUT a bound on
  reluctant minima (Props/C06b), the shapes `add_precondition` records (`preShape4`), and the one fact the search
  layer asks of the fragment, `clean4_treeOK` / `clean4_progOK` (Proofs/ProgOK).  The fragments of Spec/Enum2 and
  Spec/Enum3 take theirs from here.
-/
import RxModel.Proofs.Enum4Lemmas
import RxModel.Proofs.TreePredInst
import RxModel.Proofs.Clean2SearchLemmas
import RxModel.Props.C06b
import RxModel.Proofs.ProgOK
namespace Rx.Clean4L
open Rx Rx.SearchComplete
open Rx.C08 (noEmptyAtoms noEmptyAtomsL clsCanon clsCanonL)

theorem cleanOp4_of_cleanOp2 (env : Env) (cb ml : Bool) (op : Op) (h : cleanOp2 env cb ml op = true) :
    cleanOp4 env cb ml op = true :=
  (clean4_of_clean2 env cb ml).op h

theorem sem_seq_enum4 (env : Env) (ctx : Ctx) (hI : InputOK env ctx) (op : Op)
    (hc : cleanProg4 env ctx.caseBlind ctx.multiLine op = true) (hwf : wfOp op = true)
    (hne : noEmptyAtoms op = true) (hcan : clsCanonB op = true) (p : Nat) (hp : p ≤ ctx.len) (st : St)
    (_ : anySt st) : Step.Seq anySt (sem ctx op p st) (enum4 ctx op p) :=
  (enumerates_clean4 env ctx hI op hc hwf hne (clsCanon_of_B op hcan)).ex p hp st

theorem enum4_iff_OpR (env : Env) (ctx : Ctx) (hI : InputOK env ctx) (op : Op)
    (hc : cleanOp4 env ctx.caseBlind ctx.multiLine op = true) (hwf : wfOp op = true)
    (hne : noEmptyAtoms op = true) (hcan : clsCanonB op = true) (p q : Nat) (hp : p ≤ ctx.len) :
    q ∈ enum4 ctx op p ↔ OpR ctx op p q :=
  ⟨fun h => enum4_sound_op env ctx hI op false [] hc hwf hne (clsCanon_of_B op hcan) hp h,
   fun h => comp4_op env ctx hI op hc hwf hne (clsCanon_of_B op hcan) p q hp h⟩

theorem enumerates4 (env : Env) (ctx : Ctx) (hI : InputOK env ctx) (op : Op)
    (hc : cleanProg4 env ctx.caseBlind ctx.multiLine op = true) (hwf : wfOp op = true)
    (hne : noEmptyAtoms op = true) (hcan : clsCanonB op = true) : Enumerates ctx op (enum4 ctx op) :=
  enumerates_clean4 env ctx hI op hc hwf hne (clsCanon_of_B op hcan)

theorem completeAt_clean4 (env : Env) (ctx : Ctx) (hI : InputOK env ctx) (op : Op)
    (hc : cleanProg4 env ctx.caseBlind ctx.multiLine op = true) (hwf : wfOp op = true)
    (hne : noEmptyAtoms op = true) (hcan : clsCanonB op = true) : CompleteAt ctx op :=
  (enumerates4 env ctx hI op hc hwf hne hcan).completeAt

theorem matchAt_end4 (env : Env) (ctx : Ctx) (hI : InputOK env ctx) (op : Op)
    (hc : cleanProg4 env ctx.caseBlind ctx.multiLine op = true) (hwf : wfOp op = true)
    (hne : noEmptyAtoms op = true) (hcan : clsCanonB op = true) (i : Nat) (hi : i ≤ ctx.len) (st : St)
    (h : (matchAt ctx op i st).1 = true) :
    getParenEnd (matchAt ctx op i st).2 0 = (enum4 ctx op i).head? :=
  (enumerates4 env ctx hI op hc hwf hne hcan).matchAt_end i hi st h

theorem clean4_noBackref' (env : Env) (cb ml : Bool) (op : Op) (h : cleanProg4 env cb ml op = true) :
    hasBackref op = false :=
  noBrP_transp.prog_iff.1 ((clean4_noBackref env cb ml).prog (cleanProg4_iff.1 h))

theorem completeAt_clean4_cs (env : Env) (ctx : Ctx) (hcb : ctx.caseBlind = false)
    (hce : ∀ a x, x ∈ env.closure a → x < cpLimit)
    (hin : ∀ c ∈ ctx.input, c < cpLimit) (hsc : ∀ c ∈ ctx.input, isSurrogate c = false) (op : Op)
    (hc : cleanProg4 env false ctx.multiLine op = true) (hwf : wfOp op = true)
    (hne : noEmptyAtoms op = true) (hcan : clsCanonB op = true) : CompleteAt ctx op :=
  completeAt_clean4 env ctx (.of_caseSensitive hcb hce hin hsc) op (by rw [hcb]; exact hc) hwf hne hcan

end Rx.Clean4L

namespace Rx.SearchComplete
open Rx
open Rx.C08 (noEmptyAtoms noEmptyAtomsL clsCanon clsCanonL)

theorem shape4_of_clean4 (env : Env) (cb ml : Bool) : (cleanP4 env cb ml).Sub shapeP4 :=
  TreePred.impl0 (cleanP4_transp env cb ml).desc shapeP4_transp.gen cleanP4_backref
    (leaf := fun _ _ _ hl _ => by cases hl <;> rfl)
    (rep := fun _ _ _ c _ _ _ _ h => by
      simp only [cleanP4, cleanOp4F, Bool.and_eq_true] at h
      simp only [shapeP4, TreePred.plain, shape4, Bool.and_eq_true]
      exact ⟨h.1.1.1, (shape_of_clean2 env cb ml).op h.1.1.2⟩)
    (unamb := fun _ _ _ _ _ _ h => by
      simp only [cleanP4, cleanOp4F, Bool.and_eq_true] at h
      exact h.1)

theorem shape4_of_cleanAll4 (env : Env) (cb ml : Bool) : (ops : List Op) →
    cleanAll4 env cb ml ops = true → shape4L ops = true :=
  fun _ => (shape4_of_clean4 env cb ml).all

theorem clean4_unambLeaf (env : Env) (cb ml : Bool) :
    ((cleanP4 env cb ml).and neP).Sub (.plain (C06b.unambLeaf · = true) (C06b.unambLeafL · = true)) :=
  TreePred.impl ((cleanP4_transp env cb ml).desc.and neP_transp.desc) C06b.unambLeafP_transp.gen
    (leaf := fun _ _ _ hl _ => by cases hl <;> rfl)
    (rep := fun _ _ _ c _ _ _ _ h => by
      -- the body of a general repeat is in the fragment without `.unamb` bodies other than single characters
      have h1 : cleanOp4F env cb ml _ _ (.rep _ c _ _ _) = true := h.1
      have hne : noEmptyAtoms (.rep _ c _ _ _) = true := h.2
      simp only [cleanOp4F, Bool.and_eq_true] at h1
      simp only [noEmptyAtoms] at hne
      simp only [TreePred.plain, C06b.unambLeaf]
      exact C06b.smallMin_unambLeaf 0 c ((shape2_smallMin 0).op' c ⟨(shape_of_clean2 env cb ml).op h1.1.1.2, hne⟩))
    (unamb := fun _ _ x _ _ _ h => by
      have h1 : cleanOp4F env cb ml _ _ (.unamb x _ _) = true := h.1
      have hne : noEmptyAtoms (.unamb x _ _) = true := h.2
      simp only [cleanOp4F, Bool.and_eq_true] at h1
      simp only [noEmptyAtoms] at hne
      cases x with
      | atom cs => simpa only [TreePred.plain, C06b.unambLeaf, noEmptyAtoms] using hne
      | cls rs => rfl
      | _ => have := h1.1; simp [isAtomOrClass] at this)

theorem clean4_unambLeafAll (env : Env) (cb ml : Bool) : (ops : List Op) →
    cleanAll4 env cb ml ops = true → noEmptyAtomsL ops = true → C06b.unambLeafL ops = true :=
  fun _ h hne => (clean4_unambLeaf env cb ml).all ⟨h, hne⟩

theorem clean4_unambLeaf' (env : Env) (cb ml : Bool) (op : Op) (h : cleanProg4 env cb ml op = true)
    (hne : noEmptyAtoms op = true) : C06b.unambLeaf op = true :=
  C06b.unambLeafP_transp.gen.of_prog
    ((clean4_unambLeaf env cb ml).prog (TreePred.prog_and.2 ⟨cleanProg4_iff.1 h, neP_transp.prog_iff.2 hne⟩))

/-- `quiet_of_wf` without the bound on reluctant minima (Props/C06b) -/
theorem quiet_of_wf_all (ctx : Ctx) (hb : ctx.hasBackrefs = false) (op : Op) (hop : hasBackref op = false)
    (hwf : wfOp op = true) (hs : C06b.unambLeaf op = true) : Quiet ctx op := by
  intro j st hj hst
  have hnp : C05.NoPanic st := .inl hst
  have h1 := C05.sem_no_panic ctx hb op hop j st hnp
  obtain ⟨h2, h3⟩ := C06b.sem_no_diverge_all ctx op hwf hs j hj st (noDivMark_of_clean hst)
  exact ⟨h2.ne_diverge, clean_of (first1_inv_nodiv h1 h2) (first1_inv_nodiv h3 h2)⟩

/-- the shapes `add_precondition` records for a tree of the fragment: those of the fragment without the general
    repeat (`preShape2`), or `x{1,m}` / `x{1,m}?` as a general repeat over one non-empty literal / class -/
def preShape4 (o : Op) : Bool :=
  preShape2 o ||
  (match o with
   | .rep _ c mn mx _ => isAtomOrClass c && noEmptyAtoms c && clsCanonB c && (mn == 1) && decide (1 ≤ mx)
   | _ => false)

theorem preShape4_of_2 {o : Op} (h : preShape2 o = true) : preShape4 o = true := by
  unfold preShape4; rw [h]; rfl

/-- what the hypotheses of the fragment give at every node `addPre` reaches -/
abbrev Node4 (o : Op) : Prop := (wfOp o = true ∧ noEmptyAtoms o = true) ∧ clsCanonB o = true

theorem preShape4_of_preAt {n t : Op} (h : PreAt n t) (hn : Node4 n) : preShape4 t = true := by
  obtain ⟨⟨hwf, hne⟩, hcan⟩ := hn
  rcases preAt_cases h hwf hne with h2 | ⟨id, c, mx, g, rfl, rfl, hac⟩
  · exact preShape4_of_2 h2
  · simp only [wfOp, Bool.and_eq_true, decide_eq_true_eq] at hwf
    simp only [noEmptyAtoms] at hne
    simp only [clsCanonB] at hcan
    simp only [preShape4, hac, hne, hcan, beq_self_eq_true, Bool.and_self, Bool.true_and, Bool.or_eq_true,
      decide_eq_true_eq]
    exact .inr hwf.1.2

theorem addPreSeq_preShape4 (ml : Bool) : (ops : List Op) → shape4L ops = true → wfOps ops = true →
    noEmptyAtomsL ops = true → clsCanonBL ops = true →
    ∀ fp mp, ∀ q ∈ addPreSeq ml ops fp mp, preShape4 q.op = true :=
  fun _ _ hwf hne hcan fp mp _ hq => by
    obtain ⟨n, hn, h⟩ := addPreSeq_node ((down_wfOp.and C08.down_noEmptyAtoms).and Clean2Opt.down_clsCanonB) ml
      ⟨⟨hwf, hne⟩, hcan⟩ fp mp hq
    exact preShape4_of_preAt h hn

theorem clean4_treeOK (env : Env) (ctx : Ctx) (hI : InputOK env ctx) (hbr : ctx.hasBackrefs = false) (o : Op)
    (hc : cleanProg4 env ctx.caseBlind ctx.multiLine o = true) (hwf : wfOp o = true)
    (hne : noEmptyAtoms o = true) (hcan : clsCanonB o = true) : TreeOK ctx o (enum4 ctx o) :=
  ⟨Clean4L.enumerates4 env ctx hI o hc hwf hne hcan,
    quiet_of_wf_all ctx hbr o (Clean4L.clean4_noBackref' env _ _ o hc) hwf (clean4_unambLeaf' env _ _ o hc hne), hwf⟩

theorem clean4_progOK (env : Env) (pat : List Nat) (op : Op) (mp : Nat) (fl : CFlags)
    (lower : Nat → Nat) (input : List Nat) (hI : InputOKFor env fl lower input)
    (hc : cleanProg4 env fl.caseBlind fl.multiLine (mkProgram pat op mp fl false).op = true)
    (hwf : wfOp op = true) (hne : noEmptyAtoms op = true)
    (hcan : clsCanonB (mkProgram pat op mp fl false).op = true) (hlen : input.length < usizeMax) :
    ProgOK (mkProgram pat op mp fl false) lower input
      (enum4 ((mkProgram pat op mp fl false).ctx lower input) (mkProgram pat op mp fl false).op) := by
  obtain ⟨t1, t2, _⟩ := mkProgram_tree pat op mp fl false
  exact .of_mkProgram hwf hne hlen (clean4_treeOK env _ (hI.ctx pat op mp false)
    (MkProgram.hasBackrefs pat op mp fl false) _ (by rw [MkProgram.ctx]; exact hc) (t1.trans hwf) (t2.trans hne) hcan)

/-- the fragment of Spec/Enum2 is inside: its program is its own numbered tree, and `enum4` is `enum2` on it -/
theorem clean2_progOK (env : Env) (pat : List Nat) (op : Op) (mp : Nat) (fl : CFlags)
    (lower : Nat → Nat) (input : List Nat) (hI : InputOKFor env fl lower input)
    (hc : cleanProg2 env fl.caseBlind fl.multiLine op = true) (hwf : wfOp op = true)
    (hne : noEmptyAtoms op = true) (hcan : clsCanonB op = true) (hlen : input.length < usizeMax) :
    ProgOK (mkProgram pat op mp fl false) lower input
      (enum2 ((mkProgram pat op mp fl false).ctx lower input) (mkProgram pat op mp fl false).op) := by
  have hs := shape_of_cleanProg2 env _ _ op hc
  have hop := mkProgram_op_shape2 pat op mp fl false hs
  refine (clean4_progOK env pat op mp fl lower input hI (by rw [hop]; exact cleanProg4_of_prog2 env _ _ op hc) hwf hne
    (by rw [hop]; exact hcan) hlen).congr ?_
  rw [hop]
  exact enum4_eq_enum2 _ op hs

end Rx.SearchComplete
