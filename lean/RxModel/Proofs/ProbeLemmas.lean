/-
  Proofs/ProbeLemmas — the compiler establishes the hypotheses of C06b (termination without a bound on
  reluctant minima): every `.unamb` node of a compiled tree is over an atom or a class (`unambAC`;
  the parser builds none, `optimize` builds them in `seqElem` only), hence — no empty literal —
  `C06b.unambLeaf`; the recorded preconditions terminate from every position.  The probe is the nullability test
  `is_match("")` that `Regex::new` runs on the compiled program (`Prog.nullable`): by `compile_no_diverge` it returns.
-/
import RxModel.Props.C06b
import RxModel.Proofs.CleanSearchLemmas
import RxModel.Proofs.ApiLemmas
import RxModel.Proofs.ParserClosed
import RxModel.Proofs.CompileLemmas
import RxModel.Props.WF
import RxModel.Proofs.NewProg
namespace Rx
open Rx.C08 (noEmptyAtoms noEmptyAtomsL)
open Rx.WF

mutual
/-- every non-backtracking repeat is over an atom or a class -/
def unambAC : Op → Bool
  | .capture _ c => unambAC c
  | .choice bs => unambACL bs
  | .seq ops => unambACL ops
  | .rep _ c _ _ _ => unambAC c
  | .gfixed c _ _ _ => unambAC c
  | .rfixed c _ _ _ => unambAC c
  | .unamb c _ _ => isAtomOrClass c
  | _ => true
termination_by structural o => o
def unambACL : List Op → Bool
  | [] => true
  | o :: os => unambAC o && unambACL os
termination_by structural l => l
end

theorem unambACP_transp : (TreePred.plain (unambAC · = true) (unambACL · = true)).Transp :=
  ⟨Iff.rfl, Iff.rfl, Iff.rfl, Iff.rfl, Iff.rfl, rfl, rfl, Bool.and_eq_true_iff, Bool.and_eq_true_iff⟩

theorem unambAC_makeSequence (a b : Op) (ha : unambAC a = true) (hb : unambAC b = true) :
    unambAC (makeSequence a b) = true := by
  rw [makeSequence_hom (f := unambAC) (fL := unambACL) (fun _ => rfl) rfl (fun _ _ => rfl)
    Bool.and_assoc Bool.true_and Bool.and_true, ha, hb]
  rfl

theorem unambACL_of_mem : ∀ (l : List Op), (∀ b ∈ l, unambAC b = true) → unambACL l = true :=
  list_of_forall rfl fun _ _ hb ht => by rw [unambACL, hb, ht]; rfl

theorem unambAC_closed : ParserClosed (fun o => unambAC o = true) where
  bol := rfl
  eol := rfl
  nothing := rfl
  cls _ := rfl
  backref _ := rfl
  atom _ _ := rfl
  capture _ _ h := by simpa only [unambAC] using h
  choice l h := by simp only [unambAC]; exact unambACL_of_mem l h
  seq a b ha hb := unambAC_makeSequence a b ha hb
  gfixed _ _ _ _ h := by simpa only [unambAC] using h
  rfixed _ _ _ _ h := by simpa only [unambAC] using h
  rep _ _ _ _ h := by simpa only [unambAC] using h

theorem parseExpr_UA {c : PC} {f : Nat} {s s' : PS} {top : Bool} {op : Op}
    (h : parseExpr c f s top = .ok op s') : unambAC op = true := by
  rcases ((parse_closed unambAC_closed c f).1 s top op s' h).1 with h1 | ⟨o, ho, rfl⟩
  · exact h1
  · exact unambAC_makeSequence o .endProgram ho rfl

/-- an `.unamb` node asks that its body BE a literal / class: the relation carries along that `optimize`
    leaves such a body as it is -/
theorem unambAC_optRel : OptRel
    (fun o o' => unambAC o = true → unambAC o' = true ∧ (isAtomOrClass o = true → o' = o))
    (fun l l' => unambACL l = true → unambACL l' = true) where
  refl _ h := ⟨h, fun _ => rfl⟩
  capture g ih h := by
    simp only [unambAC] at h ⊢; exact ⟨(ih h).1, fun hx => by simp [isAtomOrClass] at hx⟩
  choice ih h := by
    simp only [unambAC] at h ⊢; exact ⟨ih h, fun hx => by simp [isAtomOrClass] at hx⟩
  seq ih h := by
    simp only [unambAC] at h ⊢; exact ⟨ih h, fun hx => by simp [isAtomOrClass] at hx⟩
  gfixed _ _ _ ih h := by
    simp only [unambAC] at h ⊢; exact ⟨(ih h).1, fun hx => by simp [isAtomOrClass] at hx⟩
  rfixed _ _ _ ih h := by
    simp only [unambAC] at h ⊢; exact ⟨(ih h).1, fun hx => by simp [isAtomOrClass] at hx⟩
  unamb {c c'} _ _ ih h := by
    simp only [unambAC] at h ⊢
    have hc : unambAC c = true := by cases c <;> first | rfl | (simp [isAtomOrClass] at h)
    rw [(ih hc).2 h]
    exact ⟨h, fun hx => by simp [isAtomOrClass] at hx⟩
  nil h := h
  cons ih ihl h := by simp only [unambACL, Bool.and_eq_true] at h ⊢; exact ⟨(ih h.1).1, ihl h.2⟩
  rep _ _ _ _ _ ih h := by
    simp only [unambAC] at h ⊢; exact ⟨(ih h).1, fun hx => by simp [isAtomOrClass] at hx⟩
  rep01 _ _ _ ih _ h := by
    simp only [unambAC] at h ⊢; exact ⟨(ih h).1, fun hx => by simp [isAtomOrClass] at hx⟩
  seq0 _ := ⟨rfl, fun hx => by simp [isAtomOrClass] at hx⟩
  seq1 o h := by
    simp only [unambAC, unambACL, Bool.and_true] at h; exact ⟨h, fun hx => by simp [isAtomOrClass] at hx⟩
  gfixed0 _ _ _ _ := ⟨rfl, fun hx => by simp [isAtomOrClass] at hx⟩
  gfixedZ _ _ _ _ _ h := by
    simp only [unambAC] at h; exact ⟨h, fun hx => by simp [isAtomOrClass] at hx⟩
  unambRep {o c} _ _ _ _ ih hac h := by
    refine ⟨by simp only [unambAC]; exact hac, fun hx => ?_⟩
    have := (ih h).2 hx
    subst this
    simp [isAtomOrClass] at hx
  unambG {o c} _ _ _ ih hac h := by
    refine ⟨by simp only [unambAC]; exact hac, fun hx => ?_⟩
    have := (ih h).2 hx
    subst this
    simp [isAtomOrClass] at hx
  unambR {o c} _ _ _ ih hac h := by
    refine ⟨by simp only [unambAC]; exact hac, fun hx => ?_⟩
    have := (ih h).2 hx
    subst this
    simp [isAtomOrClass] at hx

theorem unambAC_optimize (env : Env) (fl : CFlags) (op : Op) (h : unambAC op = true) :
    unambAC (optimize env fl op) = true :=
  (optimize_rel unambAC_optRel env fl op h).1

theorem unambACL_optimizeL (env : Env) (fl : CFlags) : ∀ (l : List Op), unambACL l = true →
    unambACL (optimizeL env fl l) = true :=
  optimizeL_rel unambAC_optRel env fl

theorem unambACL_optimizeSeq (env : Env) (fl : CFlags) : ∀ (l : List Op), unambACL l = true →
    unambACL (optimizeSeq env fl l) = true :=
  optimizeSeq_rel unambAC_optRel env fl

theorem unambLeaf_of_AC_both :
    (∀ op, unambAC op = true → noEmptyAtoms op = true → C06b.unambLeaf op = true) ∧
    ∀ l, unambACL l = true → noEmptyAtomsL l = true → C06b.unambLeafL l = true :=
  have h := TreePred.impl (unambACP_transp.desc.and neP_transp.desc) C06b.unambLeafP_transp.gen
    (leaf := fun _ _ _ hl _ => by cases hl <;> rfl)
    (rep := fun _ _ _ _ _ _ _ ih h => ih h)
    (unamb := fun _ _ c _ _ _ h => by
      have hac : isAtomOrClass c = true := h.1
      have hne : noEmptyAtoms c = true := h.2
      cases c <;> first | exact hne | rfl | (simp [isAtomOrClass] at hac))
  ⟨fun op h1 h2 => h.op' op ⟨h1, h2⟩, fun _ h1 h2 => h.all ⟨h1, h2⟩⟩

theorem unambLeaf_of_AC : (op : Op) → unambAC op = true → noEmptyAtoms op = true → C06b.unambLeaf op = true :=
  unambLeaf_of_AC_both.1

theorem unambLeafL_of_AC : (l : List Op) → unambACL l = true → noEmptyAtomsL l = true → C06b.unambLeafL l = true :=
  unambLeaf_of_AC_both.2

theorem unambAC_numRel : NumRel
    (fun o o' => unambAC o' = unambAC o ∧ isAtomOrClass o' = isAtomOrClass o)
    (fun l l' => unambACL l' = unambACL l) where
  refl _ := ⟨rfl, rfl⟩
  capture _ h := ⟨by simp only [unambAC, h.1], rfl⟩
  choice h := ⟨by simp only [unambAC, h], rfl⟩
  seq h := ⟨by simp only [unambAC, h], rfl⟩
  gfixed _ _ _ h := ⟨by simp only [unambAC, h.1], rfl⟩
  rfixed _ _ _ h := ⟨by simp only [unambAC, h.1], rfl⟩
  unamb _ _ h := ⟨by simp only [unambAC, h.2], rfl⟩
  nil := rfl
  cons h hl := by simp only [unambACL, h.1, hl]
  rep _ _ _ _ _ h := ⟨by simp only [unambAC, h.1], rfl⟩

theorem unambAC_numberReps (op : Op) (n : Nat) : unambAC (numberReps op n).1 = unambAC op :=
  (numberReps_rel unambAC_numRel op n).1

theorem unambACL_numberRepsL : (l : List Op) → ∀ n, unambACL (numberRepsL l n).1 = unambACL l :=
  fun l n => numberRepsL_rel unambAC_numRel l n

theorem literal_pres (pat : List Nat) (fl : CFlags) :
    ∀ q ∈ (mkProgram pat (makeSequence (.atom pat) .endProgram) 1 fl false).pres, q.op = .atom pat := by
  intro q hq
  simp [mkProgram, makeSequence, numberReps, numberRepsL, addPre, addPreSeq, numberPres] at hq
  rw [hq]

/-- `is_match` terminates on every program the compiler produces, for every input (fix abfdb8a) -/
theorem compile_no_diverge (env : Env) (fl : CFlags) (pat : List Nat) (pr : Prog)
    (h : compileCore env fl pat true = .ok pr)
    (hns : ∀ op s, parseExpr { pat := pat, fl := fl, env := env } (4 * pat.length + 16) {} true = .ok op s →
              noSat (optimize env fl op) = true ∧ noSat op = true)
    (lower : Nat → Nat) (input : List Nat) : pr.isMatch lower input ≠ .diverge := by
  have hwf : wfOp pr.op = true := (WF.compile_wf env fl pat pr h hns).1
  rcases compileCore_ok h with ⟨_, rfl⟩ | ⟨_, op, s, hp, _, rfl⟩
  · rw [if_pos rfl] at hwf ⊢
    refine C06b.isMatch_no_diverge_pre _ lower input hwf ?_ (fun q hq p st hm => ?_)
    · rw [MkProgram.op]
      simp [makeSequence, numberReps, numberRepsL, C06b.unambLeaf, C06b.unambLeafL]
    · rw [literal_pres pat fl q hq]
      simp only [sem]
      exact (atomGen_pure _ pat).term p hm
  · rw [if_pos rfl] at hwf ⊢
    obtain ⟨_, hns2⟩ := hns op s hp
    have w1 : wfOp op = true := (parse_G _ _ {} true (Nat.le_refl 1) op s hp).1 hns2
    have hwo : wfOp (optimize env fl op) = true := (wm_optimize env fl op w1).1
    have hne : noEmptyAtoms (optimize env fl op) = true :=
      SearchComplete.optimize_NE env fl op ((SearchComplete.parse_NE _ _).1 _ _ _ _ hp)
    have hua : unambAC (optimize env fl op) = true := unambAC_optimize env fl op (parseExpr_UA hp)
    refine C06b.isMatch_no_diverge_all _ lower input hwf ?_
      (ApiL.mkProgram_pres_simple _ _ _ _ _ hwo hne)
    rw [MkProgram.op]
    apply unambLeaf_of_AC
    · rw [unambAC_numberReps]; exact hua
    · rw [ApiL.noEmptyAtoms_numberReps]; exact hne

end Rx
