/-
  Proofs/SatCalc — `Step.Sat` for generators (`GenSat`), for one pull from a generator (`PullOK`), and invariants
  that tolerate the fuel marker (`Tol`).
-/
import RxModel.Proofs.InvCalc
namespace Rx

/-- a generator that, started at a position in `D` from an `I`-state, yields only positions in `D` that are
    `R`-related to the start, exposes only `I`-states and diverges only if `dv` -/
def GenSat (dv : Prop) (D : Nat → Prop) (I : St → Prop) (R : Nat → Nat → Prop) (g : Gen) : Prop :=
  ∀ p st, D p → I st → (g p st).Sat dv I (fun n => D n ∧ R p n)

/-- all that the loops built on `first1` need of their body `g`: what "create the iterator, pull once, drop it"
    leaves when `g` is started at a position in `D` from an `I`-state -/
def PullOK (D : Nat → Prop) (I : St → Prop) (R : Nat → Nat → Prop) (g : Gen) : Prop :=
  ∀ p st, D p → I st → ∀ {o st'}, first1 (g p st) = (o, st') → I st' ∧ ∀ x, o = some x → R p x.1

theorem GenSat.pullOK {dv : Prop} {D : Nat → Prop} {I : St → Prop} {R : Nat → Nat → Prop} {g : Gen}
    (C : GenSat dv D I R g) (hj : dv → I junkSt) : PullOK D I (fun p n => D n ∧ R p n) g :=
  fun p st hp h _ _ heq => (C p st hp h).pull hj heq

/-- the state invariant survives the marker a loop of the model sets when its fuel runs out -/
def Tol (I : St → Prop) : Prop := ∀ st, I st → I (st.setPanic panicDiverge)

end Rx
