/-
  The linear union of Model/CharSet: of canonical lists `unionSorted` makes the canonical list of
  their union (`unionSorted_spec`); a canonical list is determined by its set (`chain_ext`).

  Sets of code points as numbers.  `IsMask m rs`: the canonical list `rs`, read as a set, is the
  number `m` (bit `x` is set iff `x` is a member).  `maskC` computes the mask in one pass over a list
  while testing that the list is canonical; after that, union, complement, disjointness and
  comparison of whole tables are single operations on numerals.  `masksOf` does this for a list of
  named tables, so that one evaluation (`withMasks`) reads every table once and any number of facts
  about the tables are tests on its result.
-/
import RxModel.Proofs.CharSetLemmas
import RxModel.Proofs.TableLemmas
namespace Rx.RangeSet
open Rx Rx.C09 Rx.EnvStdL

def ByStart (l : Ranges) : Prop := l.Pairwise (fun r s => r.1 ≤ s.1)

theorem ByStart.cons_of_perm {x : Nat × Nat} {l xs ys : Ranges} (hp : l.Perm (xs ++ ys))
    (hx : ∀ z ∈ xs, x.1 ≤ z.1) (hy : ∀ z ∈ ys, x.1 ≤ z.1) (hl : ByStart l) : ByStart (x :: l) :=
  List.pairwise_cons.2 ⟨fun z hz => (List.mem_append.1 (hp.mem_iff.1 hz)).elim (hx z) (hy z), hl⟩

theorem mergeF_spec : ∀ (f : Nat) (xs ys : Ranges), xs.length + ys.length < f →
    (mergeF f xs ys).Perm (xs ++ ys) ∧ (ByStart xs → ByStart ys → ByStart (mergeF f xs ys))
  | 0, _, _, h => by omega
  | _ + 1, [], ys, _ => by rw [mergeF]; exact ⟨.refl _, fun _ hy => hy⟩
  | _ + 1, x :: xs, [], _ => by
    rw [mergeF, List.append_nil]
    · exact ⟨.refl _, fun hx _ => hx⟩
    · exact fun h => nomatch h
  | f + 1, x :: xs, y :: ys, h => by
    simp only [List.length_cons] at h
    rw [mergeF]
    split
    · rename_i hxy
      obtain ⟨hp, hs⟩ := mergeF_spec f xs (y :: ys) (by simp only [List.length_cons]; omega)
      refine ⟨hp.cons x, fun hx hy => ?_⟩
      have hx' := List.pairwise_cons.1 hx
      exact .cons_of_perm hp hx'.1
        (List.forall_mem_cons.2 ⟨hxy, fun z hz => Nat.le_trans hxy ((List.pairwise_cons.1 hy).1 z hz)⟩)
        (hs hx'.2 hy)
    · rename_i hxy
      have hyx : y.1 ≤ x.1 := Nat.le_of_not_le hxy
      obtain ⟨hp, hs⟩ := mergeF_spec f (x :: xs) ys (by simp only [List.length_cons]; omega)
      refine ⟨(hp.cons y).trans List.perm_middle.symm, fun hx hy => ?_⟩
      have hy' := List.pairwise_cons.1 hy
      exact .cons_of_perm hp
        (List.forall_mem_cons.2 ⟨hyx, fun z hz => Nat.le_trans hyx ((List.pairwise_cons.1 hx).1 z hz)⟩)
        hy'.1 (hs hx hy'.2)

theorem mergeAll_spec : ∀ (ls : List Ranges),
    (mergeAll ls).Perm ls.flatten ∧ ((∀ t ∈ ls, ByStart t) → ByStart (mergeAll ls))
  | [] => ⟨.refl _, fun _ => List.Pairwise.nil⟩
  | l :: ls => by
    obtain ⟨hp, hs⟩ := mergeF_spec _ l (mergeAll ls) (Nat.lt_succ_self _)
    obtain ⟨ip, is⟩ := mergeAll_spec ls
    exact ⟨hp.trans (ip.append_left l),
      fun h => hs (h l List.mem_cons_self) (is fun t ht => h t (List.mem_cons_of_mem _ ht))⟩

def covers (c : Nat) (r : Nat × Nat) : Bool := decide (r.1 ≤ c) && decide (c < r.2)

theorem clsContains_iff_covers : ∀ (l : Ranges) (c : Nat), clsContains l c = true ↔ ∃ r ∈ l, covers c r = true
  | [], _ => by simp [clsContains]
  | (a, b) :: rs, c => by
    simp only [clsContains, Bool.or_eq_true, clsContains_iff_covers rs c, List.mem_cons, exists_eq_or_imp, covers]

theorem chain_byStart : ∀ (rs : Ranges) (lo : Nat), Chain lo rs →
    ByStart rs ∧ ∀ r ∈ rs, lo ≤ r.1 ∧ r.1 < r.2 ∧ r.2 ≤ cpLimit
  | [], _, _ => ⟨List.Pairwise.nil, fun _ h => (nomatch h)⟩
  | (a, b) :: rs, lo, h => by
    simp only [Chain] at h
    obtain ⟨ih1, ih2⟩ := chain_byStart rs (b + 1) h.2.2.2
    refine ⟨List.pairwise_cons.2 ⟨fun z hz => ?_, ih1⟩, fun r hr => ?_⟩
    · have := (ih2 z hz).1
      simp only
      omega
    · rcases List.mem_cons.1 hr with rfl | hr
      · exact ⟨h.1, h.2.1, h.2.2.1⟩
      · have := ih2 r hr
        omega

theorem chain_count : ∀ (rs : Ranges) (lo : Nat), Chain lo rs → ∀ c,
    rs.countP (covers c) = if clsContains rs c then 1 else 0
  | [], _, _, _ => rfl
  | (a, b) :: rs, lo, h, c => by
    simp only [Chain] at h
    rw [List.countP_cons, chain_count rs (b + 1) h.2.2.2 c, clsContains]
    by_cases hc : covers c (a, b) = true
    · have hlt : c < b + 1 := by simp only [covers, Bool.and_eq_true, decide_eq_true_eq] at hc; omega
      simp only [covers] at hc
      simp only [covers, hc, chain_contains_lt h.2.2.2 hlt, Bool.false_eq_true, if_false, if_true, Bool.true_or]
    · simp only [covers, Bool.not_eq_true] at hc
      simp only [covers, hc, Bool.false_eq_true, if_false, Bool.false_or, Nat.add_zero]

/-- `coalesceGo` carries the range `[a, b)` it is about to emit; the rest is sorted by start, from
    `a` on -/
theorem coalesceGo_spec : ∀ (rs : Ranges) (a b : Nat), a < b → b ≤ cpLimit → (∀ r ∈ rs, a ≤ r.1) → ByStart rs →
    (∀ r ∈ rs, r.1 < r.2 ∧ r.2 ≤ cpLimit) →
    Chain a (coalesceGo (a, b) rs) ∧
    ∀ x, clsContains (coalesceGo (a, b) rs) x = ((decide (a ≤ x) && decide (x < b)) || clsContains rs x)
  | [], a, b, hab, hb, _, _, _ => ⟨⟨Nat.le_refl _, hab, hb, trivial⟩, fun _ => rfl⟩
  | (c, d) :: rs, a, b, hab, hb, hlo, hs, hr => by
    have hs' := List.pairwise_cons.1 hs
    have hcd := hr (c, d) List.mem_cons_self
    have hac := hlo (c, d) List.mem_cons_self
    have hr' : ∀ r ∈ rs, r.1 < r.2 ∧ r.2 ≤ cpLimit := fun r h => hr r (List.mem_cons_of_mem _ h)
    simp only at hcd hac
    rw [coalesceGo]
    split
    · -- `[c, d)` starts inside or right after `[a, b)`: the two are one range
      obtain ⟨i1, i2⟩ := coalesceGo_spec rs a (Nat.max b d) (Nat.lt_of_lt_of_le hab (Nat.le_max_left b d))
        (Nat.max_le.2 ⟨hb, hcd.2⟩) (fun r h => hlo r (List.mem_cons_of_mem _ h)) hs'.2 hr'
      refine ⟨i1, fun x => ?_⟩
      rw [i2 x, clsContains, ← Bool.or_assoc]
      congr 1
      rw [Bool.eq_iff_iff]
      simp only [Bool.and_eq_true, Bool.or_eq_true, decide_eq_true_eq, Nat.max_def]
      split <;> omega
    · obtain ⟨i1, i2⟩ := coalesceGo_spec rs c d hcd.1 hcd.2 hs'.1 hs'.2 hr'
      exact ⟨⟨Nat.le_refl _, hab, hb, i1.mono (by omega)⟩, fun x => by simp only [clsContains, i2 x]⟩

theorem unionSorted_spec (ls : List Ranges) (h : ∀ t ∈ ls, Chain 0 t) :
    Chain 0 (unionSorted ls) ∧ ∀ x, clsContains (unionSorted ls) x = ls.any (clsContains · x) := by
  obtain ⟨hp, hs⟩ := mergeAll_spec ls
  have hs := hs fun t ht => (chain_byStart t 0 (h t ht)).1
  have hr : ∀ r ∈ mergeAll ls, r.1 < r.2 ∧ r.2 ≤ cpLimit := fun r hr => by
    obtain ⟨t, ht, hrt⟩ := List.mem_flatten.1 (hp.mem_iff.1 hr)
    exact ((chain_byStart t 0 (h t ht)).2 r hrt).2
  have hm : ∀ x, clsContains (mergeAll ls) x = ls.any (clsContains · x) := fun x => by
    rw [Bool.eq_iff_iff, clsContains_iff_covers, List.any_eq_true]
    simp only [hp.mem_iff, List.mem_flatten, clsContains_iff_covers]
    exact ⟨fun ⟨r, ⟨t, ht, hrt⟩, hc⟩ => ⟨t, ht, r, hrt, hc⟩, fun ⟨t, ht, r, hrt, hc⟩ => ⟨r, ⟨t, ht, hrt⟩, hc⟩⟩
  have key : Chain 0 (coalesce (mergeAll ls)) ∧
      ∀ x, clsContains (coalesce (mergeAll ls)) x = clsContains (mergeAll ls) x := by
    cases hl : mergeAll ls with
    | nil => exact ⟨trivial, fun _ => rfl⟩
    | cons r rs =>
      obtain ⟨a, b⟩ := r
      rw [hl] at hs hr
      have hab := hr (a, b) List.mem_cons_self
      have hs' := List.pairwise_cons.1 hs
      obtain ⟨i1, i2⟩ := coalesceGo_spec rs a b hab.1 hab.2 hs'.1 hs'.2 fun r h => hr r (List.mem_cons_of_mem _ h)
      exact ⟨i1.mono (Nat.zero_le _), i2⟩
  exact ⟨key.1, fun x => (key.2 x).trans (hm x)⟩

/-- the first range starts at the least member and ends at the least non-member above it -/
theorem chain_ext : ∀ (p q : Ranges) (lp lq : Nat), Chain lp p → Chain lq q →
    (∀ x, clsContains p x = clsContains q x) → p = q
  | [], [], _, _, _, _, _ => rfl
  | [], (a, b) :: q, _, _, _, hq, h => by
    have := h a
    simp only [Chain] at hq
    simp [clsContains, hq.2.1] at this
  | (a, b) :: p, [], _, _, hp, _, h => by
    have := h a
    simp only [Chain] at hp
    simp [clsContains, hp.2.1] at this
  | (a, b) :: p, (c, d) :: q, _, _, hp, hq, h => by
    simp only [Chain] at hp hq
    have hp' : ∀ x, clsContains p x = true → b + 1 ≤ x := fun x hx => Nat.le_of_not_lt fun hlt => by
      rw [chain_contains_lt hp.2.2.2 hlt] at hx; cases hx
    have hq' : ∀ x, clsContains q x = true → d + 1 ≤ x := fun x hx => Nat.le_of_not_lt fun hlt => by
      rw [chain_contains_lt hq.2.2.2 hlt] at hx; cases hx
    have key : ∀ x, (a ≤ x ∧ x < b) ∨ clsContains p x = true ↔ (c ≤ x ∧ x < d) ∨ clsContains q x = true :=
      fun x => by rw [← clsContains_cons, ← clsContains_cons, h x]
    have h1 : c ≤ a := by
      rcases (key a).1 (.inl ⟨Nat.le_refl _, hp.2.1⟩) with h1 | h1
      · exact h1.1
      · have := hq' a h1; omega
    have h2 : a ≤ c := by
      rcases (key c).2 (.inl ⟨Nat.le_refl _, hq.2.1⟩) with h2 | h2
      · exact h2.1
      · have := hp' c h2; omega
    have h3 : ¬ b < d := fun hlt => by
      rcases (key b).2 (.inl ⟨by omega, hlt⟩) with h3 | h3
      · omega
      · have := hp' b h3; omega
    have h4 : ¬ d < b := fun hlt => by
      rcases (key d).1 (.inl ⟨by omega, hlt⟩) with h4 | h4
      · omega
      · have := hq' d h4; omega
    obtain rfl : a = c := Nat.le_antisymm h2 h1
    obtain rfl : b = d := by omega
    rw [chain_ext p q _ _ hp.2.2.2 hq.2.2.2 fun x => by
      rw [Bool.eq_iff_iff]
      constructor
      · intro hx
        rcases (key x).1 (.inr hx) with h5 | h5
        · have := hp' x hx; omega
        · exact h5
      · intro hx
        rcases (key x).2 (.inr hx) with h5 | h5
        · have := hq' x hx; omega
        · exact h5]

def IsMask (m : Nat) (rs : Ranges) : Prop := Chain 0 rs ∧ ∀ x, m.testBit x = clsContains rs x

theorem IsMask.ext {m : Nat} {p q : Ranges} (hp : IsMask m p) (hq : IsMask m q) : p = q :=
  chain_ext p q 0 0 hp.1 hq.1 fun x => by rw [← hp.2, ← hq.2]

theorem IsMask.lt_limit {m : Nat} {rs : Ranges} (h : IsMask m rs) {x : Nat} (hx : m.testBit x = true) :
    x < cpLimit :=
  chain_contains_limit h.1 (h.2 x ▸ hx)

theorem IsMask.count {m : Nat} {rs : Ranges} (h : IsMask m rs) (c : Nat) :
    rs.countP (covers c) = if m.testBit c then 1 else 0 := by
  rw [chain_count rs 0 h.1 c, h.2]

theorem IsMask.compl {m : Nat} {rs : Ranges} (h : IsMask m rs) : IsMask (m ^^^ (2 ^ cpLimit - 1)) (complR rs) := by
  refine ⟨chain_complFrom rs h.1, fun x => ?_⟩
  rw [complR, chain_contains_complFrom rs h.1, Nat.testBit_xor, Nat.testBit_two_pow_sub_one, ← h.2]
  by_cases hx : x < cpLimit
  · simp [hx]
  · have : m.testBit x = false := Bool.eq_false_iff.2 fun hm => hx (h.lt_limit hm)
    simp [hx, this]

/-- the mask of `rs`, united with `acc`, provided `rs` is canonical from `lo` on: one pass
    (`Nat.ble` under `bif`, as in `Tree.find`) -/
def maskC : Nat → Ranges → Nat → Option Nat
  | _, [], acc => some acc
  | lo, (a, b) :: rs, acc =>
    bif Nat.ble lo a && (Nat.blt a b && Nat.ble b cpLimit) then maskC (b + 1) rs (acc ||| (2 ^ (b - a) - 1) <<< a)
    else none

theorem maskC_spec : ∀ (rs : Ranges) (lo acc m : Nat), maskC lo rs acc = some m →
    Chain lo rs ∧ m = acc ||| rangesMask rs
  | [], _, acc, m, h => by
    simp only [maskC, Option.some.injEq] at h
    exact ⟨trivial, by rw [← h, rangesMask, Nat.or_zero]⟩
  | (a, b) :: rs, lo, acc, m, h => by
    rw [maskC] at h
    cases hc : (Nat.ble lo a && (Nat.blt a b && Nat.ble b cpLimit))
    · rw [hc] at h; cases h
    · rw [hc, cond_true] at h
      simp only [Bool.and_eq_true, Nat.ble_eq, Nat.blt_eq] at hc
      obtain ⟨ih1, ih2⟩ := maskC_spec rs (b + 1) _ m h
      exact ⟨⟨hc.1, hc.2.1, hc.2.2, ih1⟩, by rw [ih2, rangesMask, Nat.or_assoc]⟩

theorem isMask_nil : IsMask 0 [] := ⟨trivial, fun x => Nat.zero_testBit x⟩

theorem isMask_rangesMask {rs : Ranges} (h : Chain 0 rs) : IsMask (rangesMask rs) rs :=
  ⟨h, testBit_rangesMask rs⟩

def orL : List Nat → Nat
  | [] => 0
  | m :: ms => m ||| orL ms

theorem testBit_orL : ∀ (ts : List Ranges) (x : Nat),
    (orL (ts.map rangesMask)).testBit x = ts.any (clsContains · x)
  | [], x => Nat.zero_testBit x
  | t :: ts, x => by
    rw [List.map_cons, orL, Nat.testBit_or, testBit_rangesMask, testBit_orL ts x, List.any_cons]

theorem isMask_union {ts : List Ranges} (h : ∀ t ∈ ts, Chain 0 t) :
    IsMask (orL (ts.map rangesMask)) (unionSorted ts) := by
  obtain ⟨h1, h2⟩ := unionSorted_spec ts h
  exact ⟨h1, fun x => by rw [h2, testBit_orL]⟩

/-- the sets `ms` and `acc` are pairwise disjoint, and every code point is in one of them -/
def partM : Nat → List Nat → Bool
  | acc, [] => acc == 2 ^ cpLimit - 1
  | acc, m :: ms => (acc &&& m == 0) && partM (acc ||| m) ms

theorem partM_spec : ∀ (ts : List Ranges) (acc : Nat), (∀ t ∈ ts, Chain 0 t) →
    partM acc (ts.map rangesMask) = true →
    ∀ c, ts.flatten.countP (covers c) + (if acc.testBit c then 1 else 0) = if c < cpLimit then 1 else 0
  | [], acc, _, h, c => by
    simp only [List.map_nil, partM, beq_iff_eq] at h
    simp only [h, Nat.testBit_two_pow_sub_one, List.flatten_nil, List.countP_nil, Nat.zero_add, decide_eq_true_eq]
  | t :: ts, acc, hc, h, c => by
    simp only [List.map_cons, partM, Bool.and_eq_true, beq_iff_eq] at h
    have ht := isMask_rangesMask (hc t List.mem_cons_self)
    have h2 := partM_spec ts _ (fun u hu => hc u (List.mem_cons_of_mem _ hu)) h.2 c
    -- `acc` and the mask of `t` are disjoint, so bit `c` of their disjunction counts the two together
    have h3 := congrArg (·.testBit c) h.1
    simp only [Nat.testBit_and, Nat.zero_testBit] at h3
    rw [Nat.testBit_or] at h2
    rw [List.flatten_cons, List.countP_append, ht.count c, ← h2]
    cases ha : acc.testBit c
    · simp only [Bool.false_or, Bool.false_eq_true, if_false, Nat.add_zero]
      omega
    · rw [ha, Bool.true_and] at h3
      simp only [h3, Bool.or_false, Bool.false_eq_true, if_false, if_true, Nat.zero_add]

theorem partM_merged {acc : Nat} {w : Ranges} (hw : IsMask acc w) {ts : List Ranges} (hts : ∀ t ∈ ts, Chain 0 t)
    (h : partM acc (ts.map rangesMask) = true) :
    ByStart (mergeAll (w :: ts)) ∧ (∀ r ∈ mergeAll (w :: ts), r.1 < r.2 ∧ r.2 ≤ cpLimit) ∧
    ∀ c, (mergeAll (w :: ts)).countP (covers c) = if c < cpLimit then 1 else 0 := by
  have h2 := partM_spec ts acc hts h
  have hc : ∀ t ∈ w :: ts, Chain 0 t := List.forall_mem_cons.2 ⟨hw.1, hts⟩
  obtain ⟨hp, hs⟩ := mergeAll_spec (w :: ts)
  refine ⟨hs fun t ht => (chain_byStart t 0 (hc t ht)).1, fun r hr => ?_, fun c => ?_⟩
  · obtain ⟨t, ht, hrt⟩ := List.mem_flatten.1 (hp.mem_iff.1 hr)
    exact ((chain_byStart t 0 (hc t ht)).2 r hrt).2
  · rw [hp.countP_eq, List.flatten_cons, List.countP_append, hw.count c, Nat.add_comm, h2 c]

/-! `masksOf` is the only function here that reads a table; every test that follows it is arithmetic on
  the numbers it returns.  What it returns is specified by `masks` (`rangesMask` of every table),
  so a test passed by `masksOf T` is a statement about `masks T`, of which `maskAt_masks` and the
  lemmas above speak. -/

/-- the mask of every table, under the table's name; `none` unless every table is canonical -/
def masksOf : List (List Nat × Ranges) → Option (List (List Nat × Nat))
  | [] => some []
  | (n, t) :: T =>
    match maskC 0 t 0 with
    | none => none
    | some m =>
      match masksOf T with
      | none => none
      | some M => some ((n, m) :: M)

def masks (T : List (List Nat × Ranges)) : List (List Nat × Nat) := T.map fun e => (e.1, rangesMask e.2)

theorem masksOf_spec : ∀ (T : List (List Nat × Ranges)) (M : List (List Nat × Nat)), masksOf T = some M →
    (∀ e ∈ T, Chain 0 e.2) ∧ M = masks T
  | [], M, h => by
    simp only [masksOf, Option.some.injEq] at h
    exact ⟨fun _ h => (nomatch h), h.symm⟩
  | (n, t) :: T, M, h => by
    rw [masksOf] at h
    cases hm : maskC 0 t 0 with
    | none => rw [hm] at h; cases h
    | some m =>
      cases hT : masksOf T with
      | none => rw [hm, hT] at h; cases h
      | some M' =>
        rw [hm, hT] at h
        obtain ⟨h1, h2⟩ := maskC_spec t 0 0 m hm
        obtain ⟨i1, i2⟩ := masksOf_spec T M' hT
        rw [Nat.zero_or] at h2
        exact ⟨List.forall_mem_cons.2 ⟨h1, i1⟩, by rw [← Option.some.inj h, h2, i2]; rfl⟩

def tableAt (T : List (List Nat × Ranges)) (k : List Nat) : Ranges := (lookupL T k).getD []
def maskAt (M : List (List Nat × Nat)) (k : List Nat) : Nat := (lookupL M k).getD 0

theorem maskAt_masks (k : List Nat) : ∀ (T : List (List Nat × Ranges)), maskAt (masks T) k = rangesMask (tableAt T k)
  | [] => rfl
  | (n, t) :: T => by
    have ih := maskAt_masks k T
    unfold maskAt tableAt masks at ih ⊢
    rw [List.map_cons, lookupL, lookupL]
    split
    · rfl
    · exact ih

theorem map_maskAt (T : List (List Nat × Ranges)) (ks : List (List Nat)) :
    ks.map (maskAt (masks T)) = (ks.map (tableAt T)).map rangesMask := by
  rw [List.map_map]
  exact List.map_congr_left fun k _ => maskAt_masks k T

theorem masks_snd (T : List (List Nat × Ranges)) : (masks T).map (·.2) = (T.map (·.2)).map rangesMask := by
  rw [masks, List.map_map, List.map_map]
  rfl

theorem chain_tableAt {T : List (List Nat × Ranges)} (hT : ∀ e ∈ T, Chain 0 e.2) (k : List Nat) :
    Chain 0 (tableAt T k) := by
  unfold tableAt
  cases h : lookupL T k with
  | none => trivial
  | some t => exact hT _ (lookupL_mem T k t h)

theorem isMask_at {T : List (List Nat × Ranges)} (hT : ∀ e ∈ T, Chain 0 e.2) (k : List Nat) :
    IsMask (maskAt (masks T) k) (tableAt T k) :=
  maskAt_masks k T ▸ isMask_rangesMask (chain_tableAt hT k)

theorem chain_map_tableAt {T : List (List Nat × Ranges)} (hT : ∀ e ∈ T, Chain 0 e.2) (ks : List (List Nat)) :
    ∀ t ∈ ks.map (tableAt T), Chain 0 t := fun t ht => by
  obtain ⟨k, -, rfl⟩ := List.mem_map.1 ht
  exact chain_tableAt hT k

theorem isMask_unionAt {T : List (List Nat × Ranges)} (hT : ∀ e ∈ T, Chain 0 e.2) (ks : List (List Nat)) :
    IsMask (orL (ks.map (maskAt (masks T)))) (unionSorted (ks.map (tableAt T))) :=
  map_maskAt T ks ▸ isMask_union (chain_map_tableAt hT ks)

theorem isMask_compl_unionAt {T : List (List Nat × Ranges)} (hT : ∀ e ∈ T, Chain 0 e.2) (ks : List (List Nat)) :
    IsMask (orL (0 :: ks.map (maskAt (masks T))) ^^^ (2 ^ cpLimit - 1))
      (complR (unionSorted ([] :: ks.map (tableAt T)))) := by
  rw [map_maskAt]
  exact (isMask_union (ts := [] :: ks.map (tableAt T))
    (List.forall_mem_cons.2 ⟨trivial, chain_map_tableAt hT ks⟩)).compl

def withMasks (T U : List (List Nat × Ranges)) (F : List (List Nat × Nat) → List (List Nat × Nat) → Bool) : Bool :=
  match masksOf T, masksOf U with
  | some G, some H => F G H
  | _, _ => false

theorem withMasks_spec {T U : List (List Nat × Ranges)} {F : List (List Nat × Nat) → List (List Nat × Nat) → Bool}
    (h : withMasks T U F = true) :
    (∀ e ∈ T, Chain 0 e.2) ∧ (∀ e ∈ U, Chain 0 e.2) ∧ F (masks T) (masks U) = true := by
  unfold withMasks at h
  split at h
  · rename_i G H hG hH
    obtain ⟨h1, rfl⟩ := masksOf_spec T G hG
    obtain ⟨h2, rfl⟩ := masksOf_spec U H hH
    exact ⟨h1, h2, h⟩
  · cases h

end Rx.RangeSet
