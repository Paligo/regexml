/-
  Proofs/ApiContract — the contract between the search of a fragment and the four API functions, parametric in the
  head of the priority enumeration of ends (`HeadFn.hd`) and in a position-dependent state invariant `I pos st`
  (`True` for a matcher that is correct from every clean state; the memo fragment needs `I := HRfrom`).  At the end,
  for the nullability gate of the callers: `Clean2Api.inputOKFor_nil`, `ApiComplete.GoodInput.nil`.
-/
import RxModel.Proofs.FirstHit
import RxModel.Spec.Preds
import RxModel.Spec.InputPreds
namespace Rx.ApiGeneric
open Rx Rx.SearchComplete
open Rx.ApiComplete (firstFrom hasCapNode)

/-- the head of the priority enumeration of ends, as a parameter -/
class HeadFn where
  hd : Ctx → Op → Nat → Option Nat

variable [HeadFn]

-- lemmas that do not mention the head take the instance argument all the same
set_option linter.unusedSectionVars false


/-- the least start `≥ pos` (inside the input) from which the priority enumeration is
    non-empty (its head is defined), paired with that head -/
def firstSpan (ctx : Ctx) (op : Op) (pos : Nat) : Option (Nat × Nat) :=
  firstFrom (fun j => HeadFn.hd ctx op j) (ctx.len + 1 - pos) pos

/-- search from `pos`, then from the end of each span (the shape of `C04.spansOf`, without states) -/
def spansFrom (ctx : Ctx) (op : Op) : (fuel : Nat) → (pos : Nat) → List (Nat × Nat)
  | 0, _ => []
  | f+1, pos =>
    if pos < ctx.len then
      match firstSpan ctx op pos with
      | some (a, b) => (a, b) :: spansFrom ctx op f b
      | none => []
    else []

/-- what holds of the state in which a span was found -/
structure PostMatch (pr : Prog) (input : List Nat) (st : St) (j n : Nat) : Prop where
  clean : st.panic = none
  start0 : getParenStart st 0 = some j
  end0 : getParenEnd st 0 = some n
  lt : j < n
  le : n ≤ input.length
  pc : 1 ≤ st.cap.parenCount
  pc1 : hasCapNode pr.op = false → st.cap.parenCount = 1

/-- one search of a non-nullable program from a clean state satisfying the invariant for the search
    position: succeeds exactly when `firstSpan` is defined, reports that span, re-establishes the invariant
    for the END of the span (`step`); at every start the head is a member of the language, and there is one
    whenever the language has a member from there (`sem`) -/
structure FindOKI (I : Nat → St → Prop) (ctx : Ctx) (pr : Prog) : Prop where
  fresh : ∀ pos, I pos {}
  step : ∀ pos st, pos ≤ ctx.len → st.panic = none → I pos st →
    (∃ st' j n, matchesFrom ctx pr pos st = (true, st') ∧ firstSpan ctx pr.op pos = some (j, n) ∧ pos ≤ j ∧
        PostMatch pr ctx.input st' j n ∧ I n st') ∨
    (∃ st', matchesFrom ctx pr pos st = (false, st') ∧ st'.panic = none ∧ firstSpan ctx pr.op pos = none)
  sem : ∀ j, j ≤ ctx.len →
    (∀ n, HeadFn.hd ctx pr.op j = some n → OpR ctx pr.op j n) ∧
    (HeadFn.hd ctx pr.op j = none → ∀ q, ¬ OpR ctx pr.op j q)

/-- the matcher is correct from EVERY clean state -/
def FindOK (ctx : Ctx) (pr : Prog) : Prop := FindOKI (fun _ _ => True) ctx pr

end Rx.ApiGeneric

/-! ## the empty input is good when some input is (the nullability gate is decided on it) -/

namespace Rx.Clean2Api
open Rx Rx.SearchComplete

theorem inputOKFor_nil {env : Env} {fl : CFlags} {lower : Nat → Nat} {input : List Nat}
    (h : InputOKFor env fl lower input) : InputOKFor env fl lower [] :=
  ⟨h.hcase, h.hce, fun c hc => (by cases hc), fun c hc => (by cases hc)⟩

end Rx.Clean2Api

namespace Rx.ApiComplete
open Rx Rx.SearchComplete

theorem GoodInput.nil {env : Env} {fl : Flags} {input : List Nat} (G : GoodInput env fl input) :
    GoodInput env fl [] :=
  ⟨Clean2Api.inputOKFor_nil G.ok, by decide⟩

end Rx.ApiComplete
