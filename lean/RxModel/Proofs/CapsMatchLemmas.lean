/-
  Proofs/CapsMatchLemmas — one `match_at` with the capture state.  `matchAt_of_exact`: from "the iterator yields
  exactly the list `l` of (end, environment) pairs" (`Step.SeqT`, for any representation relation) to the case split
  of `match_at`; `CapsOK.matchAt_cases`: its instance for a program whose captures and back-references lie on the
  spine and whose other nodes are exact leaves.  Last, what the examples of the Props files share: the environment
  `bareEnv` they compile in, and `matchAt_true_eq`.
-/
import RxModel.Spec.PathCaps2
import RxModel.Proofs.PathCaps3Lemmas
import RxModel.Props.C02
namespace Rx
open Rx.C08 (noEmptyAtoms noEmptyAtomsL clsCanon clsCanonL)

theorem captureWrite_pc (ctx : Ctx) (g p n : Nat) (st : St) :
    (captureWrite ctx g p n st).cap.parenCount = if g ≥ st.cap.parenCount then g + 1 else st.cap.parenCount := by
  unfold captureWrite
  simp only
  split <;> (simp only [Cap.setStart, Cap.setEnd]; split <;> rfl)

theorem captureWrite_pc_le (ctx : Ctx) (g p n : Nat) (st : St) :
    st.cap.parenCount ≤ (captureWrite ctx g p n st).cap.parenCount ∧
    g < (captureWrite ctx g p n st).cap.parenCount := by
  rw [captureWrite_pc]
  split
  · rename_i h; exact ⟨Nat.le_succ_of_le h, Nat.lt_succ_self g⟩
  · rename_i h; exact ⟨Nat.le_refl _, Nat.lt_of_not_le h⟩

/-- `ReprOff` (Spec/PathCaps) with what `get_paren` needs besides the arrays: it answers `None` for
    `g ≥ parenCount` -/
structure ReprP (ctx : Ctx) (fut : List Nat) (st : St) (e : CEnv) : Prop where
  repr : ReprOff ctx fut st e
  pc : ∀ k, 1 ≤ k → k ∉ fut → (e k).isSome = true → k < st.cap.parenCount
  pc0 : 1 ≤ st.cap.parenCount

namespace ReprP
variable {ctx : Ctx} {T : List Nat} {st : St} {e : CEnv}

theorem mono {T' : List Nat} (h : ReprP ctx T st e) (hT : ∀ k, k ∈ T → k ∈ T') : ReprP ctx T' st e :=
  ⟨h.repr.mono hT, fun k hk hn hs => h.pc k hk (fun hm => hn (hT k hm)) hs, h.pc0⟩

theorem clear {lo pos : Nat} (h : ReprP ctx T st e) (he : EnvIn e lo pos) :
    ReprP ctx T (clearBeyond st pos) e :=
  ⟨h.repr.clear he, h.pc, h.pc0⟩

theorem setDiv (h : ReprP ctx T st e) : ReprP ctx T (st.setPanic panicDiverge) e := by
  refine ⟨h.repr.setDiv, ?_, ?_⟩
  · rw [setPanic_cap]; exact h.pc
  · rw [setPanic_cap]; exact h.pc0

theorem restore {st' : St} (h : ReprP ctx T st e) (h' : ReprP ctx T st' e) :
    ReprP ctx T { st' with cap := st.cap } e :=
  ⟨h.repr.restore h'.repr, h.pc, h.pc0⟩

theorem setEnd0 (h : ReprP ctx T st e) (p : Nat) : ReprP ctx T { st with cap := st.cap.setEnd 0 p } e :=
  ⟨h.repr.setEnd0 p, h.pc, h.pc0⟩

theorem capturePre (h : ReprP ctx T st e) (g p : Nat) (hg : g ∈ T) (hgm : g < ctx.maxParens) :
    ReprP ctx T (captureEntry ctx g p st) e := by
  refine ⟨h.repr.capturePre g p hg hgm, ?_, ?_⟩
  · rw [captureEntry_cap]; exact h.pc
  · rw [captureEntry_cap]; exact h.pc0

theorem captureWrite {e1 : CEnv} (g p n : Nat) (hg1 : g < ctx.maxParens)
    (h : ReprP ctx (g :: T) st e1) : ReprP ctx T (Rx.captureWrite ctx g p n st) (e1.set g p n) := by
  have hpc := captureWrite_pc_le ctx g p n st
  refine ⟨h.repr.captureWrite g p n hg1, fun k hk hn hs => ?_, Nat.le_trans h.pc0 hpc.1⟩
  by_cases hkg : k = g
  · subst hkg; exact hpc.2
  · rw [CEnv.set_other _ _ _ _ _ hkg] at hs
    exact Nat.lt_of_lt_of_le (h.pc k hk (by simp [hkg, hn]) hs) hpc.1

theorem unset {e1 : CEnv} {g a b : Nat} (h : ReprP ctx T st (e1.set g a b)) : ReprP ctx (g :: T) st e1 := by
  refine ⟨h.repr.unset, fun k hk hn hs => ?_, h.pc0⟩
  have hkg : k ≠ g := fun hc => hn (by simp [hc])
  refine h.pc k hk (fun hm => hn (List.mem_cons_of_mem _ hm)) ?_
  rw [CEnv.set_other _ _ _ _ _ hkg]; exact hs

theorem setHist (h : ReprP ctx T st e) (hs : List (Nat × Nat)) : ReprP ctx T { st with hist := hs } e :=
  ⟨h.repr.setHist hs, h.pc, h.pc0⟩

end ReprP

theorem writesFrom_reprP (ctx : Ctx) (T : List Nat) (e : CEnv) (lo p0 : Nat) (he : EnvIn e lo p0) :
    WritesFrom p0 (fun st => ReprP ctx T st e) where
  clear := fun _ _ hp h => h.clear (he.mono hp)
  div := fun _ h => h.setDiv
  restore := fun _ _ h h' => h.restore h'
  setEnd0 := fun _ p h => h.setEnd0 p

theorem capRel_reprP (ctx : Ctx) : CapRel ctx (ReprP ctx) where
  off := fun h => h.repr
  mono := fun h hT => h.mono hT
  writes := fun T e lo p0 he => writesFrom_reprP ctx T e lo p0 he
  hist := fun hs h => h.setHist hs
  capturePre := fun g p h hg hgm => h.capturePre g p hg hgm
  captureWrite := fun g p n hg1 h => h.captureWrite g p n hg1
  unset := fun h => h.unset

theorem seqGo_seqCP (ctx : Ctx) (lo : Nat) : (ops : List Op) → ops ≠ [] → straightCapsL ops = true →
    wfOps ops = true → ∀ cl T, scopeOKL ctx.hasBackrefs ctx.maxParens ops cl T = true →
    ∀ p e st, p ≤ ctx.len → lo ≤ p → EnvIn e lo p → Dom cl e → ReprP ctx (capsOfL ops ++ T) st e →
    Step.SeqC (ReprP ctx T) (fun st' => ReprP ctx (capsOfL ops ++ T) st' e) (seqGo (semL ctx ops) p st)
      (enumCSeq ctx ops p e) :=
  straight_streamL (capRel_reprP ctx) lo

theorem seqGo_seqCP3 (env : Env) (ctx : Ctx) (hI : InputOK env ctx) (lo : Nat) : (ops : List Op) → ops ≠ [] →
    straightCaps3L env ctx.caseBlind ctx.multiLine ops = true → wfOps ops = true →
    noEmptyAtomsL ops = true → clsCanonL ops →
    ∀ cl T, scopeOKL ctx.hasBackrefs ctx.maxParens ops cl T = true →
    ∀ p e st, p ≤ ctx.len → lo ≤ p → EnvIn e lo p → Dom cl e → ReprP ctx (capsOfL ops ++ T) st e →
    Step.SeqC (ReprP ctx T) (fun st' => ReprP ctx (capsOfL ops ++ T) st' e) (seqGo (semL ctx ops) p st)
      (enumC3Seq ctx ops p e) :=
  fun ops hn hs hwf hne hcc =>
    Leaves.streamL (capRel_reprP ctx) lo ops hn (leavesOKL_of_straight3L env ctx hI ops hs hwf hne hcc) hwf

theorem matchStart_reprP (ctx : Ctx) (op : Op) (i : Nat) (st : St) (h : CapsClear op st)
    (hnp : st.panic = none ∨ st.panic = some panicDiverge) (T : List Nat) :
    ReprP ctx (capsOf op ++ T) (matchStart ctx i st) CEnv.empty :=
  ⟨matchStart_repr ctx op i st h hnp T, fun k _ _ hs => by simp [CEnv.empty] at hs,
    Nat.le_of_eq (matchStart_pc ctx i st).symm⟩

theorem capsPos_capsOf_both :
    (∀ op, C02.capsPos op = true → ∀ g, g ∈ capsOf op → 1 ≤ g) ∧
    (∀ ops, C02.capsPosL ops = true → ∀ g, g ∈ capsOfL ops → 1 ≤ g) := by
  refine Op.ind_both ?_ ?_ ?_ ?_ ?_ ?_ ?_ ?_ ?_ ?_ ?_ ?_ ?_ ?_ ?_ ?_
  · intro _ _ hg; cases hg
  · intro _ _ hg; cases hg
  · intro _ _ hg; cases hg
  · intro _ _ hg; cases hg
  · intro _ _ _ hg; cases hg
  · intro _ _ _ hg; cases hg
  · intro _ _ _ hg; cases hg
  · intro g' c ih h g hg
    simp only [C02.capsPos, Bool.and_eq_true, decide_eq_true_eq] at h
    simp only [capsOf, List.mem_cons] at hg
    rcases hg with rfl | hg
    · exact h.1
    · exact ih h.2 g hg
  · intro bs ih h g hg
    simp only [C02.capsPos] at h; simp only [capsOf] at hg; exact ih h g hg
  · intro ops ih h g hg
    simp only [C02.capsPos] at h; simp only [capsOf] at hg; exact ih h g hg
  · intro _ c _ _ _ ih h g hg
    simp only [C02.capsPos] at h; simp only [capsOf] at hg; exact ih h g hg
  · intro c _ _ _ ih h g hg
    simp only [C02.capsPos] at h; simp only [capsOf] at hg; exact ih h g hg
  · intro c _ _ _ ih h g hg
    simp only [C02.capsPos] at h; simp only [capsOf] at hg; exact ih h g hg
  · intro c _ _ ih h g hg
    simp only [C02.capsPos] at h; simp only [capsOf] at hg; exact ih h g hg
  · intro _ _ hg; cases hg
  · intro o os ih1 ih2 h g hg
    simp only [C02.capsPosL, Bool.and_eq_true] at h
    simp only [capsOfL, List.mem_append] at hg
    rcases hg with hg | hg
    · exact ih1 h.1 g hg
    · exact ih2 h.2 g hg

theorem capsPos_capsOf (op : Op) (h : C02.capsPos op = true) (g : Nat) (hg : g ∈ capsOf op) : 1 ≤ g :=
  capsPos_capsOf_both.1 op h g hg

structure CapsOK (ctx : Ctx) (op : Op) : Prop where
  leaves : LeavesOK ctx op
  wf : wfOp op = true
  capsPos : C02.capsPos op = true
  scope : scopeOK ctx.hasBackrefs ctx.maxParens op [] [] = true
  nodiv : ∀ j, j ≤ ctx.len → ∀ st, C06.NoDivMark st → C06.NoDivMark (matchAt ctx op j st).2

theorem CapsOK.spine {ctx : Ctx} {op : Op} (H : CapsOK ctx op) : spineCaps op = true :=
  Leaves.spine op H.leaves

/-- the state between two attempts of the candidate loop -/
def Good (op : Op) (st : St) : Prop := CapsClear op st ∧ st.panic = none

def HasP (ctx : Ctx) (op : Op) (j : Nat) : Prop := ∃ n e', PathR ctx op j CEnv.empty n e'

theorem HasP.has {ctx : Ctx} {op : Op} {j : Nat} (h : HasP ctx op j) (hj : j ≤ ctx.len) :
    ∃ q, OpR ctx op j q := by
  obtain ⟨n, e', hp⟩ := h
  exact ⟨n, PathR_OpR ctx op j _ n e' hj hp⟩

theorem matchAt_of_exact {Y R : Nat → St → CEnv → Prop} {N : St → Prop} {ctx : Ctx} {op : Op} {j : Nat} {st : St}
    {l : List (Nat × CEnv)}
    (hseq : Step.SeqT Y R N (sem ctx op j (matchStart ctx j st)) l)
    (hsound : ∀ x ∈ l, PathR ctx op j CEnv.empty x.1 x.2)
    (hcompl : ∀ n e', PathR ctx op j CEnv.empty n e' → (n, e') ∈ l)
    (hs0 : (sem ctx op j (matchStart ctx j st)).Inv (Start0 j))
    (hnd : C06.NoDivMark (matchAt ctx op j st).2)
    (hY : ∀ n s e, Y n s e → NoRealPanic s) (hN : ∀ s, N s → NoRealPanic s) :
    (HasP ctx op j ∧ ∃ s n e', l.head? = some (n, e') ∧ (n, e') ∈ l ∧ Y n s e' ∧
        matchAt ctx op j st = (true, { s with cap := s.cap.setEnd 0 n }) ∧
        getParenStart { s with cap := s.cap.setEnd 0 n } 0 = some j ∧ s.panic = none) ∨
    (¬ HasP ctx op j ∧ ∃ s, N s ∧
        matchAt ctx op j st = (false, { s with cap := { s.cap with parenCount := 0 } }) ∧ s.panic = none) := by
  rw [matchAt_eq] at hnd ⊢
  generalize sem ctx op j (matchStart ctx j st) = s at hnd hseq hs0
  cases hseq with
  | nil st2 hn =>
    refine .inr ⟨fun hp => ?_, st2, hn, rfl, (hN st2 hn).resolve_right hnd⟩
    obtain ⟨n, e', hp⟩ := hp
    cases hcompl n e' hp
  | cons n st2 r e' l' hr _ =>
    refine .inl ⟨⟨n, e', hsound (n, e') List.mem_cons_self⟩, st2, n, e', rfl, List.mem_cons_self, hr, rfl,
      hs0.head, ?_⟩
    exact (hY n st2 e' hr).resolve_right hnd

structure MatchRes3 (ctx : Ctx) (op : Op) (j n : Nat) (e' : CEnv) (st' : St) : Prop where
  path : PathR ctx op j CEnv.empty n e'
  first : (enumC3 ctx op j CEnv.empty).head? = some (n, e')
  start0 : getParenStart st' 0 = some j
  end0 : getParenEnd st' 0 = some n
  le : j ≤ n
  len : n ≤ ctx.len
  reprP : ReprP ctx [] st' e'
  env : EnvIn e' j n
  dom : ∀ g, g ∈ capsOf op ↔ (e' g).isSome = true
  clean : st'.panic = none

theorem MatchRes3.repr {ctx : Ctx} {op : Op} {j n : Nat} {e' : CEnv} {st' : St}
    (h : MatchRes3 ctx op j n e' st') : Repr ctx st' e' := h.reprP.repr

theorem CapsOK.matchAt_cases (ctx : Ctx) (op : Op) (H : CapsOK ctx op) (j : Nat) (hj : j ≤ ctx.len)
    (st : St) (hst : Good op st) :
    (HasP ctx op j ∧ ∃ st' n e', matchAt ctx op j st = (true, st') ∧ MatchRes3 ctx op j n e' st') ∨
    (¬ HasP ctx op j ∧ ∃ st', matchAt ctx op j st = (false, st') ∧ Good op st') := by
  have hfacts := Leaves.facts j op H.leaves H.wf [] j CEnv.empty hj (Nat.le_refl _) (EnvIn.empty _ _) (Dom.nil _)
  rcases matchAt_of_exact
      ((Leaves.stream_both (capRel_reprP ctx) j).1 op H.leaves H.wf [] [] H.scope j CEnv.empty (matchStart ctx j st)
        hj (Nat.le_refl _) (EnvIn.empty _ _) (Dom.nil _) (matchStart_reprP ctx op j st hst.1 (.inl hst.2) []))
      (fun x hx => (hfacts x hx).path) (fun n e' => (Leaves.mem_iff op H.leaves H.wf j CEnv.empty hj n e').2)
      (sem_s0 ctx j op H.wf H.capsPos j (matchStart ctx j st) hj
        (matchStart_s0 ctx j st))
      (H.nodiv j hj st (noDivMark_of_clean hst.2))
      (fun _ _ _ h => h.repr.np) (fun _ h => h.repr.np) with
    ⟨hp, s, n, e', hhd, hm, hr, he, hg0, hcl⟩ | ⟨hp, s, hn, he, hcl⟩
  · have f := hfacts (n, e') hm
    refine .inl ⟨hp, _, n, e', he, f.path, hhd, hg0, getParenEnd_setEnd0 s n, f.le, f.len, hr.setEnd0 n, f.env,
      fun g => ⟨fun hg => f.dom g (by simpa using hg), fun hg => ?_⟩, hcl⟩
    -- a group outside the tree is not bound: the path only re-binds the groups of the tree
    apply Classical.byContradiction
    intro hng
    rw [show e' g = none from f.frame g hng] at hg
    cases hg
  · refine .inr ⟨hp, _, he, fun k hk hnk => ?_, hcl⟩
    have := hn.repr.agree k hk (by simpa using hnk)
    exact ⟨this.1, this.2.1⟩

theorem CapsOK.matchAt_res {ctx : Ctx} {op : Op} (H : CapsOK ctx op) (i : Nat) (hi : i ≤ ctx.len) (st0 st' : St)
    (h0 : CapsClear op st0) (hp0 : st0.panic = none) (h : matchAt ctx op i st0 = (true, st')) :
    ∃ n e', MatchRes3 ctx op i n e' st' := by
  rcases CapsOK.matchAt_cases ctx op H i hi st0 ⟨h0, hp0⟩ with ⟨_, st2, n, e', he, hres⟩ | ⟨_, st2, he, _⟩
  · rw [h] at he
    cases he
    exact ⟨n, e', hres⟩
  · rw [h] at he
    cases he

def bareEnv : Env :=
  { lower := id, closure := fun _ => [], category := fun _ => none, block := fun _ => none,
    digit := [], word := [], nameStart := [], nameChar := [] }

theorem matchAt_true_eq {ctx : Ctx} {op : Op} {i : Nat} {st : St} (h : (matchAt ctx op i st).1 = true) :
    matchAt ctx op i st = (true, (matchAt ctx op i st).2) := by
  rw [← h]

end Rx
