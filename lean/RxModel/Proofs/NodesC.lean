/-
  Proofs/NodesC — the two inductions over the tree (`exC`: `sem` yields exactly `enum4`; `compC`: `enum4` is
  complete), under ONE condition that looks at the `.unamb` and `.rep` nodes only (`NodesC`); what the fragments of
  Spec/Enum … Spec/Enum4 assume (`cleanOp…4F`, `noEmptyAtoms`, `clsCanon`, `InputOK`) is used where the condition is
  established and nowhere else.
-/
import RxModel.Proofs.Enum3Lemmas
import RxModel.Proofs.EnumFragments
import RxModel.Proofs.TreePredInst
import RxModel.Proofs.Enumerates
namespace Rx
open Rx.C08 (noEmptyAtoms noEmptyAtomsL clsCanon clsCanonL)
open TreePred

/-- completeness of an element `o` in front of the followers `F` of a sequence: whenever the language of `o · F` has
    a member through `m`, `enum4 o` lists `m` — or, in the root sequence before `EndProgram` alone, some end at all -/
def ElemOK (ctx : Ctx) (top : Bool) (F : List Op) (o : Op) : Prop :=
  ∀ p m q, p ≤ ctx.len → OpR ctx o p m → OpRSeq ctx F m q →
    ∃ m', m' ∈ enum4 ctx o p ∧ m' ≤ ctx.len ∧ (m' = m ∨ (top = true ∧ F = [.endProgram]))

theorem ElemOK.of_complete {ctx : Ctx} {o : Op} (h : ∀ p m, p ≤ ctx.len → OpR ctx o p m → m ∈ enum4 ctx o p)
    (top : Bool) (F : List Op) : ElemOK ctx top F o :=
  fun p m _ hp hr _ => ⟨m, h p m hp hr, (OpR_bounds_op ctx o p m hp hr).2, .inl rfl⟩

theorem ElemOK.complete {ctx : Ctx} {o : Op} {F : List Op} (h : ElemOK ctx false F o) {p m q : Nat}
    (hp : p ≤ ctx.len) (hr : OpR ctx o p m) (hF : OpRSeq ctx F m q) : m ∈ enum4 ctx o p := by
  obtain ⟨m', h1, _, h3⟩ := h p m q hp hr hF
  rcases h3 with rfl | ⟨h3, _⟩
  · exact h1
  · cases h3

mutual
/-- `U`: what is asked of an `.unamb` in its context (`ElemOK` for completeness, nothing for exactness); `1 ≤ mn` of
    a greedy `.rep`: the zero-length-match memo is not consulted -/
def NodesC (ctx : Ctx) (U : Bool → List Op → Op → Prop) : Bool → List Op → Op → Prop
  | _, _, .bol | _, _, .eol | _, _, .nothing | _, _, .endProgram | _, _, .atom _ | _, _, .cls _ => True
  | _, _, .backref _ => False
  | top, F, .unamb x mn mx => (isAtomOrClass x = true ∧ noEmptyAtoms x = true) ∧ U top F (.unamb x mn mx)
  | _, _, .rep _ c mn _ g =>
      ((g = true → 1 ≤ mn) ∧ DetBody (sem ctx c) (enum4 ctx c) ctx.len) ∧ NodesC ctx U false [] c
  | _, _, .capture _ c => NodesC ctx U false [] c
  | _, _, .gfixed c _ _ _ => NodesC ctx U false [] c
  | _, _, .rfixed c _ _ _ => NodesC ctx U false [] c
  | _, _, .choice bs => NodesCAll ctx U bs
  | _, _, .seq ops => NodesCSeq ctx U false ops
termination_by structural _ _ o => o
def NodesCAll (ctx : Ctx) (U : Bool → List Op → Op → Prop) : List Op → Prop
  | [] => True
  | o :: os => NodesC ctx U false [] o ∧ NodesCAll ctx U os
termination_by structural l => l
def NodesCSeq (ctx : Ctx) (U : Bool → List Op → Op → Prop) : Bool → List Op → Prop
  | _, [] => True
  | top, o :: os => NodesC ctx U top os o ∧ NodesCSeq ctx U top os
termination_by structural _ l => l
end

abbrev nodesCP (ctx : Ctx) (U : Bool → List Op → Op → Prop) : TreePred := ⟨NodesC ctx U, NodesCAll ctx U, NodesCSeq ctx U⟩

theorem nodesCP_transp (ctx : Ctx) (U : Bool → List Op → Op → Prop) : (nodesCP ctx U).Transp :=
  ⟨Iff.rfl, Iff.rfl, Iff.rfl, Iff.rfl, Iff.rfl, trivial, trivial, Iff.rfl, Iff.rfl⟩

theorem NodesC.unamb {ctx : Ctx} {U : Bool → List Op → Op → Prop} {top : Bool} {F : List Op} {x : Op} {mn mx : Nat}
    (h : NodesC ctx U top F (.unamb x mn mx)) :
    (isAtomOrClass x = true ∧ noEmptyAtoms x = true) ∧ U top F (.unamb x mn mx) := by
  simpa only [NodesC] using h

theorem NodesC.rep {ctx : Ctx} {U : Bool → List Op → Op → Prop} {top : Bool} {F : List Op} {id : Nat} {c : Op}
    {mn mx : Nat} {g : Bool} (h : NodesC ctx U top F (.rep id c mn mx g)) :
    ((g = true → 1 ≤ mn) ∧ DetBody (sem ctx c) (enum4 ctx c) ctx.len) ∧ NodesC ctx U false [] c := by
  simpa only [NodesC] using h

theorem NodesC.not_backref {ctx : Ctx} {U : Bool → List Op → Op → Prop} {top : Bool} {F : List Op} {g : Nat}
    (h : NodesC ctx U top F (.backref g)) : False := by
  simp only [NodesC] at h

theorem leaf_ex4 (ctx : Ctx) {U : Bool → List Op → Op → Prop} {o : Op} {top : Bool} {F : List Op} (hl : Leaf o)
    (hb : NodesC ctx U top F o) (p : Nat) (st : St) : Step.Ex (sem ctx o p st) (enum4 ctx o p) := by
  cases hl with
  | bol => simp only [sem]; exact bolGen_ex ctx p st
  | eol => simp only [sem]; exact eolGen_ex ctx p st
  | nothing => simp only [sem]; exact nothingGen_ex ctx p st
  | endProgram => simp only [sem]; exact endGen_ex ctx p st
  | atom cs => simp only [sem]; exact atomGen_ex ctx cs p st
  | cls rs => simp only [sem]; exact clsGen_ex ctx rs p st
  | backref g => exact hb.not_backref.elim

abbrev exP (ctx : Ctx) : TreePred :=
  ⟨fun _ _ o => ∀ p, p ≤ ctx.len → ∀ st, Step.Ex (sem ctx o p st) (enum4 ctx o p),
   fun l => ∀ p, p ≤ ctx.len → ∀ st, Step.Ex (choiceGen (semL ctx l) p st) (enumAny4 ctx l p),
   fun _ l => ∀ p, p ≤ ctx.len → ∀ st, Step.Ex (seqK (semL ctx l) p st) (enumSeq4 ctx l p)⟩

theorem exC (ctx : Ctx) (U : Bool → List Op → Op → Prop) : ((nodesCP ctx U).and wfP).Sub (exP ctx) :=
  ind ((nodesCP_transp ctx U).desc.and wfP_desc)
    (leaf := fun _ _ _ hl h p _ st => leaf_ex4 ctx hl h.1 p st)
    (capture := fun _ _ g c _ ih p hp st => by
      simp only [sem, enum4]
      exact captureGen_ex (fun st' => ih p hp st') ctx g st)
    (choice := fun _ _ l _ ih p hp st => by
      simp only [sem, enum4]
      exact ih p hp st)
    (seq := fun _ _ l ⟨_, hwf⟩ ih p hp st => by
      simp only [wfP, plain, wfOp, Bool.and_eq_true, Bool.not_eq_true', List.isEmpty_eq_false_iff] at hwf
      obtain ⟨o, os, rfl⟩ := List.exists_cons_of_ne_nil hwf.1
      simp only [sem, enum4, semL, ← seqGo_cons] at ih ⊢
      exact seqGen_ex (fun st' => ih p hp st') _ st)
    (rep := fun top F id c mn mx g ⟨(hn : NodesC ctx U top F (.rep id c mn mx g)), hwf⟩ _ p hp st => by
      obtain ⟨_, hmm, hmx⟩ := wfOp_rpt (o := .rep id c mn mx g) rfl hwf
      cases g with
      | true =>
        simp only [sem, if_true, enum4]
        exact repGreedy_ex ctx hn.rep.1.2 id mn mx (hn.rep.1.1 rfl) hmx p hp st
      | false =>
        simp only [sem, enum4, Bool.false_eq_true, if_false]
        exact repReluct_ex ctx hn.rep.1.2.progBody mn mx hmm p hp st)
    (gfixed := fun _ _ c mn mx len ⟨_, hwf⟩ ih p hp st => by
      obtain ⟨hwc, hml, hlen0, hlen1, _, hmx⟩ := OptL.wfOp_fixed (.inl rfl) hwf
      simp only [sem, enum4]
      exact gfixedGen_ex ctx (fixedBody_of ctx c len hwc hml hlen0 hlen1 ih) mn mx hmx p hp st)
    (rfixed := fun _ _ c mn mx len ⟨_, hwf⟩ ih p hp st => by
      obtain ⟨hwc, hml, hlen0, hlen1, hmm, _⟩ := OptL.wfOp_fixed (.inr rfl) hwf
      simp only [sem, enum4]
      exact rfixedGen_ex ctx (fixedBody_of ctx c len hwc hml hlen0 hlen1 ih) mn mx hmm p hp st)
    (unamb := fun top F x mn mx ⟨(hn : NodesC ctx U top F (.unamb x mn mx)), _⟩ _ p hp st => by
      obtain ⟨len, hb⟩ := leaf_fixedBody ctx x hn.unamb.1.1 hn.unamb.1.2
      rw [enum4_unamb ctx x mn mx hn.unamb.1.1]
      simp only [sem, enum2]
      exact unambGen_ex ctx hb.progBody mn mx p hp st)
    (allNil := fun p _ st => choiceGen_nil_ex p st)
    (allCons := fun o l _ ih ihl p hp st => by
      simp only [semL, enumAny4]
      exact choiceGen_cons_ex (ih p hp) (ihl p hp) st)
    (seqNil := fun _ p _ st => seqK_nil_ex p st)
    (seqCons := fun _ o l ⟨_, hwf⟩ ih ihl p hp st =>
      seqK_cons_ex (ih p hp) (fun n hn' st' =>
        ihl n (ex_sound ctx o (down_wfOp.head hwf) hp (ih p hp {}) n hn').2 st') st)

theorem sem_ex4 (ctx : Ctx) {U : Bool → List Op → Op → Prop} {top : Bool} {F : List Op} (op : Op)
    (hn : NodesC ctx U top F op) (hwf : wfOp op = true) :
    ∀ p, p ≤ ctx.len → ∀ st, Step.Ex (sem ctx op p st) (enum4 ctx op p) :=
  (exC ctx U).op ⟨hn, hwf⟩

theorem exP.seqGo {ctx : Ctx} {top : Bool} {ops : List Op} (h : (exP ctx).seq top ops) (hne : ops ≠ []) :
    ∀ p, p ≤ ctx.len → ∀ st, Step.Ex (seqGo (semL ctx ops) p st) (enumSeq4 ctx ops p) := by
  obtain ⟨o, os, rfl⟩ := List.exists_cons_of_ne_nil hne
  simp only [semL, seqGo_cons]
  exact h

theorem leaf_complete4 (ctx : Ctx) {U : Bool → List Op → Op → Prop} {o : Op} {top : Bool} {F : List Op}
    (hl : Leaf o) (hb : NodesC ctx U top F o) {p q : Nat} (h : OpR ctx o p q) : q ∈ enum4 ctx o p := by
  cases hl with
  | bol => simp only [OpR] at h; simp only [enum4]; rw [if_pos h.2, h.1]; exact List.mem_singleton.2 rfl
  | eol => simp only [OpR] at h; simp only [enum4]; rw [if_pos h.2, h.1]; exact List.mem_singleton.2 rfl
  | nothing => simp only [OpR] at h; simp only [enum4]; rw [h]; exact List.mem_singleton.2 rfl
  | endProgram => simp only [OpR] at h; simp only [enum4]; rw [h]; exact List.mem_singleton.2 rfl
  | atom cs => rw [enum4_eq_enum ctx _ rfl]; exact leaf_complete ctx (.atom cs) rfl h
  | cls rs => rw [enum4_eq_enum ctx _ rfl]; exact leaf_complete ctx (.cls rs) rfl h
  | backref g => exact hb.not_backref.elim

theorem iter_complete {R : Nat → Nat → Prop} {e : Nat → List Nat} {L : Nat} (hd : HeadDet R e L) (mn mx p q : Nat)
    (hp : p ≤ L) (h : ∃ k, mn ≤ k ∧ k ≤ mx ∧ IterR R k p q) :
    q ∈ greedyIter e mn mx 0 p ∧ q ∈ reluctIter e mn mx 0 p := by
  obtain ⟨k, hk1, hk2, hi⟩ := h
  exact ⟨greedyIter_complete hd mn mx 0 p k q hp hi hk2 (by omega),
    reluctIter_complete hd mn mx 0 p k q hp hi hk2 (by omega)⟩

/-- the body of a fixed-length repeat: all its ends from a start coincide, so a complete list decides its relation -/
theorem fixed_headDet (ctx : Ctx) {U : Bool → List Op → Op → Prop} {c : Op} {mn mx len : Nat} (hn : NodesC ctx U false [] c)
    (hwf : wfOp c = true ∧ matchLen c = some len ∧ 0 < len ∧ len < usizeMax ∧ mn ≤ mx ∧ 0 < mx)
    (ih : ElemOK ctx false [] c) : HeadDet (fun a b => OpR ctx c a b) (enum4 ctx c) ctx.len :=
  headDet_of (fixedBody_of ctx c len hwf.1 hwf.2.1 hwf.2.2.1 hwf.2.2.2.1 (sem_ex4 ctx c hn hwf.1))
    (fun _ _ ha hab => ih.complete ha hab rfl)

abbrev compP (ctx : Ctx) : TreePred :=
  ⟨ElemOK ctx, fun l => ∀ p q, p ≤ ctx.len → OpRAny ctx l p q → q ∈ enumAny4 ctx l p,
   fun top l => ∀ p q, p ≤ ctx.len → OpRSeq ctx l p q → enumSeq4 ctx l p ≠ [] ∧ (top = false → q ∈ enumSeq4 ctx l p)⟩

theorem compC (ctx : Ctx) : ((nodesCP ctx (ElemOK ctx)).and wfP).Sub (compP ctx) :=
  ind ((nodesCP_transp ctx (ElemOK ctx)).desc.and wfP_desc)
    (leaf := fun top F o hl h => .of_complete (fun p m _ hr => leaf_complete4 ctx hl h.1 hr) top F)
    (capture := fun top F g c _ ih => .of_complete (fun p m hp hr => by
      simp only [OpR] at hr
      simp only [enum4]
      exact ih.complete hp hr rfl) top F)
    (choice := fun top F l _ ih => .of_complete (fun p m hp hr => by
      simp only [OpR] at hr
      simp only [enum4]
      exact ih p m hp hr) top F)
    (seq := fun top F l _ ih => .of_complete (fun p m hp hr => by
      simp only [OpR] at hr
      simp only [enum4]
      exact (ih p m hp hr).2 rfl) top F)
    (rep := fun top F id c mn mx g ⟨(hn : NodesC ctx _ top F (.rep id c mn mx g)), hwf⟩ ih => .of_complete (fun p m hp hr => by
      -- the body's relation is decided by the (only) member of its list
      have hd : HeadDet (fun a b => OpR ctx c a b) (enum4 ctx c) ctx.len :=
        hn.rep.1.2.headDet (fun a b ha hab =>
          (ih ⟨hn.rep.2, (wfOp_rpt (o := .rep id c mn mx g) rfl hwf).1⟩).complete ha hab rfl)
      simp only [OpR] at hr
      have := iter_complete hd mn mx p m hp hr
      cases g with
      | true => simp only [enum4, if_true]; exact this.1
      | false => simp only [enum4, Bool.false_eq_true, if_false]; exact this.2) top F)
    (gfixed := fun top F c mn mx len ⟨hn, hwf⟩ ih => .of_complete (fun p m hp hr => by
      simp only [OpR] at hr
      simp only [enum4]
      exact (iter_complete (fixed_headDet ctx ((nodesCP_transp ctx _).gfixed.1 hn) (OptL.wfOp_fixed (.inl rfl) hwf) ih)
        mn mx p m hp hr).1) top F)
    (rfixed := fun top F c mn mx len ⟨hn, hwf⟩ ih => .of_complete (fun p m hp hr => by
      simp only [OpR] at hr
      simp only [enum4]
      exact (iter_complete (fixed_headDet ctx ((nodesCP_transp ctx _).rfixed.1 hn) (OptL.wfOp_fixed (.inr rfl) hwf) ih)
        mn mx p m hp hr).2) top F)
    (unamb := fun top F c mn mx ⟨(hn : NodesC ctx _ top F (.unamb c mn mx)), _⟩ _ => hn.unamb.2)
    (allNil := fun p q _ h => by simp only [OpRAny] at h)
    (allCons := fun o l _ ih ihl p q hp h => by
      simp only [OpRAny] at h
      simp only [enumAny4, List.mem_append]
      exact h.imp (fun h => ih.complete hp h rfl) (ihl p q hp))
    (seqNil := fun top p q _ h => by
      simp only [OpRSeq] at h
      simp only [enumSeq4]
      exact ⟨List.cons_ne_nil _ _, fun _ => by rw [h]; exact List.mem_singleton.2 rfl⟩)
    (seqCons := fun top o l _ ih ihl p q hp h => by
      simp only [OpRSeq] at h
      obtain ⟨m, h1, h2⟩ := h
      obtain ⟨m', hm', hm'L, hor⟩ := ih p m q hp h1 h2
      simp only [enumSeq4]
      -- the tail from the end `m'` that the element lists: `m` itself, or before `EndProgram` any end
      have htail : enumSeq4 ctx l m' ≠ [] ∧ (top = false → q ∈ enumSeq4 ctx l m') := by
        rcases hor with rfl | ⟨ht, rfl⟩
        · exact ihl m' q hm'L h2
        · exact ⟨by simp [enumSeq4, enum4], fun hf => by rw [ht] at hf; cases hf⟩
      refine ⟨fun hnil => ?_, fun ht => List.mem_flatMap.2 ⟨m', hm', htail.2 ht⟩⟩
      rw [List.flatMap_eq_nil_iff] at hnil
      exact htail.1 (hnil m' hm'))

theorem exP.prog {ctx : Ctx} {op : Op} (h : (exP ctx).prog op) (hwf : wfOp op = true) (p : Nat) (hp : p ≤ ctx.len)
    (st : St) : Step.Ex (sem ctx op p st) (enum4 ctx op p) := by
  cases op with
  | seq ops =>
    simp only [wfOp, Bool.and_eq_true, Bool.not_eq_true', List.isEmpty_eq_false_iff] at hwf
    simp only [sem, enum4]
    exact seqGen_ex (fun st' => exP.seqGo h hwf.1 p hp st') _ st
  | _ => exact h p hp st

theorem compP.prog {ctx : Ctx} {op : Op} (h : (compP ctx).prog op) (p : Nat) (hp : p ≤ ctx.len)
    (hex : ∃ q, OpR ctx op p q) : enum4 ctx op p ≠ [] := by
  obtain ⟨q, hq⟩ := hex
  cases op with
  | seq ops =>
    simp only [OpR] at hq
    simp only [enum4]
    exact (h p q hp hq).1
  | _ =>
    intro hnil
    have := ElemOK.complete h hp hq rfl
    rw [hnil] at this
    cases this

theorem Enumerates.of_prog {ctx : Ctx} {op : Op} (he : (exP ctx).prog op) (hc : (compP ctx).prog op)
    (hwf : wfOp op = true) : Enumerates ctx op (enum4 ctx op) :=
  .of_ex hwf (exP.prog he hwf) (compP.prog hc)

theorem nodesC_of_cleanOp (ctx : Ctx) (U : Bool → List Op → Op → Prop) : cleanP.Sub (nodesCP ctx U) :=
  cleanP_sub (nodesCP_transp ctx U).gen fun _ _ _ hl => by cases hl <;> trivial

/-- the shape alone says nothing of what follows an `.unamb`: exactness only -/
theorem nodesC_of_shape2 (ctx : Ctx) : (shapeP2.and neP).Sub (nodesCP ctx fun _ _ _ => True) :=
  impl0 (shapeP2_transp.desc.and neP_transp.desc) (nodesCP_transp ctx _).gen (fun h => shapeP2_backref h.1)
    (leaf := fun _ _ _ hl _ => by cases hl <;> trivial)
    (rep := fun _ _ _ _ _ _ _ _ h => absurd h.1 shapeP2_rep)
    (unamb := fun _ _ x _ _ _ ⟨h, hne⟩ => by
      simp only [shapeP2, plain, shape2] at h
      simp only [neP, plain, noEmptyAtoms] at hne
      exact ⟨⟨h, hne⟩, trivial⟩)

end Rx
