/-
  Proofs/Clean2OptLemmas — the two shape facts about parser output (`seqGe2`: every sequence has at least two
  elements, so `optimize` never unwraps `.seq [o]`; `endTop`: EndProgram occurs only as the last element of the root
  sequence), and what needs only them — among it that `optimize` leaves `matches_empty_string` of every well-formed
  tree of that shape unchanged (`mzs_optimize`).
-/
import RxModel.Spec.Enum2
import RxModel.Proofs.TreeInv
import RxModel.Proofs.OptLemmas
import RxModel.Proofs.TreePredInst
namespace Rx.Clean2Opt
open Rx
open Rx.OptL (seqElem optimizeSeq_cons2)

mutual
def noEnd : Op → Bool
  | .endProgram => false
  | .capture _ c => noEnd c
  | .choice bs => noEndL bs
  | .seq ops => noEndL ops
  | .rep _ c _ _ _ => noEnd c
  | .gfixed c _ _ _ => noEnd c
  | .rfixed c _ _ _ => noEnd c
  | .unamb c _ _ => noEnd c
  | _ => true
termination_by structural o => o
def noEndL : List Op → Bool
  | [] => true
  | o :: os => noEnd o && noEndL os
termination_by structural l => l
end

theorem down_noEnd : Down (fun o => noEnd o = true) (fun l => noEndL l = true) :=
  .ofBool (fun _ _ h => h) (fun _ h => h) (fun _ h => h) (fun _ _ _ _ _ h => h) (fun _ _ _ _ h => h)
    (fun _ _ _ _ h => h) (fun _ _ _ h => h) (fun _ _ h => by simpa only [noEndL, Bool.and_eq_true] using h)

/-- EndProgram at most as the last element -/
def endLast : List Op → Bool
  | [] => true
  | o :: rest => if rest.isEmpty then (isEnd o || noEnd o) else (noEnd o && endLast rest)

def endTop : Op → Bool
  | .seq ops => endLast ops
  | o => noEnd o

theorem endTop_cases {t : Op} (h : endTop t = true) :
    (∃ l, t = .seq l ∧ endLast l = true) ∨ ((∀ l, t ≠ .seq l) ∧ noEnd t = true) := by
  cases t with
  | seq l => exact .inl ⟨l, rfl, h⟩
  | _ => exact .inr ⟨fun _ => Op.noConfusion, h⟩

mutual
def seqGe2 : Op → Bool
  | .seq ops => decide (2 ≤ ops.length) && seqGe2L ops
  | .capture _ c => seqGe2 c
  | .choice bs => seqGe2L bs
  | .rep _ c _ _ _ => seqGe2 c
  | .gfixed c _ _ _ => seqGe2 c
  | .rfixed c _ _ _ => seqGe2 c
  | .unamb c _ _ => seqGe2 c
  | _ => true
termination_by structural o => o
def seqGe2L : List Op → Bool
  | [] => true
  | o :: os => seqGe2 o && seqGe2L os
termination_by structural l => l
end

theorem down_seqGe2 : Down (fun o => seqGe2 o = true) (fun l => seqGe2L l = true) :=
  .ofBool (fun _ _ h => h) (fun _ h => h)
    (fun _ h => by simp only [seqGe2, Bool.and_eq_true] at h; exact h.2)
    (fun _ _ _ _ _ h => h) (fun _ _ _ _ h => h)
    (fun _ _ _ _ h => h) (fun _ _ _ h => h) (fun _ _ h => by simpa only [seqGe2L, Bool.and_eq_true] using h)

theorem endLast_of_noEndL : ∀ (l : List Op), noEndL l = true → endLast l = true
  | [], _ => rfl
  | o :: rest, h => by
    simp only [noEndL, Bool.and_eq_true] at h
    simp only [endLast]
    split
    · simp only [h.1, Bool.or_true]
    · simp only [h.1, endLast_of_noEndL rest h.2, Bool.and_self]

theorem isEnd_iff {o : Op} : isEnd o = true ↔ o = .endProgram := by
  cases o <;> simp [isEnd]

theorem isEol_iff {o : Op} : isEol o = true ↔ o = .eol := by
  cases o <;> simp [isEol]

/-- what `no_ambiguity` establishes, in terms of the follower list that ends up in the tree -/
theorem just_of_noAmbiguity (env : Env) (cb ml top : Bool) (child nxt h : Op) (t : List Op) (r : Bool)
    (hna : noAmbiguity env child nxt cb r ml = true)
    (hic : initialClass env cb h = initialClass env cb nxt)
    (heol : isEol nxt = true → isEol h = true)
    (hend : isEnd nxt = true → isEnd h = true ∧ t = [] ∧ top = true) :
    unambJust env cb ml top child (h :: t) = true := by
  simp only [unambJust, Bool.or_eq_true, Bool.and_eq_true, Bool.not_eq_true', List.isEmpty_iff]
  unfold noAmbiguity at hna
  split at hna
  · obtain ⟨h1, h2, h3⟩ := hend rfl
    exact .inl (.inr ⟨⟨h1, h2⟩, h3⟩)
  · cases hna
  · exact .inl (.inl ⟨heol rfl, by simpa using hna⟩)
  · split at hna
    · cases hna
    · right; rw [hic]; exact hna

theorem clsCanonB_hered : Hered clsCanonB clsCanonBL (fun _ => true) :=
  ⟨rfl, fun _ _ => rfl, fun _ => rfl, fun _ => rfl, fun _ _ _ _ _ => rfl, fun _ _ _ _ => rfl,
    fun _ _ _ _ => rfl, fun _ _ _ => rfl, rfl, fun _ _ => rfl⟩

theorem down_cleanOp : Down (fun o => cleanOp o = true) (fun l => cleanOps l = true) :=
  cleanP_transp.down (fun h => by simp only [cleanOp, Bool.false_eq_true] at h)
    (fun h => by simp only [cleanOp, Bool.false_eq_true] at h)

theorem down_clsCanonB : Down (fun o => clsCanonB o = true) (fun l => clsCanonBL l = true) :=
  canBP_transp.down (fun h => h) (fun h => h)

theorem optimize_clsCanonB (env : Env) (fl : CFlags) : ∀ (op : Op), clsCanonB op = true →
    clsCanonB (optimize env fl op) = true :=
  clsCanonB_hered.optimize env fl

theorem optimizeL_clsCanonB (env : Env) (fl : CFlags) : ∀ (l : List Op), clsCanonBL l = true →
    clsCanonBL (optimizeL env fl l) = true :=
  clsCanonB_hered.optimizeL env fl

theorem mzs_optRel : OptRel (fun o o' => wfOp o = true → seqGe2 o = true → mzs o' = mzs o)
    (fun l l' => wfOps l = true → seqGe2L l = true → mzsL l' = mzsL l ∧ mzsChoice l' = mzsChoice l) where
  refl _ _ _ := rfl
  capture _ ih hw h2 := by simp only [mzs]; exact ih (down_wfOp.capture hw) (down_seqGe2.capture h2)
  choice ih hw h2 := by simp only [mzs]; exact (ih (down_wfOp.choice hw) (down_seqGe2.choice h2)).2
  seq ih hw h2 := by simp only [mzs]; rw [(ih (down_wfOp.seq hw) (down_seqGe2.seq h2)).1]
  rep id _ mn mx g ih hw h2 := by
    simp only [mzs]; rw [ih (down_wfOp.rpt (o := .rep id _ mn mx g) rfl hw) (down_seqGe2.rpt (o := .rep id _ mn mx g) rfl h2)]
  gfixed mn mx len ih hw h2 := by
    simp only [mzs]
    rw [ih (down_wfOp.rpt (o := .gfixed _ mn mx len) rfl hw) (down_seqGe2.rpt (o := .gfixed _ mn mx len) rfl h2)]
  rfixed mn mx len ih hw h2 := by
    simp only [mzs]
    rw [ih (down_wfOp.rpt (o := .rfixed _ mn mx len) rfl hw) (down_seqGe2.rpt (o := .rfixed _ mn mx len) rfl h2)]
  unamb mn mx ih hw h2 := by
    simp only [mzs]; rw [ih (down_wfOp.rpt (o := .unamb _ mn mx) rfl hw) (down_seqGe2.rpt (o := .unamb _ mn mx) rfl h2)]
  nil _ _ := ⟨rfl, rfl⟩
  cons ih ihl hw h2 := by
    have i := ih (down_wfOp.head hw) (down_seqGe2.head h2)
    have j := ihl (down_wfOp.tail hw) (down_seqGe2.tail h2)
    simp only [mzsL, mzsChoice, i, j.1, j.2, and_self]
  -- both `x{0,n}` and `x{1,n}` over a body that matches the empty string anywhere answer ANYWHERE
  rep01 _ _ _ _ hz _ _ := by simp only [mzs, beq_self_eq_true, if_true, hz]; rfl
  -- the rewrites of short sequences and of degenerate fixed-length repeats do not occur on such a tree
  seq0 _ h2 := by simp [seqGe2] at h2
  seq1 _ _ h2 := by simp [seqGe2] at h2
  gfixed0 c mn len hw := by have := (wfOp_rpt (o := .gfixed c mn 0 len) rfl hw).2.2; omega
  gfixedZ c mn mx len hz hw := by
    obtain ⟨_, hml, h0, _⟩ := OptL.wfOp_fixed (.inl rfl) hw
    rw [hml] at hz; cases hz; omega
  unambRep _ _ _ _ ih _ hw h2 := by rw [← ih hw h2]; simp only [mzs]
  unambG _ _ _ ih _ hw h2 := by rw [← ih hw h2]; simp only [mzs]
  unambR _ _ _ ih _ hw h2 := by rw [← ih hw h2]; simp only [mzs]

theorem mzs_optimize (env : Env) (fl : CFlags) (t : Op) (hw : wfOp t = true) (h2 : seqGe2 t = true) :
    mzs (optimize env fl t) = mzs t :=
  optimize_rel mzs_optRel env fl t hw h2

theorem mzsChoice_optimizeL (env : Env) (fl : CFlags) (l : List Op) (hw : wfOps l = true) (h2 : seqGe2L l = true) :
    mzsChoice (optimizeL env fl l) = mzsChoice l :=
  (optimizeL_rel mzs_optRel env fl l hw h2).2

end Rx.Clean2Opt

