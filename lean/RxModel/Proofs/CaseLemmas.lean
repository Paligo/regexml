/-
  Proofs/CaseLemmas — what case invariance under flag i rests on, for the language of a compiled tree and for the
  engine, in the terms of Spec/InputPreds: case-equivalent lists (`CaseEquivInputs.at_congr`: what is asked of the
  character at a position), the reads of the input by the leaves of a tree in two contexts, and the induction along
  two case-equivalent trees (`CaseEquivOps.rel`).
-/
import RxModel.Props.C11
import RxModel.Spec.InputPreds
import RxModel.Proofs.TreePred
namespace Rx.C11b
open Rx

theorem CaseEquivInputs.refl (lower : Nat → Nat) (xs : List Nat) : CaseEquivInputs lower xs xs :=
  ⟨rfl, fun _ _ _ => C11.eqCB_refl _ _⟩

theorem CaseEquivInputs.symm {lower : Nat → Nat} {xs ys : List Nat} (h : CaseEquivInputs lower xs ys) :
    CaseEquivInputs lower ys xs :=
  ⟨h.1.symm, fun k h1 h2 => by rw [C11.eqCB_symm]; exact h.2 k h2 h1⟩

theorem CaseEquivInputs.drop {lower : Nat → Nat} {xs ys : List Nat} (h : CaseEquivInputs lower xs ys) (p : Nat) :
    CaseEquivInputs lower (xs.drop p) (ys.drop p) := by
  refine ⟨by simp only [List.length_drop, h.1], fun k h1 h2 => ?_⟩
  simp only [List.getElem_drop]
  simp only [List.length_drop] at h1 h2
  exact h.2 (p + k) (by omega) (by omega)

theorem CaseEquivInputs.at_congr {lower : Nat → Nat} {xs ys : List Nat} (h : CaseEquivInputs lower xs ys)
    {f : Nat → Bool} (hf : ∀ a ∈ xs, ∀ b ∈ ys, eqCB lower a b = true → f a = f b) (i : Nat) :
    (∃ c, ys[i]? = some c ∧ f c = true) ↔ (∃ c, xs[i]? = some c ∧ f c = true) := by
  have one : ∀ {xs ys : List Nat}, CaseEquivInputs lower xs ys →
      (∀ a ∈ xs, ∀ b ∈ ys, eqCB lower a b = true → f a = f b) →
      (∃ c, xs[i]? = some c ∧ f c = true) → ∃ c, ys[i]? = some c ∧ f c = true := by
    rintro xs ys h hf ⟨c, hc, hm⟩
    obtain ⟨hi, rfl⟩ := List.getElem?_eq_some_iff.1 hc
    have hi' : i < ys.length := h.1 ▸ hi
    exact ⟨ys[i], List.getElem?_eq_getElem hi',
      hf _ (List.getElem_mem hi) _ (List.getElem_mem hi') (h.2 i hi hi') ▸ hm⟩
  exact ⟨one h.symm fun a ha b hb hab => (hf b hb a ha (by rw [C11.eqCB_symm]; exact hab)).symm, one h hf⟩

theorem allCls_transp (P : Ranges → Prop) : (TreePred.plain (allCls P) (allClsL P)).Transp :=
  ⟨Iff.rfl, Iff.rfl, Iff.rfl, Iff.rfl, Iff.rfl, trivial, trivial, Iff.rfl, Iff.rfl⟩

theorem down_allCls (P : Ranges → Prop) : Down (allCls P) (allClsL P) :=
  (allCls_transp P).down (fun h => h) (fun h => h)

mutual
theorem CaseEquivOps.refl (lower : Nat → Nat) : (op : Op) → CaseEquivOps lower op op
  | .bol => by simp only [CaseEquivOps]
  | .eol => by simp only [CaseEquivOps]
  | .nothing => by simp only [CaseEquivOps]
  | .endProgram => by simp only [CaseEquivOps]
  | .atom cs => by simp only [CaseEquivOps]; exact CaseEquivInputs.refl lower cs
  | .cls rs => by simp only [CaseEquivOps]
  | .backref g => by simp only [CaseEquivOps]
  | .capture g c => by simp only [CaseEquivOps]; exact ⟨trivial, CaseEquivOps.refl lower c⟩
  | .choice bs => by simp only [CaseEquivOps]; exact CaseEquivOpsL.refl lower bs
  | .seq ops => by simp only [CaseEquivOps]; exact CaseEquivOpsL.refl lower ops
  | .rep id c mn mx gr => by
    simp only [CaseEquivOps]; exact ⟨trivial, trivial, trivial, trivial, CaseEquivOps.refl lower c⟩
  | .gfixed c mn mx len => by
    simp only [CaseEquivOps]; exact ⟨trivial, trivial, trivial, CaseEquivOps.refl lower c⟩
  | .rfixed c mn mx len => by
    simp only [CaseEquivOps]; exact ⟨trivial, trivial, trivial, CaseEquivOps.refl lower c⟩
  | .unamb c mn mx => by
    simp only [CaseEquivOps]; exact ⟨trivial, trivial, CaseEquivOps.refl lower c⟩
theorem CaseEquivOpsL.refl (lower : Nat → Nat) : (l : List Op) → CaseEquivOpsL lower l l
  | [] => by simp only [CaseEquivOpsL]
  | o :: os => by simp only [CaseEquivOpsL]; exact ⟨CaseEquivOps.refl lower o, CaseEquivOpsL.refl lower os⟩
end

theorem CaseEquivOps.rel (lower : Nat → Nat) {P : Op → Op → Prop} {PL : List Op → List Op → Prop} (h : Cong P PL)
    (leaf : ∀ o, TreePred.Leaf o → P o o)
    (atom : ∀ cs ds, CaseEquivInputs lower cs ds → P (.atom cs) (.atom ds)) :
    (∀ op op', CaseEquivOps lower op op' → P op op') ∧ (∀ l l', CaseEquivOpsL lower l l' → PL l l') := by
  apply Op.ind_both
  case bol =>
    intro op' he
    cases op' with
    | bol => exact leaf _ .bol
    | _ => exact he.elim
  case eol =>
    intro op' he
    cases op' with
    | eol => exact leaf _ .eol
    | _ => exact he.elim
  case nothing =>
    intro op' he
    cases op' with
    | nothing => exact leaf _ .nothing
    | _ => exact he.elim
  case endProgram =>
    intro op' he
    cases op' with
    | endProgram => exact leaf _ .endProgram
    | _ => exact he.elim
  case atom =>
    intro cs op' he
    cases op' with
    | atom ds => exact atom cs ds he
    | _ => exact he.elim
  case cls =>
    intro rs op' he
    cases op' with
    | cls rs' => obtain rfl : rs = rs' := he; exact leaf _ (.cls rs)
    | _ => exact he.elim
  case backref =>
    intro g op' he
    cases op' with
    | backref g' => obtain rfl : g = g' := he; exact leaf _ (.backref g)
    | _ => exact he.elim
  case capture =>
    intro g c ih op' he
    cases op' with
    | capture g' c' => obtain ⟨rfl, hec⟩ := he; exact h.capture g (ih c' hec)
    | _ => exact he.elim
  case choice =>
    intro bs ih op' he
    cases op' with
    | choice bs' => exact h.choice (ih bs' he)
    | _ => exact he.elim
  case seq =>
    intro ops ih op' he
    cases op' with
    | seq ops' => exact h.seq (ih ops' he)
    | _ => exact he.elim
  case rep =>
    intro id c mn mx gr ih op' he
    cases op' with
    | rep id' c' mn' mx' gr' => obtain ⟨rfl, rfl, rfl, rfl, hec⟩ := he; exact h.rep id id mn mx gr (ih c' hec)
    | _ => exact he.elim
  case gfixed =>
    intro c mn mx len ih op' he
    cases op' with
    | gfixed c' mn' mx' len' => obtain ⟨rfl, rfl, rfl, hec⟩ := he; exact h.gfixed mn mx len (ih c' hec)
    | _ => exact he.elim
  case rfixed =>
    intro c mn mx len ih op' he
    cases op' with
    | rfixed c' mn' mx' len' => obtain ⟨rfl, rfl, rfl, hec⟩ := he; exact h.rfixed mn mx len (ih c' hec)
    | _ => exact he.elim
  case unamb =>
    intro c mn mx ih op' he
    cases op' with
    | unamb c' mn' mx' => obtain ⟨rfl, rfl, hec⟩ := he; exact h.unamb mn mx (ih c' hec)
    | _ => exact he.elim
  case nil =>
    intro l' he
    cases l' with
    | nil => exact h.nil
    | cons _ _ => exact he.elim
  case cons =>
    intro o os ih ihl l' he
    cases l' with
    | nil => exact he.elim
    | cons o' os' => exact h.cons (ih o' he.1) (ihl os' he.2)

theorem len_eq {ctx ctx' : Ctx} (hin : CaseEquivInputs ctx.lower ctx.input ctx'.input) : ctx'.len = ctx.len :=
  hin.1.symm

theorem atom_leaf {ctx ctx' : Ctx} (hs : SameSettings ctx ctx') (hcb : ctx.caseBlind = true)
    (hin : CaseEquivInputs ctx.lower ctx.input ctx'.input) (cs : List Nat) (p : Nat) :
    prefixMatch ctx' cs (ctx'.input.drop p) = prefixMatch ctx cs (ctx.input.drop p) :=
  C11.prefixMatch_caseEquiv hs hcb (.refl _ cs) (hin.drop p)

theorem nl_leaf {ctx ctx' : Ctx} (hin : CaseEquivInputs ctx.lower ctx.input ctx'.input)
    (hnl : NewlineCaseless ctx.lower) (i : Nat) :
    ctx'.input[i]? = some 10 ↔ ctx.input[i]? = some 10 := by
  have h := hin.at_congr (f := (· == 10)) (fun a _ b _ hab => by
    rw [Bool.eq_iff_iff, beq_iff_eq, beq_iff_eq]
    exact ⟨fun h => hnl b (by rw [C11.eqCB_symm, ← h]; exact hab), fun h => hnl a (h ▸ hab)⟩) i
  simpa only [beq_iff_eq, exists_eq_right] using h

theorem cls_leaf {ctx ctx' : Ctx} (A : Nat → Bool) (hin : CaseEquivInputs ctx.lower ctx.input ctx'.input)
    (hA : Over A ctx.input) (hA' : Over A ctx'.input)
    (rs : Ranges) (hcl : clsClosedOn A ctx.lower rs) (i : Nat) :
    (∃ c, ctx'.input[i]? = some c ∧ clsContains rs c = true) ↔
      (∃ c, ctx.input[i]? = some c ∧ clsContains rs c = true) :=
  hin.at_congr (fun a ha b hb hab => hcl a b (hA a ha) (hA' b hb) hab) i

end Rx.C11b
