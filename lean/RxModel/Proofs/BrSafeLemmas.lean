/-
  Proofs/BrSafeLemmas — state invariants for programs WITH back-references (Props/C05b), both through `sem_free`:
  `sem_sat` for the well-formed trees passing the shape check `freeOKg bOK cOK`, generic in the invariant (`FreeEnv`).

  A. every tree (`sem_idx`, `matchAt_idx`; on the engine as repaired by fix a635aaf, where a back-reference treats
     `end ≤ start` as "no captured text"): no panic site is reachable.  Invariant `IdxInv`, side condition `brOK`.

  B. the spine fragment (`sem_spine_both`): when every REFERENCED group is captured in "spine" position (reachable from
     the root through `.seq` and `.capture` nodes only) every back-reference reads a CLEAN pair.  (Outside the
     fragment a back-reference can meet a dirty pair, e.g. `(?:(a)\1*a){2}` on "aaab": Props/C05b.)  Invariant `BI ctx R`, `R` the spine groups already closed to the left of the
     current node.  A group that is not in `R` may be DIRTY (`startBr[g] = new entry position > endBr[g] = old end`:
     the state left behind when a group is re-entered and its body then fails) — nobody reads it, because a
     back-reference `\g` only occurs to the right of the spine capture `g`, and everything to the right of it runs
     only after `captureWrite` has made `g` clean again; nothing to the right writes `g` except `clearBeyond`, which
     keeps a clean group clean (`end := start`).  Because `R` grows along a sequence, the stream calculus is
     extended to TWO invariants (`Step.Inv2`).  What the check `spineOp` does is stated once, as the induction
     principle `spineOp_ind`; a spine-safe tree has `brOK` (`brOK_of_spine_both`), so no panic on the spine fragment
     (`matchAt_spine`) is a case of part A.
-/
import RxModel.Proofs.InvLemmas
import RxModel.Proofs.OpInd
import RxModel.Proofs.ArrayLemmas
namespace Rx

mutual
/-- generic shape check: every back-reference number satisfies `bOK`, every capture number `cOK` -/
def freeOKg (bOK cOK : Nat → Bool) : Op → Bool
  | .backref g => bOK g
  | .capture g c => cOK g && freeOKg bOK cOK c
  | .choice bs => freeOKgL bOK cOK bs
  | .seq ops => freeOKgL bOK cOK ops
  | .rep _ c _ _ _ => freeOKg bOK cOK c
  | .gfixed c _ _ _ => freeOKg bOK cOK c
  | .rfixed c _ _ _ => freeOKg bOK cOK c
  | .unamb c _ _ => freeOKg bOK cOK c
  | _ => true
termination_by structural o => o
def freeOKgL (bOK cOK : Nat → Bool) : List Op → Bool
  | [] => true
  | o :: os => freeOKg bOK cOK o && freeOKgL bOK cOK os
termination_by structural l => l
end

/-- a subtree that may sit anywhere (under quantifiers, in alternatives): it captures no group of
    `R` (and only groups `< mp`); every back-reference in it is to a group of `R` (and `< mp`) -/
def freeOK (mp : Nat) (R : List Nat) (op : Op) : Bool :=
  freeOKg (fun g => R.contains g && decide (g < mp)) (fun g => !R.contains g && decide (g < mp)) op

/-- no capture and no back-reference at all (the precondition trees of a program) -/
def plainTree (op : Op) : Bool := freeOKg (fun _ => false) (fun _ => false) op

def groupsBelow (mp : Nat) (op : Op) : Bool := freeOKg (fun g => decide (g < mp)) (fun g => decide (g < mp)) op

mutual
theorem freeOKg_mono {b1 c1 b2 c2 : Nat → Bool} (hb : ∀ g, b1 g = true → b2 g = true)
    (hc : ∀ g, c1 g = true → c2 g = true) :
    (op : Op) → freeOKg b1 c1 op = true → freeOKg b2 c2 op = true
  | .bol, _ | .eol, _ | .nothing, _ | .endProgram, _ | .atom _, _ | .cls _, _ => rfl
  | .backref g, h => by simp only [freeOKg] at h ⊢; exact hb g h
  | .capture g c, h => by
    simp only [freeOKg, Bool.and_eq_true] at h ⊢
    exact ⟨hc g h.1, freeOKg_mono hb hc c h.2⟩
  | .choice bs, h => by simp only [freeOKg] at h ⊢; exact freeOKgL_mono hb hc bs h
  | .seq ops, h => by simp only [freeOKg] at h ⊢; exact freeOKgL_mono hb hc ops h
  | .rep _ c _ _ _, h => by simp only [freeOKg] at h ⊢; exact freeOKg_mono hb hc c h
  | .gfixed c _ _ _, h => by simp only [freeOKg] at h ⊢; exact freeOKg_mono hb hc c h
  | .rfixed c _ _ _, h => by simp only [freeOKg] at h ⊢; exact freeOKg_mono hb hc c h
  | .unamb c _ _, h => by simp only [freeOKg] at h ⊢; exact freeOKg_mono hb hc c h
termination_by structural op => op
theorem freeOKgL_mono {b1 c1 b2 c2 : Nat → Bool} (hb : ∀ g, b1 g = true → b2 g = true)
    (hc : ∀ g, c1 g = true → c2 g = true) :
    (l : List Op) → freeOKgL b1 c1 l = true → freeOKgL b2 c2 l = true
  | [], _ => rfl
  | o :: os, h => by
    simp only [freeOKgL, Bool.and_eq_true] at h ⊢
    exact ⟨freeOKg_mono hb hc o h.1, freeOKgL_mono hb hc os h.2⟩
termination_by structural l => l
end

mutual
/-- the spine: `.seq` and `.capture` nodes from the root.  `R` = spine groups closed so far;
    the result is the list after the node.  A capture on the spine adds its group when it closes;
    every other node must be `freeOK` for the current `R`. -/
def spineOp (mp : Nat) : Op → List Nat → Option (List Nat)
  | .capture g c, R =>
      if !R.contains g && decide (g < mp) then (spineOp mp c R).map (fun R' => g :: R') else none
  | .seq ops, R => spineOps mp ops R
  | .backref g, R => if freeOK mp R (.backref g) then some R else none
  | .choice bs, R => if freeOK mp R (.choice bs) then some R else none
  | .rep id c mn mx gr, R => if freeOK mp R (.rep id c mn mx gr) then some R else none
  | .gfixed c mn mx l, R => if freeOK mp R (.gfixed c mn mx l) then some R else none
  | .rfixed c mn mx l, R => if freeOK mp R (.rfixed c mn mx l) then some R else none
  | .unamb c mn mx, R => if freeOK mp R (.unamb c mn mx) then some R else none
  | .bol, R | .eol, R | .nothing, R | .endProgram, R | .atom _, R | .cls _, R => some R
termination_by structural o => o
def spineOps (mp : Nat) : List Op → List Nat → Option (List Nat)
  | [], R => some R
  | o :: os, R =>
    match spineOp mp o R with
    | some R' => spineOps mp os R'
    | none => none
termination_by structural l => l
end

/-- the state at exhaustion satisfies `I`; the state at every yield satisfies `J`, provided the
    consumer hands back states satisfying `J` -/
inductive Step.Inv2 (I J : St → Prop) : Step → Prop
  | nil (st) : I st → Inv2 I J (.nil st)
  | cons (n st r) : J st → (∀ st', J st' → Inv2 I J (r st')) → Inv2 I J (.cons n st r)
  | diverge : Inv2 I J .diverge

namespace Step.Inv2
variable {I I' J K : St → Prop} {P : Nat → Prop}

theorem ofInv {s : Step} (hs : s.Inv I) : s.Inv2 I I := by
  induction hs with
  | nil st h => exact .nil _ h
  | cons n st r h _ ih => exact .cons _ _ _ h ih
  | diverge => exact .diverge

theorem nil_inv {st : St} (h : (Step.nil st).Inv2 I J) : I st := by
  cases h with
  | nil _ h => exact h

theorem head {n : Nat} {st : St} {r : St → Step} (h : (Step.cons n st r).Inv2 I J) : J st := by
  cases h with
  | cons _ _ _ h _ => exact h

theorem weaken {s : Step} (hs : s.Inv2 I J) (h : ∀ st, I st → I' st) : s.Inv2 I' J := by
  induction hs with
  | nil st hi => exact .nil _ (h _ hi)
  | cons n st r hj _ ih => exact .cons _ _ _ hj ih
  | diverge => exact .diverge

theorem append {s : Step} {f : St → Step}
    (hs : s.Inv2 J K) (hf : ∀ st, J st → (f st).Inv2 I K) : (s.append f).Inv2 I K := by
  induction hs with
  | nil st h => exact hf st h
  | cons n st r h _ ih => exact .cons _ _ _ h ih
  | diverge => exact .diverge

theorem bindP {s : Step} {f : Nat → St → Step}
    (hs : s.Inv2 I J) (hp : s.All P) (hf : ∀ n st, P n → J st → (f n st).Inv2 J K) :
    (s.bind f).Inv2 I K := by
  induction hs with
  | nil st h => exact .nil _ h
  | cons n st r h _ ih =>
    cases hp with
    | cons _ _ _ hn hr => exact (hf n st hn h).append (fun st' h' => ih st' h' (hr st'))
  | diverge => exact .diverge

theorem mapStP {s : Step} {f : Nat → St → St} (hs : s.Inv2 I J) (hp : s.All P)
    (hf : ∀ n st, P n → J st → K (f n st)) (hkj : ∀ st, K st → J st) : (s.mapSt f).Inv2 I K := by
  induction hs with
  | nil st h => exact .nil _ h
  | cons n st r h _ ih =>
    cases hp with
    | cons _ _ _ hn hr => exact .cons _ _ _ (hf n st hn h) (fun st' h' => ih st' (hkj _ h') (hr st'))
  | diverge => exact .diverge

theorem onNil {s : Step} {f : St → St} (hs : s.Inv2 I J) (hf : ∀ st, I st → I' (f st)) :
    (s.onNil f).Inv2 I' J := by
  induction hs with
  | nil st h => exact .nil _ (hf st h)
  | cons n st r h _ ih => exact .cons _ _ _ h ih
  | diverge => exact .diverge

end Step.Inv2

/-- group `g` is clean: a recorded pair has `start ≤ end` -/
def CleanAt (st : St) (g : Nat) : Prop :=
  ∀ s e, getO st.startBr g = some s → getO st.endBr g = some e → s ≤ e

structure BI (ctx : Ctx) (R : List Nat) (st : St) : Prop where
  np : NoRealPanic st
  ls : st.startBr.length = ctx.maxParens
  le : st.endBr.length = ctx.maxParens
  clean : ∀ g, g ∈ R → CleanAt st g

theorem BI.mono {ctx : Ctx} {R R' : List Nat} {st : St} (hsub : ∀ g, g ∈ R → g ∈ R') (h : BI ctx R' st) :
    BI ctx R st :=
  ⟨h.np, h.ls, h.le, fun g hg => h.clean g (hsub g hg)⟩

theorem setPanic_startBr (st : St) (c : Nat) : (st.setPanic c).startBr = st.startBr := by
  unfold St.setPanic
  split <;> rfl

theorem setPanic_endBr (st : St) (c : Nat) : (st.setPanic c).endBr = st.endBr := by
  unfold St.setPanic
  split <;> rfl

theorem CleanAt.clear {st : St} {g : Nat} (h : CleanAt st g) (pos : Nat) : CleanAt (clearBeyond st pos) g := by
  intro s e hs he
  have he' : getO (clearArr st.startBr st.endBr pos) g = some e := he
  rw [getO_clearArr] at he'
  split at he'
  · -- the end is now the start
    rw [show getO st.startBr g = some s from hs] at he'
    cases he'
    exact Nat.le_refl _
  · exact h s e hs he'

theorem writes_BI (ctx : Ctx) (R : List Nat) : Writes (BI ctx R) where
  clear := fun st p h =>
    ⟨h.np, h.ls, by
      simp only [clearBeyond]
      rw [length_clearArr _ _ _ (by rw [h.ls, h.le])]
      exact h.le, fun g hg => (h.clean g hg).clear p⟩
  div := fun st h =>
    ⟨h.np.setDiv, by rw [setPanic_startBr]; exact h.ls, by rw [setPanic_endBr]; exact h.le,
      fun g hg s e hs he => by
        rw [setPanic_startBr] at hs
        rw [setPanic_endBr] at he
        exact h.clean g hg s e hs he⟩
  hist := fun st _ h => ⟨h.np, h.ls, h.le, h.clean⟩
  restore := fun _ st' _ h => ⟨h.np, h.ls, h.le, h.clean⟩
  setEnd0 := fun st _ h => ⟨h.np, h.ls, h.le, h.clean⟩

theorem backrefGen_BI (ctx : Ctx) (R : List Nat) (g : Nat) (_hg : g ∈ R) (hmp : g < ctx.maxParens)
    {Pos : Nat → Prop} : GenInv Pos (BI ctx R) (backrefGen ctx g) := by
  intro p st _ h
  exact backrefGen_inv_of h (fun hge => by rw [h.ls] at hge; omega)

theorem capturePre_BI (ctx : Ctx) (R : List Nat) (g : Nat) (hg : g ∉ R) (hmp : g < ctx.maxParens)
    (p : Nat) (st : St) (h : BI ctx R st) :
    BI ctx R (captureEntry ctx g p st) := by
  unfold captureEntry
  split
  · split
    · rename_i hge
      rw [h.ls] at hge
      omega
    · refine ⟨h.np, by simp only [length_setIn]; exact h.ls, h.le, fun g' hg' s e hs he => ?_⟩
      have hne : g' ≠ g := fun hh => hg (hh ▸ hg')
      simp only [getO_setIn_ne _ _ _ _ hne] at hs
      exact h.clean g' hg' s e hs he
  · exact h

theorem captureWrite_BI (ctx : Ctx) (R : List Nat) (g : Nat) (hg : g ∉ R)
    (p n : Nat) (st : St) (h : BI ctx R st) : BI ctx R (captureWrite ctx g p n st) := by
  unfold captureWrite
  simp only
  split
  · refine ⟨h.np, by simp only [length_setIn]; exact h.ls, by simp only [length_setIn]; exact h.le,
      fun g' hg' s e hs he => ?_⟩
    have hne : g' ≠ g := fun hh => hg (hh ▸ hg')
    simp only [getO_setIn_ne _ _ _ _ hne] at hs he
    exact h.clean g' hg' s e hs he
  · exact ⟨h.np, h.ls, h.le, h.clean⟩

theorem captureWrite_BI_spine (ctx : Ctx) (R : List Nat) (g : Nat) (hmp : g < ctx.maxParens)
    (hb : ctx.hasBackrefs = true) (p n : Nat) (hpn : p ≤ n) (st : St) (h : BI ctx R st) :
    BI ctx (g :: R) (captureWrite ctx g p n st) := by
  unfold captureWrite
  simp only [hb, if_true]
  refine ⟨h.np, by simp only [length_setIn]; exact h.ls, by simp only [length_setIn]; exact h.le,
    fun g' hg' s e hs he => ?_⟩
  by_cases hne : g' = g
  · subst hne
    simp only at hs he
    rw [getO_setIn_eq _ _ _ (by rw [h.ls]; exact hmp)] at hs
    rw [getO_setIn_eq _ _ _ (by rw [h.le]; exact hmp)] at he
    simp only [Option.some.injEq] at hs he
    omega
  · simp only [getO_setIn_ne _ _ _ _ hne] at hs he
    have hg'R : g' ∈ R := by
      simp only [List.mem_cons] at hg'
      rcases hg' with hh | hh
      · exact absurd hh hne
      · exact hh
    exact h.clean g' hg'R s e hs he

/-- what the induction over a free subtree needs of the invariant `I` -/
structure FreeEnv (ctx : Ctx) (Pos : Nat → Prop) (I : St → Prop) (bOK cOK : Nat → Bool) : Prop where
  W : Writes I
  child : ∀ c, wfOp c = true → GenInv Pos I (sem ctx c) → ChildOK Pos I (sem ctx c)
  pos : ∀ o, wfOp o = true → ∀ p st, Pos p → (sem ctx o p st).All Pos
  guard : ∀ p, p ≤ ctx.len → Pos p
  bref : ∀ g, bOK g = true → GenInv Pos I (backrefGen ctx g)
  cpre : ∀ g, cOK g = true → ∀ p st, I st → I (if ctx.hasBackrefs then
      (if g ≥ st.startBr.length then st.setPanic panicCaptureIndex
       else { st with startBr := setIn st.startBr g (some p) }) else st)
  cw : ∀ g, cOK g = true → ∀ p n st, I st → I (captureWrite ctx g p n st)

theorem contains_iff_mem (R : List Nat) (g : Nat) : R.contains g = true ↔ g ∈ R := by
  simp

theorem down_freeOKg (bOK cOK : Nat → Bool) :
    Down (fun o => freeOKg bOK cOK o = true) (fun os => freeOKgL bOK cOK os = true) :=
  .ofBool (fun _ _ h => by simp only [freeOKg, Bool.and_eq_true] at h; exact h.2)
    (fun _ h => by simpa only [freeOKg] using h) (fun _ h => by simpa only [freeOKg] using h)
    (fun _ _ _ _ _ h => by simpa only [freeOKg] using h) (fun _ _ _ _ h => by simpa only [freeOKg] using h)
    (fun _ _ _ _ h => by simpa only [freeOKg] using h) (fun _ _ _ h => by simpa only [freeOKg] using h)
    (fun _ _ h => by simpa only [freeOKgL, Bool.and_eq_true] using h)

/-- the writes survive the fuel marker, so nothing is asked of the fuels (`mode`) -/
theorem FreeEnv.satEnv {ctx : Ctx} {Pos : Nat → Prop} {I : St → Prop} {bOK cOK : Nat → Bool}
    (E : FreeEnv ctx Pos I bOK cOK) :
    SatEnv ctx True Pos I (fun o => wfOp o = true ∧ freeOKg bOK cOK o = true)
      (fun os => wfOps os = true ∧ freeOKgL bOK cOK os = true) where
  down := down_wfOp.and (down_freeOKg bOK cOK)
  clear := fun st p _ h => E.W.clear st p h
  restore := E.W.restore
  setEnd0 := E.W.setEnd0
  up := fun _ q _ _ hq => E.guard q hq
  pos := fun ho => E.pos _ ho.1
  pull := fun {c} ho C => (E.child c ho.1 (fun p st hp h => (C p st hp h).inv)).pullOK
    (fun p st _ => (sem_sat (satEnv_any ctx) c trivial p st trivial trivial).all.mono (fun _ h => h.2))
  mode := .inl ⟨trivial, E.W.div⟩
  capture := fun {g c} h => by
    have hg : cOK g = true := by
      have := h.2
      simp only [freeOKg, Bool.and_eq_true] at this
      exact this.1
    exact ⟨E.cpre g hg, E.cw g hg⟩
  hist := fun _ _ st _ hst => E.W.hist st _ hst
  unamb := fun _ => .inl E.W.div
  bref := fun {g} h st hst hge => by
    have := E.bref g (by simpa only [freeOKg] using h.2) 0 st (E.guard 0 (Nat.zero_le _)) hst
    unfold backrefGen at this
    rw [if_pos hge] at this
    exact this.nil_inv

theorem sem_free {ctx : Ctx} {Pos : Nat → Prop} {I : St → Prop} {bOK cOK : Nat → Bool}
    (E : FreeEnv ctx Pos I bOK cOK) (op : Op) (hwf : wfOp op = true) (hf : freeOKg bOK cOK op = true) :
    GenInv Pos I (sem ctx op) :=
  fun p st hp h => (sem_sat E.satEnv op ⟨hwf, hf⟩ p st hp h).inv

theorem sem_free_choice {ctx : Ctx} {Pos : Nat → Prop} {I : St → Prop} {bOK cOK : Nat → Bool}
    (E : FreeEnv ctx Pos I bOK cOK) :
    (bs : List Op) → wfOps bs = true → freeOKgL bOK cOK bs = true → GenInv Pos I (choiceGen (semL ctx bs)) :=
  fun bs hwf hf p st hp h => (sem_sat_choice E.satEnv bs ⟨hwf, hf⟩ p st hp h).inv

theorem sem_free_seq {ctx : Ctx} {Pos : Nat → Prop} {I : St → Prop} {bOK cOK : Nat → Bool}
    (E : FreeEnv ctx Pos I bOK cOK) :
    (ops : List Op) → wfOps ops = true → freeOKgL bOK cOK ops = true → GenInv Pos I (seqGo (semL ctx ops)) :=
  fun ops hwf hf p st hp h => (sem_sat_seq E.satEnv ops ⟨hwf, hf⟩ p st hp h).inv

theorem freeEnv_BI (ctx : Ctx) (R : List Nat) :
    FreeEnv ctx (fun p => p ≤ ctx.len) (BI ctx R)
      (fun g => R.contains g && decide (g < ctx.maxParens)) (fun g => !R.contains g && decide (g < ctx.maxParens)) where
  W := writes_BI ctx R
  child := fun c hwc h => childOK_wf ctx c hwc h
  pos := fun o hwo p st hp => (sem_bounds_op ctx o hwo p hp st).mono (fun _ hn => hn.2)
  guard := fun _ h => h
  bref := fun g hg => by
    simp only [Bool.and_eq_true, decide_eq_true_eq, contains_iff_mem] at hg
    exact backrefGen_BI ctx R g hg.1 hg.2
  cpre := fun g hg p st h => by
    simp only [Bool.and_eq_true, decide_eq_true_eq, Bool.not_eq_true', ← Bool.not_eq_true, contains_iff_mem] at hg
    exact capturePre_BI ctx R g hg.1 hg.2 p st h
  cw := fun g hg p n st h => by
    simp only [Bool.and_eq_true, decide_eq_true_eq, Bool.not_eq_true', ← Bool.not_eq_true, contains_iff_mem] at hg
    exact captureWrite_BI ctx R g hg.1 p n st h

theorem freeEnv_plain (ctx : Ctx) {Q : St → Prop} (W : Writes Q) (hj : Q junkSt) :
    FreeEnv ctx (fun _ => True) Q (fun _ => false) (fun _ => false) where
  W := W
  child := fun _ _ h =>
    { inv := h
      fst := fun p st hp hst => first1_inv (h p st hp hst) (fun _ => hj)
      pos := fun _ _ _ => Step.All.trivial _ }
  pos := fun _ _ _ _ _ => Step.All.trivial _
  guard := fun _ _ => trivial
  bref := fun g hg => by simp at hg
  cpre := fun g hg => by simp at hg
  cw := fun g hg => by simp at hg

theorem spineOp_free {mp : Nat} {op : Op} {R R' : List Nat} (h : spineOp mp op R = some R')
    (hc : ∀ g c, op ≠ .capture g c) (hs : ∀ l, op ≠ .seq l) : R' = R ∧ freeOK mp R op = true := by
  cases op with
  | capture g c => exact absurd rfl (hc g c)
  | seq l => exact absurd rfl (hs l)
  | bol | eol | nothing | endProgram | atom _ | cls _ =>
    simp only [spineOp, Option.some.injEq] at h
    exact ⟨h.symm, rfl⟩
  | backref _ | choice _ | rep _ _ _ _ _ | gfixed _ _ _ _ | rfixed _ _ _ _ | unamb _ _ _ =>
    simp only [spineOp] at h
    split at h
    · rename_i hf
      exact ⟨(Option.some.inj h).symm, hf⟩
    · cases h

theorem spineOp_ind {mp : Nat} {M : Op → List Nat → List Nat → Prop} {ML : List Op → List Nat → List Nat → Prop}
    (free : ∀ op R, freeOK mp R op = true → M op R R)
    (capture : ∀ g c R R1, g ∉ R → g < mp → M c R R1 → M (.capture g c) R (g :: R1))
    (seq : ∀ ops R R', ML ops R R' → M (.seq ops) R R')
    (nil : ∀ R, ML [] R R)
    (cons : ∀ o os R R1 R', spineOp mp o R = some R1 → spineOps mp os R1 = some R' → M o R R1 → ML os R1 R' →
      ML (o :: os) R R') :
    (∀ op R R', spineOp mp op R = some R' → M op R R') ∧ ∀ ops R R', spineOps mp ops R = some R' → ML ops R R' := by
  have fr : ∀ op, (∀ g c, op ≠ .capture g c) → (∀ l, op ≠ .seq l) →
      ∀ R R', spineOp mp op R = some R' → M op R R' := by
    intro op hc hs R R' h
    obtain ⟨rfl, hf⟩ := spineOp_free h hc hs
    exact free op _ hf
  refine Op.ind_both (fr _ (fun _ _ => nofun) (fun _ => nofun)) (fr _ (fun _ _ => nofun) (fun _ => nofun))
    (fr _ (fun _ _ => nofun) (fun _ => nofun)) (fr _ (fun _ _ => nofun) (fun _ => nofun))
    (fun _ => fr _ (fun _ _ => nofun) (fun _ => nofun)) (fun _ => fr _ (fun _ _ => nofun) (fun _ => nofun))
    (fun _ => fr _ (fun _ _ => nofun) (fun _ => nofun)) ?_
    (fun _ _ => fr _ (fun _ _ => nofun) (fun _ => nofun)) ?_
    (fun _ _ _ _ _ _ => fr _ (fun _ _ => nofun) (fun _ => nofun))
    (fun _ _ _ _ _ => fr _ (fun _ _ => nofun) (fun _ => nofun))
    (fun _ _ _ _ _ => fr _ (fun _ _ => nofun) (fun _ => nofun))
    (fun _ _ _ _ => fr _ (fun _ _ => nofun) (fun _ => nofun)) ?_ ?_
  · intro g c ih R R' h
    simp only [spineOp] at h
    split at h
    · rename_i hg
      simp only [Bool.and_eq_true, decide_eq_true_eq, Bool.not_eq_true', ← Bool.not_eq_true,
        contains_iff_mem] at hg
      cases hc : spineOp mp c R with
      | none => rw [hc] at h; simp at h
      | some R1 =>
        rw [hc] at h
        simp only [Option.map_some, Option.some.injEq] at h
        subst h
        exact capture g c R R1 hg.1 hg.2 (ih R R1 hc)
    · simp at h
  · intro ops ih R R' h
    simp only [spineOp] at h
    exact seq ops R R' (ih R R' h)
  · intro R R' h
    simp only [spineOps, Option.some.injEq] at h
    subst h
    exact nil R
  · intro o os iho ihos R R' h
    simp only [spineOps] at h
    cases ho : spineOp mp o R with
    | none => rw [ho] at h; simp at h
    | some R1 =>
      rw [ho] at h
      exact cons o os R R1 R' ho h (iho R R1 ho) (ihos R1 R' h)

theorem spineOp_sub_both (mp : Nat) :
    (∀ op R R', spineOp mp op R = some R' → ∀ g, g ∈ R → g ∈ R') ∧
    ∀ ops R R', spineOps mp ops R = some R' → ∀ g, g ∈ R → g ∈ R' :=
  spineOp_ind (fun _ _ _ _ hx => hx) (fun _ _ _ _ _ _ ih x hx => List.mem_cons_of_mem _ (ih x hx))
    (fun _ _ _ ih => ih) (fun _ _ hx => hx) (fun _ _ _ _ _ _ _ ih1 ih2 x hx => ih2 x (ih1 x hx))

theorem spineOp_sub (mp : Nat) : (op : Op) → ∀ R R', spineOp mp op R = some R' → ∀ g, g ∈ R → g ∈ R' :=
  (spineOp_sub_both mp).1

theorem spineOps_sub (mp : Nat) : (ops : List Op) → ∀ R R', spineOps mp ops R = some R' → ∀ g, g ∈ R → g ∈ R' :=
  (spineOp_sub_both mp).2

theorem sem_spine_free (ctx : Ctx) (op : Op) (hwf : wfOp op = true) (R : List Nat)
    (hf : freeOK ctx.maxParens R op = true) (p : Nat) (st : St) (hp : p ≤ ctx.len) (h : BI ctx R st) :
    (sem ctx op p st).Inv2 (BI ctx R) (BI ctx R) :=
  .ofInv (sem_free (freeEnv_BI ctx R) op hwf hf p st hp h)

theorem sem_spine_both (ctx : Ctx) (hb : ctx.hasBackrefs = true) :
    (∀ op R R', spineOp ctx.maxParens op R = some R' → wfOp op = true →
      ∀ p st, p ≤ ctx.len → BI ctx R st → (sem ctx op p st).Inv2 (BI ctx R) (BI ctx R')) ∧
    ∀ ops R R', spineOps ctx.maxParens ops R = some R' → wfOps ops = true →
      ∀ p st, p ≤ ctx.len → BI ctx R st → (seqK (semL ctx ops) p st).Inv2 (BI ctx R) (BI ctx R') := by
  refine spineOp_ind ?_ ?_ ?_ ?_ ?_
  · intro op R hf hwf p st hp hst
    exact sem_spine_free ctx op hwf R hf p st hp hst
  · intro g c R R1 hgR hgm ih hwf p st hp hst
    simp only [wfOp] at hwf
    simp only [sem]
    unfold captureGen
    simp only
    have hpre := capturePre_BI ctx R g hgR hgm p st hst
    exact (ih hwf p _ hp hpre).mapStP (sem_bounds_op ctx c hwf p hp (captureEntry ctx g p st))
      (fun n st' hn h' => captureWrite_BI_spine ctx R1 g hgm hb p n hn.1 st' h')
      (fun st' h' => h'.mono (fun x hx => List.mem_cons_of_mem _ hx))
  · intro ops R R' ih hwf p st hp hst
    simp only [wfOp, Bool.and_eq_true, Bool.not_eq_true', List.isEmpty_eq_false_iff] at hwf
    obtain ⟨o, os, rfl⟩ := List.exists_cons_of_ne_nil hwf.1
    simp only [sem, semL]
    unfold seqGen
    simp only [seqGo_cons]
    refine (ih hwf.2 p st hp hst).onNil (fun st' h' => ?_)
    split
    · exact ⟨h'.np, h'.ls, h'.le, h'.clean⟩
    · exact h'
  · intro R _ p st _ hst
    exact .cons _ _ _ hst (fun _ h' => .nil _ h')
  · intro o os R R1 R' _ _ iho ihos hwf p st hp hst
    simp only [wfOps, Bool.and_eq_true] at hwf
    have h1 := iho hwf.1 p st hp hst
    have hbd := sem_bounds_op ctx o hwf.1 p hp st
    have hclr : ∀ (n : Nat) (st' : St), (p ≤ n ∧ n ≤ ctx.len) → BI ctx R1 st' → BI ctx R1 (clearBeyond st' n) :=
      fun n st' _ h' => (writes_BI ctx R1).clear st' n h'
    exact Step.Inv2.bindP (h1.mapStP hbd hclr (fun _ h' => h')) hbd.mapSt
      (fun n st' hn h' => ihos hwf.2 n st' hn.2 h')

theorem sem_spine_seq (ctx : Ctx) (hb : ctx.hasBackrefs = true) :
    (ops : List Op) → wfOps ops = true → ∀ R R', spineOps ctx.maxParens ops R = some R' →
      ∀ p st, p ≤ ctx.len → BI ctx R st → (seqGo (semL ctx ops) p st).Inv2 (BI ctx R) (BI ctx R') :=
  fun ops hwf R R' h p st hp hst => by
    cases ops with
    | nil => exact .nil _ hst
    | cons o os =>
      simp only [semL, seqGo_cons]
      exact (sem_spine_both ctx hb).2 _ R R' h hwf p st hp hst

theorem sem_plain (ctx : Ctx) {Q : St → Prop} (W : Writes Q) (hj : Q junkSt)
    (op : Op) (hwf : wfOp op = true) (hpl : plainTree op = true) :
    GenInv (fun _ => True) Q (sem ctx op) :=
  sem_free (freeEnv_plain ctx W hj) op hwf hpl

/-- the side condition on group numbers: a back-reference only in a program that has the
    `hasBackrefs` flag (so that the arrays are allotted) and with a number below `maxParens`;
    a capture number below `maxParens` when the program has the flag -/
def brOK (hbr : Bool) (mp : Nat) (op : Op) : Bool :=
  freeOKg (fun g => hbr && decide (g < mp)) (fun g => !hbr || decide (g < mp)) op

/-- no real panic, and (when the program uses them) both back-reference arrays have their
    allotted length `maxParens` -/
structure IdxInv (ctx : Ctx) (st : St) : Prop where
  np : NoRealPanic st
  ls : ctx.hasBackrefs = true → st.startBr.length = ctx.maxParens
  le : ctx.hasBackrefs = true → st.endBr.length = ctx.maxParens

theorem writes_idx (ctx : Ctx) : Writes (IdxInv ctx) where
  clear := fun st p h =>
    ⟨h.np, h.ls, fun hb => by
      simp only [clearBeyond]
      rw [length_clearArr _ _ _ (by rw [h.ls hb, h.le hb])]
      exact h.le hb⟩
  div := fun st h =>
    ⟨h.np.setDiv, fun hb => by rw [setPanic_startBr]; exact h.ls hb,
      fun hb => by rw [setPanic_endBr]; exact h.le hb⟩
  hist := fun st _ h => ⟨h.np, h.ls, h.le⟩
  restore := fun _ st' _ h => ⟨h.np, h.ls, h.le⟩
  setEnd0 := fun st _ h => ⟨h.np, h.ls, h.le⟩

theorem backrefGen_idx (ctx : Ctx) (g : Nat) (hb : ctx.hasBackrefs = true) (hmp : g < ctx.maxParens)
    {Pos : Nat → Prop} : GenInv Pos (IdxInv ctx) (backrefGen ctx g) := by
  intro p st _ h
  exact backrefGen_inv_of h (fun hge => by rw [h.ls hb] at hge; omega)

theorem freeEnv_idx (ctx : Ctx) :
    FreeEnv ctx (fun p => p ≤ ctx.len) (IdxInv ctx)
      (fun g => ctx.hasBackrefs && decide (g < ctx.maxParens))
      (fun g => !ctx.hasBackrefs || decide (g < ctx.maxParens)) where
  W := writes_idx ctx
  child := fun c hwc h => childOK_wf ctx c hwc h
  pos := fun o hwo p st hp => (sem_bounds_op ctx o hwo p hp st).mono (fun _ hn => hn.2)
  guard := fun _ h => h
  bref := fun g hg => by
    simp only [Bool.and_eq_true, decide_eq_true_eq] at hg
    exact backrefGen_idx ctx g hg.1 hg.2
  cpre := fun g hg p st h => by
    split
    · rename_i hb
      have hmp : g < ctx.maxParens := by simpa [hb] using hg
      split
      · rename_i hge
        rw [h.ls hb] at hge
        omega
      · exact ⟨h.np, fun hb' => by simp only [length_setIn]; exact h.ls hb', h.le⟩
    · exact h
  cw := fun g _ p n st h => by
    unfold captureWrite
    simp only
    split
    · exact ⟨h.np, fun hb' => by simp only [length_setIn]; exact h.ls hb',
        fun hb' => by simp only [length_setIn]; exact h.le hb'⟩
    · exact ⟨h.np, h.ls, h.le⟩

theorem sem_idx (ctx : Ctx) (op : Op) (hwf : wfOp op = true)
    (hg : brOK ctx.hasBackrefs ctx.maxParens op = true) :
    GenInv (fun p => p ≤ ctx.len) (IdxInv ctx) (sem ctx op) :=
  sem_free (freeEnv_idx ctx) op hwf hg

theorem matchStart_idx (ctx : Ctx) (j : Nat) (st : St) (h : NoRealPanic st) : IdxInv ctx (matchStart ctx j st) := by
  unfold matchStart
  simp only
  split
  · exact ⟨h, fun _ => List.length_replicate, fun _ => List.length_replicate⟩
  · rename_i hb
    exact ⟨h, fun hb' => absurd hb' hb, fun hb' => absurd hb' hb⟩

theorem matchAt_idx (ctx : Ctx) (op : Op) (hwf : wfOp op = true)
    (hg : brOK ctx.hasBackrefs ctx.maxParens op = true)
    (j : Nat) (hj : j ≤ ctx.len) (st : St) (h : NoRealPanic st) : NoRealPanic (matchAt ctx op j st).2 := by
  have h0 := matchStart_idx ctx j st h
  exact matchAt_keeps (sem_idx ctx op hwf hg j _ hj h0) (fun _ _ hs => hs.np) (fun _ hs => hs.np)
    (fun _ => h0.np.setDiv)

theorem brOK_of_spine_both (mp : Nat) :
    (∀ op R R', spineOp mp op R = some R' → brOK true mp op = true) ∧
    ∀ ops R R', spineOps mp ops R = some R' →
      freeOKgL (fun g => true && decide (g < mp)) (fun g => !true || decide (g < mp)) ops = true := by
  refine spineOp_ind (fun op R hf => ?_) (fun g c _ _ _ hg ih => ?_) (fun _ _ _ ih => ?_) (fun _ => rfl)
    (fun _ _ _ _ _ _ _ ih1 ih2 => ?_)
  · exact freeOKg_mono (fun g hg => by simp only [Bool.and_eq_true] at hg; simpa using hg.2)
      (fun g hg => by simp only [Bool.and_eq_true] at hg; simpa using hg.2) op hf
  · simp only [brOK, freeOKg, Bool.and_eq_true] at ih ⊢
    exact ⟨by simpa using hg, ih⟩
  · simpa only [brOK, freeOKg] using ih
  · simp only [freeOKgL, Bool.and_eq_true]
    exact ⟨ih1, ih2⟩

theorem matchAt_spine (ctx : Ctx) (hb : ctx.hasBackrefs = true) (op : Op) (hwf : wfOp op = true)
    (hsp : (spineOp ctx.maxParens op []).isSome = true)
    (j : Nat) (hj : j ≤ ctx.len) (st : St) (h : NoRealPanic st) : NoRealPanic (matchAt ctx op j st).2 := by
  obtain ⟨R', hR'⟩ := Option.isSome_iff_exists.1 hsp
  exact matchAt_idx ctx op hwf (by rw [hb]; exact (brOK_of_spine_both _).1 op [] R' hR') j hj st h

/-- `prefix.len ≤ minimum_length` (what `ReProgram::new` guarantees, `C05.FactsOK`) -/
def prefixOK (pr : Prog) : Bool :=
  match pr.prefix_ with
  | some pre => decide (pre.length ≤ pr.minLen) || decide (pr.minLen = usizeMax)
  | none => true

/-- the precondition trees are well-formed and contain neither captures nor back-references
    (`add_precondition` only emits atoms, classes and repeats of them) -/
def presOK (pr : Prog) : Bool := pr.pres.all (fun q => wfOp q.op && plainTree q.op)

/-- everything the no-panic theorems need of a program: all decidable, all guaranteed by the compiler
    (`compile_progOK`) -/
def progOK (pr : Prog) : Bool :=
  wfOp pr.op && brOK pr.hasBackrefs pr.maxParens pr.op && presOK pr && prefixOK pr

end Rx
