/-
  Proofs/Clean2ApiLemmas — every tree `parseExpr` returns has only sequences of ≥ 2 elements (`seqGe2`), and EndProgram
  occurs only as the last element of the root sequence (`endTop`): `SG` (no EndProgram at all) is kept by every
  constructor the parser applies (`parserClosed_SG`), since every `.seq` is built by `makeSequence`, which joins two
  trees.  Numbering keeps the shape of the fragment of Spec/Enum2, so that a condition on the compiled program's tree
  is a condition on the tree handed to `ReProgram::new`.
-/
import RxModel.Proofs.Clean2SearchLemmas
import RxModel.Props.WF
import RxModel.Proofs.NewProg
namespace Rx.Clean2Api
open Rx Rx.Clean2Opt

abbrev SG (op : Op) : Prop := seqGe2 op = true ∧ noEnd op = true
abbrev SGL (l : List Op) : Prop := seqGe2L l = true ∧ noEndL l = true

theorem seqGe2L_append (l1 l2 : List Op) : seqGe2L (l1 ++ l2) = (seqGe2L l1 && seqGe2L l2) := by
  induction l1 with
  | nil => simp [seqGe2L]
  | cons a t ih => simp [seqGe2L, ih, Bool.and_assoc]

theorem noEndL_append (l1 l2 : List Op) : noEndL (l1 ++ l2) = (noEndL l1 && noEndL l2) := by
  induction l1 with
  | nil => simp [noEndL]
  | cons a t ih => simp [noEndL, ih, Bool.and_assoc]

theorem SGL_append {l1 l2 : List Op} (h1 : SGL l1) (h2 : SGL l2) : SGL (l1 ++ l2) :=
  ⟨by rw [seqGe2L_append, h1.1, h2.1]; rfl, by rw [noEndL_append, h1.2, h2.2]; rfl⟩

theorem SGL_single {o : Op} (h : SG o) : SGL [o] :=
  ⟨by simp [seqGe2L, h.1], by simp [noEndL, h.2]⟩

theorem SG_seq {l : List Op} (h : SG (.seq l)) : 2 ≤ l.length ∧ SGL l := by
  obtain ⟨h1, h2⟩ := h
  simp only [seqGe2, Bool.and_eq_true, decide_eq_true_eq] at h1
  simp only [noEnd] at h2
  exact ⟨h1.1, h1.2, h2⟩

theorem SG_mk_seq {l : List Op} (hlen : 2 ≤ l.length) (h : SGL l) : SG (.seq l) :=
  ⟨by simp only [seqGe2, Bool.and_eq_true, decide_eq_true_eq]; exact ⟨hlen, h.1⟩, by simp only [noEnd]; exact h.2⟩

theorem SG_makeSequence (a b : Op) (ha : SG a) (hb : SG b) : SG (makeSequence a b) := by
  unfold makeSequence
  split
  · obtain ⟨la, sa⟩ := SG_seq ha
    obtain ⟨lb, sb⟩ := SG_seq hb
    exact SG_mk_seq (by rw [List.length_append]; exact Nat.le_trans la (Nat.le_add_right _ _)) (SGL_append sa sb)
  · obtain ⟨la, sa⟩ := SG_seq ha
    exact SG_mk_seq (by rw [List.length_append]; exact Nat.le_trans la (Nat.le_add_right _ _)) (SGL_append sa (SGL_single hb))
  · obtain ⟨lb, sb⟩ := SG_seq hb
    exact SG_mk_seq (Nat.le_succ_of_le lb) (SGL_append (SGL_single ha) sb)
  · exact SG_mk_seq (by simp) (SGL_append (SGL_single ha) (SGL_single hb))

theorem endLast_snoc : ∀ (l : List Op), noEndL l = true → endLast (l ++ [.endProgram]) = true
  | [], _ => by simp [endLast, isEnd]
  | o :: t, h => by
    simp only [noEndL, Bool.and_eq_true] at h
    have ih := endLast_snoc t h.2
    cases t with
    | nil => simp [endLast, h.1, isEnd]
    | cons a r =>
      simp only [List.cons_append] at ih ⊢
      have e : endLast (o :: a :: (r ++ [.endProgram])) = (noEnd o && endLast (a :: (r ++ [.endProgram]))) := by
        rw [endLast]; rfl
      rw [e, h.1, ih]; rfl

theorem top_makeSequence (a : Op) (ha : SG a) :
    seqGe2 (makeSequence a .endProgram) = true ∧ endTop (makeSequence a .endProgram) = true := by
  by_cases hs : ∃ l, a = .seq l
  · obtain ⟨l, rfl⟩ := hs
    obtain ⟨la, sa⟩ := SG_seq ha
    have : makeSequence (.seq l) .endProgram = .seq (l ++ [.endProgram]) := rfl
    rw [this]
    refine ⟨?_, ?_⟩
    · simp only [seqGe2, Bool.and_eq_true, decide_eq_true_eq]
      exact ⟨by rw [List.length_append]; exact Nat.le_trans la (Nat.le_add_right _ _), by rw [seqGe2L_append, sa.1]; rfl⟩
    · simp only [endTop]; exact endLast_snoc l sa.2
  · have : makeSequence a .endProgram = .seq [a, .endProgram] := by
      cases a <;> first | rfl | exact absurd ⟨_, rfl⟩ hs
    rw [this]
    refine ⟨?_, ?_⟩
    · simp [seqGe2, seqGe2L, ha.1]
    · simp [endTop, endLast, ha.2, isEnd]

theorem SGL_of_forall {l : List Op} : (∀ b ∈ l, SG b) → SGL l :=
  list_of_forall (PL := SGL) ⟨rfl, rfl⟩ (fun _ _ ⟨g1, g2⟩ ⟨h1, h2⟩ =>
    ⟨by simp only [seqGe2L, g1, h1, Bool.and_self], by simp only [noEndL, g2, h2, Bool.and_self]⟩) l

theorem parserClosed_SG : ParserClosed SG where
  bol := ⟨rfl, rfl⟩
  eol := ⟨rfl, rfl⟩
  nothing := ⟨rfl, rfl⟩
  cls _ := ⟨rfl, rfl⟩
  backref _ := ⟨rfl, rfl⟩
  atom _ _ := ⟨rfl, rfl⟩
  capture _ _ h := ⟨by simp only [seqGe2]; exact h.1, by simp only [noEnd]; exact h.2⟩
  choice _ h := ⟨by simp only [seqGe2]; exact (SGL_of_forall h).1, by simp only [noEnd]; exact (SGL_of_forall h).2⟩
  seq := SG_makeSequence
  gfixed _ _ _ _ h := ⟨by simp only [seqGe2]; exact h.1, by simp only [noEnd]; exact h.2⟩
  rfixed _ _ _ _ h := ⟨by simp only [seqGe2]; exact h.1, by simp only [noEnd]; exact h.2⟩
  rep _ _ _ _ h := ⟨by simp only [seqGe2]; exact h.1, by simp only [noEnd]; exact h.2⟩

theorem endTop_of_noEnd (op : Op) (h : noEnd op = true) : endTop op = true := by
  cases op with
  | seq l => simp only [noEnd] at h; simp only [endTop]; exact endLast_of_noEndL l h
  | _ => exact h

/-- at the top level, as `compileCore` calls it, the tree is `makeSequence … EndProgram` (the `.inr` case) -/
theorem parse_shape (c : PC) (fuel : Nat) (s : PS) (top : Bool) (op : Op) (s' : PS)
    (h : parseExpr c fuel s top = .ok op s') : seqGe2 op = true ∧ endTop op = true :=
  match ((parse_closed parserClosed_SG c fuel).1 s top op s' h).1 with
  | .inl g => ⟨g.1, endTop_of_noEnd op g.2⟩
  | .inr ⟨o, ho, e⟩ => e ▸ top_makeSequence o ho

/-- `isAtomOrClass`: `shape2 (.unamb x …)` asks for a leaf `x` -/
theorem shape2_numRel : NumRel (fun o o' => shape2 o' = shape2 o ∧ isAtomOrClass o' = isAtomOrClass o)
    (fun l l' => shape2L l' = shape2L l) where
  refl _ := ⟨rfl, rfl⟩
  capture _ h := ⟨by simp only [shape2, h.1], rfl⟩
  choice h := ⟨by simp only [shape2, h], rfl⟩
  seq h := ⟨by simp only [shape2, h], rfl⟩
  gfixed _ _ _ h := ⟨by simp only [shape2, h.1], rfl⟩
  rfixed _ _ _ h := ⟨by simp only [shape2, h.1], rfl⟩
  unamb _ _ h := ⟨by simp only [shape2, h.2], rfl⟩
  nil := rfl
  cons h hl := by simp only [shape2L, h.1, hl]
  rep _ _ _ _ _ _ := ⟨rfl, rfl⟩

theorem shape2_numberReps (op : Op) (n : Nat) : shape2 (numberReps op n).1 = shape2 op :=
  (numberReps_rel shape2_numRel op n).1

theorem shape2L_numberRepsL : (l : List Op) → ∀ n, shape2L (numberRepsL l n).1 = shape2L l :=
  numberRepsL_rel shape2_numRel

theorem numberReps_id_of_shape (op : Op) (h : shape2 (numberReps op 0).1 = true) : (numberReps op 0).1 = op := by
  rw [shape2_numberReps] at h
  rw [SearchComplete.numberReps_shape2 op h 0]

theorem bare_facts (env : Env) (fl : CFlags) (pat : List Nat) (bare : Prog)
    (h0 : compileCore env fl pat false = .ok bare)
    (hns : ∀ op s, parseExpr { pat := pat, fl := fl, env := env } (4 * pat.length + 16) {} true = .ok op s →
      WF.noSat op = true)
    (hc : cleanOp bare.op = true) :
    wfOp bare.op = true ∧ seqGe2 bare.op = true ∧ endTop bare.op = true ∧
    ((fl.literal = true → pat ≠ []) → C08.noEmptyAtoms bare.op = true) ∧ C02.capsPos bare.op = true := by
  rcases compileCore_ok h0 with ⟨hl, rfl⟩ | ⟨_, op, s, hp, _, rfl⟩
  · refine ⟨rfl, rfl, rfl, fun hne => ?_, rfl⟩
    cases pat with
    | nil => exact absurd rfl (hne hl)
    | cons a t => rfl
  · rw [if_neg Bool.false_ne_true] at hc ⊢
    have hb : (mkBareProgram pat op s.parens fl s.hasBackrefs).op = (numberReps op 0).1 := rfl
    rw [hb] at hc ⊢
    rw [SearchComplete.cleanOp_numberReps] at hc
    have hs := (shape_of_clean2 env fl.caseBlind fl.multiLine).op (Clean2.cleanOp2_of_cleanOp env _ _ op hc)
    rw [SearchComplete.numberReps_shape2 op hs 0]
    obtain ⟨w1, w2, _⟩ := WF.parse_wf _ _ _ _ _ _ hp (Nat.le_refl 1) (hns op s hp)
    obtain ⟨g1, g2⟩ := parse_shape _ _ _ _ _ _ hp
    exact ⟨w1, g1, g2, fun _ => (SearchComplete.parse_NE _ _).1 _ _ _ _ hp, w2⟩

end Rx.Clean2Api
