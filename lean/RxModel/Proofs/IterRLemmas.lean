/-
  Proofs/IterRLemmas — `IterR R k p q` (Spec/IterR: `k` steps of `R` lead from `p` to `q`), for an arbitrary
  relation: change of the relation, composition and splitting of runs, the first step, forward relations.
-/
import RxModel.Spec.IterR
namespace Rx

theorem IterR.mono {R S : Nat → Nat → Prop} (h : ∀ a b, R a b → S a b) {k p q : Nat}
    (hi : IterR R k p q) : IterR S k p q := by
  induction hi with
  | zero p => exact .zero p
  | succ _ hr ih => exact .succ ih (h _ _ hr)

theorem IterR.congr {R S : Nat → Nat → Prop} (h : ∀ a b, R a b ↔ S a b) (k p q : Nat) :
    IterR R k p q ↔ IterR S k p q :=
  ⟨IterR.mono (fun a b => (h a b).1), IterR.mono (fun a b => (h a b).2)⟩

theorem IterR.attach {R S : Nat → Nat → Prop} {k p q : Nat} (hi : IterR R k p q) (h : ∀ a b, R a b → S a b) :
    IterR (fun a b => R a b ∧ S a b) k p q := by
  induction hi with
  | zero p => exact .zero p
  | succ _ hr ih => exact .succ ih ⟨hr, h _ _ hr⟩

/-- the shape shared by the four repetition operators of Spec/OpLang -/
theorem rep_congr {R S : Nat → Nat → Prop} (h : ∀ a b, R a b ↔ S a b) (mn mx p q : Nat) :
    (∃ k, mn ≤ k ∧ k ≤ mx ∧ IterR R k p q) ↔ (∃ k, mn ≤ k ∧ k ≤ mx ∧ IterR S k p q) :=
  exists_congr (fun k => and_congr Iff.rfl (and_congr Iff.rfl (IterR.congr h k p q)))

theorem IterR_le {R : Nat → Nat → Prop} (hR : ∀ a b, R a b → a ≤ b) {k p q : Nat} (h : IterR R k p q) : p ≤ q := by
  induction h with
  | zero p => exact Nat.le_refl _
  | succ _ hr ih => exact Nat.le_trans ih (hR _ _ hr)

/-- a run that starts in `D` and whose steps from `D` stay in `D`: each step may be replaced by what it implies
    there -/
theorem IterR.carry {R S : Nat → Nat → Prop} {D : Nat → Prop} (h : ∀ a b, D a → R a b → S a b ∧ D b)
    {k p q : Nat} (hi : IterR R k p q) (hp : D p) : IterR S k p q ∧ D q := by
  induction hi with
  | zero p => exact ⟨.zero p, hp⟩
  | succ _ hr ih =>
    obtain ⟨h1, h2⟩ := ih hp
    exact ⟨.succ h1 (h _ _ h2 hr).1, (h _ _ h2 hr).2⟩

theorem IterR_transfer {R S : Nat → Nat → Prop} {L : Nat}
    (hb : ∀ a b, a ≤ L → R a b → b ≤ L) (h : ∀ a b, a ≤ L → R a b → S a b)
    {k p q : Nat} (hi : IterR R k p q) (hp : p ≤ L) : IterR S k p q ∧ q ≤ L :=
  hi.carry (D := (· ≤ L)) (fun a b ha hr => ⟨h a b ha hr, hb a b ha hr⟩) hp

theorem IterR.guard {R : Nat → Nat → Prop} {D : Nat → Prop} (hD : ∀ a b, D a → R a b → D b)
    {k p q : Nat} (hi : IterR (fun a b => D a → R a b) k p q) (hp : D p) :
    IterR R k p q ∧ D q :=
  hi.carry (fun a b ha hr => ⟨hr ha, hD a b ha (hr ha)⟩) hp

theorem IterR.fixedLen {l k p q : Nat} (hi : IterR (fun a b => b = a + l) k p q) : q = p + k * l := by
  induction hi with
  | zero p => simp
  | succ _ hr ih => rw [hr, ih, Nat.succ_mul, Nat.add_assoc]

theorem IterR.pad {R : Nat → Nat → Prop} {j q p : Nat} (hr : R p p) (h : IterR R j q p) :
    ∀ m, IterR R (j + m) q p
  | 0 => h
  | m+1 => .succ (IterR.pad hr h m) hr

theorem IterR.bounds {R : Nat → Nat → Prop} {L : Nat}
    (h : ∀ a b, a ≤ L → R a b → a ≤ b ∧ b ≤ L) {k p q : Nat} (hi : IterR R k p q) (hp : p ≤ L) :
    p ≤ q ∧ q ≤ L :=
  have h' := hi.carry (S := fun a b => a ≤ b) (D := (· ≤ L)) h hp
  ⟨IterR_le (fun _ _ hab => hab) h'.1, h'.2⟩

theorem IterR.add {Rel : Nat → Nat → Prop} {m n p q r : Nat}
    (h1 : IterR Rel m p q) (h2 : IterR Rel n q r) : IterR Rel (m + n) p r := by
  induction h2 with
  | zero => exact h1
  | succ _ hr ih => exact IterR.succ (ih h1) hr

theorem IterR.split {Rel : Nat → Nat → Prop} (m : Nat) : ∀ (n : Nat) {p r : Nat},
    IterR Rel (m + n) p r → ∃ q, IterR Rel m p q ∧ IterR Rel n q r := by
  intro n
  induction n with
  | zero => intro p r h; exact ⟨r, h, IterR.zero r⟩
  | succ n ih =>
    intro p r h
    have h' : IterR Rel ((m + n) + 1) p r := h
    cases h' with
    | succ h0 hr =>
      obtain ⟨q, hq1, hq2⟩ := ih h0
      exact ⟨q, hq1, IterR.succ hq2 hr⟩

theorem IterR.zero_iff {Rel : Nat → Nat → Prop} {p q : Nat} : IterR Rel 0 p q ↔ q = p := by
  constructor
  · intro h; cases h; rfl
  · intro h; subst h; exact IterR.zero _

theorem IterR.one_iff {Rel : Nat → Nat → Prop} {p q : Nat} : IterR Rel 1 p q ↔ Rel p q := by
  constructor
  · intro h
    cases h with
    | succ h0 hr => cases h0; exact hr
  · intro h; exact IterR.succ (IterR.zero _) h

theorem IterR.single {Rel : Nat → Nat → Prop} {p q : Nat} (h : Rel p q) : IterR Rel 1 p q :=
  IterR.one_iff.2 h

theorem IterR.cons {Rel : Nat → Nat → Prop} {k p q r : Nat} (h : Rel p q) (ht : IterR Rel k q r) :
    IterR Rel (k + 1) p r := by
  have := IterR.add (IterR.single h) ht
  rwa [Nat.add_comm] at this

theorem IterR.uncons {Rel : Nat → Nat → Prop} {k p r : Nat} (h : IterR Rel (k + 1) p r) :
    ∃ q, Rel p q ∧ IterR Rel k q r := by
  have h' : IterR Rel (1 + k) p r := by rwa [Nat.add_comm]
  obtain ⟨q, h1, h2⟩ := IterR.split 1 k h'
  exact ⟨q, IterR.one_iff.1 h1, h2⟩

theorem IterR_minlen {R : Nat → Nat → Prop} {d : Nat} (hR : ∀ a b, R a b → a + d ≤ b)
    {k p q : Nat} (h : IterR R k p q) : p + k * d ≤ q := by
  induction h with
  | zero p => simp
  | succ _ hr ih =>
    have := hR _ _ hr
    rw [Nat.succ_mul]
    omega

theorem IterR_zero {R R' : Nat → Nat → Prop} (hR : ∀ a b, R a b → a ≤ b) (h0 : ∀ i, R i i → R' 0 0)
    {k p q : Nat} (h : IterR R k p q) : p = q → IterR R' k 0 0 := by
  induction h with
  | zero p => intro _; exact .zero 0
  | @succ k p q r hi hr ih =>
    intro hpr
    have h1 := IterR_le hR hi
    have h2 := hR _ _ hr
    have hq : p = q := by omega
    have hqr : q = r := by omega
    subst hqr
    exact .succ (ih hq) (h0 _ hr)

theorem iter_first_nonempty {R : Nat → Nat → Prop} (hmono : ∀ a b, R a b → a ≤ b)
    {k p q : Nat} (h : IterR R k p q) (hpq : p < q) : ∃ m, R p m ∧ p < m := by
  induction h with
  | zero p => omega
  | @succ k p q r h' hr ih =>
    have hle := IterR_le hmono h'
    by_cases hlt : p < q
    · exact ih hlt
    · have hqp : q = p := by omega
      subst hqp
      exact ⟨r, hr, hpq⟩

end Rx
