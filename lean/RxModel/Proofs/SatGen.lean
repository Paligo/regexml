/-
  Proofs/SatGen — one specification per generator of Model/Engine: which positions it yields in terms of what its
  body yields, that it keeps a state invariant `I`, and that it does not diverge — or may, if `dv`.  The body is
  specified the same way (`GenSat`; for the loops built on `first1`, `PullOK`).

  The fuels: a loop that returns a STATE sets the marker `panicDiverge` when its fuel runs out, which is
  harmless if `I` tolerates the marker (`Tol I`); a loop that returns a STREAM becomes `.diverge`, which is
  harmless if `dv`.  Otherwise the lemma shows that the fuel suffices, from the progress of the body.
-/
import RxModel.Proofs.SatCalc
import RxModel.Proofs.EngineBase
namespace Rx

section
variable {dv : Prop} {D : Nat → Prop} {I : St → Prop}

theorem PureLeaf.sat {g : Gen} (hg : PureLeaf g) {P : Nat → Prop} {p : Nat} {st : St} (hs : (g p st).All P)
    (h : I st) : (g p st).Sat dv I P := by
  rcases hg p st with e | ⟨n, e⟩
  · rw [e]; exact .nil _ h
  · rw [e] at hs ⊢; exact .once hs.head h

theorem captureGen_sat {child : Gen} {R : Nat → Nat → Prop} (C : GenSat dv D I R child) (ctx : Ctx) (g : Nat)
    (hpre : ∀ p st, I st → I (captureEntry ctx g p st)) (hw : ∀ p n st, I st → I (captureWrite ctx g p n st)) :
    GenSat dv D I R (captureGen ctx g child) :=
  fun p st hp h => (C p _ hp (hpre p st h)).mapSt (fun n st' _ h' => hw p n st' h')

theorem choiceGen_nil_sat (R : Nat → Nat → Prop) : GenSat dv D I R (choiceGen []) :=
  fun _ _ _ h => .nil _ h

theorem choiceGen_cons_sat {g : Gen} {gs : List Gen} {R : Nat → Nat → Prop}
    (hclr : ∀ st p, D p → I st → I (clearBeyond st p))
    (h1 : GenSat dv D I R g) (h2 : GenSat dv D I R (choiceGen gs)) : GenSat dv D I R (choiceGen (g :: gs)) := by
  intro p st hp h
  unfold choiceGen
  exact (h1 p _ hp (hclr st p hp h)).append (fun st' h' => h2 p st' hp h')

theorem seqK_nil_sat {R : Nat → Nat → Prop} (h0 : ∀ m, R m m) : GenSat dv D I R (seqK []) :=
  fun p _ hp h => .once ⟨hp, h0 p⟩ h

theorem seqK_cons_sat {g : Gen} {gs : List Gen} {R1 R2 : Nat → Nat → Prop}
    (hclr : ∀ st p, D p → I st → I (clearBeyond st p))
    (h1 : GenSat dv D I R1 g) (h2 : GenSat dv D I R2 (seqK gs)) :
    GenSat dv D I (fun p q => ∃ m, R1 p m ∧ R2 m q) (seqK (g :: gs)) :=
  fun p st hp h => ((h1 p st hp h).mapSt (fun n st' hn h' => hclr st' n hn.1 h')).bind
    (fun n st' hn h' => (h2 n st' hn.1 h').mono (fun _ hq => ⟨hq.1, n, hn.2, hq.2⟩))

theorem GenSat.seqGo {gs : List Gen} {R : Nat → Nat → Prop} (h : GenSat dv D I R (seqK gs)) :
    GenSat dv D I R (seqGo gs) := by
  cases gs with
  | nil => exact fun _ _ _ h' => .nil _ h'
  | cons g gs => rw [seqGo_cons]; exact h

theorem seqGen_sat {gs : List Gen} {R : Nat → Nat → Prop}
    (hres : ∀ st st', I st → I st' → I { st' with cap := st.cap })
    (h : GenSat dv D I R (seqGo gs)) (hasCap : Bool) : GenSat dv D I R (seqGen hasCap gs) := by
  intro p st hp hst
  unfold seqGen
  simp only
  refine (h p st hp hst).onNil (fun st' h' => ?_)
  split
  · exact hres st st' hst h'
  · exact h'

end

section
variable {dv : Prop} {D : Nat → Prop} {I : St → Prop} {R : Nat → Nat → Prop} {child : Gen}

/-- `k` rounds of the counting loop from `p`: the body was pulled at `p`, `p + len`, … (all `≤ guard`) and
    yielded each time -/
def Rounds (R : Nat → Nat → Prop) (len guard p k : Nat) : Prop :=
  ∀ j, j < k → p + len * j ≤ guard ∧ ∃ n, R (p + len * j) n

theorem Rounds.zero {R : Nat → Nat → Prop} {len guard p : Nat} : Rounds R len guard p 0 :=
  fun _ hj => absurd hj (Nat.not_lt_zero _)

theorem Rounds.cons {len guard p k n : Nat} (hp : p ≤ guard) (hn : R p n) (h : Rounds R len guard (p + len) k) :
    Rounds R len guard p (k + 1) := by
  intro j hj
  cases j with
  | zero => exact ⟨hp, n, hn⟩
  | succ j =>
    have := h j (by omega)
    rw [Nat.mul_succ, ← Nat.add_assoc, Nat.add_right_comm]
    exact this

theorem Rounds.iterR {R S : Nat → Nat → Prop} {len guard p : Nat} (hfix : ∀ a b, R a b → S a b ∧ b = a + len) :
    ∀ k, Rounds R len guard p k → IterR S k p (p + len * k)
  | 0, _ => .zero p
  | k+1, h => by
    obtain ⟨_, n, hn⟩ := h k (Nat.lt_succ_self k)
    obtain ⟨hs, rfl⟩ := hfix _ _ hn
    rw [Nat.mul_succ, ← Nat.add_assoc]
    exact .succ (Rounds.iterR hfix k (fun j hj => h j (Nat.lt_succ_of_lt hj))) hs

theorem gfixedLoop_sat (C : PullOK D I R child) (len max guard : Nat)
    (up : ∀ a b, D a → a ≤ b → b ≤ guard → D b) :
    ∀ fuel p m st, (p ≤ guard → D p) → I st →
      (Tol I ∨ (0 < len ∧ 1 ≤ fuel ∧ guard + 2 ≤ p + fuel)) →
      ∃ k, (gfixedLoop child len max guard fuel p m st).2.1 = m + k ∧ (m < max → m + k ≤ max) ∧
        (gfixedLoop child len max guard fuel p m st).1 = p + len * k ∧ Rounds R len guard p k ∧
        I (gfixedLoop child len max guard fuel p m st).2.2 := by
  intro fuel
  induction fuel with
  | zero =>
    intro p m st _ h hf
    refine ⟨0, rfl, Nat.le_of_lt, rfl, Rounds.zero, ?_⟩
    rcases hf with hf | hf
    · exact hf st h
    · omega
  | succ f ih =>
    intro p m st hp h hf
    unfold gfixedLoop
    split
    · rename_i hpg
      split
      · rename_i x st' heq
        obtain ⟨h', hx⟩ := C p st (hp hpg) h heq
        have hn := hx _ rfl
        simp only
        split
        · rename_i hmax
          simp only [beq_iff_eq] at hmax
          exact ⟨1, rfl, by omega, by rw [Nat.mul_one], Rounds.cons hpg hn (Rounds.zero), h'⟩
        · rename_i hmax
          simp only [beq_iff_eq] at hmax
          obtain ⟨k, e1, e2, e3, e4, e5⟩ := ih (p + len) (m + 1) st'
            (fun hq => up p _ (hp hpg) (Nat.le_add_right _ _) hq) h'
            (hf.imp id (fun ⟨a, _, c⟩ => ⟨a, by omega, by omega⟩))
          exact ⟨k + 1, by rw [e1]; omega, fun _ => by omega, by rw [e3, Nat.mul_succ]; omega, Rounds.cons hpg hn e4, e5⟩
      · rename_i st' heq
        exact ⟨0, rfl, Nat.le_of_lt, rfl, Rounds.zero, (C p st (hp hpg) h heq).1⟩
    · exact ⟨0, rfl, Nat.le_of_lt, rfl, Rounds.zero, h⟩

theorem descend_sat (len s mn : Nat) :
    ∀ fuel j st, mn ≤ j → I st → (dv ∨ (0 < len ∧ j < mn + fuel)) →
      (descend len (s + len * mn) fuel (s + len * j) st).Sat dv I
        (fun q => ∃ k, mn ≤ k ∧ k ≤ j ∧ q = s + len * k) := by
  intro fuel
  induction fuel with
  | zero =>
    intro j st hmj _ hf
    rcases hf with hf | hf
    · exact .diverge hf
    · omega
  | succ f ih =>
    intro j st hmj h hf
    unfold descend
    split
    · refine .cons _ _ _ ⟨j, hmj, Nat.le_refl _, rfl⟩ h (fun st' h' => ?_)
      split
      · rename_i hge
        rcases Nat.eq_zero_or_pos len with h0 | hlen
        · -- a body of length 0 (never built by the compiler): the same position again
          subst h0
          simp only [Nat.zero_mul, Nat.add_zero, Nat.sub_zero] at ih ⊢
          exact ih j st' hmj h' (hf.imp id (fun hh => absurd hh.1 (Nat.lt_irrefl _)))
        · have h1 : len * (mn + 1) ≤ len * j := by rw [Nat.mul_succ]; omega
          have h2 : mn + 1 ≤ j := Nat.le_of_mul_le_mul_left h1 hlen
          obtain ⟨j', rfl⟩ : ∃ j', j = j' + 1 := ⟨j - 1, by omega⟩
          have h3 : s + len * (j' + 1) - len = s + len * j' := by rw [Nat.mul_succ]; omega
          rw [h3]
          exact (ih j' st' (by omega) h' (hf.imp id (fun hh => ⟨hh.1, by omega⟩))).mono
            (fun q ⟨k, a, b, c⟩ => ⟨k, a, by omega, c⟩)
      · exact .nil _ h'
    · exact .nil _ h

/-- the fuels suffice as soon as `0 < len` -/
theorem gfixedGen_sat (C : PullOK D I R child) (ctx : Ctx) (min max len : Nat)
    (up : ∀ a b, D a → a ≤ b → b ≤ ctx.len → D b) (hlen : 0 < len ∨ (Tol I ∧ dv))
    (p : Nat) (st : St) (hp : p ≤ ctx.len → D p) (h : I st) :
    (gfixedGen ctx child min max len p st).Sat dv I
      (fun q => ∃ k, min ≤ k ∧ (0 < max → k ≤ max) ∧ q = p + len * k ∧ Rounds R len ctx.len p k) := by
  unfold gfixedGen
  simp only
  have hguard : (if max < usizeMax then Nat.min ctx.len (p + len * max) else ctx.len) ≤ ctx.len := by
    split
    · exact Nat.min_le_left _ _
    · exact Nat.le_refl _
  generalize (if max < usizeMax then Nat.min ctx.len (p + len * max) else ctx.len) = guard at hguard
  split
  · exact .nil _ h
  · obtain ⟨k, e1, e2, e3, e4, e5⟩ := gfixedLoop_sat C len max guard
      (fun a b ha hab hb => up a b ha hab (Nat.le_trans hb hguard)) (ctx.len + 2) p 0 st
      (fun hpg => hp (Nat.le_trans hpg hguard)) h
      (hlen.elim (fun hl => .inr ⟨hl, by omega, by omega⟩) (fun ht => .inl ht.1))
    generalize gfixedLoop child len max guard (ctx.len + 2) p 0 st = r at e1 e2 e3 e4 e5
    rw [Nat.zero_add] at e1 e2
    split
    · exact .nil _ e5
    · rename_i hmin
      rw [e3]
      refine (descend_sat len p min (ctx.len + 3) k r.2.2 (by omega) e5 ?_).mono
        (fun q ⟨k', a, b, c⟩ => ⟨k', a, fun hmax => Nat.le_trans b (e2 hmax), c, fun j hj' =>
          ⟨Nat.le_trans (e4 j (by omega)).1 hguard, (e4 j (by omega)).2⟩⟩)
      refine hlen.elim (fun hl => .inr ⟨hl, ?_⟩) (fun ht => .inl ht.2)
      -- `k - 1` rounds of length `len ≥ 1` fit below `guard ≤ ctx.len`
      cases k with
      | zero => omega
      | succ k' =>
        have h1 := (e4 k' (by omega)).1
        have h2 : k' ≤ len * k' := Nat.le_mul_of_pos_left _ hl
        omega

/-- `k` = iterations so far, `len` = iterator-stack length, `pl` = pushes left on the primed path -/
def GreedyInv (min bound k len : Nat) (pl : Option Nat) : Prop :=
  (len = k ∨ (len = k + 1 ∧ min = 0)) ∧ k ≤ bound ∧ ∀ j, pl = some j → k + j ≤ bound

theorem GreedyInv.push {min bound k len : Nat} {pl : Option Nat}
    (hext : (match pl with | some j => decide (j > 0) | none => decide (len < bound)) = true)
    (h : GreedyInv min bound k len pl) :
    GreedyInv min bound (k + 1) (len + 1) (pl.map (· - 1)) ∧ GreedyInv min bound (k + 1) (len + 1) none := by
  obtain ⟨h1, h2, h3⟩ := h
  have h1' : len + 1 = k + 1 ∨ (len + 1 = k + 1 + 1 ∧ min = 0) := by omega
  cases pl with
  | none =>
    simp only [decide_eq_true_eq] at hext
    exact ⟨⟨h1', by omega, fun j hj => by simp at hj⟩, h1', by omega, fun j hj => by simp at hj⟩
  | some j =>
    simp only [decide_eq_true_eq] at hext
    have hj := h3 j rfl
    exact ⟨⟨h1', by omega, fun j' hj' => by simp only [Option.map, Option.some.injEq] at hj'; omega⟩,
      h1', by omega, fun j hj => by simp at hj⟩

theorem greedyNode_sat (C : GenSat dv D I R child) (min bound start : Nat) :
    ∀ fuel len pl k n st, IterR R k start n → GreedyInv min bound k len pl → D n → I st →
      (greedyNode child min bound fuel len pl n st).Sat dv I
        (fun q => D q ∧ ∃ k', min ≤ k' ∧ k' ≤ bound ∧ IterR R k' start q) := by
  intro fuel
  induction fuel with
  | zero =>
    intro len pl k n st hk hinv hn h
    unfold greedyNode
    split
    · exact .once ⟨hn, k, by have := hinv.1; omega, hinv.2.1, hk⟩ h
    · exact .nil _ h
  | succ f ih =>
    intro len pl k n st hk hinv hn h
    unfold greedyNode
    simp only
    refine .append (.guard (fun hext => ?_) (fun _ => .nil _ h)) (fun st' h' => ?_)
    · obtain ⟨i1, i2⟩ := GreedyInv.push hext hinv
      exact (C n st hn h).bindFR (fun n2 st2 hr h2 => ih _ _ (k+1) n2 st2 (.succ hk hr.2) i1 hr.1 h2)
        (fun n2 st2 hr h2 => ih _ _ (k+1) n2 st2 (.succ hk hr.2) i2 hr.1 h2)
    · split
      · exact .once ⟨hn, k, by have := hinv.1; omega, hinv.2.1, hk⟩ h'
      · exact .nil _ h'

/-- The only write of the iterator itself is the memo entry of a skippable repeat (`min = 0`) entered at a position
    it has no entry for: the iterator then works from the state with the entry (`hh`), and from `st` otherwise (`h`). -/
theorem repGreedyGen_sat (C : GenSat dv D I R child) (ctx : Ctx) (id min max : Nat) (p : Nat) (st : St)
    (hp : D p) (h : (min = 0 → memPair st.hist id p = true) → I st)
    (hh : min = 0 → memPair st.hist id p = false → I { st with hist := (id, p) :: st.hist }) :
    (repGreedyGen ctx id child min max p st).Sat dv I
      (fun q => D q ∧ ∃ k, min ≤ k ∧ k ≤ max ∧ IterR R k p q) := by
  unfold repGreedyGen
  simp only
  generalize hb : Nat.min max (ctx.len + 1 - p) = bound
  have hbm : bound ≤ max := by rw [← hb]; exact Nat.min_le_left _ _
  have hmono : ∀ q, (D q ∧ ∃ k', min ≤ k' ∧ k' ≤ bound ∧ IterR R k' p q) →
      (D q ∧ ∃ k, min ≤ k ∧ k ≤ max ∧ IterR R k p q) :=
    fun q ⟨hq, k, h1, h2, h3⟩ => ⟨hq, k, h1, by omega, h3⟩
  -- the stack starts with one iteration of the body
  have hfirst : I st → bound ≠ 0 → ∀ fuel,
      (((child p st).bindFR
        (fun n st2 => greedyNode child min bound fuel 1 (some (bound - 1)) n st2)
        (fun n st2 => greedyNode child min bound fuel 1 none n st2)).force 0 none).Sat dv I
        (fun q => D q ∧ ∃ k, min ≤ k ∧ k ≤ max ∧ IterR R k p q) := by
    intro h hb0 fuel
    refine (Step.Sat.mono hmono ((C p st hp h).bindFR (fun n st2 hr h2 => ?_) (fun n st2 hr h2 => ?_))).force _ _
    · exact greedyNode_sat C min bound p fuel 1 _ 1 n st2 (.succ (.zero p) hr.2)
        ⟨.inl rfl, by omega, fun j hj => by simp only [Option.some.injEq] at hj; omega⟩ hr.1 h2
    · exact greedyNode_sat C min bound p fuel 1 _ 1 n st2 (.succ (.zero p) hr.2)
        ⟨.inl rfl, by omega, fun j hj => by simp at hj⟩ hr.1 h2
  by_cases hmin : min = 0
  · rw [if_pos (beq_iff_eq.2 hmin)]
    by_cases hmem : memPair st.hist id p = true
    · rw [if_pos hmem]
      split
      · exact .nil _ (h fun _ => hmem)
      · rename_i hb0
        exact hfirst (h fun _ => hmem) (by simpa using hb0) _
    · -- the zero-iteration entry: the memo write, then the stack is walked twice
      rw [if_neg hmem]
      refine (Step.Sat.mono hmono (.append ?_ (fun st2 h2 => ?_))).force _ _
      · exact greedyNode_sat C min bound p _ 1 _ 0 p _ (.zero p)
          ⟨.inr ⟨rfl, hmin⟩, by omega, fun j hj => by simp only [Option.some.injEq] at hj; omega⟩ hp
          (hh hmin (by simpa using hmem))
      · exact greedyNode_sat C min bound p _ 1 _ 0 p _ (.zero p)
          ⟨.inr ⟨rfl, hmin⟩, by omega, fun j hj => by simp at hj⟩ hp h2
  · rw [if_neg (mt beq_iff_eq.1 hmin)]
    split
    · exact .nil _ (h fun h0 => absurd h0 hmin)
    · rename_i hb0
      exact hfirst (h fun h0 => absurd h0 hmin) (by simpa using hb0) _

/-- what the fuels of the loops that re-enter the body where it ended are measured against: every result of the
    body lies `d` beyond its start and inside `[0, L]` -/
def Advances (D : Nat → Prop) (R : Nat → Nat → Prop) (d L : Nat) : Prop :=
  ∀ a b, D a → R a b → a + d ≤ b ∧ b ≤ L

theorem iterMin_sat (C : PullOK D I (fun a b => D b ∧ R a b) child) (min start : Nat) {d L : Nat} :
    ∀ fuel count pos st, IterR R count start pos → count ≤ min → D pos → I st →
      (Tol I ∨ (Advances D R d L ∧ 1 ≤ fuel ∧ (min + 1 ≤ count + fuel ∨ (1 ≤ d ∧ L + 2 ≤ pos + fuel)))) →
      I (iterMin child min fuel count pos st).2 ∧
      ∀ c' pos', (iterMin child min fuel count pos st).1 = some (c', pos') →
        c' = min ∧ IterR R min start pos' ∧ D pos' := by
  intro fuel
  induction fuel with
  | zero =>
    intro count pos st _ _ _ h hf
    refine ⟨?_, fun c' pos' hq => by simp [iterMin] at hq⟩
    rcases hf with hf | hf
    · exact hf st h
    · omega
  | succ f ih =>
    intro count pos st hk hle hp h hf
    unfold iterMin
    split
    · split
      · rename_i n x st' heq
        obtain ⟨h', hx⟩ := C pos st hp h heq
        obtain ⟨hn, hr⟩ := hx _ rfl
        exact ih _ _ _ (.succ hk hr) (by omega) hn h'
          (hf.imp id (fun ⟨a, _, c⟩ => ⟨a, by have := a _ _ hp hr; omega, by have := a _ _ hp hr; omega⟩))
      · rename_i st' heq
        exact ⟨(C pos st hp h heq).1, fun c' pos' hq => by simp at hq⟩
    · refine ⟨h, fun c' pos' hq => ?_⟩
      simp only [Option.some.injEq, Prod.mk.injEq] at hq
      obtain ⟨rfl, rfl⟩ := hq
      have : count = min := by omega
      subst this
      exact ⟨rfl, hk, hp⟩

theorem rfixedMore_sat (C : PullOK D I (fun a b => D b ∧ R a b) child) (min max start position : Nat) {d L : Nat}
    (hclr : ∀ st, I st → I (clearBeyond st position)) :
    ∀ fuel count pos st, IterR R count start pos → min ≤ count → D pos → I st →
      (dv ∨ (Advances D R d L ∧ 1 ≤ d ∧ 1 ≤ fuel ∧ L + 2 ≤ pos + fuel)) →
      (rfixedMore child max position fuel count pos st).Sat dv I
        (fun q => D q ∧ ∃ k, min ≤ k ∧ k ≤ max ∧ IterR R k start q) := by
  intro fuel
  induction fuel with
  | zero =>
    intro count pos st _ _ _ _ hf
    rcases hf with hf | hf
    · exact .diverge hf
    · omega
  | succ f ih =>
    intro count pos st hk hle hp h hf
    unfold rfixedMore
    split
    · simp only
      split
      · rename_i n x st' heq
        obtain ⟨h', hx⟩ := C pos _ hp (hclr st h) heq
        obtain ⟨hn, hr⟩ := hx _ rfl
        exact .cons _ _ _ ⟨hn, count + 1, by omega, by omega, .succ hk hr⟩ h' (fun st'' h'' =>
          ih _ _ _ (.succ hk hr) (by omega) hn h''
            (hf.imp id (fun ⟨a, b, _, c⟩ => ⟨a, b, by have := a _ _ hp hr; omega, by have := a _ _ hp hr; omega⟩)))
      · rename_i st' heq
        exact .nil _ (C pos _ hp (hclr st h) heq).1
    · exact .nil _ h

/-- the fuels suffice when the body advances (`1 ≤ d`) -/
theorem rfixedGen_sat (C : PullOK D I (fun a b => D b ∧ R a b) child) (ctx : Ctx) (min max : Nat)
    {d : Nat} (hfuel : (Tol I ∧ dv) ∨ (Advances D R d ctx.len ∧ 1 ≤ d))
    (p : Nat) (st : St) (hp : D p) (h : I st) (hclr : ∀ st, I st → I (clearBeyond st p)) :
    (rfixedGen ctx child min max p st).Sat dv I
      (fun q => D q ∧ ∃ k, min ≤ k ∧ (min ≤ max → k ≤ max) ∧ IterR R k p q) := by
  unfold rfixedGen
  have hi := iterMin_sat C min p (loopFuel ctx min) 0 p st (.zero p) (Nat.zero_le _) hp h
    (hfuel.elim (fun ht => .inl ht.1) (fun hd => .inr ⟨hd.1, by
      unfold loopFuel
      change 1 ≤ Min.min (min + 1) (ctx.len + 1000) ∧
        (min + 1 ≤ 0 + Min.min (min + 1) (ctx.len + 1000) ∨
          (1 ≤ d ∧ ctx.len + 2 ≤ p + Min.min (min + 1) (ctx.len + 1000)))
      rw [Nat.min_def]
      split <;> omega⟩))
  split
  · rename_i st' heq
    rw [heq] at hi
    exact .nil _ hi.1
  · rename_i count pos st' heq
    rw [heq] at hi
    obtain ⟨rfl, hk, hpos⟩ := hi.2 _ _ rfl
    exact .cons _ _ _ ⟨hpos, count, Nat.le_refl _, id, hk⟩ hi.1 (fun st'' h'' =>
      (rfixedMore_sat C count max p p hclr _ _ _ _ hk (Nat.le_refl _) hpos h''
        (hfuel.elim (fun ht => .inl ht.2) (fun hd => .inr ⟨hd.1, hd.2, by omega, by omega⟩))).mono
        (fun _ ⟨hq, k, a, b, c⟩ => ⟨hq, k, a, fun _ => b, c⟩))

theorem unambLoop_sat (C : PullOK D I (fun a b => D b ∧ R a b) child) (max guard start : Nat) {d L : Nat} :
    ∀ fuel p m st, IterR R m start p → m ≤ max → D p → I st →
      (Tol I ∨ (Advances D R d L ∧ 1 ≤ d ∧ 1 ≤ fuel ∧ (max + 1 ≤ m + fuel ∨ L + 3 ≤ p + fuel))) →
      (unambLoop child max guard fuel p m st).2.1 ≤ max ∧
      IterR R (unambLoop child max guard fuel p m st).2.1 start (unambLoop child max guard fuel p m st).1 ∧
      D (unambLoop child max guard fuel p m st).1 ∧ I (unambLoop child max guard fuel p m st).2.2 := by
  intro fuel
  induction fuel with
  | zero =>
    intro p m st hk hle hp h hf
    refine ⟨hle, hk, hp, ?_⟩
    rcases hf with hf | hf
    · exact hf st h
    · omega
  | succ f ih =>
    intro p m st hk hle hp h hf
    unfold unambLoop
    split
    · rename_i hc1
      simp only [Bool.and_eq_true, decide_eq_true_eq] at hc1
      split
      · rename_i n x st' heq
        obtain ⟨h', hx⟩ := C p st hp h heq
        obtain ⟨hn, hr⟩ := hx _ rfl
        exact ih _ _ _ (.succ hk hr) (by omega) hn h'
          (hf.imp id (fun ⟨a, b, _, c⟩ => ⟨a, b, by have := a _ _ hp hr; omega, by have := a _ _ hp hr; omega⟩))
      · rename_i st' heq
        exact ⟨hle, hk, hp, (C p st hp h heq).1⟩
    · exact ⟨hle, hk, hp, h⟩

/-- As a stream it always ends (it yields at most once), so no `dv`; the fuel of its counting loop suffices when the
    body advances. -/
theorem unambGen_sat (C : PullOK D I (fun a b => D b ∧ R a b) child) (ctx : Ctx) (min max : Nat) {d : Nat}
    (hfuel : Tol I ∨ (Advances D R d ctx.len ∧ 1 ≤ d)) (p : Nat) (st : St) (hp : D p) (h : I st) :
    (unambGen ctx child min max p st).Sat dv I (fun q => D q ∧ ∃ k, min ≤ k ∧ k ≤ max ∧ IterR R k p q) := by
  unfold unambGen
  simp only
  have hr := unambLoop_sat C max ctx.len p (Nat.min max (ctx.len + 2) + 1) p 0 st (.zero p) (Nat.zero_le _) hp h
    (hfuel.imp id (fun hd => ⟨hd.1, hd.2, by omega, by
      change max + 1 ≤ 0 + (Min.min max (ctx.len + 2) + 1) ∨ ctx.len + 3 ≤ p + (Min.min max (ctx.len + 2) + 1)
      rw [Nat.min_def]
      split <;> omega⟩))
  generalize unambLoop child max ctx.len (Nat.min max (ctx.len + 2) + 1) p 0 st = r at hr
  split
  · exact .nil _ hr.2.2.2
  · exact .once ⟨hr.2.2.1, r.2.1, by omega, hr.1, hr.2.1⟩ hr.2.2.2

/-- the minimum loop of `ReluctantRepeatIterator` (fix abfdb8a): a zero-width mandatory iteration completes the
    minimum, so every round but the last advances and the fuel `min (min+1) (len+1000)` suffices for EVERY
    `min` -/
theorem iterMinZ_sat (C : PullOK D I (fun a b => D b ∧ R a b) child) (min start : Nat) {L : Nat} :
    ∀ fuel count pos st, IterR R count start pos → count ≤ min → D pos → I st →
      (Tol I ∨ (Advances D R 0 L ∧ 1 ≤ fuel ∧ (min + 1 ≤ count + fuel ∨ L + 2 ≤ pos + fuel))) →
      I (iterMinZ child min fuel count pos st).2 ∧
      ∀ c' pos', (iterMinZ child min fuel count pos st).1 = some (c', pos') →
        c' = min ∧ IterR R min start pos' ∧ D pos' := by
  intro fuel
  induction fuel with
  | zero =>
    intro count pos st _ _ _ h hf
    refine ⟨?_, fun c' pos' hq => by simp [iterMinZ] at hq⟩
    rcases hf with hf | hf
    · exact hf st h
    · omega
  | succ f ih =>
    intro count pos st hk hle hp h hf
    unfold iterMinZ
    split
    · split
      · rename_i n x st' heq
        obtain ⟨h', hx⟩ := C pos st hp h heq
        obtain ⟨hn, hr⟩ := hx _ rfl
        split
        · rename_i hnp
          simp only [beq_iff_eq] at hnp
          subst hnp
          refine ⟨h', fun c' pos' hq => ?_⟩
          simp only [Option.some.injEq, Prod.mk.injEq] at hq
          obtain ⟨rfl, rfl⟩ := hq
          have := IterR.pad hr hk (min - count)
          rw [show count + (min - count) = min by omega] at this
          exact ⟨rfl, this, hp⟩
        · rename_i hne
          have hne' : n ≠ pos := by simpa using hne
          exact ih _ _ _ (.succ hk hr) (by omega) hn h'
            (hf.imp id (fun ⟨a, _, c⟩ => ⟨a, by have := a _ _ hp hr; omega, by have := a _ _ hp hr; omega⟩))
      · rename_i st' heq
        exact ⟨(C pos st hp h heq).1, fun c' pos' hq => by simp at hq⟩
    · refine ⟨h, fun c' pos' hq => ?_⟩
      simp only [Option.some.injEq, Prod.mk.injEq] at hq
      obtain ⟨rfl, rfl⟩ := hq
      have : count = min := by omega
      subst this
      exact ⟨rfl, hk, hp⟩

/-- `ReluctantRepeatIterator` after its first result, behind `ForceProgressIterator`: positions never decrease and
    stay `≤ L`, and the same position is handed out at most five times in a row — the measure
    `4 * (L - pos) + (4 - cnt)` drops at every pull -/
theorem relMore_force_sat (C : PullOK D I (fun a b => D b ∧ R a b) child) (min max start : Nat) {L : Nat} :
    ∀ fuel count pos cnt st, IterR R count start pos → min ≤ count → D pos → I st →
      (dv ∨ (Advances D R 0 L ∧ cnt ≤ 3 ∧ 4 * (L - pos) + (4 - cnt) ≤ fuel)) →
      ((relMore child max fuel count pos st).force cnt (some pos)).Sat dv I
        (fun q => D q ∧ ∃ k, min ≤ k ∧ k ≤ max ∧ IterR R k start q) := by
  intro fuel
  induction fuel with
  | zero =>
    intro count pos cnt st _ _ _ _ hf
    rcases hf with hf | hf
    · exact .diverge hf
    · omega
  | succ f ih =>
    intro count pos cnt st hk hle hp h hf
    unfold relMore
    split
    · split
      · rename_i n x st' heq
        obtain ⟨h', hx⟩ := C pos st hp h heq
        obtain ⟨hn, hr⟩ := hx _ rfl
        simp only [Step.force]
        refine .cons _ _ _ ⟨hn, count + 1, by omega, by omega, .succ hk hr⟩ h' (fun st'' h'' => ?_)
        by_cases hnp : n = pos
        · subst hnp
          simp only [beq_self_eq_true, if_true]
          split
          · exact .nil _ h''
          · exact ih _ _ _ _ (.succ hk hr) (by omega) hn h''
              (hf.imp id (fun ⟨a, b, c⟩ => ⟨a, by omega, by omega⟩))
        · have hne : (some n == some pos) = false := by
            simp only [Option.some_beq_some, beq_eq_false_iff_ne, ne_eq]; exact hnp
          simp only [hne, Bool.false_eq_true, if_false]
          split
          · exact .nil _ h''
          · exact ih _ _ _ _ (.succ hk hr) (by omega) hn h''
              (hf.imp id (fun ⟨a, b, c⟩ => ⟨a, by omega, by have := a _ _ hp hr; omega⟩))
      · rename_i st' heq
        exact .nil _ (C pos st hp h heq).1
    · exact .nil _ h

/-- the fuels suffice as soon as the results of the body stay inside the input -/
theorem repReluctantGen_sat (C : PullOK D I (fun a b => D b ∧ R a b) child) (ctx : Ctx) (min max : Nat)
    (hfuel : (Tol I ∧ dv) ∨ Advances D R 0 ctx.len) (p : Nat) (st : St) (hp : D p) (h : I st) :
    (repReluctantGen ctx child min max p st).Sat dv I
      (fun q => D q ∧ ∃ k, min ≤ k ∧ (min ≤ max → k ≤ max) ∧ IterR R k p q) := by
  unfold repReluctantGen
  have hi := iterMinZ_sat C min p (loopFuel ctx min) 0 p st (.zero p) (Nat.zero_le _) hp h
    (hfuel.elim (fun ht => .inl ht.1) (fun hd => .inr ⟨hd, by
      unfold loopFuel
      change 1 ≤ Min.min (min + 1) (ctx.len + 1000) ∧
        (min + 1 ≤ 0 + Min.min (min + 1) (ctx.len + 1000) ∨ ctx.len + 2 ≤ p + Min.min (min + 1) (ctx.len + 1000))
      rw [Nat.min_def]
      split <;> omega⟩))
  split
  · rename_i st' heq
    rw [heq] at hi
    exact .nil _ hi.1
  · rename_i count pos st' heq
    rw [heq] at hi
    obtain ⟨rfl, hk, hpos⟩ := hi.2 _ _ rfl
    simp only [Step.force]
    refine .cons _ _ _ ⟨hpos, count, Nat.le_refl _, id, hk⟩ hi.1 (fun st'' h'' => ?_)
    have hne : (some pos == (none : Option Nat)) = false := rfl
    simp only [hne, Bool.false_eq_true, if_false, gt_iff_lt, Nat.not_lt_zero]
    exact (relMore_force_sat C count max p _ count pos 0 st'' hk (Nat.le_refl _) hpos h''
      (hfuel.elim (fun ht => .inl ht.2) (fun hd => .inr ⟨hd, by omega, by omega⟩))).mono
      (fun _ ⟨hq, k, a, b, c⟩ => ⟨hq, k, a, fun _ => b, c⟩)

end

theorem leaf1_genSat {dv : Prop} {I : St → Prop} (ctx : Ctx) (c : Op) (h : isLeaf1 c = true) :
    GenSat dv (fun _ => True) I (fun a b => a + 1 ≤ b ∧ b ≤ ctx.len) (sem ctx c) := by
  intro p st _ hI
  cases c with
  | atom cs =>
    simp only [sem]
    refine (atomGen_pure ctx cs).sat ((atomGen_sound ctx cs p st).mono (fun n hn => ⟨trivial, ?_⟩)) hI
    have := leaf1_adv h hn
    simp only [OpR] at hn
    omega
  | cls rs =>
    simp only [sem]
    refine (clsGen_pure ctx rs).sat ((clsGen_sound ctx rs p st).mono (fun n hn => ⟨trivial, ?_⟩)) hI
    simp only [OpR] at hn
    obtain ⟨rfl, ch, hc, _⟩ := hn
    have := (List.getElem?_eq_some_iff.1 hc).1
    simp only [Ctx.len]
    omega
  | _ => simp [isLeaf1] at h

theorem leaf1_pullOK {I : St → Prop} (ctx : Ctx) (c : Op) (h : isLeaf1 c = true) :
    PullOK (fun _ => True) I (fun a b => True ∧ a + 1 ≤ b ∧ b ≤ ctx.len) (sem ctx c) :=
  (leaf1_genSat (dv := False) ctx c h).pullOK (fun hd => hd.elim)

end Rx
