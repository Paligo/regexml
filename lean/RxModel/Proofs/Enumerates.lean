/-
  Proofs/Enumerates — what a search needs of a tree: `Enumerates ctx o e`.  `first1`, `match_at` and
  (Proofs/CleanSearchLemmas) `CompleteAt` are decided from that alone.
-/
import RxModel.Proofs.EnumLemmas
import RxModel.Proofs.InvLemmas
import RxModel.Model.Search
namespace Rx

theorem Clean.matchAt_of_ex (ctx : Ctx) (op : Op) (i : Nat) (l : List Nat) (st : St)
    (h : Step.Ex (sem ctx op i (matchStart ctx i st)) l) :
    ((matchAt ctx op i st).1 = true ↔ l ≠ []) ∧
    ((matchAt ctx op i st).1 = true → getParenEnd (matchAt ctx op i st).2 0 = l.head?) := by
  rw [matchAt_eq]
  generalize sem ctx op i (matchStart ctx i st) = s at h
  cases h with
  | cons n st' r l' _ =>
    refine ⟨⟨fun _ => List.cons_ne_nil _ _, fun _ => rfl⟩, fun _ => ?_⟩
    simp only [getParenEnd, Cap.setEnd, List.head?_cons]
    exact getO_setAt_zero _ _
  | nil st' => refine ⟨⟨fun hf => ?_, fun hf => absurd rfl hf⟩, fun hf => ?_⟩ <;> simp at hf

/-- `e` is the exact priority enumeration of the ends of `o`: the iterator yields exactly `e j` from every
    start and state, and `e j` is sound and (for existence) complete for the language -/
structure Enumerates (ctx : Ctx) (o : Op) (e : Nat → List Nat) : Prop where
  ex : ∀ j, j ≤ ctx.len → ∀ st, Step.Ex (sem ctx o j st) (e j)
  sound : ∀ j q, j ≤ ctx.len → q ∈ e j → OpR ctx o j q
  compl : ∀ j, j ≤ ctx.len → (∃ q, OpR ctx o j q) → e j ≠ []

namespace Enumerates
variable {ctx : Ctx} {o : Op} {e : Nat → List Nat}

theorem of_ex (hwf : wfOp o = true) (ex : ∀ j, j ≤ ctx.len → ∀ st, Step.Ex (sem ctx o j st) (e j))
    (compl : ∀ j, j ≤ ctx.len → (∃ q, OpR ctx o j q) → e j ≠ []) : Enumerates ctx o e :=
  ⟨ex, fun j q hj h => (ex_sound ctx o hwf hj (ex j hj {}) q h).1, compl⟩

variable (E : Enumerates ctx o e)
include E

theorem nonempty_iff (j : Nat) (hj : j ≤ ctx.len) : e j ≠ [] ↔ ∃ q, OpR ctx o j q := by
  refine ⟨fun hnil => ?_, E.compl j hj⟩
  cases hl : e j with
  | nil => exact absurd hl hnil
  | cons q t => exact ⟨q, E.sound j q hj (by rw [hl]; exact List.mem_cons_self)⟩

theorem head_none (k : Nat) (hk : k ≤ ctx.len) (hno : ¬ ∃ q, OpR ctx o k q) : (e k).head? = none := by
  cases hl : e k with
  | nil => rfl
  | cons q l => exact absurd ⟨q, E.sound k q hk (by rw [hl]; exact List.mem_cons_self)⟩ hno

theorem first1_iff (j : Nat) (hj : j ≤ ctx.len) (st : St) :
    (first1 (sem ctx o j st)).1.isSome = true ↔ ∃ q, OpR ctx o j q :=
  (E.ex j hj st).first1_isSome.trans (E.nonempty_iff j hj)

theorem matchAt_iff (i : Nat) (hi : i ≤ ctx.len) (st : St) :
    (matchAt ctx o i st).1 = true ↔ ∃ j, OpR ctx o i j :=
  (Clean.matchAt_of_ex ctx o i _ st (E.ex i hi _)).1.trans (E.nonempty_iff i hi)

theorem matchAt_end (i : Nat) (hi : i ≤ ctx.len) (st : St) (h : (matchAt ctx o i st).1 = true) :
    getParenEnd (matchAt ctx o i st).2 0 = (e i).head? :=
  (Clean.matchAt_of_ex ctx o i _ st (E.ex i hi _)).2 h

end Enumerates
end Rx
