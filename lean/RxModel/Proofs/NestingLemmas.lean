/-
  Proofs/NestingLemmas — `AnalyzeIter::compute_nesting_table` (`nestingGo`, the second scanner over
  the pattern text) against the grammar: on the rendering of a well-formed tree it computes the
  syntactic nesting table `tableOf` (`nestingTable_render`); and the capture nodes of the compiled tree
  are nested as that table says (`compile_table`).
-/
import RxModel.Model.Api
import RxModel.Proofs.GrammarInvLemmas
import RxModel.Proofs.C03cTree
import RxModel.Proofs.CompileLemmas
namespace Rx.Grammar
open Rx

/-- group number (in the order of the opening parentheses) ↦ number of the innermost enclosing
    capturing group, 0 at top level; the latest group first, as `compute_nesting_table` builds it -/
def tableOf (a : Ast) : List (Nat × Nat) := RegExp.tbl 0 0 [] a

structure NS where
  i : Nat
  stack : List Nat
  capStack : List Bool
  group : Nat
  inBr : Int
  tbl : List (Nat × Nat)

def nrun (pat : List Nat) (f : Nat) (σ : NS) : Option (List (Nat × Nat)) :=
  nestingGo pat pat.length f σ.i σ.stack σ.capStack σ.group σ.inBr σ.tbl

/-- `σ'` is reached from `σ` in at most `L` steps -/
def Adv (pat : List Nat) (σ σ' : NS) (L : Nat) : Prop :=
  ∃ k, k ≤ L ∧ ∀ f, nrun pat (f + k) σ = nrun pat f σ'

theorem Adv.refl (pat : List Nat) (σ : NS) : Adv pat σ σ 0 := ⟨0, Nat.le_refl _, fun _ => rfl⟩

theorem getElem?_of_drop {pat : List Nat} {i ch : Nat} {tl : List Nat} (h : pat.drop i = ch :: tl) :
    pat[i]? = some ch := by
  have h0 : (pat.drop i)[0]? = some ch := by rw [h]; rfl
  rw [List.getElem?_drop] at h0
  simpa using h0

theorem drop_succ_of_drop {pat : List Nat} {i ch : Nat} {tl : List Nat} (h : pat.drop i = ch :: tl) :
    pat.drop (i + 1) = tl := by
  have : pat.drop (i + 1) = (pat.drop i).drop 1 := by rw [List.drop_drop]
  rw [this, h]; rfl

theorem nestingGo_succ (pat : List Nat) (plen f i : Nat) (stack : List Nat) (capStack : List Bool)
    (group : Nat) (inBr : Int) (tbl : List (Nat × Nat)) :
    nestingGo pat plen (f + 1) i stack capStack group inBr tbl =
    match pat[i]? with
    | none => some tbl
    | some ch =>
      if ch == 92 then nestingGo pat plen f (i + 2) stack capStack group inBr tbl
      else if ch == 91 then nestingGo pat plen f (i + 1) stack capStack group (inBr + 1) tbl
      else if ch == 93 then nestingGo pat plen f (i + 1) stack capStack group (inBr - 1) tbl
      else if ch == 40 && inBr == 0 then
        match pat[i+1]? with
        | none => none
        | some nx =>
          let capture := nx != 63
          if capStack.length ≥ plen then none else
          if capture then
            if stack.length ≥ plen then none else
            nestingGo pat plen f (i + 1) (group :: stack) (capture :: capStack) (group + 1) inBr
              ((group, stack.headD 0) :: tbl)
          else nestingGo pat plen f (i + 1) stack (capture :: capStack) group inBr tbl
      else if ch == 41 && inBr == 0 then
        match capStack with
        | [] => none
        | cap :: capStack' =>
          if cap then nestingGo pat plen f (i + 1) stack.tail capStack' group inBr tbl
          else nestingGo pat plen f (i + 1) stack capStack' group inBr tbl
      else nestingGo pat plen f (i + 1) stack capStack group inBr tbl := by
  rfl

/-! What the scanner does depends on the text in front of it and on its state apart from the position
  (`Lx`).  `Scans X l l'` lists its steps over a text `X`; `Scans.run` is the only place where it is
  run, and so the only place where positions, the fuel and the index panics are met.  The rendering of
  every production of the grammar is scanned by rules alone. -/

def NS.adv (σ : NS) (k : Nat) : NS := { σ with i := σ.i + k }

@[simp] theorem NS.adv_i (σ : NS) (k : Nat) : (σ.adv k).i = σ.i + k := rfl
@[simp] theorem NS.adv_stack (σ : NS) (k : Nat) : (σ.adv k).stack = σ.stack := rfl
@[simp] theorem NS.adv_capStack (σ : NS) (k : Nat) : (σ.adv k).capStack = σ.capStack := rfl
@[simp] theorem NS.adv_group (σ : NS) (k : Nat) : (σ.adv k).group = σ.group := rfl
@[simp] theorem NS.adv_inBr (σ : NS) (k : Nat) : (σ.adv k).inBr = σ.inBr := rfl
@[simp] theorem NS.adv_tbl (σ : NS) (k : Nat) : (σ.adv k).tbl = σ.tbl := rfl
theorem NS.adv_zero (σ : NS) : σ.adv 0 = σ := rfl

theorem drop_add {pat : List Nat} {i : Nat} {l1 l2 : List Nat} (h : pat.drop i = l1 ++ l2) :
    pat.drop (i + l1.length) = l2 := by
  rw [← List.drop_drop, h, List.drop_left]

structure Lx where
  stack : List Nat
  capStack : List Bool
  group : Nat
  inBr : Int
  tbl : List (Nat × Nat)

def Lx.at (l : Lx) (i : Nat) : NS := ⟨i, l.stack, l.capStack, l.group, l.inBr, l.tbl⟩
def NS.lx (σ : NS) : Lx := ⟨σ.stack, σ.capStack, σ.group, σ.inBr, σ.tbl⟩

def Lx.openCap (l : Lx) : Lx :=
  { l with stack := l.group :: l.stack, capStack := true :: l.capStack, group := l.group + 1,
           tbl := (l.group, l.stack.headD 0) :: l.tbl }

def Lx.after (l : Lx) (g : Nat) (t : List (Nat × Nat)) : Lx := { l with group := l.group + g, tbl := t }

/-- a character the scanner passes over: not `\`, `[`, `]`; outside a class not `(`, `)` -/
def ordB (outside : Bool) (x : Nat) : Bool :=
  x != 92 && x != 91 && x != 93 && (!outside || (x != 40 && x != 41))

inductive Scans : List Nat → Lx → Lx → Prop where
  | nil (l : Lx) : Scans [] l l
  | esc (e : Nat) {t : List Nat} {l l' : Lx} (h : Scans t l l') : Scans (92 :: e :: t) l l'
  | lbr {t : List Nat} {l l' : Lx} (h : Scans t { l with inBr := l.inBr + 1 } l') : Scans (91 :: t) l l'
  | rbr {t : List Nat} {l l' : Lx} (h : Scans t { l with inBr := l.inBr - 1 } l') : Scans (93 :: t) l l'
  | ord {x : Nat} {t : List Nat} {l l' : Lx} (hx : ordB (decide (l.inBr = 0)) x = true)
      (h : Scans t l l') : Scans (x :: t) l l'
  | opn {t : List Nat} {l l' : Lx} (hb : l.inBr = 0) (hne : t ≠ []) (h63 : t.head? ≠ some 63)
      (h : Scans t l.openCap l') : Scans (40 :: t) l l'
  | opnNc {t : List Nat} {l l' : Lx} (hb : l.inBr = 0)
      (h : Scans (63 :: t) { l with capStack := false :: l.capStack } l') : Scans (40 :: 63 :: t) l l'
  | cls {t : List Nat} {l l' : Lx} {cap : Bool} {cs : List Bool} (hb : l.inBr = 0)
      (hc : l.capStack = cap :: cs)
      (h : Scans t { l with stack := if cap then l.stack.tail else l.stack, capStack := cs } l') :
      Scans (41 :: t) l l'

theorem Scans.to {X : List Nat} {l l1 l2 : Lx} (h : Scans X l l1) (e : l1 = l2) : Scans X l l2 := e ▸ h

theorem Scans.append {X Y : List Nat} {l l' l'' : Lx} (h1 : Scans X l l') (h2 : Scans Y l' l'') :
    Scans (X ++ Y) l l'' := by
  induction h1 with
  | nil => exact h2
  | esc e _ ih => exact .esc e (ih h2)
  | lbr _ ih => exact .lbr (ih h2)
  | rbr _ ih => exact .rbr (ih h2)
  | ord hx _ ih => exact .ord hx (ih h2)
  | @opn t _ _ hb hne h63 _ ih =>
    refine .opn hb (by simp [hne]) ?_ (ih h2)
    cases t with
    | nil => exact absurd rfl hne
    | cons x t' => exact h63
  | opnNc hb _ ih => exact .opnNc hb (ih h2)
  | cls hb hc _ ih => exact .cls hb hc (ih h2)

theorem Scans.all {X : List Nat} {l : Lx} (h : X.all (ordB (decide (l.inBr = 0))) = true) :
    Scans X l l := by
  induction X with
  | nil => exact .nil l
  | cons x t ih =>
    rw [List.all_cons, Bool.and_eq_true] at h
    exact .ord h.1 (ih h.2)

theorem Scans.close (l : Lx) : Scans [93] { l with inBr := l.inBr + 1 } l :=
  .rbr ((Scans.nil _).to (by cases l; simp only [Int.add_sub_cancel]))

theorem Adv.cons {pat : List Nat} {σ σ1 : NS} {l' : Lx} {i n : Nat} (c : Nat) (hc : 1 ≤ c)
    (s : ∀ f, nrun pat (f + 1) σ = nrun pat f σ1) (ih : Adv pat σ1 (l'.at (i + c + n)) n) :
    Adv pat σ (l'.at (i + (n + c))) (n + c) := by
  obtain ⟨k, hk, b⟩ := ih
  refine ⟨k + 1, by omega, fun f => ?_⟩
  rw [← Nat.add_assoc, s, b, Nat.add_assoc, Nat.add_comm c]

/-- the two stacks stay shorter than the text read, so the index panics are not met -/
theorem Scans.run {pat X : List Nat} {l l' : Lx} (hp : Scans X l l') :
    ∀ (i : Nat) (rest : List Nat), l.capStack.length ≤ i → l.stack.length ≤ i + 1 →
    pat.drop i = X ++ rest → Adv pat (l.at i) (l'.at (i + X.length)) X.length := by
  induction hp with
  | nil l => intro i rest _ _ _; exact Adv.refl pat _
  | esc e _ ih =>
    intro i rest hc hs h
    refine Adv.cons 2 (by omega) (fun f => ?_) (ih (i + 2) rest (by omega) (by omega)
      (drop_add (l1 := [92, e]) h))
    simp only [nrun, Lx.at]
    rw [nestingGo_succ, getElem?_of_drop h]
    simp
  | lbr _ ih =>
    intro i rest hc hs h
    refine Adv.cons 1 (Nat.le_refl 1) (fun f => ?_) (ih (i + 1) rest (Nat.le_succ_of_le hc)
      (Nat.le_succ_of_le hs) (drop_succ_of_drop h))
    simp only [nrun, Lx.at]
    rw [nestingGo_succ, getElem?_of_drop h]
    simp
  | rbr _ ih =>
    intro i rest hc hs h
    refine Adv.cons 1 (Nat.le_refl 1) (fun f => ?_) (ih (i + 1) rest (Nat.le_succ_of_le hc)
      (Nat.le_succ_of_le hs) (drop_succ_of_drop h))
    simp only [nrun, Lx.at]
    rw [nestingGo_succ, getElem?_of_drop h]
    simp
  | @ord x t l l' hx _ ih =>
    intro i rest hc hs h
    refine Adv.cons 1 (Nat.le_refl 1) (fun f => ?_) (ih (i + 1) rest (by omega) (by omega)
      (drop_succ_of_drop h))
    simp only [ordB, Bool.and_eq_true, bne_iff_ne, ne_eq, Bool.or_eq_true, Bool.not_eq_true',
      decide_eq_false_iff_not] at hx
    obtain ⟨⟨⟨h92, h91⟩, h93⟩, hp⟩ := hx
    simp only [nrun, Lx.at]
    rw [nestingGo_succ, getElem?_of_drop h]
    have e : ∀ k : Nat, x ≠ k → (x == k) = false := fun k hk => by simpa using hk
    simp only [e 92 h92, e 91 h91, e 93 h93, Bool.false_eq_true, if_false]
    rcases hp with hp | ⟨h40, h41⟩
    · have : (l.inBr == 0) = false := by simpa using hp
      simp [this]
    · simp [e 40 h40, e 41 h41]
  | @opn t l l' hb hne h63 _ ih =>
    intro i rest hc hs h
    refine Adv.cons 1 (Nat.le_refl 1) (fun f => ?_) (ih (i + 1) rest
      (by simp only [Lx.openCap, List.length_cons]; omega)
      (by simp only [Lx.openCap, List.length_cons]; omega) (drop_succ_of_drop h))
    cases t with
    | nil => exact absurd rfl hne
    | cons nx tl =>
      -- `(` is not the last character, so the indices are below the length of the pattern
      have hl := congrArg List.length h
      simp only [List.length_drop, List.length_append, List.length_cons] at hl
      simp only [nrun, Lx.at, Lx.openCap]
      rw [nestingGo_succ, getElem?_of_drop h, getElem?_of_drop (drop_succ_of_drop h)]
      have c1 : ¬ l.capStack.length ≥ pat.length := by omega
      have c2 : ¬ l.stack.length ≥ pat.length := by omega
      have c3 : (nx != 63) = true := by simpa using fun e : nx = 63 => h63 (by rw [e]; rfl)
      simp [hb, c1, c2, c3]
  | @opnNc t l l' hb _ ih =>
    intro i rest hc hs h
    refine Adv.cons 1 (Nat.le_refl 1) (fun f => ?_) (ih (i + 1) rest
      (by simp only [List.length_cons]; omega) (Nat.le_succ_of_le hs) (drop_succ_of_drop h))
    have hl := congrArg List.length h
    simp only [List.length_drop, List.length_append, List.length_cons] at hl
    simp only [nrun, Lx.at]
    rw [nestingGo_succ, getElem?_of_drop h, getElem?_of_drop (drop_succ_of_drop h)]
    have c1 : ¬ l.capStack.length ≥ pat.length := by omega
    simp [hb, c1]
  | @cls t l l' cap cs hb hc' _ ih =>
    intro i rest hc hs h
    rw [hc', List.length_cons] at hc
    refine Adv.cons 1 (Nat.le_refl 1) (fun f => ?_) (ih (i + 1) rest (Nat.le_of_succ_le (Nat.le_succ_of_le hc))
      (by cases cap <;> simp only [Bool.false_eq_true, if_false, if_true, List.length_tail] <;> omega)
      (drop_succ_of_drop h))
    simp only [nrun, Lx.at]
    rw [nestingGo_succ, getElem?_of_drop h]
    cases cap <;> simp [hb, hc']

/-- a character of a category / block name that the scanner passes over anywhere -/
def plainNameChar (x : Nat) : Bool := x != 92 && x != 91 && x != 93 && x != 40 && x != 41

/-- the names the environment knows contain no `\ [ ] ( )` (true of the Unicode names) -/
def EnvNamesPlain (env : Env) : Prop :=
  ∀ name, (C09.propLookup env name).isSome = true → name.all plainNameChar = true

theorem prop_scans {env : Env} (henv : EnvNamesPlain env) {pos : Bool} {name : List Nat} {l : Lx}
    (hl : (C09.propLookup env name).isSome = true) :
    Scans (92 :: (if pos then 112 else 80) :: 123 :: (name ++ [125])) l l := by
  refine .esc _ (.all ?_)
  have hn := henv name hl
  simp only [List.all_cons, List.all_append, List.all_nil, Bool.and_true, Bool.and_eq_true]
  refine ⟨by cases decide (l.inBr = 0) <;> rfl, ?_, by cases decide (l.inBr = 0) <;> rfl⟩
  rw [List.all_eq_true] at hn ⊢
  intro x hx
  have := hn x hx
  simp only [plainNameChar, Bool.and_eq_true] at this
  simp only [ordB, this.1.1.1.1, this.1.1.1.2, this.1.1.2, this.1.2, this.2, Bool.and_self,
    Bool.or_true]

theorem single_scans {xsd : Bool} {a : C09.Single} {l : Lx} (hd : l.inBr ≠ 0) (ha : a.ok xsd = true) :
    Scans a.render l l := by
  cases a with
  | plain x =>
    simp only [C09.Single.ok, C09.plainC, Bool.not_eq_true', Bool.or_eq_false_iff,
      beq_eq_false_iff_ne, ne_eq] at ha
    refine .ord ?_ (.nil l)
    simp [ordB, decide_eq_false hd, ha.1.1.1, ha.1.1.2, ha.1.2]
  | esc e => exact .esc e (.nil l)

theorem item_scans {xsd : Bool} {env : Env} (henv : EnvNamesPlain env) {it : C09.Item} {l : Lx}
    (hd : l.inBr ≠ 0) (hok : it.ok xsd env = true) : Scans it.render l l := by
  have hy : Scans [45] l l := .ord (by rw [decide_eq_false hd]; rfl) (.nil l)
  cases it with
  | one a =>
    simp only [C09.Item.ok, Bool.and_eq_true] at hok
    exact single_scans hd hok.1
  | range a b =>
    simp only [C09.Item.ok, Bool.and_eq_true] at hok
    exact (single_scans hd hok.1.1.1).append (hy.append (single_scans hd hok.1.1.2))
  | hyphen => exact hy
  | cls e => exact .esc e (.nil l)
  | prop pos name =>
    simp only [C09.Item.ok, Bool.and_eq_true] at hok
    exact prop_scans henv hok.2

theorem items_scans {xsd : Bool} {env : Env} (henv : EnvNamesPlain env) {l : Lx} (hd : l.inBr ≠ 0) :
    ∀ (items : List C09.Item), C09.itemsOk xsd env items = true → Scans (C09.renderAll items) l l
  | [], _ => .nil l
  | it :: more, hok => by
    simp only [C09.itemsOk, Bool.and_eq_true] at hok
    exact (item_scans henv hd hok.1.1).append (items_scans henv hd more hok.2)

/-- `[` takes the scanner one level down, where the members and the `-` of a subtraction are ordinary; the
    closing `]` restores the level -/
theorem cexpr_scans {xsd : Bool} {env : Env} (henv : EnvNamesPlain env) :
    ∀ (e : C09.CExpr) (l : Lx), 0 ≤ l.inBr → e.ok xsd env = true → Scans e.render l l := by
  have hneg : ∀ (neg : Bool) (l : Lx), l.inBr ≠ 0 → Scans (if neg then [94] else []) l l := by
    intro neg l hd
    cases neg
    · exact .nil l
    · exact .ord (by rw [decide_eq_false hd]; rfl) (.nil l)
  intro e
  induction e with
  | leaf neg items =>
    intro l hd hok
    simp only [C09.CExpr.ok, C09.headOk, Bool.and_eq_true] at hok
    have hd1 : ({ l with inBr := l.inBr + 1 } : Lx).inBr ≠ 0 := by simp only; omega
    exact .lbr ((hneg neg _ hd1).append ((items_scans henv hd1 items hok.1.2).append (.close l)))
  | minus neg items sub ih =>
    intro l hd hok
    simp only [C09.CExpr.ok, C09.headOk, Bool.and_eq_true] at hok
    have hd1 : ({ l with inBr := l.inBr + 1 } : Lx).inBr ≠ 0 := by simp only; omega
    exact .lbr ((hneg neg _ hd1).append ((items_scans henv hd1 items hok.1.1.2).append
      (.ord (by rw [decide_eq_false hd1]; rfl) ((ih _ (by simp only; omega) hok.2).append (.close l)))))

theorem isDigit_ord {b : Bool} {d : Nat} (h : isDigit d = true) : ordB b d = true := by
  simp only [isDigit, Bool.and_eq_true, decide_eq_true_eq] at h
  have e : ∀ k : Nat, d ≠ k → (d != k) = true := fun k hk => by simpa using hk
  simp only [ordB, e 92 (by omega), e 91 (by omega), e 93 (by omega), e 40 (by omega), e 41 (by omega),
    Bool.and_self, Bool.or_true]

theorem all_digits_ord {b : Bool} {ds : List Nat} (h : ds.all isDigit = true) :
    ds.all (ordB b) = true := by
  rw [List.all_eq_true] at h ⊢
  exact fun x hx => isDigit_ord (h x hx)

theorem numeral_digits {ds : List Nat} (h : numeral ds = true) : ds.all isDigit = true := by
  simp only [numeral, Bool.and_eq_true] at h; exact h.2

theorem quant_ord {b : Bool} {q : Quant} (h : q.kind.ok = true) : q.render.all (ordB b) = true := by
  obtain ⟨k, r⟩ := q
  have hr : (if r then [63] else ([] : List Nat)).all (ordB b) = true := by
    cases r <;> cases b <;> rfl
  simp only [Quant.render, List.all_append, hr, Bool.and_true]
  cases k with
  | opt => cases b <;> rfl
  | star => cases b <;> rfl
  | plus => cases b <;> rfl
  | exact n =>
    simp only [QKind.ok] at h
    simp only [QKind.render, List.all_cons, List.all_append, all_digits_ord (numeral_digits h),
      List.all_nil, Bool.and_true, Bool.true_and]
    cases b <;> rfl
  | atLeast n =>
    simp only [QKind.ok] at h
    simp only [QKind.render, List.all_cons, List.all_append, all_digits_ord (numeral_digits h),
      List.all_nil, Bool.and_true, Bool.true_and]
    cases b <;> rfl
  | range n m =>
    simp only [QKind.ok, Bool.and_eq_true] at h
    simp only [QKind.render, List.all_cons, List.all_append, all_digits_ord (numeral_digits h.1.1),
      all_digits_ord (numeral_digits h.1.2), List.all_nil, Bool.and_true, Bool.true_and]
    cases b <;> rfl

theorem qRender_scans {xsd : Bool} {q : Option Quant} {l : Lx} (hq : qOk xsd q = true) :
    Scans (qRender q) l l := by
  cases q with
  | none => exact .nil l
  | some qq =>
    simp only [qOk, Quant.ok, Bool.and_eq_true] at hq
    exact .all (quant_ord hq.1)

theorem normal_ord {xsd : Bool} {x : Nat} (h : normalChar xsd x = true) : ordB true x = true := by
  simp only [normalChar, Bool.and_eq_true, Bool.not_eq_true', Bool.or_eq_false_iff,
    beq_eq_false_iff_ne, ne_eq] at h
  obtain ⟨⟨⟨⟨⟨⟨⟨⟨⟨⟨⟨⟨_, h92⟩, _⟩, _⟩, _⟩, _⟩, _⟩, h40⟩, h41⟩, _⟩, h91⟩, h93⟩, _⟩ := h
  have e : ∀ k : Nat, x ≠ k → (x != k) = true := fun k hk => by simpa using hk
  simp only [ordB, e 92 h92, e 91 h91, e 93 h93, e 40 h40, e 41 h41, Bool.and_self, Bool.not_true,
    Bool.false_or]

/-- outside a class; `par`: the innermost open capturing group; `n` groups have been opened -/
structure Lx.Cfg (l : Lx) (par : Nat) (st : List Nat) (n : Nat) : Prop where
  inBr : l.inBr = 0
  stack : l.stack = par :: st
  group : l.group = n + 1

theorem Lx.Cfg.after {l : Lx} {par : Nat} {st : List Nat} {n : Nat} (h : l.Cfg par st n) (g : Nat)
    (t : List (Nat × Nat)) : (l.after g t).Cfg par st (n + g) :=
  ⟨h.inBr, h.stack, by simp only [Lx.after, h.group]; omega⟩

theorem leaf_scans {xsd : Bool} {env : Env} (henv : EnvNamesPlain env) {a : Atom} {n : Nat}
    {cl : List Nat} {l : Lx} (hb : l.inBr = 0) (hok : a.ok xsd env n cl = true)
    (hl : (a.isLeaf || a.isChar) = true) : Scans a.render l l := by
  have hout : decide (l.inBr = 0) = true := by simp [hb]
  cases a with
  | chr x =>
    exact .ord (by rw [hout]; exact normal_ord (xsd := xsd) (by simpa [Atom.ok] using hok)) (.nil l)
  | dot | bol | eol => exact .ord (by rw [hout]; rfl) (.nil l)
  | esc e | clsEsc e => exact .esc e (.nil l)
  | prop pos name =>
    simp only [Atom.ok, Bool.and_eq_true] at hok
    exact prop_scans henv hok.2
  | backref ds =>
    simp only [Atom.ok, Bool.and_eq_true] at hok
    obtain ⟨⟨⟨_, hnum⟩, _⟩, _⟩ := hok
    cases ds with
    | nil => simp [backrefNumeral] at hnum
    | cons d more =>
      simp only [backrefNumeral, List.all_cons, Bool.and_eq_true] at hnum
      exact .esc d (.all (all_digits_ord hnum.1.2))
  | cls e => exact cexpr_scans henv e l (by rw [hb]; exact Int.le_refl 0) (by simpa [Atom.ok] using hok)
  | group r | ncgroup r => cases hl

mutual
theorem atom_scans {xsd : Bool} {env : Env} (henv : EnvNamesPlain env) :
    (a : Atom) → ∀ (l : Lx) (par : Nat) (st : List Nat) (n : Nat) (cl : List Nat),
    l.Cfg par st n → a.ok xsd env n cl = true →
    Scans a.render l (l.after a.groups (a.tbl par n l.tbl))
  | .chr _ | .dot | .bol | .eol | .esc _ | .clsEsc _ | .prop _ _ | .backref _ | .cls _ =>
    fun l par st n cl hc hok => leaf_scans henv hc.inBr hok rfl
  | .group r => fun l par st n cl hc hok => by
    simp only [Atom.ok] at hok
    have s2 := regexp_scans henv r l.openCap (n + 1) (par :: st) (n + 1) cl
      ⟨hc.inBr, by simp only [Lx.openCap, hc.group, hc.stack], by simp only [Lx.openCap, hc.group]⟩ hok
    refine (Scans.opn hc.inBr (by simp) (RegExp.head_ne hok (rest := [41]) (.inr ⟨[], rfl⟩))
      (s2.append (.cls hc.inBr rfl (.nil _)))).to ?_
    simp only [Lx.after, Lx.openCap, if_true, List.tail_cons, Atom.groups, Atom.tbl, hc.group, hc.stack,
      List.headD_cons]
    congr 1; omega
  | .ncgroup r => fun l par st n cl hc hok => by
    simp only [Atom.ok, Bool.and_eq_true] at hok
    have s2 := regexp_scans henv r { l with capStack := false :: l.capStack } par st n cl
      ⟨hc.inBr, hc.stack, hc.group⟩ hok.2
    exact .opnNc hc.inBr (.ord (by simp [hc.inBr, ordB]) (.ord (by simp [hc.inBr, ordB])
      (s2.append (.cls hc.inBr rfl (.nil _)))))
termination_by structural a => a
theorem branch_scans {xsd : Bool} {env : Env} (henv : EnvNamesPlain env) :
    (b : Branch) → ∀ (l : Lx) (par : Nat) (st : List Nat) (n : Nat) (cl : List Nat),
    l.Cfg par st n → b.ok xsd env n cl = true →
    Scans b.render l (l.after b.groups (b.tbl par n l.tbl))
  | .nil => fun l par st n cl hc hok => .nil l
  | .cons a q b => fun l par st n cl hc hok => by
    simp only [Branch.ok, Bool.and_eq_true] at hok
    have s1 := atom_scans henv a l par st n cl hc hok.1.1.1
    have s3 := branch_scans henv b _ par st (n + a.groups) _ (hc.after a.groups (a.tbl par n l.tbl)) hok.2
    refine (s1.append ((qRender_scans hok.1.1.2).append s3)).to ?_
    simp only [Lx.after, Branch.groups, Branch.tbl, Nat.add_assoc]
termination_by structural b => b
theorem regexp_scans {xsd : Bool} {env : Env} (henv : EnvNamesPlain env) :
    (r : RegExp) → ∀ (l : Lx) (par : Nat) (st : List Nat) (n : Nat) (cl : List Nat),
    l.Cfg par st n → r.ok xsd env n cl = true →
    Scans r.render l (l.after r.groups (r.tbl par n l.tbl))
  | .one b => fun l par st n cl hc hok => by
    simp only [RegExp.ok] at hok
    exact branch_scans henv b l par st n cl hc hok
  | .alt b r => fun l par st n cl hc hok => by
    simp only [RegExp.ok, Bool.and_eq_true] at hok
    have s1 := branch_scans henv b l par st n cl hc hok.1
    have s3 := regexp_scans henv r _ par st (n + b.groups) _ (hc.after b.groups (b.tbl par n l.tbl)) hok.2
    refine (s1.append (.ord (by simp [hc.inBr, Lx.after, ordB]) s3)).to ?_
    simp only [Lx.after, RegExp.groups, RegExp.tbl, Nat.add_assoc]
termination_by structural r => r
end

structure Cfg (σ : NS) (par : Nat) (st : List Nat) (n : Nat) : Prop where
  inBr : σ.inBr = 0
  stack : σ.stack = par :: st
  group : σ.group = n + 1
  cap_le : σ.capStack.length ≤ σ.i
  stack_le : σ.stack.length ≤ σ.i + 1

def NS.after (σ : NS) (k g : Nat) (t : List (Nat × Nat)) : NS :=
  { σ with i := σ.i + k, group := σ.group + g, tbl := t }

theorem atom_run {pat : List Nat} {xsd : Bool} {env : Env} (henv : EnvNamesPlain env) :
    (a : Atom) → ∀ (σ : NS) (par : Nat) (st : List Nat) (n : Nat) (cl rest : List Nat),
    Cfg σ par st n → a.ok xsd env n cl = true → pat.drop σ.i = a.render ++ rest →
    Adv pat σ (σ.after a.render.length a.groups (a.tbl par n σ.tbl)) a.render.length :=
  fun a σ par st n cl rest hc hok h =>
    (atom_scans henv a σ.lx par st n cl ⟨hc.inBr, hc.stack, hc.group⟩ hok).run σ.i rest hc.cap_le
      hc.stack_le h

theorem branch_run {pat : List Nat} {xsd : Bool} {env : Env} (henv : EnvNamesPlain env) :
    (b : Branch) → ∀ (σ : NS) (par : Nat) (st : List Nat) (n : Nat) (cl rest : List Nat),
    Cfg σ par st n → b.ok xsd env n cl = true → pat.drop σ.i = b.render ++ rest →
    Adv pat σ (σ.after b.render.length b.groups (b.tbl par n σ.tbl)) b.render.length :=
  fun b σ par st n cl rest hc hok h =>
    (branch_scans henv b σ.lx par st n cl ⟨hc.inBr, hc.stack, hc.group⟩ hok).run σ.i rest hc.cap_le
      hc.stack_le h

theorem nestingTable_render {xsd : Bool} {env : Env} (henv : EnvNamesPlain env) (a : Ast)
    (hok : RegExp.ok xsd env 0 [] a = true) : nestingTable a.render = some (tableOf a) := by
  obtain ⟨k, hk, hrun⟩ := (regexp_scans henv a ⟨[0], [], 1, 0, []⟩ 0 [] 0 [] ⟨rfl, rfl, rfl⟩ hok).run
    (pat := a.render) 0 [] (Nat.le_refl _) (Nat.le_refl _) (by simp)
  unfold nestingTable
  rw [show a.render.length + 1 = (a.render.length - k + 1) + k by omega]
  have h2 := hrun (a.render.length - k + 1)
  simp only [nrun, Lx.at] at h2
  rw [h2]
  simp only [Lx.after, Nat.zero_add]
  rw [nestingGo_succ]
  have : (RegExp.render a)[(RegExp.render a).length]? = none := by simp
  rw [this]
  rfl

mutual
theorem tblOK_of_tblD (T : List (Nat × Nat)) : ∀ (op : Op) (par : Nat), tblD T op par = true →
    tblOK T op par = true
  | .capture g c, par, h => by
    simp only [tblD, Bool.and_eq_true] at h
    simp only [tblOK, Bool.and_eq_true]
    exact ⟨h.1, tblOK_of_tblD T c g h.2⟩
  | .seq ops, par, h => by
    simp only [tblD] at h
    simp only [tblOK]
    exact tblOKL_of_tblDL T ops par h
  | .bol, _, _ | .eol, _, _ | .nothing, _, _ | .endProgram, _, _ | .atom _, _, _ | .cls _, _, _
  | .backref _, _, _ | .choice _, _, _ | .rep _ _ _ _ _, _, _ | .gfixed _ _ _ _, _, _
  | .rfixed _ _ _ _, _, _ | .unamb _ _ _, _, _ => by simp only [tblOK]
termination_by structural op => op
theorem tblOKL_of_tblDL (T : List (Nat × Nat)) : ∀ (l : List Op) (par : Nat), tblDL T l par = true →
    tblOKL T l par = true
  | [], _, _ => by simp only [tblOKL]
  | o :: os, par, h => by
    simp only [tblDL, Bool.and_eq_true] at h
    simp only [tblOKL, Bool.and_eq_true]
    exact ⟨tblOK_of_tblD T o par h.1, tblOKL_of_tblDL T os par h.2⟩
termination_by structural l => l
end

/-- `optimize` may drop or unwrap sub-trees but never re-parents a capture (the parent changes under a
    capture node, so the relation is over all parents) -/
theorem tblD_optRel (T : List (Nat × Nat)) :
    OptRel (fun o o' => ∀ par, tblD T o par = true → tblD T o' par = true)
      (fun l l' => ∀ par, tblDL T l par = true → tblDL T l' par = true) where
  refl _ _ h := h
  capture g ih par h := by simp only [tblD, Bool.and_eq_true] at h ⊢; exact ⟨h.1, ih g h.2⟩
  choice ih par h := by simp only [tblD] at h ⊢; exact ih par h
  seq ih par h := by simp only [tblD] at h ⊢; exact ih par h
  gfixed _ _ _ ih par h := by simp only [tblD] at h ⊢; exact ih par h
  rfixed _ _ _ ih par h := by simp only [tblD] at h ⊢; exact ih par h
  unamb _ _ ih par h := by simp only [tblD] at h ⊢; exact ih par h
  nil _ h := h
  cons ih ihl par h := by simp only [tblDL, Bool.and_eq_true] at h ⊢; exact ⟨ih par h.1, ihl par h.2⟩
  rep _ _ _ _ _ ih par h := by simp only [tblD] at h ⊢; exact ih par h
  rep01 _ _ _ ih _ par h := by simp only [tblD] at h ⊢; exact ih par h
  seq0 _ _ := rfl
  seq1 o par h := by simpa only [tblD, tblDL, Bool.and_true] using h
  gfixed0 _ _ _ _ _ := rfl
  gfixedZ _ _ _ _ _ par h := by simpa only [tblD] using h
  unambRep _ _ _ _ ih _ par h := by simpa only [tblD] using ih par h
  unambG _ _ _ ih _ par h := by simpa only [tblD] using ih par h
  unambR _ _ _ ih _ par h := by simpa only [tblD] using ih par h

theorem tblD_optimize (env : Env) (fl : CFlags) (T : List (Nat × Nat)) (op : Op) (par : Nat)
    (h : tblD T op par = true) : tblD T (optimize env fl op) par = true :=
  optimize_rel (tblD_optRel T) env fl op par h

theorem tblDL_optimizeL (env : Env) (fl : CFlags) (T : List (Nat × Nat)) : ∀ (l : List Op) (par : Nat),
    tblDL T l par = true → tblDL T (optimizeL env fl l) par = true :=
  fun l => optimizeL_rel (tblD_optRel T) env fl l

theorem tblDL_optimizeSeq (env : Env) (fl : CFlags) (T : List (Nat × Nat)) : ∀ (l : List Op) (par : Nat),
    tblDL T l par = true → tblDL T (optimizeSeq env fl l) par = true :=
  fun l => optimizeSeq_rel (tblD_optRel T) env fl l

theorem tblD_numRel (T : List (Nat × Nat)) : NumRel (fun o o' => ∀ par, tblD T o' par = tblD T o par)
    (fun l l' => ∀ par, tblDL T l' par = tblDL T l par) where
  refl _ _ := rfl
  capture g h par := by simp only [tblD, h]
  choice h par := by simp only [tblD, h]
  seq h par := by simp only [tblD, h]
  gfixed _ _ _ h par := by simp only [tblD, h]
  rfixed _ _ _ h par := by simp only [tblD, h]
  unamb _ _ h par := by simp only [tblD, h]
  nil _ := rfl
  cons h hl par := by simp only [tblDL, h, hl]
  rep _ _ _ _ _ h par := by simp only [tblD, h]

theorem tblD_numberReps (T : List (Nat × Nat)) (op : Op) (k par : Nat) :
    tblD T (numberReps op k).1 par = tblD T op par :=
  numberReps_rel (tblD_numRel T) op k par

theorem tblDL_numberRepsL (T : List (Nat × Nat)) : ∀ (l : List Op) (k par : Nat),
    tblDL T (numberRepsL l k).1 par = tblDL T l par :=
  fun l k => numberRepsL_rel (tblD_numRel T) l k

def KeysIn (L : List (Nat × Nat)) (n g : Nat) : Prop :=
  L.Pairwise (fun p q => q.1 < p.1) ∧ ∀ p ∈ L, n < p.1 ∧ p.1 ≤ n + g

theorem KeysIn.nil (n g : Nat) : KeysIn [] n g := ⟨List.Pairwise.nil, fun _ h => by cases h⟩

theorem KeysIn.append {L1 L2 : List (Nat × Nat)} {n g1 g2 : Nat} (h2 : KeysIn L2 (n + g1) g2)
    (h1 : KeysIn L1 n g1) : KeysIn (L2 ++ L1) n (g1 + g2) := by
  refine ⟨List.pairwise_append.2 ⟨h2.1, h1.1, fun p hp q hq => ?_⟩, fun p hp => ?_⟩
  · have a := h2.2 p hp
    have b := h1.2 q hq
    omega
  · rcases List.mem_append.1 hp with hp | hp
    · have := h2.2 p hp; omega
    · have := h1.2 p hp; omega

mutual
theorem Atom.tbl_keys (par n : Nat) : (a : Atom) → KeysIn (a.tbl par n []) n a.groups
  | .group r => by
    simp only [Atom.tbl, Atom.groups]
    rw [RegExp.tbl_append]
    have h1 : KeysIn [(n + 1, par)] n 1 :=
      ⟨List.pairwise_singleton _ _, fun p hp => by simp at hp; subst hp; simp⟩
    have := KeysIn.append (RegExp.tbl_keys (n + 1) (n + 1) r) h1
    rwa [Nat.add_comm 1 r.groups] at this
  | .ncgroup r => by simp only [Atom.tbl, Atom.groups]; exact RegExp.tbl_keys par n r
  | .chr _ | .dot | .bol | .eol | .esc _ | .clsEsc _ | .prop _ _ | .backref _ | .cls _ => by
    simp only [Atom.tbl, Atom.groups]; exact KeysIn.nil _ _
termination_by structural a => a
theorem Branch.tbl_keys (par n : Nat) : (b : Branch) → KeysIn (b.tbl par n []) n b.groups
  | .nil => by simp only [Branch.tbl, Branch.groups]; exact KeysIn.nil _ _
  | .cons a q b => by
    simp only [Branch.tbl, Branch.groups]
    rw [Branch.tbl_append]
    exact KeysIn.append (Branch.tbl_keys par (n + a.groups) b) (Atom.tbl_keys par n a)
termination_by structural b => b
theorem RegExp.tbl_keys (par n : Nat) : (r : RegExp) → KeysIn (r.tbl par n []) n r.groups
  | .one b => by simp only [RegExp.tbl, RegExp.groups]; exact Branch.tbl_keys par n b
  | .alt b r => by
    simp only [RegExp.tbl, RegExp.groups]
    rw [RegExp.tbl_append]
    exact KeysIn.append (RegExp.tbl_keys par (n + b.groups) r) (Branch.tbl_keys par n b)
termination_by structural r => r
end

theorem lookupNat_of_mem : ∀ (L : List (Nat × Nat)), L.Pairwise (fun p q => q.1 < p.1) →
    ∀ p ∈ L, lookupNat L p.1 = some p.2 := by
  intro L
  induction L with
  | nil => intro _ p hp; cases hp
  | cons x xs ih =>
    intro hpw p hp
    rw [List.pairwise_cons] at hpw
    obtain ⟨a, b⟩ := x
    rw [lookupNat]
    rcases List.mem_cons.1 hp with rfl | hp'
    · simp
    · have hlt := hpw.1 p hp'
      have hne : (a == p.1) = false := by
        rw [beq_eq_false_iff_ne]; simp only [] at hlt; omega
      rw [hne]
      simp only [Bool.false_eq_true, if_false]
      exact ih hpw.2 p hp'

theorem agree_tableOf (a : Ast) : Agree (tableOf a) (RegExp.tbl 0 0 [] a) :=
  lookupNat_of_mem _ (RegExp.tbl_keys 0 0 a).1

theorem compile_table (env : Env) (henv : EnvNamesPlain env) (fl : CFlags) (hlit : fl.literal = false)
    (pat : List Nat) (hcls : ClassInv { pat := pat, fl := fl, env := env }) (opt : Bool) (pr : Prog)
    (h : compileCore env fl pat opt = .ok pr) :
    ∃ a : Ast, a.okFor fl.xsd env = true ∧ a.inLimit = true ∧ pat = a.render ∧ pr.pattern = pat ∧
      pr.literal = false ∧ nestingTable pr.pattern = some (tableOf a) ∧
      tblD (tableOf a) pr.op 0 = true := by
  rw [compileCore_eq env fl pat opt hlit] at h
  cases hp : parseExpr { pat := pat, fl := fl, env := env } (4 * pat.length + 16) {} true with
  | err e => rw [hp] at h; cases h
  | ok op s' =>
    rw [hp] at h
    simp only [] at h
    by_cases hi : (s'.idx != pat.length) = true
    · rw [if_pos hi] at h; cases h
    rw [if_neg hi] at h
    have hend : s'.idx = pat.length := by simpa using hi
    obtain ⟨r, r1, r2, r3, r4⟩ := parse_top_inv _ hcls _ {} op s' 0 hp rfl (Nat.zero_le _)
    have hpat : pat = r.render := by
      have := r3.text
      simp only [] at this
      rw [hend, List.drop_length] at this
      simpa using this
    have hD : tblD (tableOf r) op 0 = true := r4 _ 0 (agree_tableOf r)
    have hnt : nestingTable pat = some (tableOf r) := by
      rw [hpat]; exact nestingTable_render henv r r1
    cases opt with
    | true =>
      simp only [if_true, Out.ok.injEq] at h
      rw [← h]
      refine ⟨r, r1, r2, hpat, MkProgram.pattern .., by rw [MkProgram.literal, hlit],
        by rw [MkProgram.pattern]; exact hnt, ?_⟩
      rw [MkProgram.op, tblD_numberReps]
      exact tblD_optimize env fl _ op 0 hD
    | false =>
      simp only [Bool.false_eq_true, if_false, Out.ok.injEq] at h
      rw [← h]
      refine ⟨r, r1, r2, hpat, rfl, hlit, hnt, ?_⟩
      show tblD (tableOf r) (numberReps op 0).1 0 = true
      rw [tblD_numberReps]; exact hD

end Rx.Grammar

namespace Rx.C03d
open Rx

/-- the program of a successful compilation (a dummy otherwise), for statements about concrete patterns -/
def progOf (r : Out Prog) : Prog :=
  match r with
  | .ok pr => pr
  | _ => mkBareProgram [] .nothing 1 {} false

end Rx.C03d
