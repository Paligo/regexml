/-
  Proofs/RegexOKNew — `findOKI_of_outcome` builds `FindOKI` (Proofs/ApiContract) from three facts about a fragment:
  the `Outcome` of every search, "no member ⇒ no head", and "the reported span ends at the head".  Hence `FindOK` for a
  program with `ProgOK`, and `RegexOK` for a regex returned by `Regex::new` whose tree has `TreeOK` on every good
  input (`RegexOK.of_new`): what a fragment has to provide for the API theorems is its `TreeOK`.
-/
import RxModel.Proofs.ApiRegexLemmas
import RxModel.Proofs.ProgOK
import RxModel.Proofs.NewProg
namespace Rx.ApiGeneric
open Rx Rx.SearchComplete
open Rx.ApiComplete (GoodInput compile_maxParens matchAt_pc firstFrom firstFrom_some firstFrom_none firstFrom_eq_some
  firstFrom_eq_none hasCapNode le_of_lt_window lt_window)

section outcome
variable [HeadFn]

theorem findOKI_of_outcome {I : Nat → St → Prop} {ctx : Ctx} {pr : Prog}
    (hwf : wfOp pr.op = true) (hcp : C02.capsPos pr.op = true)
    (hfresh : ∀ pos, I pos {})
    (hsound : ∀ k, k ≤ ctx.len → (¬ ∃ q, OpR ctx pr.op k q) → HeadFn.hd ctx pr.op k = none)
    (hnz : ∀ j, ¬ OpR ctx pr.op j j)
    (hout : ∀ pos st, pos ≤ ctx.len → st.panic = none → I pos st →
      Outcome ctx pr.op pos (matchesFrom ctx pr pos st))
    (hspan : ∀ pos st st', pos ≤ ctx.len → st.panic = none → I pos st →
      matchesFrom ctx pr pos st = (true, st') →
      ∃ j n, getParenStart st' 0 = some j ∧ getParenEnd st' 0 = some n ∧
        HeadFn.hd ctx pr.op j = some n ∧ pos ≤ j ∧ j ≤ n ∧ n ≤ ctx.len ∧ OpR ctx pr.op j n ∧
        ∀ k q, pos ≤ k → k < j → ¬ OpR ctx pr.op k q)
    (hkeep : ∀ pos st st' n, pos ≤ ctx.len → st.panic = none → I pos st →
      matchesFrom ctx pr pos st = (true, st') → getParenEnd st' 0 = some n → I n st') :
    FindOKI I ctx pr := by
  refine ⟨hfresh, fun pos st hpos hst hI => ?_, fun j hj => ?_⟩
  · have ho := hout pos st hpos hst hI
    have hsp := hspan pos st
    have hkp := hkeep pos st
    generalize matchesFrom ctx pr pos st = r at ho hsp hkp
    obtain ⟨b, st'⟩ := r
    rcases ho.2 with ⟨ht, j, stj, _, h2, _, _, hma⟩ | ⟨hf, hno⟩
    · simp only at ht
      subst ht
      obtain ⟨j', n, hs0, he, hh, a1, a2, a3, a4, a5⟩ := hsp st' hpos hst hI rfl
      have aI := hkp st' n hpos hst hI rfl he
      have hjj : j = j' := by
        rw [(C02.matchAt_span ctx pr.op hwf hcp j h2 stj st' hma).1] at hs0
        exact Option.some.inj hs0
      subst hjj
      have hpc := matchAt_pc ctx pr.op hwf j h2 stj st' hma
      have hlt : j < n := Nat.lt_of_le_of_ne a2 (fun e => hnz j (by rw [← e] at a4; exact a4))
      refine .inl ⟨st', j, n, rfl, ?_, a1, ⟨ho.1, hs0, he, hlt, a3, hpc.1, hpc.2⟩, aI⟩
      exact firstFrom_eq_some _ _ _ _ _ a1 (lt_window a1 h2) hh
        (fun k hk1 hk2 => hsound k (Nat.le_trans (Nat.le_of_lt hk2) h2) (fun ⟨q, hq⟩ => a5 k q hk1 hk2 hq))
    · simp only at hf
      subst hf
      refine .inr ⟨st', rfl, ho.1, ?_⟩
      exact firstFrom_eq_none _ _ _ (fun k hk1 hk2 =>
        have hk : k ≤ ctx.len := le_of_lt_window hk1 hk2
        hsound k hk (hno k hk1 hk))
  · -- the head at `j`, read off the search from `j` in the fresh state
    have ho := hout j {} hj rfl (hfresh j)
    have hsp := hspan j {}
    generalize matchesFrom ctx pr j {} = r at ho hsp
    obtain ⟨b, st'⟩ := r
    have hnone : (¬ ∃ q, OpR ctx pr.op j q) → (∀ n, HeadFn.hd ctx pr.op j = some n → OpR ctx pr.op j n) ∧
        (HeadFn.hd ctx pr.op j = none → ∀ q, ¬ OpR ctx pr.op j q) := fun hno =>
      ⟨fun n hn => (nomatch (hsound j hj hno).symm.trans hn), fun _ q hq => hno ⟨q, hq⟩⟩
    rcases ho.2 with ⟨ht, _⟩ | ⟨_, hno⟩
    · simp only at ht
      subst ht
      obtain ⟨j', n, _, _, hh, a1, _, _, a4, a5⟩ := hsp st' hj rfl (hfresh j) rfl
      rcases Nat.eq_or_lt_of_le a1 with rfl | hlt
      · rw [hh]
        exact ⟨fun n' hn' => Option.some.inj hn' ▸ a4, nofun⟩
      · exact hnone (fun ⟨q, hq⟩ => a5 j q (Nat.le_refl _) hlt hq)
    · exact hnone (hno j (Nat.le_refl _) hj)

end outcome

/-- `S0`, `hnull`: the nullability gate is decided on the empty input -/
theorem _root_.Rx.SearchComplete.ProgOK.findOK {E : Ctx → Op → Nat → List Nat} {pr : Prog} {lower : Nat → Nat}
    {input : List Nat} (S : ProgOK pr lower input (E (pr.ctx lower input) pr.op))
    (S0 : ProgOK pr lower [] (E (pr.ctx lower []) pr.op)) (hcp : C02.capsPos pr.op = true)
    (hnull : pr.isMatch lower [] = .ok false) :
    @FindOK ⟨fun c o j => (E c o j).head?⟩ (pr.ctx lower input) pr :=
  @findOKI_of_outcome ⟨fun c o j => (E c o j).head?⟩ _ _ _ S.tree.wf hcp (fun _ => trivial) S.tree.enum.head_none
    (no_zero_of_null (S0.outcome 0 (Nat.zero_le _) {} rfl) hnull input)
    (fun pos st hpos hst _ => S.outcome pos hpos st hst)
    (fun pos st st' hpos hst _ hm => S.leftmost_first hcp pos hpos st st' hst hm)
    (fun _ _ _ _ _ _ _ _ _ => trivial)

theorem RegexOK.of_new {E : Ctx → Op → Nat → List Nat} {env : Env} {p fs : List Nat} {xsd : Bool} {fl : Flags}
    {r : Regex} (hf : parseFlags fs xsd = some fl) (hnew : Regex.new env p fs xsd true = .ok r)
    (hns : Api.NoSat env fl p) (hnb : r.prog.hasBackrefs = false) (hlit : fl.literal = true → p ≠ [])
    (hT : ∀ {input : List Nat}, GoodInput env fl input →
      TreeOK (r.prog.ctx env.lower input) r.prog.op (E (r.prog.ctx env.lower input) r.prog.op)) :
    @RegexOK ⟨fun c o j => (E c o j).head?⟩ env fl r := by
  obtain ⟨pat, op, mp, heq, hw, hne, hcp⟩ := CleanComplete.new_prog env p fs xsd fl r hf hnew hns hnb hlit
  have hcomp := ApiL.new_compile env p fs xsd true fl r hf hnew
  rw [ApiL.compileProg_core] at hcomp
  have hn := C16.new_nullable env p fs xsd true r hnew
  have S : ∀ {input : List Nat}, GoodInput env fl input →
      ProgOK r.prog env.lower input (E (r.prog.ctx env.lower input) r.prog.op) := fun G => by
    have T := hT G
    rw [heq] at T ⊢
    exact .of_mkProgram hw hne G.len T
  have hcp' : C02.capsPos r.prog.op = true := by rw [heq]; exact (mkProgram_tree pat op mp fl.core false).2.2.trans hcp
  exact @RegexOK.mk ⟨fun c o j => (E c o j).head?⟩ env fl r hn (compile_maxParens env fl.core _ r.prog hcomp)
    (by rw [heq]; exact MkProgram.literal ..) (fun lower input => by rw [heq, MkProgram.ctx]; exact ⟨rfl, rfl⟩)
    (fun G => ⟨(S G).isMatch_iff, (S G).isMatch_false⟩)
    (fun hnull input G => (S G).findOK (E := E) (S G.nil) hcp' (by rw [hn, hnull]))

end Rx.ApiGeneric
