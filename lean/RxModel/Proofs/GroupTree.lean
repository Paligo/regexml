/-
  Proofs/GroupTree — `process_matching_substring` (Model/Api: `buildActions`, `walk`, `hEvents`) builds the group
  tree of a well-nested family of spans (`processMatch_forest`), groups that captured the empty string included;
  then what can be read off that tree (text, group numbers, sub-trees).

  The position → events map is read as a function `EvF`; one iteration of `buildActions` is `stepE`; over a forest
  of spans listed in preorder the fold yields at every position exactly the events of the forest's linearisation
  (`foldL_both`); `walk` over such a map is a stack machine run over the linearisation (`walk_run`, `run_both`),
  which builds the tree `outF`.  Last, Boolean equality tests on analyze results (`mEq`, `aEq`, with their
  soundness), by which the examples compare what `analyze` returns.
-/
import RxModel.Model.Api
import RxModel.Proofs.AnalyzeLemmas
namespace Rx

abbrev EvF := Nat → List Ev

def evOf (acts : Actions) : EvF := fun p => (actGet acts p).getD []

def upd (E : EvF) (k : Nat) (v : List Ev) : EvF := fun p => if p = k then v else E p

def ActsOK (acts : Actions) : Prop := ∀ p, actGet acts p ≠ some []

theorem actGet_actSet (a : Actions) (k : Nat) (v : List Ev) (k' : Nat) :
    actGet (actSet a k v) k' = if k' = k then some v else actGet a k' := by
  induction a with
  | nil =>
    simp only [actSet, actGet]
    by_cases h : k' = k
    · subst h; simp
    · have : (k == k') = false := beq_false_of_ne (fun e => h e.symm)
      simp [h, this]
  | cons x t ih =>
    obtain ⟨p, w⟩ := x
    simp only [actSet]
    by_cases hpk : p = k
    · subst hpk
      simp only [beq_self_eq_true, if_true, actGet]
      by_cases h : k' = p
      · subst h; simp
      · have : (p == k') = false := beq_false_of_ne (fun e => h e.symm)
        simp [h, this]
    · have hpk' : (p == k) = false := beq_false_of_ne hpk
      simp only [hpk', Bool.false_eq_true, if_false, actGet]
      by_cases hpk2 : p = k'
      · subst hpk2
        simp only [beq_self_eq_true, if_true]
        rw [if_neg hpk]
      · have : (p == k') = false := beq_false_of_ne hpk2
        simp only [this, Bool.false_eq_true, if_false]
        exact ih

theorem evOf_actSet (a : Actions) (k : Nat) (v : List Ev) : evOf (actSet a k v) = upd (evOf a) k v := by
  funext p
  simp only [evOf, upd, actGet_actSet]
  split <;> rfl

theorem ActsOK.set {a : Actions} (h : ActsOK a) (k : Nat) (v : List Ev) (hv : v ≠ []) : ActsOK (actSet a k v) := by
  intro p
  rw [actGet_actSet]
  split
  · intro hc; exact hv (by simpa using hc)
  · exact h p

theorem actsOK_nil : ActsOK [] := by intro p; simp [actGet]

theorem actGet_of_evOf {a : Actions} (h : ActsOK a) (p : Nat) :
    actGet a p = if evOf a p = [] then none else some (evOf a p) := by
  unfold evOf
  cases hg : actGet a p with
  | none => simp
  | some v =>
    have : v ≠ [] := fun hc => h p (by rw [hg, hc])
    simp [this]

/-- what one set group `g` with span `(a, b)` (relative to the start of the match) does to the map;
    `parent` is what the nesting table answers for `g` -/
def stepE (parent : Nat) (E : EvF) (g a b : Nat) : EvF :=
  if a < b then
    upd (upd E a (E a ++ [(true, g)])) b ((false, g) :: E b)
  else
    upd E a (insertAt (E a) (findEnd parent (E a)) [(true, g), (false, g)])

/-- (number, start, end) -/
abbrev GSpan := Nat × Nat × Nat

def foldL (tbl : List (Nat × Nat)) : List GSpan → EvF → Option EvF
  | [], E => some E
  | (g, a, b) :: rest, E =>
    if a < b then foldL tbl rest (stepE 0 E g a b)
    else match lookupNat tbl g with
      | none => none
      | some parent => foldL tbl rest (stepE parent E g a b)

theorem foldL_append (tbl : List (Nat × Nat)) (l1 l2 : List GSpan) (E : EvF) :
    foldL tbl (l1 ++ l2) E = (foldL tbl l1 E).bind (foldL tbl l2) := by
  induction l1 generalizing E with
  | nil => rfl
  | cons x l1 ih =>
    obtain ⟨g, a, b⟩ := x
    simp only [List.cons_append, foldL]
    split
    · exact ih _
    · split
      · rfl
      · exact ih _

theorem stepE_lt (p1 p2 : Nat) (E : EvF) (g a b : Nat) (h : a < b) : stepE p1 E g a b = stepE p2 E g a b := by
  simp only [stepE, if_pos h]

theorem buildActions_set {st : St} {tbl : List (Nat × Nat)} {s0 i a b parent : Nat} {acts : Actions} (n : Nat)
    (hok : ActsOK acts) (hs : getParenStart st i = some (s0 + a)) (he : getParenEnd st i = some (s0 + b))
    (hab : a ≤ b) (hpar : a < b ∨ lookupNat tbl i = some parent) :
    ∃ acts', ActsOK acts' ∧ evOf acts' = stepE parent (evOf acts) i a b ∧
      buildActions st tbl s0 (n + 1) i acts = buildActions st tbl s0 n (i + 1) acts' := by
  rw [buildActions, hs]
  simp only
  rw [if_neg (Nat.not_lt.2 (Nat.le_add_right s0 a)), he]
  simp only
  rw [if_neg (Nat.not_lt.2 (Nat.le_add_right s0 b)), Nat.add_sub_cancel_left, Nat.add_sub_cancel_left]
  by_cases hlt : a < b
  · simp only [hlt, if_true]
    refine ⟨_, ?_, ?_, rfl⟩
    · exact (hok.set _ _ (by simp)).set _ _ (by simp)
    rw [evOf_actSet, evOf_actSet]
    simp only [stepE, if_pos hlt]
    congr 1
    rw [actGet_actSet, if_neg (Nat.ne_of_gt hlt)]
    rfl
  · have hlk : lookupNat tbl i = some parent := hpar.resolve_left hlt
    have hab' : a = b := Nat.le_antisymm hab (Nat.le_of_not_lt hlt)
    subst hab'
    simp only [hlt, if_false, hlk]
    cases hg : actGet acts a with
    | none =>
      refine ⟨_, hok.set _ _ (by simp), ?_, rfl⟩
      rw [evOf_actSet]
      simp only [stepE, Nat.lt_irrefl, if_false, evOf, hg, Option.getD_none, findEnd, insertAt,
        List.take_nil, List.drop_nil, List.nil_append, List.append_nil]
    | some v =>
      refine ⟨_, hok.set _ _ (by simp [insertAt]), ?_, rfl⟩
      rw [evOf_actSet]
      simp only [stepE, Nat.lt_irrefl, if_false, evOf, hg, Option.getD_some]

theorem buildActions_foldL (st : St) (tbl : List (Nat × Nat)) (s0 : Nat) :
    ∀ (n i : Nat) (L : List GSpan) (acts : Actions) (E' : EvF), ActsOK acts →
    L.Pairwise (fun x y => x.1 < y.1) → (∀ x ∈ L, i ≤ x.1 ∧ x.1 < i + n ∧ x.2.1 ≤ x.2.2) →
    (∀ x ∈ L, getParenStart st x.1 = some (s0 + x.2.1) ∧ getParenEnd st x.1 = some (s0 + x.2.2)) →
    (∀ k, i ≤ k → k < i + n → (∀ x ∈ L, x.1 ≠ k) → getParenStart st k = none) →
    foldL tbl L (evOf acts) = some E' →
    ∃ acts', buildActions st tbl s0 n i acts = some acts' ∧ ActsOK acts' ∧ evOf acts' = E' := by
  intro n
  induction n with
  | zero =>
    intro i L acts E' hok _ hL _ _ hf
    cases L with
    | nil => exact ⟨acts, rfl, hok, Option.some.inj hf⟩
    | cons x L => exact absurd (Nat.lt_of_le_of_lt (hL x List.mem_cons_self).1 (hL x List.mem_cons_self).2.1) (Nat.lt_irrefl _)
  | succ n ih =>
    intro i L acts E' hok hsort hL hset hunset hf
    by_cases hmem : ∃ x ∈ L, x.1 = i
    · -- `i` is the head of `L`
      obtain ⟨x, hx, hxi⟩ := hmem
      cases L with
      | nil => cases hx
      | cons y L' =>
        obtain ⟨hy1, hsort'⟩ := List.pairwise_cons.1 hsort
        have hy : y.1 = i := by
          rcases List.mem_cons.1 hx with rfl | hx'
          · exact hxi
          · exact absurd (hxi ▸ hy1 x hx') (Nat.not_lt.2 (hL y List.mem_cons_self).1)
        obtain ⟨g, a, b⟩ := y
        simp only at hy
        subst hy
        obtain ⟨hs, he⟩ := hset (g, a, b) List.mem_cons_self
        -- the nesting table is consulted for an empty group only
        obtain ⟨parent, hpar, hf'⟩ : ∃ parent, (a < b ∨ lookupNat tbl g = some parent) ∧
            foldL tbl L' (stepE parent (evOf acts) g a b) = some E' := by
          simp only [foldL] at hf
          by_cases hlt : a < b
          · exact ⟨0, .inl hlt, by rwa [if_pos hlt] at hf⟩
          · rw [if_neg hlt] at hf
            cases hlk : lookupNat tbl g with
            | none => rw [hlk] at hf; cases hf
            | some parent => rw [hlk] at hf; exact ⟨parent, .inr rfl, hf⟩
        obtain ⟨acts1, hok1, hev1, hstep⟩ := buildActions_set n hok hs he (hL (g, a, b) List.mem_cons_self).2.2 hpar
        rw [hstep]
        refine ih (g + 1) L' acts1 E' hok1 hsort' (fun x hx' => ?_) (fun x hx' => hset x (List.mem_cons_of_mem _ hx'))
          (fun k h1 h2 h3 => ?_) (hev1 ▸ hf')
        · have h2 := hL x (List.mem_cons_of_mem _ hx')
          exact ⟨hy1 x hx', by rw [Nat.add_right_comm, Nat.add_assoc]; exact h2.2.1, h2.2.2⟩
        · apply hunset k (Nat.le_of_succ_le h1) (by rw [← Nat.add_assoc, Nat.add_right_comm]; exact h2)
          intro x hx'
          rcases List.mem_cons.1 hx' with rfl | hx''
          · exact Nat.ne_of_lt h1
          · exact h3 x hx''
    · -- `i` is not set
      have hno : ∀ x ∈ L, x.1 ≠ i := fun x hx hc => hmem ⟨x, hx, hc⟩
      rw [buildActions, hunset i (Nat.le_refl _) (Nat.lt_add_of_pos_right (Nat.succ_pos n)) hno]
      simp only
      refine ih (i + 1) L acts E' hok hsort (fun x hx => ?_) hset (fun k h1 h2 h3 => ?_) hf
      · have h := hL x hx
        exact ⟨Nat.lt_of_le_of_ne h.1 (Ne.symm (hno x hx)), by rw [Nat.add_right_comm, Nat.add_assoc]; exact h.2.1, h.2.2⟩
      · exact hunset k (Nat.le_of_succ_le h1) (by rw [← Nat.add_assoc, Nat.add_right_comm]; exact h2) h3

inductive GT where
  | node (g a b : Nat) (kids : List GT)

def GT.grp : GT → Nat | .node g _ _ _ => g
def GT.lo : GT → Nat | .node _ a _ _ => a
def GT.hi : GT → Nat | .node _ _ b _ => b

theorem GT.ind_both {M : GT → Prop} {MF : List GT → Prop}
    (node : ∀ g a b ks, MF ks → M (.node g a b ks)) (nil : MF []) (cons : ∀ t ts, M t → MF ts → MF (t :: ts)) :
    (∀ t, M t) ∧ ∀ ks, MF ks :=
  ⟨GT.rec (motive_2 := MF) node nil cons, GT.rec_1 (motive_1 := M) node nil cons⟩

mutual
def flatT : GT → List GSpan
  | .node g a b ks => (g, a, b) :: flatF ks
termination_by structural t => t
def flatF : List GT → List GSpan
  | [] => []
  | t :: ts => flatT t ++ flatF ts
termination_by structural l => l
end

mutual
/-- the events of the linearisation that sit at position `x` -/
def evsT (x : Nat) : GT → List Ev
  | .node g a b ks => (if a = x then [(true, g)] else []) ++ evsF x ks ++ (if b = x then [(false, g)] else [])
termination_by structural t => t
def evsF (x : Nat) : List GT → List Ev
  | [] => []
  | t :: ts => evsT x t ++ evsF x ts
termination_by structural l => l
end

mutual
/-- well-nested, ordered left to right, inside `[lo, hi]` -/
def WithinT (lo hi : Nat) : GT → Prop
  | .node _ a b ks => lo ≤ a ∧ a ≤ b ∧ b ≤ hi ∧ WithinF a b ks
termination_by structural t => t
def WithinF (lo hi : Nat) : List GT → Prop
  | [] => lo ≤ hi
  | t :: ts => WithinT lo hi t ∧ WithinF t.hi hi ts
termination_by structural l => l
end

mutual
/-- the nesting table answers the enclosing group (`par` for the roots) -/
def ParT (tbl : List (Nat × Nat)) (par : Nat) : GT → Prop
  | .node g _ _ ks => lookupNat tbl g = some par ∧ ParF tbl g ks
termination_by structural t => t
def ParF (tbl : List (Nat × Nat)) (par : Nat) : List GT → Prop
  | [] => True
  | t :: ts => ParT tbl par t ∧ ParF tbl par ts
termination_by structural l => l
end

def grpsF (ks : List GT) : List Nat := (flatF ks).map (·.1)
def grpsT (t : GT) : List Nat := (flatT t).map (·.1)

theorem grpsF_cons (t : GT) (ts : List GT) : grpsF (t :: ts) = grpsT t ++ grpsF ts := by
  simp [grpsF, grpsT, flatF]

theorem grpsT_node (g a b : Nat) (ks : List GT) : grpsT (.node g a b ks) = g :: grpsF ks := by
  simp [grpsF, grpsT, flatT]

theorem WithinF_le : ∀ (ks : List GT) (lo hi : Nat), WithinF lo hi ks → lo ≤ hi
  | [], _, _, h => by simpa only [WithinF] using h
  | .node g a b kids :: ts, lo, hi, h => by
    simp only [WithinF, WithinT, GT.hi] at h
    exact Nat.le_trans h.1.1 (Nat.le_trans h.1.2.1 (WithinF_le ts b hi h.2))

theorem WithinT.lo_le {lo hi : Nat} : ∀ {t : GT}, WithinT lo hi t → lo ≤ t.lo
  | .node _ _ _ _, h => by simp only [WithinT] at h; exact h.1
theorem WithinT.le {lo hi : Nat} : ∀ {t : GT}, WithinT lo hi t → t.lo ≤ t.hi
  | .node _ _ _ _, h => by simp only [WithinT] at h; exact h.2.1
theorem WithinT.self {lo hi : Nat} : ∀ {t : GT}, WithinT lo hi t → WithinT t.lo t.hi t
  | .node _ _ _ _, h => by simp only [WithinT, GT.hi, GT.lo] at h ⊢; exact ⟨Nat.le_refl _, h.2.1, Nat.le_refl _, h.2.2.2⟩

theorem outside_inner {x lo a b hi : Nat} (h1 : lo ≤ a) (h2 : a ≤ b) (h3 : b ≤ hi) (hx : x < lo ∨ hi < x) :
    (x < a ∨ b < x) ∧ a ≠ x ∧ b ≠ x := by
  rcases hx with h | h
  · have := Nat.lt_of_lt_of_le h h1
    exact ⟨.inl this, Nat.ne_of_gt this, Nat.ne_of_gt (Nat.lt_of_lt_of_le this h2)⟩
  · have := Nat.lt_of_le_of_lt h3 h
    exact ⟨.inr this, Nat.ne_of_lt (Nat.lt_of_le_of_lt h2 this), Nat.ne_of_lt this⟩

theorem evs_outside_both (x : Nat) :
    (∀ t : GT, ∀ lo hi, WithinT lo hi t → (x < lo ∨ hi < x) → evsT x t = []) ∧
    (∀ ks : List GT, ∀ lo hi, WithinF lo hi ks → (x < lo ∨ hi < x) → evsF x ks = []) := by
  refine GT.ind_both ?_ ?_ ?_
  · intro g a b ks ih lo hi h hx
    simp only [WithinT] at h
    obtain ⟨h1, h2, h3, h4⟩ := h
    obtain ⟨k1, k2, k3⟩ := outside_inner h1 h2 h3 hx
    simp only [evsT]
    rw [ih a b h4 k1, if_neg k2, if_neg k3]
    rfl
  · intro _ _ _ _
    rfl
  · intro t ts ih1 ih2 lo hi h hx
    simp only [WithinF] at h
    simp only [evsF]
    rw [ih1 lo hi h.1 hx, ih2 t.hi hi h.2 (hx.imp_left (fun h' => Nat.lt_of_lt_of_le h' (Nat.le_trans h.1.lo_le h.1.le)))]
    rfl

theorem evsT_outside (x : Nat) (t : GT) (lo hi : Nat) (h : WithinT lo hi t) (hx : x < lo ∨ hi < x) :
    evsT x t = [] :=
  (evs_outside_both x).1 t lo hi h hx

theorem evsF_outside (x : Nat) (ks : List GT) (lo hi : Nat) (h : WithinF lo hi ks) (hx : x < lo ∨ hi < x) :
    evsF x ks = [] :=
  (evs_outside_both x).2 ks lo hi h hx

mutual
theorem mem_evsT (x : Nat) : (t : GT) → ∀ ev, ev ∈ evsT x t → ev.2 ∈ grpsT t
  | .node g a b ks, ev, h => by
    simp only [evsT, List.mem_append] at h
    rw [grpsT_node]
    rcases h with (h | h) | h
    · split at h
      · simp only [List.mem_singleton] at h; subst h; exact List.mem_cons_self
      · cases h
    · exact List.mem_cons_of_mem _ (mem_evsF x ks ev h)
    · split at h
      · simp only [List.mem_singleton] at h; subst h; exact List.mem_cons_self
      · cases h
termination_by structural t => t
theorem mem_evsF (x : Nat) : (ks : List GT) → ∀ ev, ev ∈ evsF x ks → ev.2 ∈ grpsF ks
  | [], _, h => by simp [evsF] at h
  | t :: ts, ev, h => by
    simp only [evsF, List.mem_append] at h
    rw [grpsF_cons, List.mem_append]
    rcases h with h | h
    · exact .inl (mem_evsT x t ev h)
    · exact .inr (mem_evsF x ts ev h)
termination_by structural ks => ks
end

/-- enclosing groups, innermost first: (number, end position) -/
abbrev Anc := List (Nat × Nat)

/-- their close events at position `x`, innermost first -/
def pend (anc : Anc) (x : Nat) : List Ev := (anc.filter (fun A => A.2 == x)).map (fun A => (false, A.1))

def parOf : Anc → Nat
  | [] => 0
  | A :: _ => A.1

theorem pend_nil (x : Nat) : pend [] x = [] := rfl

theorem pend_cons (g b : Nat) (anc : Anc) (x : Nat) :
    pend ((g, b) :: anc) x = (if b = x then [(false, g)] else []) ++ pend anc x := by
  simp only [pend, List.filter_cons]
  by_cases h : b = x
  · simp [h]
  · have : (b == x) = false := by simp [h]
    simp [h, this]

theorem pend_empty (anc : Anc) (x : Nat) (h : ∀ A ∈ anc, x < A.2) : pend anc x = [] := by
  induction anc with
  | nil => rfl
  | cons A t ih =>
    obtain ⟨g, b⟩ := A
    rw [pend_cons, if_neg (Nat.ne_of_gt (h (g, b) List.mem_cons_self))]
    exact ih (fun B hB => h B (List.mem_cons_of_mem _ hB))

theorem findEnd_skip (par : Nat) (pre rest : List Ev) (h : ∀ ev ∈ pre, ev ≠ (false, par) ∨ par = 0) :
    findEnd par (pre ++ rest) = pre.length + findEnd par rest := by
  induction pre with
  | nil => simp
  | cons ev t ih =>
    obtain ⟨isS, g⟩ := ev
    have : (!isS && g == par && par != 0) = false := by
      rcases h (isS, g) List.mem_cons_self with hne | hne
      · cases isS with
        | true => simp
        | false =>
          have : g ≠ par := fun hc => hne (by rw [hc])
          simp [this]
      · simp [hne]
    simp only [List.cons_append, findEnd, this, Bool.false_eq_true, if_false, List.length_cons]
    rw [ih (fun ev hev => h ev (List.mem_cons_of_mem _ hev))]
    rw [← Nat.add_assoc, Nat.add_comm 1]

structure AncOK (hi : Nat) (anc : Anc) : Prop where
  pos : ∀ A ∈ anc, 1 ≤ A.1
  ge : ∀ A ∈ anc, hi ≤ A.2
  sorted : anc.Pairwise (fun A B => A.2 ≤ B.2)

/-- where the pair of an empty group goes: right after everything that precedes the pending closes -/
theorem findEnd_insert (anc : Anc) (hi a : Nat) (hA : AncOK hi anc) (ha : a ≤ hi) (pre : List Ev)
    (hpre : ∀ k, (false, k) ∈ pre → k ∉ anc.map (·.1)) :
    findEnd (parOf anc) (pre ++ pend anc a) = pre.length := by
  cases anc with
  | nil =>
    simp only [parOf, pend_nil]
    exact findEnd_skip 0 pre [] (fun _ _ => .inr rfl)
  | cons A t =>
    obtain ⟨P, bP⟩ := A
    simp only [parOf]
    have hP1 : 1 ≤ P := hA.pos (P, bP) List.mem_cons_self
    have hpre' : ∀ ev ∈ pre, ev ≠ (false, P) ∨ P = 0 := by
      intro ev hev
      refine .inl (fun hc => ?_)
      subst hc
      exact hpre P hev (by simp)
    rw [findEnd_skip P pre _ hpre', pend_cons]
    by_cases hb : bP = a
    · have : (!false && P == P && P != 0) = true := by
        simp only [Bool.not_false, beq_self_eq_true, Bool.and_self, Bool.true_and, bne_iff_ne, ne_eq]
        exact Nat.ne_of_gt hP1
      simp only [hb, if_true, List.singleton_append, findEnd, this]
      exact Nat.add_zero _
    · rw [if_neg hb]
      have hge := hA.ge (P, bP) List.mem_cons_self
      simp only at hge
      have hso := (List.pairwise_cons.1 hA.sorted).1
      rw [pend_empty t a (fun B hB =>
        Nat.lt_of_lt_of_le (Nat.lt_of_le_of_ne (Nat.le_trans ha hge) (Ne.symm hb)) (hso B hB))]
      simp [findEnd]

theorem insertAt_append (pre rest xs : List Ev) :
    insertAt (pre ++ rest) pre.length xs = pre ++ xs ++ rest := by
  simp [insertAt]

theorem upd_same (E : EvF) (k : Nat) (v : List Ev) : upd E k v k = v := if_pos rfl

theorem upd_ne (E : EvF) (k : Nat) (v : List Ev) {x : Nat} (h : x ≠ k) : upd E k v x = E x := if_neg h

theorem AncOK.cons {hi : Nat} {anc : Anc} (hA : AncOK hi anc) {g b : Nat} (hg : 1 ≤ g) (hb : b ≤ hi) :
    AncOK b ((g, b) :: anc) :=
  ⟨fun A hA' => by
      rcases List.mem_cons.1 hA' with rfl | h
      · exact hg
      · exact hA.pos A h,
   fun A hA' => by
      rcases List.mem_cons.1 hA' with rfl | h
      · exact Nat.le_refl _
      · exact Nat.le_trans hb (hA.ge A h),
   List.pairwise_cons.2 ⟨fun A hA' => Nat.le_trans hb (hA.ge A hA'), hA.sorted⟩⟩

/-- entering a group, empty or not: the open event joins what is placed (`P`), the close event what is pending; an
    empty group has its pair put right before the close event of its parent (`findEnd_insert`) -/
theorem stepE_enter {lo hi a b g : Nat} {anc : Anc} {P : EvF} (hP : ∀ x, lo < x → P x = [])
    (hloa : lo ≤ a) (hab : a ≤ b) (hbhi : b ≤ hi) (hA : AncOK hi anc)
    (hfr : ∀ k, (false, k) ∈ P a → k ∉ anc.map (·.1)) :
    stepE (parOf anc) (fun x => P x ++ pend anc x) g a b =
      fun x => (P x ++ if a = x then [(true, g)] else []) ++ pend ((g, b) :: anc) x := by
  funext x
  rw [pend_cons]
  by_cases hlt : a < b
  · have hpa : pend anc a = [] :=
      pend_empty anc a (fun A hA' => Nat.lt_of_lt_of_le hlt (Nat.le_trans hbhi (hA.ge A hA')))
    have hPb : P b = [] := hP b (Nat.lt_of_le_of_lt hloa hlt)
    simp only [stepE, if_pos hlt, upd]
    by_cases hxb : x = b
    · subst hxb
      simp only [if_true, hPb, if_neg (Nat.ne_of_lt hlt), List.nil_append, List.cons_append]
    · have hbx : ¬ b = x := fun h => hxb h.symm
      simp only [if_neg hxb, if_neg hbx, List.nil_append]
      by_cases hxa : x = a
      · subst hxa; simp only [if_true, hpa, List.append_nil]
      · have hax : ¬ a = x := fun h => hxa h.symm
        simp only [if_neg hxa, if_neg hax, List.append_nil]
  · have hab' : a = b := Nat.le_antisymm hab (Nat.le_of_not_lt hlt)
    subst hab'
    simp only [stepE, if_neg hlt, upd]
    by_cases hxa : x = a
    · subst hxa
      rw [if_pos rfl, findEnd_insert anc hi x hA hbhi _ hfr, insertAt_append]
      simp only [if_true, List.append_assoc, List.cons_append, List.nil_append]
    · have hax : ¬ a = x := fun h => hxa h.symm
      simp only [if_neg hxa, if_neg hax, List.append_nil, List.nil_append]

theorem foldL_both (tbl : List (Nat × Nat)) :
    (∀ t : GT, ∀ (lo hi : Nat) (anc : Anc) (P : EvF),
      WithinT lo hi t → ParT tbl (parOf anc) t → (grpsT t).Nodup → (∀ g ∈ grpsT t, 1 ≤ g) →
      (∀ A ∈ anc, A.1 ∉ grpsT t) → AncOK hi anc → (∀ x, lo < x → P x = []) →
      (∀ x k, (false, k) ∈ P x → k ∉ anc.map (·.1) ∧ k ∉ grpsT t) →
      foldL tbl (flatT t) (fun x => P x ++ pend anc x) = some (fun x => P x ++ evsT x t ++ pend anc x)) ∧
    (∀ ks : List GT, ∀ (lo hi : Nat) (anc : Anc) (P : EvF),
      WithinF lo hi ks → ParF tbl (parOf anc) ks → (grpsF ks).Nodup → (∀ g ∈ grpsF ks, 1 ≤ g) →
      (∀ A ∈ anc, A.1 ∉ grpsF ks) → AncOK hi anc → (∀ x, lo < x → P x = []) →
      (∀ x k, (false, k) ∈ P x → k ∉ anc.map (·.1) ∧ k ∉ grpsF ks) →
      foldL tbl (flatF ks) (fun x => P x ++ pend anc x) = some (fun x => P x ++ evsF x ks ++ pend anc x)) := by
  refine GT.ind_both ?_ ?_ ?_
  · intro g a b kids ih lo hi anc P hw hpar hnd hpos hanc hA hP hfr
    simp only [WithinT] at hw
    obtain ⟨hloa, hab, hbhi, hwk⟩ := hw
    simp only [ParT] at hpar
    rw [grpsT_node] at hnd hpos hanc hfr
    obtain ⟨hgk, hndk⟩ := List.nodup_cons.1 hnd
    -- the nesting table is consulted for an empty group only, and answers the enclosing group
    have hstep : foldL tbl (flatT (.node g a b kids)) (fun x => P x ++ pend anc x) =
        foldL tbl (flatF kids) (stepE (parOf anc) (fun x => P x ++ pend anc x) g a b) := by
      simp only [flatT, foldL]
      by_cases hlt : a < b
      · rw [if_pos hlt, stepE_lt 0 (parOf anc) _ g a b hlt]
      · rw [if_neg hlt, hpar.1]
    rw [hstep, stepE_enter hP hloa hab hbhi hA (fun k hk => (hfr a k hk).1),
      ih a b ((g, b) :: anc) _ hwk hpar.2 hndk (fun k hk => hpos k (List.mem_cons_of_mem _ hk))
        (fun A hA' => by
          rcases List.mem_cons.1 hA' with rfl | h
          · exact hgk
          · exact fun hc => hanc A h (List.mem_cons_of_mem _ hc))
        (hA.cons (hpos g List.mem_cons_self) hbhi)
        (fun x hx => by
          rw [hP x (Nat.lt_of_le_of_lt hloa hx), if_neg (Nat.ne_of_lt hx)]; rfl)
        (fun x k hk => by
          have hk' : (false, k) ∈ P x := by
            rcases List.mem_append.1 hk with h | h
            · exact h
            · split at h
              · cases List.mem_singleton.1 h
              · cases h
          have := hfr x k hk'
          simp only [List.mem_cons, not_or] at this
          simp only [List.map_cons, List.mem_cons, not_or]
          exact ⟨⟨this.2.1, this.1⟩, this.2.2⟩)]
    congr 1; funext x
    simp only [evsT, pend_cons, List.append_assoc]
  · intro lo hi anc P _ _ _ _ _ _ _ _
    simp only [flatF, foldL, evsF, List.append_nil]
  · intro t ts ih1 ih2 lo hi anc P hw hpar hnd hpos hanc hA hP hfr
    simp only [WithinF] at hw
    simp only [ParF] at hpar
    rw [grpsF_cons] at hnd hpos hanc hfr
    obtain ⟨hndt, hndts, hdis⟩ := List.nodup_append.1 hnd
    simp only [flatF]
    rw [foldL_append, ih1 lo hi anc P hw.1 hpar.1 hndt (fun g hg => hpos g (List.mem_append_left _ hg))
        (fun A hA' hc => hanc A hA' (List.mem_append_left _ hc)) hA hP
        (fun x k hk => ⟨(hfr x k hk).1, fun hc => (hfr x k hk).2 (List.mem_append_left _ hc)⟩),
      Option.bind_some,
      ih2 t.hi hi anc (fun x => P x ++ evsT x t) hw.2 hpar.2 hndts
        (fun g hg => hpos g (List.mem_append_right _ hg))
        (fun A hA' hc => hanc A hA' (List.mem_append_right _ hc)) hA
        (fun x hx => by
          rw [hP x (Nat.lt_of_le_of_lt (Nat.le_trans hw.1.lo_le hw.1.le) hx), evsT_outside x t _ _ hw.1.self (.inr hx)]; rfl)
        (fun x k hk => by
          rcases List.mem_append.1 hk with hk | hk
          · exact ⟨(hfr x k hk).1, fun hc => (hfr x k hk).2 (List.mem_append_right _ hc)⟩
          · have hkt : k ∈ grpsT t := mem_evsT x t (false, k) hk
            refine ⟨fun hc => ?_, fun hc => hdis k hkt k hc rfl⟩
            obtain ⟨A, hA', hAk⟩ := List.mem_map.1 hc
            exact hanc A hA' (by rw [hAk]; exact List.mem_append_left _ hkt))]
    congr 1; funext x
    simp only [evsF, List.append_assoc]

inductive Tok where
  | ev (e : Ev)
  | ch (c : Nat)

def flushB (buf : Option (List Nat)) (stk : HStack) : Option HStack :=
  match buf with
  | some b => hChars stk b
  | none => some stk

def runTok : List Tok → Option (List Nat) → HStack → Option (Option (List Nat) × HStack)
  | [], buf, stk => some (buf, stk)
  | .ev e :: rest, buf, stk =>
    match flushB buf stk with
    | none => none
    | some stk' =>
      match hEvents [e] stk' with
      | none => none
      | some stk'' => runTok rest none stk''
  | .ch c :: rest, buf, stk => runTok rest (some (buf.getD [] ++ [c])) stk

def stream (E : EvF) : List Nat → Nat → List Tok
  | [], i => (E i).map .ev
  | c :: rest, i => (E i).map .ev ++ .ch c :: stream E rest (i + 1)

theorem hEvents_cons (e : Ev) (es : List Ev) (stk : HStack) :
    hEvents (e :: es) stk = (hEvents [e] stk).bind (hEvents es) := by
  obtain ⟨b, g⟩ := e
  cases b with
  | true => simp [hEvents]
  | false =>
    match stk with
    | [] => simp [hEvents]
    | [_] => simp [hEvents]
    | (nr, x) :: (nr2, x2) :: t => simp [hEvents]

theorem runTok_ev (e : Ev) (rest : List Tok) (buf : Option (List Nat)) (stk : HStack) :
    runTok (.ev e :: rest) buf stk =
      ((flushB buf stk).bind (hEvents [e])).bind (fun stk' => runTok rest none stk') := by
  simp only [runTok]
  cases flushB buf stk with
  | none => rfl
  | some stk1 =>
    simp only [Option.bind_some]
    cases hEvents [e] stk1 with
    | none => rfl
    | some stk2 => rfl

theorem flushB_none (stk : HStack) : flushB none stk = some stk := rfl

theorem runTok_evs (evs : List Ev) (hne : evs ≠ []) (more : List Tok) (buf : Option (List Nat)) (stk : HStack) :
    runTok (evs.map .ev ++ more) buf stk =
      ((flushB buf stk).bind (hEvents evs)).bind (fun stk' => runTok more none stk') := by
  induction evs generalizing buf stk with
  | nil => exact absurd rfl hne
  | cons e es ih =>
    simp only [List.map_cons, List.cons_append]
    rw [runTok_ev]
    cases flushB buf stk with
    | none => rfl
    | some stk1 =>
      simp only [Option.bind_some]
      cases es with
      | nil =>
        simp only [List.map_nil, List.nil_append]
      | cons e2 es2 =>
      rw [hEvents_cons e (e2 :: es2) stk1]
      cases hEvents [e] stk1 with
      | none => rfl
      | some stk2 =>
        simp only [Option.bind_some]
        rw [ih (by simp) none stk2, flushB_none]
        simp only [Option.bind_some]

theorem walk_run (acts : Actions) (hok : ActsOK acts) (rest : List Nat) :
    ∀ (i : Nat) (buf : Option (List Nat)) (stk : HStack),
    walk acts rest i buf stk =
      (runTok (stream (evOf acts) rest i) buf stk).bind (fun r => flushB r.1 r.2) := by
  induction rest with
  | nil =>
    intro i buf stk
    unfold walk
    simp only [stream]
    rw [actGet_of_evOf hok i]
    by_cases h : evOf acts i = []
    · simp only [h, if_true, List.map_nil, runTok, Option.bind_some]
      rfl
    · simp only [h, if_false]
      have := runTok_evs (evOf acts i) h [] buf stk
      rw [List.append_nil] at this
      rw [this]
      show (match flushB buf stk with | none => none | some stk' => hEvents (evOf acts i) stk') = _
      cases flushB buf stk with
      | none => rfl
      | some stk1 =>
        simp only [Option.bind_some]
        cases hEvents (evOf acts i) stk1 with
        | none => rfl
        | some stk2 => simp only [Option.bind_some, runTok]; rfl
  | cons c rest ih =>
    intro i buf stk
    unfold walk
    simp only [stream]
    rw [actGet_of_evOf hok i]
    by_cases h : evOf acts i = []
    · simp only [h, if_true, List.map_nil, List.nil_append, runTok]
      exact ih _ _ _
    · simp only [h, if_false]
      rw [runTok_evs (evOf acts i) h _ buf stk]
      show (match flushB buf stk with
        | none => none
        | some stk' => match hEvents (evOf acts i) stk' with
          | none => none
          | some stk'' => walk acts rest (i + 1) (some [c]) stk'') = _
      cases flushB buf stk with
      | none => rfl
      | some stk1 =>
        simp only [Option.bind_some]
        cases hEvents (evOf acts i) stk1 with
        | none => rfl
        | some stk2 =>
          simp only [Option.bind_some, runTok, Option.getD_none, List.nil_append]
          exact ih _ _ _

theorem stream_congr (E E' : EvF) : ∀ (xs : List Nat) (i : Nat),
    (∀ x, i ≤ x → x ≤ i + xs.length → E x = E' x) → stream E xs i = stream E' xs i := by
  intro xs
  induction xs with
  | nil => intro i h; simp only [stream]; rw [h i (Nat.le_refl _) (by simp)]
  | cons c xs ih =>
    intro i h
    simp only [stream]
    rw [h i (Nat.le_refl _) (by simp), ih (i + 1) (fun x h1 h2 => h x (Nat.le_of_succ_le h1)
      (Nat.le_trans h2 (Nat.le_of_eq (Nat.succ_add_eq_add_succ i xs.length))))]

theorem stream_split (F G H : EvF) : ∀ (xs ys : List Nat) (i : Nat),
    (∀ x, i ≤ x → x ≤ i + xs.length + ys.length → F x = G x ++ H x) →
    (∀ x, i + xs.length < x → G x = []) → (∀ x, x < i + xs.length → H x = []) →
    stream F (xs ++ ys) i = stream G xs i ++ stream H ys (i + xs.length) := by
  intro xs
  induction xs with
  | nil =>
    intro ys i hF hG hH
    simp only [List.length_nil, Nat.add_zero] at hF hG hH
    simp only [List.nil_append, List.length_nil, Nat.add_zero, stream]
    cases ys with
    | nil =>
      simp only [stream]
      rw [hF i (Nat.le_refl _) (by simp), List.map_append]
    | cons c ys =>
      simp only [stream]
      rw [hF i (Nat.le_refl _) (by simp), List.map_append, List.append_assoc]
      have : stream F ys (i + 1) = stream H ys (i + 1) := by
        apply stream_congr
        intro x h1 h2
        rw [hF x (Nat.le_of_succ_le h1) (Nat.le_trans h2 (Nat.le_of_eq (Nat.succ_add_eq_add_succ i ys.length))), hG x h1]
        rfl
      rw [this]
  | cons c xs ih =>
    intro ys i hF hG hH
    simp only [List.length_cons] at hF hG hH
    simp only [List.cons_append, stream, List.length_cons]
    have e : i + 1 + xs.length = i + (xs.length + 1) := Nat.succ_add_eq_add_succ i xs.length
    rw [hF i (Nat.le_refl _) (Nat.le_trans (Nat.le_add_right i _) (Nat.le_add_right _ _)),
      hH i (Nat.lt_add_of_pos_right (Nat.succ_pos _)), List.append_nil, List.append_assoc]
    rw [ih ys (i + 1) (fun x h1 h2 => hF x (Nat.le_of_succ_le h1) (by rw [← e]; exact h2))
      (fun x h1 => hG x (by rw [← e]; exact h1)) (fun x h1 => hH x (by rw [← e]; exact h1))]
    rw [e]
    rfl
theorem stream_empty (F : EvF) : ∀ (xs : List Nat) (i : Nat), (∀ x, i ≤ x → x ≤ i + xs.length → F x = []) →
    stream F xs i = xs.map .ch := by
  intro xs
  induction xs with
  | nil => intro i h; simp only [stream, h i (Nat.le_refl _) (by simp)]; rfl
  | cons c xs ih =>
    intro i h
    simp only [stream, List.map_cons]
    rw [h i (Nat.le_refl _) (by simp), ih (i + 1) (fun x h1 h2 => h x (Nat.le_of_succ_le h1)
      (Nat.le_trans h2 (Nat.le_of_eq (Nat.succ_add_eq_add_succ i xs.length))))]
    rfl

theorem slice_split (s : List Nat) (lo m hi : Nat) (h1 : lo ≤ m) (h2 : m ≤ hi) :
    slice s lo hi = slice s lo m ++ slice s m hi := by
  unfold slice
  rw [← Nat.sub_add_sub_cancel h2 h1, Nat.add_comm (hi - m), List.take_add, List.drop_drop, Nat.add_sub_of_le h1]

theorem length_slice (s : List Nat) (lo hi : Nat) (h : hi ≤ s.length) : (slice s lo hi).length = hi - lo := by
  unfold slice
  rw [List.length_take, List.length_drop]
  exact Nat.min_eq_left (Nat.sub_le_sub_right h lo)

theorem slice_self (s : List Nat) (a : Nat) : slice s a a = [] := by
  simp only [slice, Nat.sub_self, List.take_zero]

/-- `stream_split` on a text that is a slice: all position arithmetic of the forest induction is here -/
theorem stream_slice (cur : List Nat) (F G H : EvF) {lo m hi : Nat} (h1 : lo ≤ m) (h2 : m ≤ hi)
    (h3 : hi ≤ cur.length) (hF : ∀ x, F x = G x ++ H x) (hG : ∀ x, m < x → G x = [])
    (hH : ∀ x, x < m → H x = []) :
    stream F (slice cur lo hi) lo = stream G (slice cur lo m) lo ++ stream H (slice cur m hi) m := by
  have hl : lo + (slice cur lo m).length = m := by
    rw [length_slice cur lo m (Nat.le_trans h2 h3), Nat.add_sub_of_le h1]
  rw [slice_split cur lo m hi h1 h2, stream_split F G H _ _ lo (fun x _ _ => hF x)
    (fun x hx => hG x (hl ▸ hx)) (fun x hx => hH x (hl ▸ hx)), hl]

mutual
/-- the linearisation of a forest over the text `cur` -/
def toksT (cur : List Nat) : GT → List Tok
  | .node g a b ks => .ev (true, g) :: (toksF cur a b ks ++ [.ev (false, g)])
termination_by structural t => t
def toksF (cur : List Nat) (lo hi : Nat) : List GT → List Tok
  | [] => (slice cur lo hi).map .ch
  | t :: ts => (slice cur lo t.lo).map .ch ++ (toksT cur t ++ toksF cur t.hi hi ts)
termination_by structural l => l
end

theorem stream_both (cur : List Nat) :
    (∀ t : GT, ∀ (lo hi : Nat), WithinT lo hi t → hi ≤ cur.length →
      stream (fun x => evsT x t) (slice cur t.lo t.hi) t.lo = toksT cur t) ∧
    (∀ ks : List GT, ∀ (lo hi : Nat), WithinF lo hi ks → hi ≤ cur.length →
      stream (fun x => evsF x ks) (slice cur lo hi) lo = toksF cur lo hi ks) := by
  refine GT.ind_both ?_ ?_ ?_
  · intro g a b ks ih lo hi hw hhi
    simp only [WithinT] at hw
    obtain ⟨-, h2, h3, h4⟩ := hw
    have hb := Nat.le_trans h3 hhi
    simp only [GT.lo, GT.hi, toksT]
    -- the open event at `a`, the forest inside, the close event at `b`
    rw [stream_slice cur _ (fun x => if a = x then [(true, g)] else [])
        (fun x => evsF x ks ++ if b = x then [(false, g)] else []) (Nat.le_refl a) h2 hb
        (fun x => by simp only [evsT, List.append_assoc])
        (fun x hx => if_neg (Nat.ne_of_lt hx))
        (fun x hx => by
          rw [evsF_outside x ks a b h4 (.inl hx), if_neg (Nat.ne_of_gt (Nat.lt_of_lt_of_le hx h2))]; rfl),
      stream_slice cur _ (fun x => evsF x ks) (fun x => if b = x then [(false, g)] else []) h2 (Nat.le_refl b) hb
        (fun x => rfl) (fun x hx => evsF_outside x ks a b h4 (.inr hx)) (fun x hx => if_neg (Nat.ne_of_gt hx)),
      ih a b h4 hb, slice_self, slice_self]
    simp only [stream, if_true, List.map_cons, List.map_nil, List.singleton_append]
  · intro lo hi hw hhi
    simp only [toksF]
    exact stream_empty _ _ _ (fun _ _ _ => rfl)
  · intro t ts ih1 ih2 lo hi hw hhi
    simp only [WithinF] at hw
    obtain ⟨hwt, hwts⟩ := hw
    have hbhi := WithinF_le ts t.hi hi hwts
    simp only [toksF]
    -- the first tree with the plain text before it on `[lo, t.hi]`, its siblings on `[t.hi, hi]`
    rw [stream_slice cur (fun x => evsF x (t :: ts)) (fun x => evsT x t) (fun x => evsF x ts)
        (Nat.le_trans hwt.lo_le hwt.le) hbhi hhi (fun x => by simp only [evsF])
        (fun x hx => evsT_outside x t _ _ hwt.self (.inr hx)) (fun x hx => evsF_outside x ts t.hi hi hwts (.inl hx)),
      stream_slice cur (fun x => evsT x t) (fun _ => []) (fun x => evsT x t) hwt.lo_le hwt.le (Nat.le_trans hbhi hhi)
        (fun x => rfl) (fun _ _ => rfl) (fun x hx => evsT_outside x t _ _ hwt.self (.inl hx)),
      stream_empty _ _ _ (fun _ _ _ => rfl), ih1 lo hi hwt hhi, ih2 t.hi hi hwts hhi, List.append_assoc]

theorem stream_tree (cur : List Nat) : (t : GT) → ∀ (lo hi : Nat), WithinT lo hi t → hi ≤ cur.length →
    stream (fun x => evsT x t) (slice cur t.lo t.hi) t.lo = toksT cur t :=
  (stream_both cur).1

theorem stream_forest (cur : List Nat) (ks : List GT) (lo hi : Nat) (hw : WithinF lo hi ks) (hhi : hi ≤ cur.length) :
    stream (fun x => evsF x ks) (slice cur lo hi) lo = toksF cur lo hi ks :=
  (stream_both cur).2 ks lo hi hw hhi

def strNE (s : List Nat) : List MEntry := if s = [] then [] else [.str s]

mutual
/-- the group tree of a forest of spans over the text `cur` -/
def outT (cur : List Nat) : GT → MEntry
  | .node g a b ks => .group g (outF cur a b ks)
termination_by structural t => t
def outF (cur : List Nat) (lo hi : Nat) : List GT → List MEntry
  | [] => strNE (slice cur lo hi)
  | t :: ts => strNE (slice cur lo t.lo) ++ (outT cur t :: outF cur t.hi hi ts)
termination_by structural l => l
end

def bufStr (buf : Option (List Nat)) : List MEntry :=
  match buf with
  | some b => [.str b]
  | none => []

theorem flushB_cons (buf : Option (List Nat)) (nr : Nat) (acc : List MEntry) (stk : HStack) :
    flushB buf ((nr, acc) :: stk) = some ((nr, acc ++ bufStr buf) :: stk) := by
  cases buf with
  | none => simp [flushB, bufStr]
  | some b => simp [flushB, bufStr, hChars]

theorem runTok_chars (cs : List Nat) (more : List Tok) : ∀ (buf : Option (List Nat)) (stk : HStack),
    runTok (cs.map .ch ++ more) buf stk = runTok more (if cs = [] then buf else some (buf.getD [] ++ cs)) stk := by
  induction cs with
  | nil => intro buf stk; simp
  | cons c cs ih =>
    intro buf stk
    simp only [List.map_cons, List.cons_append, runTok]
    rw [ih]
    by_cases h : cs = []
    · subst h; simp
    · simp [h, List.append_assoc]

theorem bufStr_chars (cs : List Nat) :
    bufStr (if cs = [] then none else some ((none : Option (List Nat)).getD [] ++ cs)) = strNE cs := by
  by_cases h : cs = []
  · simp [h, bufStr, strNE]
  · simp [h, bufStr, strNE]

theorem run_both (cur : List Nat) :
    (∀ (t : GT) (more : List Tok) (buf : Option (List Nat)) (nr : Nat) (acc : List MEntry) (stk : HStack),
      runTok (toksT cur t ++ more) buf ((nr, acc) :: stk) =
        runTok more none ((nr, acc ++ bufStr buf ++ [outT cur t]) :: stk)) ∧
    (∀ (ks : List GT) (lo hi : Nat), ∃ (b' : Option (List Nat)) (accP : List MEntry),
      (∀ (more : List Tok) (nr : Nat) (acc : List MEntry) (stk : HStack),
        runTok (toksF cur lo hi ks ++ more) none ((nr, acc) :: stk) = runTok more b' ((nr, acc ++ accP) :: stk)) ∧
      accP ++ bufStr b' = outF cur lo hi ks) := by
  refine GT.ind_both ?_ ?_ ?_
  · intro g a b ks ih more buf nr acc stk
    have e : toksT cur (.node g a b ks) ++ more =
        Tok.ev (true, g) :: (toksF cur a b ks ++ (Tok.ev (false, g) :: more)) := by
      simp only [toksT, List.cons_append, List.append_assoc, List.nil_append]
    rw [e, runTok_ev, flushB_cons]
    simp only [Option.bind_some, hEvents]
    obtain ⟨b', accP, hrun, hout⟩ := ih a b
    rw [hrun (Tok.ev (false, g) :: more) g [] ((nr, acc ++ bufStr buf) :: stk)]
    simp only [List.nil_append]
    rw [runTok_ev, flushB_cons, hout]
    simp only [Option.bind_some, hEvents, outT, List.append_assoc]
  · intro lo hi
    refine ⟨if slice cur lo hi = [] then none else some ((none : Option (List Nat)).getD [] ++ slice cur lo hi), [], ?_, ?_⟩
    · intro more nr acc stk
      simp only [toksF, List.append_nil]
      exact runTok_chars _ _ _ _
    · simp only [outF, List.nil_append]
      exact bufStr_chars _
  · intro t ts iht ihts lo hi
    obtain ⟨b', accP, hrun, hout⟩ := ihts t.hi hi
    refine ⟨b', strNE (slice cur lo t.lo) ++ [outT cur t] ++ accP, ?_, ?_⟩
    · intro more nr acc stk
      simp only [toksF, List.append_assoc]
      rw [runTok_chars, iht, bufStr_chars, hrun]
      simp only [List.append_assoc]
    · simp only [outF, List.append_assoc, List.cons_append]
      rw [hout]
      rfl

theorem run_tree (cur : List Nat) : (t : GT) → ∀ (more : List Tok) (buf : Option (List Nat)) (nr : Nat)
    (acc : List MEntry) (stk : HStack),
    runTok (toksT cur t ++ more) buf ((nr, acc) :: stk) =
      runTok more none ((nr, acc ++ bufStr buf ++ [outT cur t]) :: stk) :=
  (run_both cur).1

theorem run_forest (cur : List Nat) : (ks : List GT) → ∀ (lo hi : Nat),
    ∃ (b' : Option (List Nat)) (accP : List MEntry),
      (∀ (more : List Tok) (nr : Nat) (acc : List MEntry) (stk : HStack),
        runTok (toksF cur lo hi ks ++ more) none ((nr, acc) :: stk) = runTok more b' ((nr, acc ++ accP) :: stk)) ∧
      accP ++ bufStr b' = outF cur lo hi ks :=
  (run_both cur).2

theorem walk_forest (acts : Actions) (hok : ActsOK acts) (cur : List Nat) (F : List GT)
    (hw : WithinF 0 cur.length F) (hE : ∀ x, evOf acts x = evsF x F) :
    walk acts cur 0 none [(0, [])] = some [(0, outF cur 0 cur.length F)] := by
  rw [walk_run acts hok]
  have hs : stream (evOf acts) cur 0 = toksF cur 0 cur.length F := by
    have h1 : evOf acts = fun x => evsF x F := funext hE
    rw [h1]
    have h2 := stream_forest cur F 0 cur.length hw (Nat.le_refl _)
    have h3 : slice cur 0 cur.length = cur := by simp [slice]
    rw [h3] at h2
    exact h2
  rw [hs]
  obtain ⟨b', accP, hrun, hout⟩ := run_forest cur F 0 cur.length
  have := hrun [] 0 [] []
  rw [List.append_nil] at this
  rw [this]
  simp only [runTok, Option.bind_some, flushB_cons, List.nil_append, hout]

structure ForestOK (st : St) (tbl : List (Nat × Nat)) (j : Nat) (cur : List Nat) (F : List GT) : Prop where
  pc : 1 ≤ st.cap.parenCount
  start0 : getParenStart st 0 = some j
  sorted : (flatF F).Pairwise (fun x y => x.1 < y.1)
  rng : ∀ x ∈ flatF F, 1 ≤ x.1 ∧ x.1 < st.cap.parenCount ∧ x.2.1 ≤ x.2.2
  set : ∀ x ∈ flatF F, getParenStart st x.1 = some (j + x.2.1) ∧ getParenEnd st x.1 = some (j + x.2.2)
  unset : ∀ k, 1 ≤ k → k < st.cap.parenCount → k ∉ grpsF F → getParenStart st k = none
  within : WithinF 0 cur.length F
  par : ParF tbl 0 F
  ne : cur ≠ []

theorem processMatch_forest (st : St) (tbl : List (Nat × Nat)) (j : Nat) (cur : List Nat) (F : List GT)
    (H : ForestOK st tbl j cur F) : processMatch tbl st cur = .ok (outF cur 0 cur.length F) := by
  have hnd : (grpsF F).Nodup := by
    have : (grpsF F).Pairwise (· < ·) := by
      unfold grpsF
      rw [List.pairwise_map]
      exact H.sorted
    exact this.imp (fun h => Nat.ne_of_lt h)
  unfold processMatch
  have h0 : (st.cap.parenCount == 0) = false := beq_false_of_ne (Nat.ne_of_gt H.pc)
  have hpc : 1 + (st.cap.parenCount - 1) = st.cap.parenCount := Nat.add_sub_of_le H.pc
  simp only [h0, Bool.false_eq_true, if_false]
  by_cases hc : st.cap.parenCount - 1 = 0
  · have hc' : (st.cap.parenCount - 1 == 0) = true := beq_iff_eq.2 hc
    simp only [hc', if_true]
    have hF : F = [] := by
      cases F with
      | nil => rfl
      | cons t ts =>
        cases t with
        | node g a b ks =>
          have := H.rng (g, a, b) (by simp [flatF, flatT])
          exact absurd (Nat.lt_of_le_of_lt this.1 this.2.1) (Nat.not_lt.2 (Nat.le_of_sub_eq_zero hc))
    subst hF
    simp only [outF, strNE]
    have : slice cur 0 cur.length = cur := by simp [slice]
    rw [this, if_neg H.ne]
  · have hc' : (st.cap.parenCount - 1 == 0) = false := beq_false_of_ne hc
    simp only [hc', Bool.false_eq_true, if_false, H.start0]
    have hfold := (foldL_both tbl).2 F 0 cur.length [] (fun _ => []) H.within H.par hnd
      (fun g hg => by
        obtain ⟨x, hx, rfl⟩ := List.mem_map.1 hg
        exact (H.rng x hx).1)
      (fun A hA => by cases hA) ⟨fun A hA => (by cases hA), fun A hA => (by cases hA), List.Pairwise.nil⟩
      (fun _ _ => rfl) (fun x k hk => by cases hk)
    simp only [pend_nil, List.append_nil, List.nil_append] at hfold
    have hev0 : evOf [] = fun _ => [] := by funext p; simp [evOf, actGet]
    obtain ⟨acts, hb, hok, hE⟩ := buildActions_foldL st tbl j (st.cap.parenCount - 1) 1 (flatF F) [] _ actsOK_nil
      H.sorted (fun x hx => by rw [hpc]; exact H.rng x hx) H.set
      (fun k h1 h2 h3 => H.unset k h1 (by rw [hpc] at h2; exact h2) (fun hc => by
        obtain ⟨x, hx, hxk⟩ := List.mem_map.1 hc
        exact h3 x hx hxk)) (hev0 ▸ hfold)
    rw [hb]
    simp only
    rw [walk_forest acts hok cur F H.within (congrFun hE)]

theorem flatF_append (l1 l2 : List GT) : flatF (l1 ++ l2) = flatF l1 ++ flatF l2 := by
  induction l1 with
  | nil => rfl
  | cons t ts ih => simp only [List.cons_append, flatF, ih, List.append_assoc]

theorem grpsF_append (l1 l2 : List GT) : grpsF (l1 ++ l2) = grpsF l1 ++ grpsF l2 := by
  simp only [grpsF, flatF_append, List.map_append]

theorem ParF_append (tbl : List (Nat × Nat)) (par : Nat) (l1 l2 : List GT) (h1 : ParF tbl par l1)
    (h2 : ParF tbl par l2) : ParF tbl par (l1 ++ l2) := by
  induction l1 with
  | nil => exact h2
  | cons t ts ih =>
    simp only [List.cons_append, ParF] at h1 ⊢
    exact ⟨h1.1, ih h1.2⟩

theorem WithinT_mono (t : GT) : ∀ lo lo' hi hi', WithinT lo hi t → lo' ≤ lo → hi ≤ hi' → WithinT lo' hi' t := by
  cases t with
  | node g a b ks =>
    intro lo lo' hi hi' h h1 h2
    simp only [WithinT] at h ⊢
    exact ⟨Nat.le_trans h1 h.1, h.2.1, Nat.le_trans h.2.2.1 h2, h.2.2.2⟩

theorem WithinF_mono_lo : ∀ (ks : List GT) (lo lo' hi : Nat), WithinF lo hi ks → lo' ≤ lo → WithinF lo' hi ks
  | [], lo, lo', hi, h, h1 => by simp only [WithinF] at h ⊢; exact Nat.le_trans h1 h
  | t :: ts, lo, lo', hi, h, h1 => by
    simp only [WithinF] at h ⊢
    exact ⟨WithinT_mono t lo lo' hi hi h.1 h1 (Nat.le_refl _), h.2⟩

theorem WithinF_append : ∀ (l1 l2 : List GT) (lo mid hi : Nat), WithinF lo mid l1 → WithinF mid hi l2 →
    WithinF lo hi (l1 ++ l2)
  | [], l2, lo, mid, hi, h1, h2 => by
    simp only [WithinF] at h1
    exact WithinF_mono_lo l2 mid lo hi h2 h1
  | t :: ts, l2, lo, mid, hi, h1, h2 => by
    simp only [List.cons_append, WithinF] at h1 ⊢
    have hmh := WithinF_le l2 mid hi h2
    exact ⟨WithinT_mono t lo lo mid hi h1.1 (Nat.le_refl _) hmh, WithinF_append ts l2 t.hi mid hi h1.2 h2⟩

open Rx.Spec Rx.C03

theorem mTextL_strNE (s : List Nat) : mTextL (strNE s) = s := by
  unfold strNE
  split
  · rename_i h; rw [h]; exact mTextL_nil
  · rw [mTextL_cons, mText_str, mTextL_nil, List.append_nil]

mutual
theorem outT_text (cur : List Nat) : (t : GT) → ∀ lo hi, WithinT lo hi t → hi ≤ cur.length →
    mText (outT cur t) = slice cur t.lo t.hi
  | .node g a b ks, lo, hi, h, hhi => by
    simp only [WithinT] at h
    simp only [outT, GT.lo, GT.hi, mText_group]
    exact outF_text cur ks a b h.2.2.2 (Nat.le_trans h.2.2.1 hhi)
termination_by structural t => t
theorem outF_text (cur : List Nat) : (ks : List GT) → ∀ lo hi, WithinF lo hi ks → hi ≤ cur.length →
    mTextL (outF cur lo hi ks) = slice cur lo hi
  | [], lo, hi, _, _ => by simp only [outF]; exact mTextL_strNE _
  | t :: ts, lo, hi, h, hhi => by
    simp only [WithinF] at h
    have hle := WithinF_le ts t.hi hi h.2
    simp only [outF]
    rw [mTextL_append, mTextL_strNE, mTextL_cons, outT_text cur t lo hi h.1 hhi, outF_text cur ts t.hi hi h.2 hhi,
      slice_split cur lo t.lo hi h.1.lo_le (Nat.le_trans h.1.le hle), slice_split cur t.lo t.hi hi h.1.le hle]
termination_by structural ks => ks
end

mutual
def mGrps : MEntry → List Nat
  | .str _ => []
  | .group nr v => nr :: mGrpsL v
def mGrpsL : List MEntry → List Nat
  | [] => []
  | e :: es => mGrps e ++ mGrpsL es
end

theorem mGrpsL_append (a b : List MEntry) : mGrpsL (a ++ b) = mGrpsL a ++ mGrpsL b := by
  induction a with
  | nil => simp [mGrpsL]
  | cons e es ih => simp [mGrpsL, ih, List.append_assoc]

theorem mGrpsL_strNE (s : List Nat) : mGrpsL (strNE s) = [] := by
  unfold strNE; split <;> simp [mGrpsL, mGrps]

mutual
theorem outT_grps (cur : List Nat) : (t : GT) → mGrps (outT cur t) = grpsT t
  | .node g a b ks => by
    simp only [outT, mGrps, grpsT_node]
    rw [outF_grps cur ks a b]
termination_by structural t => t
theorem outF_grps (cur : List Nat) : (ks : List GT) → ∀ lo hi, mGrpsL (outF cur lo hi ks) = grpsF ks
  | [], lo, hi => by simp only [outF, mGrpsL_strNE]; rfl
  | t :: ts, lo, hi => by
    simp only [outF]
    rw [mGrpsL_append, mGrpsL_strNE, List.nil_append, mGrpsL, outT_grps cur t, outF_grps cur ts, grpsF_cons]
termination_by structural ks => ks
end

mutual
def subT (m : MEntry) : MEntry → Prop
  | .str _ => False
  | .group nr v => m = .group nr v ∨ subL m v
def subL (m : MEntry) : List MEntry → Prop
  | [] => False
  | e :: es => subT m e ∨ subL m es
end

theorem subL_append_left (m : MEntry) (a b : List MEntry) (h : subL m a) : subL m (a ++ b) := by
  induction a with
  | nil => simp [subL] at h
  | cons e es ih =>
    simp only [List.cons_append, subL] at h ⊢
    rcases h with h | h
    · exact .inl h
    · exact .inr (ih h)

theorem subL_append_right (m : MEntry) (a b : List MEntry) (h : subL m b) : subL m (a ++ b) := by
  induction a with
  | nil => exact h
  | cons e es ih => simp only [List.cons_append, subL]; exact .inr ih

mutual
def inT (t0 : GT) : GT → Prop
  | .node g a b ks => t0 = .node g a b ks ∨ inF t0 ks
termination_by structural t => t
def inF (t0 : GT) : List GT → Prop
  | [] => False
  | t :: ts => inT t0 t ∨ inF t0 ts
termination_by structural l => l
end

theorem inF_append_left (t0 : GT) (a b : List GT) (h : inF t0 a) : inF t0 (a ++ b) := by
  induction a with
  | nil => simp [inF] at h
  | cons e es ih =>
    simp only [List.cons_append, inF] at h ⊢
    rcases h with h | h
    · exact .inl h
    · exact .inr (ih h)

theorem inF_append_right (t0 : GT) (a b : List GT) (h : inF t0 b) : inF t0 (a ++ b) := by
  induction a with
  | nil => exact h
  | cons e es ih => simp only [List.cons_append, inF]; exact .inr ih

mutual
theorem outT_sub (cur : List Nat) (t0 : GT) : (t : GT) → inT t0 t → subT (outT cur t0) (outT cur t)
  | .node g a b ks, h => by
    simp only [inT] at h
    simp only [outT, subT]
    rcases h with rfl | h
    · exact .inl (by simp only [outT])
    · exact .inr (outF_sub cur t0 ks a b h)
termination_by structural t => t
theorem outF_sub (cur : List Nat) (t0 : GT) : (ks : List GT) → ∀ lo hi, inF t0 ks →
    subL (outT cur t0) (outF cur lo hi ks)
  | [], _, _, h => by simp [inF] at h
  | t :: ts, lo, hi, h => by
    simp only [inF] at h
    simp only [outF]
    apply subL_append_right
    simp only [subL]
    rcases h with h | h
    · exact .inl (outT_sub cur t0 t h)
    · exact .inr (outF_sub cur t0 ts t.hi hi h)
termination_by structural ks => ks
end

mutual
def mEq : MEntry → MEntry → Bool
  | .str a, .str b => a == b
  | .group n v, .group n' v' => (n == n') && mEqL v v'
  | _, _ => false
def mEqL : List MEntry → List MEntry → Bool
  | [], [] => true
  | a :: as, b :: bs => mEq a b && mEqL as bs
  | _, _ => false
end

mutual
theorem mEq_sound : (a b : MEntry) → mEq a b = true → a = b
  | .str x, b, h => by
    cases b with
    | str y => simp only [mEq, beq_iff_eq] at h; rw [h]
    | group _ _ => simp [mEq] at h
  | .group n v, b, h => by
    cases b with
    | str _ => simp [mEq] at h
    | group n' v' =>
      simp only [mEq, Bool.and_eq_true, beq_iff_eq] at h
      rw [h.1, mEqL_sound v v' h.2]
theorem mEqL_sound : (a b : List MEntry) → mEqL a b = true → a = b
  | [], b, h => by
    cases b with
    | nil => rfl
    | cons _ _ => simp [mEqL] at h
  | x :: xs, b, h => by
    cases b with
    | nil => simp [mEqL] at h
    | cons y ys =>
      simp only [mEqL, Bool.and_eq_true] at h
      rw [mEq_sound x y h.1, mEqL_sound xs ys h.2]
end

def aEq : AEntry → AEntry → Bool
  | .nonMatch a, .nonMatch b => a == b
  | .isMatch a, .isMatch b => mEqL a b
  | _, _ => false

def aEqL : List AEntry → List AEntry → Bool
  | [], [] => true
  | a :: as, b :: bs => aEq a b && aEqL as bs
  | _, _ => false

theorem aEq_sound (a b : AEntry) (h : aEq a b = true) : a = b := by
  cases a <;> cases b <;> simp only [aEq, beq_iff_eq] at h
  · rw [h]
  · cases h
  · cases h
  · rw [mEqL_sound _ _ h]

theorem aEqL_sound : (a b : List AEntry) → aEqL a b = true → a = b
  | [], b, h => by
    cases b with
    | nil => rfl
    | cons _ _ => simp [aEqL] at h
  | x :: xs, b, h => by
    cases b with
    | nil => simp [aEqL] at h
    | cons y ys =>
      simp only [aEqL, Bool.and_eq_true] at h
      rw [aEq_sound x y h.1, aEqL_sound xs ys h.2]

end Rx
