/-
  Proofs/TreeInv — what `numberReps`, `optimize` and `makeSequence` do to an operation tree, said once for every
  relation `R op op'` between the tree before and after (`RL` between lists of trees): `NumRel` (reflexive and
  respected by the constructors, `Cong`) gives `numberReps_rel`; `OptRel` (which also relates each node to what
  `optimize` / `optimizeSeq` can put in its place when the children are related) gives `optimize_rel`.
  A predicate `P` that is preserved is the instance `R op op' := P op → P op'`; a function `f` that is unchanged is
  `R op op' := f op' = f op`.
  What does NOT go through `OptRel`: what is established of an element of a sequence by looking at its follower
  (`Clean4OptL.clean4_optimize`, `Clean4EndL.enumEq4_op`); `OptRel.cons` sees one element and the related tails only.
  `makeSequence a b` is `.seq (seqList a ++ seqList b)`: a function that is a monoid homomorphism on lists is one on
  `makeSequence` (`makeSequence_hom`).
-/
import RxModel.Model.Parser
import RxModel.Proofs.SeqElem
import RxModel.Proofs.OpRCalc
import RxModel.Model.Program
import RxModel.Spec.Preds
namespace Rx
open Rx.OptL (seqElem)

structure NumRel (R : Op → Op → Prop) (RL : List Op → List Op → Prop) : Prop extends Cong R RL where
  refl : ∀ o, R o o

mutual
theorem numberReps_rel {R : Op → Op → Prop} {RL : List Op → List Op → Prop} (h : NumRel R RL) :
    (op : Op) → ∀ n, R op (numberReps op n).1
  | .bol, _ | .eol, _ | .nothing, _ | .endProgram, _ | .atom _, _ | .cls _, _ | .backref _, _ => h.refl _
  | .capture g c, n => h.capture g (numberReps_rel h c n)
  | .choice bs, n => h.choice (numberRepsL_rel h bs n)
  | .seq ops, n => h.seq (numberRepsL_rel h ops n)
  | .rep id c mn mx g, n => h.rep id (n + 1) mn mx g (numberReps_rel h c (n + 1))
  | .gfixed c mn mx len, n => h.gfixed mn mx len (numberReps_rel h c n)
  | .rfixed c mn mx len, n => h.rfixed mn mx len (numberReps_rel h c n)
  | .unamb c mn mx, n => h.unamb mn mx (numberReps_rel h c n)
termination_by structural op => op
theorem numberRepsL_rel {R : Op → Op → Prop} {RL : List Op → List Op → Prop} (h : NumRel R RL) :
    (l : List Op) → ∀ n, RL l (numberRepsL l n).1
  | [], _ => h.nil
  | o :: os, n => h.cons (numberReps_rel h o n) (numberRepsL_rel h os _)
termination_by structural l => l
end

structure OptRel (R : Op → Op → Prop) (RL : List Op → List Op → Prop) : Prop extends NumRel R RL where
  /-- `x{0,n}` over a body that matches the empty string anywhere becomes `x{1,n}` -/
  rep01 : ∀ {c c'} id mx g, R c c' → mzs c' = ZLS_ANYWHERE → R (.rep id c 0 mx g) (.rep id c' 1 mx g)
  seq0 : R (.seq []) .nothing
  seq1 : ∀ o, R (.seq [o]) o
  gfixed0 : ∀ c mn len, R (.gfixed c mn 0 len) .nothing
  gfixedZ : ∀ c mn mx len, matchLen c = some 0 → R (.gfixed c mn mx len) c
  /-- an element of a sequence that has become a repeat over one literal / class may become its `.unamb` form -/
  unambRep : ∀ {o c} id mn mx g, R o (.rep id c mn mx g) → isAtomOrClass c = true → R o (.unamb c mn mx)
  unambG : ∀ {o c} mn mx len, R o (.gfixed c mn mx len) → isAtomOrClass c = true → R o (.unamb c mn mx)
  unambR : ∀ {o c} mn mx len, R o (.rfixed c mn mx len) → isAtomOrClass c = true → R o (.unamb c mn mx)

theorem OptRel.toUnamb {R : Op → Op → Prop} {RL : List Op → List Op → Prop} (h : OptRel R RL)
    {o opt child : Op} {mn mx : Nat} {g : Bool} (ho : R o opt)
    (hrp : repeatParts opt = some (child, mn, mx, g)) (hac : isAtomOrClass child = true) :
    R o (.unamb child mn mx) := by
  rcases repeatParts_cases hrp with ⟨_, rfl⟩ | ⟨_, rfl, _⟩ | ⟨_, rfl, _⟩ | ⟨rfl, _⟩
  · exact h.unambRep _ _ _ _ ho hac
  · exact h.unambG _ _ _ ho hac
  · exact h.unambR _ _ _ ho hac
  · exact ho

mutual
theorem optimize_rel {R : Op → Op → Prop} {RL : List Op → List Op → Prop} (h : OptRel R RL)
    (env : Env) (fl : CFlags) : (op : Op) → R op (optimize env fl op)
  | .bol | .eol | .nothing | .endProgram | .atom _ | .cls _ | .backref _ => h.refl _
  | .capture g c => h.capture g (optimize_rel h env fl c)
  | .choice bs => h.choice (optimizeL_rel h env fl bs)
  | .seq [] => h.seq0
  | .seq [o] => h.seq1 o
  | .seq (o :: o2 :: os) => h.seq (optimizeSeq_rel h env fl (o :: o2 :: os))
  | .rep id c mn mx g => by
    have ih := optimize_rel h env fl c
    simp only [optimize]
    split
    · rename_i hc
      simp only [Bool.and_eq_true, beq_iff_eq] at hc
      rw [hc.1]
      exact h.rep01 id mx g ih hc.2
    · exact h.rep id id mn mx g ih
  | .gfixed c mn mx len => by
    simp only [optimize]
    split
    · rename_i hm
      rw [beq_iff_eq] at hm
      rw [hm]
      exact h.gfixed0 c mn len
    · split
      · rename_i hz
        exact h.gfixedZ c mn mx len (by simpa only [beq_iff_eq] using hz)
      · exact h.gfixed mn mx len (optimize_rel h env fl c)
  | .rfixed c mn mx len => h.rfixed mn mx len (optimize_rel h env fl c)
  | .unamb c mn mx => h.unamb mn mx (optimize_rel h env fl c)
termination_by structural op => op
theorem optimizeL_rel {R : Op → Op → Prop} {RL : List Op → List Op → Prop} (h : OptRel R RL)
    (env : Env) (fl : CFlags) : (l : List Op) → RL l (optimizeL env fl l)
  | [] => h.nil
  | o :: os => h.cons (optimize_rel h env fl o) (optimizeL_rel h env fl os)
termination_by structural l => l
theorem optimizeSeq_rel {R : Op → Op → Prop} {RL : List Op → List Op → Prop} (h : OptRel R RL)
    (env : Env) (fl : CFlags) : (l : List Op) → RL l (optimizeSeq env fl l)
  | [] => h.nil
  | [o] => h.cons (optimize_rel h env fl o) h.nil
  | o :: nxt :: os => by
    rw [OptL.optimizeSeq_cons2]
    refine h.cons ?_ (optimizeSeq_rel h env fl (nxt :: os))
    have ih := optimize_rel h env fl o
    rcases OptL.seqElem_spec env fl (optimize env fl o) nxt with e | ⟨child, mn, mx, g, hrp, hac, _, e⟩
    · rw [e]; exact ih
    · rw [e]; exact h.toUnamb ih hrp hac
termination_by structural l => l
end

/-- the elements a tree contributes to a sequence it becomes part of -/
def Op.seqList : Op → List Op
  | .seq l => l
  | o => [o]

theorem Op.seqList_of_not_seq {o : Op} (h : ∀ l, o = .seq l → False) : o.seqList = [o] := by
  cases o <;> first | rfl | exact absurd rfl (fun e => h _ e)

theorem makeSequence_eq (a b : Op) : makeSequence a b = .seq (a.seqList ++ b.seqList) := by
  unfold makeSequence
  split
  · rfl
  · rename_i hb; rw [Op.seqList_of_not_seq hb]; rfl
  · rename_i ha; rw [Op.seqList_of_not_seq ha]; rfl
  · rename_i ha hb _; rw [Op.seqList_of_not_seq ha, Op.seqList_of_not_seq hb]; rfl

theorem foldHom_append {α : Type} {f : Op → α} {fL : List Op → α} {g : α → α → α} {e : α}
    (hnil : fL [] = e) (hcons : ∀ o l, fL (o :: l) = g (f o) (fL l))
    (hassoc : ∀ x y z, g (g x y) z = g x (g y z)) (hid : ∀ x, g e x = x) (l1 l2 : List Op) :
    fL (l1 ++ l2) = g (fL l1) (fL l2) := by
  induction l1 with
  | nil => rw [List.nil_append, hnil, hid]
  | cons o os ih => rw [List.cons_append, hcons, hcons, ih, hassoc]

theorem makeSequence_hom {α : Type} {f : Op → α} {fL : List Op → α} {g : α → α → α} {e : α}
    (hseq : ∀ l, f (.seq l) = fL l) (hnil : fL [] = e) (hcons : ∀ o l, fL (o :: l) = g (f o) (fL l))
    (hassoc : ∀ x y z, g (g x y) z = g x (g y z)) (hidl : ∀ x, g e x = x) (hidr : ∀ x, g x e = x)
    (a b : Op) : f (makeSequence a b) = g (f a) (f b) := by
  have hval : ∀ o : Op, fL o.seqList = f o := by
    intro o
    cases o <;> first | exact (hseq _).symm | (show fL [_] = _; rw [hcons, hnil, hidr])
  rw [makeSequence_eq, hseq, foldHom_append hnil hcons hassoc hidl, hval, hval]

/-- `P` holds of a tree iff it holds of all its leaves and `loc g` of all its capture numbers: repeats of the four
    kinds are transparent, lists are conjunctions -/
structure Hered (P : Op → Bool) (PL : List Op → Bool) (loc : Nat → Bool) : Prop where
  nothing : P .nothing = true
  capture : ∀ g c, P (.capture g c) = (loc g && P c)
  choice : ∀ l, P (.choice l) = PL l
  seq : ∀ l, P (.seq l) = PL l
  rep : ∀ id c mn mx g, P (.rep id c mn mx g) = P c
  gfixed : ∀ c mn mx len, P (.gfixed c mn mx len) = P c
  rfixed : ∀ c mn mx len, P (.rfixed c mn mx len) = P c
  unamb : ∀ c mn mx, P (.unamb c mn mx) = P c
  nil : PL [] = true
  cons : ∀ o l, PL (o :: l) = (P o && PL l)

namespace Hered
variable {P : Op → Bool} {PL : List Op → Bool} {loc : Nat → Bool} (h : Hered P PL loc)
include h

theorem numRel : NumRel (fun o o' => P o' = P o) (fun l l' => PL l' = PL l) where
  refl _ := rfl
  capture g e := by rw [h.capture, h.capture, e]
  choice e := by rw [h.choice, h.choice, e]
  seq e := by rw [h.seq, h.seq, e]
  gfixed _ _ _ e := by rw [h.gfixed, h.gfixed, e]
  rfixed _ _ _ e := by rw [h.rfixed, h.rfixed, e]
  unamb _ _ e := by rw [h.unamb, h.unamb, e]
  nil := rfl
  cons e el := by rw [h.cons, h.cons, e, el]
  rep _ _ _ _ _ e := by rw [h.rep, h.rep, e]

theorem numberReps (op : Op) (n : Nat) : P (numberReps op n).1 = P op := numberReps_rel h.numRel op n

theorem numberRepsL (l : List Op) (n : Nat) : PL (numberRepsL l n).1 = PL l := numberRepsL_rel h.numRel l n

theorem optRel : OptRel (fun o o' => P o = true → P o' = true) (fun l l' => PL l = true → PL l' = true) where
  refl _ hp := hp
  capture g ih hp := by
    rw [h.capture, Bool.and_eq_true] at hp ⊢; exact ⟨hp.1, ih hp.2⟩
  choice ih hp := by rw [h.choice] at hp ⊢; exact ih hp
  seq ih hp := by rw [h.seq] at hp ⊢; exact ih hp
  gfixed _ _ _ ih hp := by rw [h.gfixed] at hp ⊢; exact ih hp
  rfixed _ _ _ ih hp := by rw [h.rfixed] at hp ⊢; exact ih hp
  unamb _ _ ih hp := by rw [h.unamb] at hp ⊢; exact ih hp
  nil hp := hp
  cons ih ihl hp := by rw [h.cons, Bool.and_eq_true] at hp ⊢; exact ⟨ih hp.1, ihl hp.2⟩
  rep _ _ _ _ _ ih hp := by rw [h.rep] at hp ⊢; exact ih hp
  rep01 _ _ _ ih _ hp := by rw [h.rep] at hp ⊢; exact ih hp
  seq0 _ := h.nothing
  seq1 o hp := by rwa [h.seq, h.cons, h.nil, Bool.and_true] at hp
  gfixed0 _ _ _ _ := h.nothing
  gfixedZ _ _ _ _ _ hp := by rwa [h.gfixed] at hp
  unambRep _ _ _ _ ih _ hp := by rw [h.unamb, ← h.rep]; exact ih hp
  unambG _ _ _ ih _ hp := by rw [h.unamb, ← h.gfixed]; exact ih hp
  unambR _ _ _ ih _ hp := by rw [h.unamb, ← h.rfixed]; exact ih hp

theorem optimize (env : Env) (fl : CFlags) (op : Op) (hp : P op = true) : P (optimize env fl op) = true :=
  optimize_rel h.optRel env fl op hp

theorem optimizeL (env : Env) (fl : CFlags) (l : List Op) (hp : PL l = true) : PL (optimizeL env fl l) = true :=
  optimizeL_rel h.optRel env fl l hp

theorem optimizeSeq (env : Env) (fl : CFlags) (l : List Op) (hp : PL l = true) :
    PL (optimizeSeq env fl l) = true :=
  optimizeSeq_rel h.optRel env fl l hp

theorem makeSequence (a b : Op) : P (makeSequence a b) = (P a && P b) :=
  makeSequence_hom h.seq h.nil h.cons Bool.and_assoc Bool.true_and Bool.and_true a b

end Hered

end Rx

namespace Rx.WF
open Rx
open Rx.C02 (capsPos capsPosL)

/-- well-formedness and the fixed length do not look at the ids of the repeats -/
theorem wf_numRel : NumRel (fun o o' => wfOp o' = wfOp o ∧ matchLen o' = matchLen o)
    (fun l l' => wfOps l' = wfOps l ∧ l'.isEmpty = l.isEmpty ∧ matchLenChoice l' = matchLenChoice l ∧
      matchLenSeq l' = matchLenSeq l ∧ ∀ fx, matchLenAllEq fx l' = matchLenAllEq fx l) where
  refl _ := ⟨rfl, rfl⟩
  capture _ h := by simp only [wfOp, matchLen, h, and_self]
  choice h := by simp only [wfOp, matchLen, h, and_self]
  seq h := by simp only [wfOp, matchLen, h, and_self]
  gfixed _ _ _ h := by simp only [wfOp, matchLen, h, and_self]
  rfixed _ _ _ h := by simp only [wfOp, matchLen, h, and_self]
  unamb _ _ h := by simp only [wfOp, matchLen, h, and_self]
  nil := ⟨rfl, rfl, rfl, rfl, fun _ => rfl⟩
  cons h hl := by
    simp only [wfOps, matchLenChoice, matchLenSeq, matchLenAllEq, List.isEmpty_cons, h, hl, and_self,
      implies_true]
  rep _ _ _ _ _ h := by simp only [wfOp, matchLen, h, and_self]

theorem matchLenChoice_numberRepsL : (l : List Op) → ∀ n,
    matchLenChoice (numberRepsL l n).1 = matchLenChoice l :=
  fun l n => (numberRepsL_rel wf_numRel l n).2.2.1

theorem matchLenAllEq_numberRepsL : (l : List Op) → ∀ fx n,
    matchLenAllEq fx (numberRepsL l n).1 = matchLenAllEq fx l :=
  fun l fx n => (numberRepsL_rel wf_numRel l n).2.2.2.2 fx

theorem matchLenSeq_numberRepsL : (l : List Op) → ∀ n,
    matchLenSeq (numberRepsL l n).1 = matchLenSeq l :=
  fun l n => (numberRepsL_rel wf_numRel l n).2.2.2.1

theorem wfOp_numberReps (op : Op) (n : Nat) : wfOp (numberReps op n).1 = wfOp op :=
  (numberReps_rel wf_numRel op n).1

theorem wfOps_numberRepsL : (l : List Op) → ∀ n, wfOps (numberRepsL l n).1 = wfOps l :=
  fun l n => (numberRepsL_rel wf_numRel l n).1

theorem capsPos_hered : Hered capsPos capsPosL (fun g => decide (1 ≤ g)) :=
  ⟨rfl, fun _ _ => rfl, fun _ => rfl, fun _ => rfl, fun _ _ _ _ _ => rfl, fun _ _ _ _ => rfl,
    fun _ _ _ _ => rfl, fun _ _ _ => rfl, rfl, fun _ _ => rfl⟩

theorem capsPos_numberReps (op : Op) (n : Nat) : capsPos (numberReps op n).1 = capsPos op :=
  capsPos_hered.numberReps op n

theorem capsPosL_numberRepsL : (l : List Op) → ∀ n, capsPosL (numberRepsL l n).1 = capsPosL l :=
  fun l n => capsPos_hered.numberRepsL l n

end Rx.WF

namespace Rx.SearchComplete
open Rx

/-- `smallMin` looks at the head constructor of the body of an `.unamb`: the relation carries along that
    numbering leaves a literal / class as it is -/
theorem smallMin_numRel (len : Nat) : NumRel
    (fun o o' => C06.smallMin len o' = C06.smallMin len o ∧ (isAtomOrClass o = true → o' = o) ∧
      isAtomOrClass o' = isAtomOrClass o)
    (fun l l' => C06.smallMinL len l' = C06.smallMinL len l) where
  refl _ := ⟨rfl, fun _ => rfl, rfl⟩
  capture _ h := by simp only [C06.smallMin, h.1, isAtomOrClass]; simp
  choice h := by simp only [C06.smallMin, h, isAtomOrClass]; simp
  seq h := by simp only [C06.smallMin, h, isAtomOrClass]; simp
  gfixed _ _ _ h := by simp only [C06.smallMin, h.1, isAtomOrClass]; simp
  rfixed _ _ _ h := by simp only [C06.smallMin, h.1, isAtomOrClass]; simp
  unamb {c c'} _ _ h := by
    refine ⟨?_, fun hx => by simp [isAtomOrClass] at hx, rfl⟩
    by_cases hac : isAtomOrClass c = true
    · rw [h.2.1 hac]
    · have hac' : ¬ isAtomOrClass c' = true := by rw [h.2.2]; exact hac
      have e1 : C06.smallMin len (.unamb c 0 0) = false := by
        cases c <;> first | rfl | (simp [isAtomOrClass] at hac)
      have e2 : C06.smallMin len (.unamb c' 0 0) = false := by
        cases c' <;> first | rfl | (simp [isAtomOrClass] at hac')
      simpa only [C06.smallMin] using e2.trans e1.symm
  nil := rfl
  cons h hl := by simp only [C06.smallMinL, h.1, hl]
  rep _ _ _ _ _ h := by simp only [C06.smallMin, h.1, isAtomOrClass]; simp

theorem smallMin_numberReps (len : Nat) (op : Op) (n : Nat) :
    C06.smallMin len (numberReps op n).1 = C06.smallMin len op :=
  (numberReps_rel (smallMin_numRel len) op n).1

theorem smallMinL_numberRepsL (len : Nat) : (l : List Op) → ∀ n,
    C06.smallMinL len (numberRepsL l n).1 = C06.smallMinL len l :=
  fun l n => numberRepsL_rel (smallMin_numRel len) l n

end Rx.SearchComplete
