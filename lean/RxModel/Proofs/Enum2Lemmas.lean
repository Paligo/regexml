/-
  Proofs/Enum2Lemmas — the node `UnambiguousRepeat` (Spec/Enum2): the maximal-munch generator yields exactly
  `enum2`'s single end; in front of justified followers every member of the language uses the maximal run
  (`unamb_maximal`, from `C08.disjoint_maxmunch_wf`), hence the element `.unamb x mn mx` of a sequence contributes
  its one listed end (`unamb_elem`).  Also `InputOK` of case-sensitive matching, and `cleanOp2F` is inside `shape2`.
-/
import RxModel.Spec.Enum2
import RxModel.Proofs.CanonBLemmas
import RxModel.Proofs.EnumLemmas
import RxModel.Props.C08c
import RxModel.Proofs.TreePredInst
namespace Rx
open Rx.C08 (noEmptyAtoms noEmptyAtomsL clsCanon clsCanonL CaseOK)
open TreePred

theorem canP_of_B : canBP.Sub canP :=
  impl canBP_transp.desc canP_transp.gen
    (leaf := fun _ _ _ hl h => by
      cases hl with
      | atom cs => simpa only [canBP, canP, plain, clsCanonB, clsCanon, List.all_eq_true, decide_eq_true_eq] using h
      | cls rs => exact canon_of_canonB rs h
      | _ => simp only [canP, plain, clsCanon])
    (rep := fun _ _ _ _ _ _ _ ih h => ih h)
    (unamb := fun _ _ _ _ _ ih h => ih h)

theorem clsCanon_of_B (op : Op) : clsCanonB op = true → clsCanon op := canP_of_B.op' op

theorem clsCanonL_of_B (ops : List Op) : clsCanonBL ops = true → clsCanonL ops := canP_of_B.all

theorem leaf_enum2 (ctx : Ctx) (x : Op) (hx : isAtomOrClass x = true) : enum2 ctx x = enum ctx x := by
  cases x with
  | atom cs => funext p; simp only [enum2, enum]
  | cls rs => funext p; simp only [enum2, enum]; cases ctx.input[p]? <;> rfl
  | _ => simp [isAtomOrClass] at hx

theorem leaf_clean (x : Op) (hx : isAtomOrClass x = true) : cleanOp x = true ∧ wfOp x = true := by
  cases x <;> first | exact ⟨rfl, rfl⟩ | (simp [isAtomOrClass] at hx)

theorem leaf_ex (ctx : Ctx) (x : Op) (hx : isAtomOrClass x = true) (q : Nat) (st : St) :
    Step.Ex (sem ctx x q st) (enum ctx x q) := by
  cases x with
  | atom cs => simp only [sem]; exact atomGen_ex ctx cs q st
  | cls rs => simp only [sem]; exact clsGen_ex ctx rs q st
  | _ => simp [isAtomOrClass] at hx

theorem leaf_complete (ctx : Ctx) (x : Op) (hx : isAtomOrClass x = true) {p q : Nat}
    (h : OpR ctx x p q) : q ∈ enum ctx x p := by
  cases x with
  | atom cs =>
    simp only [OpR] at h
    obtain ⟨rfl, h2, h3⟩ := h
    simp only [enum]
    rw [if_pos ⟨h2, h3⟩]; exact List.mem_singleton.2 rfl
  | cls rs =>
    simp only [OpR] at h
    obtain ⟨rfl, c, h2, h3⟩ := h
    simp only [enum]
    rw [h2]
    simp only
    rw [if_pos h3]; exact List.mem_singleton.2 rfl
  | _ => simp [isAtomOrClass] at hx

/-- no bound on the literal's length is needed -/
theorem leaf_fixedBody (ctx : Ctx) (x : Op) (hx : isAtomOrClass x = true) (hne : noEmptyAtoms x = true) :
    ∃ len, FixedBody (sem ctx x) (enum2 ctx x) len ctx.len := by
  rw [leaf_enum2 ctx x hx]
  have hex : ∀ q, q ≤ ctx.len → ∀ st, Step.Ex (sem ctx x q st) (enum ctx x q) :=
    fun q _ st => leaf_ex ctx x hx q st
  cases x with
  | atom cs =>
    refine ⟨cs.length, ⟨?_, hex, ?_⟩⟩
    · cases cs with
      | nil => simp [noEmptyAtoms] at hne
      | cons a t => simp
    · intro q _ n hn
      simp only [enum] at hn
      split at hn
      · rename_i h
        rw [List.mem_singleton.1 hn]; exact ⟨rfl, h.1⟩
      · cases hn
  | cls rs =>
    refine ⟨1, ⟨Nat.one_pos, hex, ?_⟩⟩
    intro q hq n hn
    obtain ⟨h1, h2⟩ := ex_sound ctx (.cls rs) rfl hq (hex q hq {}) n hn
    simp only [OpR] at h1
    exact ⟨h1.1, h2⟩
  | _ => simp [isAtomOrClass] at hx

theorem leaf_headDet (ctx : Ctx) (x : Op) (hx : isAtomOrClass x = true) (hne : noEmptyAtoms x = true) :
    HeadDet (fun a b => OpR ctx x a b) (enum2 ctx x) ctx.len := by
  obtain ⟨len, hb⟩ := leaf_fixedBody ctx x hx hne
  refine headDet_of hb (fun p q _ h => ?_)
  rw [leaf_enum2 ctx x hx]
  exact leaf_complete ctx x hx h

theorem leaf_enum2_sound (ctx : Ctx) (x : Op) (hx : isAtomOrClass x = true) {a b : Nat} {t : List Nat}
    (ha : a ≤ ctx.len) (h : enum2 ctx x a = b :: t) : OpR ctx x a b := by
  rw [leaf_enum2 ctx x hx] at h
  exact (ex_sound ctx x (leaf_clean x hx).2 ha (leaf_ex ctx x hx a {}) b
    (by rw [h]; exact List.mem_cons_self)).1

/-- the fuel covers `b`, or else the input -/
theorem unambLoop_munch {child : Gen} {e : Nat → List Nat} {L : Nat} (hb : ProgBody child e L) :
    ∀ fuel b p m st, p ≤ L → (b + 1 ≤ fuel ∨ L + 2 ≤ fuel + p) →
      (unambLoop child (m + b) L fuel p m st).1 = (munch e b p).2 ∧
      (unambLoop child (m + b) L fuel p m st).2.1 = m + (munch e b p).1 := by
  intro fuel
  induction fuel with
  | zero => intro b p m st _ hf; omega
  | succ f ih =>
    intro b p m st hp hfuel
    rw [unambLoop]
    cases b with
    | zero =>
      rw [if_neg (by simp)]
      exact ⟨rfl, rfl⟩
    | succ b =>
      rw [if_pos (by simp [hp])]
      simp only [munch]
      cases hl : e p with
      | nil =>
        obtain ⟨st', hf⟩ := hb.first_nil hp st hl
        rw [hf]
        exact ⟨rfl, rfl⟩
      | cons q t =>
        obtain ⟨⟨st1, hf⟩, hq1, hq2⟩ := hb.first_cons hp st hl
        rw [hf]
        have hih := ih b q (m + 1) st1 hq2 (by omega)
        rw [Nat.add_right_comm m 1 b, Nat.add_assoc m b 1] at hih
        exact ⟨hih.1, by rw [hih.2, Nat.add_assoc, Nat.add_comm 1]⟩

theorem unambGen_ex {child : Gen} {e : Nat → List Nat} (ctx : Ctx)
    (hb : ProgBody child e ctx.len) (mn mx p : Nat) (hp : p ≤ ctx.len) (st : St) :
    Step.Ex (unambGen ctx child mn mx p st)
      (if mn ≤ (munch e mx p).1 then [(munch e mx p).2] else []) := by
  unfold unambGen
  simp only
  have hfuel : mx + 1 ≤ Nat.min mx (ctx.len + 2) + 1 ∨ ctx.len + 2 ≤ Nat.min mx (ctx.len + 2) + 1 + p := by
    show _ ≤ min mx (ctx.len + 2) + 1 ∨ _ ≤ min mx (ctx.len + 2) + 1 + p
    rw [Nat.min_def]
    split <;> omega
  have h := unambLoop_munch hb _ mx p 0 st hp hfuel
  rw [Nat.zero_add, Nat.zero_add] at h
  generalize unambLoop child mx ctx.len (Nat.min mx (ctx.len + 2) + 1) p 0 st = r at h
  rw [← h.1, ← h.2]
  by_cases hlt : r.2.1 < mn
  · rw [if_pos hlt, if_neg (by omega)]
    exact .nil _
  · rw [if_neg hlt, if_pos (by omega)]
    exact .once _ _

theorem munch_sound {R : Nat → Nat → Prop} {e : Nat → List Nat} {L : Nat} (hd : HeadDet R e L)
    (hs : ∀ a, a ≤ L → ∀ b t, e a = b :: t → R a b) :
    ∀ b p, p ≤ L → IterR R (munch e b p).1 p (munch e b p).2 ∧ (munch e b p).1 ≤ b ∧ (munch e b p).2 ≤ L := by
  intro b
  induction b with
  | zero => intro p hp; exact ⟨.zero p, Nat.le_refl _, hp⟩
  | succ b ih =>
    intro p hp
    simp only [munch]
    cases hl : e p with
    | nil => exact ⟨.zero p, Nat.zero_le _, hp⟩
    | cons q t =>
      have hr := hs p hp q t hl
      obtain ⟨h1, h2, h3⟩ := ih q (hd.det p hp q hr).2
      exact ⟨IterR.cons hr h1, by simp only; omega, h3⟩

theorem munch_max {R : Nat → Nat → Prop} {e : Nat → List Nat} {L : Nat} (hd : HeadDet R e L)
    (hs : ∀ a, a ≤ L → ∀ b t, e a = b :: t → R a b) :
    ∀ b p k m, p ≤ L → IterR R k p m → k ≤ b →
      k ≤ (munch e b p).1 ∧
      ((k = b ∨ ¬ ∃ m', R m m') → k = (munch e b p).1 ∧ m = (munch e b p).2) := by
  intro b
  induction b with
  | zero =>
    intro p k m _ hi hk
    have : k = 0 := by omega
    subst this
    rw [IterR.zero_iff.1 hi]
    exact ⟨Nat.le_refl _, fun _ => ⟨rfl, rfl⟩⟩
  | succ b ih =>
    intro p k m hp hi hk
    simp only [munch]
    cases k with
    | zero =>
      rw [IterR.zero_iff.1 hi]
      refine ⟨Nat.zero_le _, fun hmax => ?_⟩
      cases hl : e p with
      | nil => exact ⟨rfl, rfl⟩
      | cons q t =>
        rcases hmax with h | h
        · omega
        · exact absurd ⟨q, hs p hp q t hl⟩ h
    | succ k =>
      obtain ⟨a, ha, hi'⟩ := IterR.uncons hi
      obtain ⟨⟨t, ht⟩, haL⟩ := hd.det p hp a ha
      rw [ht]
      obtain ⟨h1, h2⟩ := ih a k m haL hi' (by omega)
      refine ⟨by simp only; omega, fun hmax => ?_⟩
      have := h2 (by rcases hmax with h | h
                     · exact .inl (by omega)
                     · exact .inr h)
      exact ⟨by simp only; omega, this.2⟩

theorem InputOK.of_caseSensitive {env : Env} {ctx : Ctx} (hcb : ctx.caseBlind = false)
    (hce : ∀ a x, x ∈ env.closure a → x < cpLimit)
    (hin : ∀ c ∈ ctx.input, c < cpLimit) (hsc : ∀ c ∈ ctx.input, isSurrogate c = false) :
    InputOK env ctx :=
  ⟨fun h => (by rw [hcb] at h; cases h), hce, hin, hsc⟩

theorem unambJust_cases (env : Env) (cb ml top : Bool) (x nxt : Op) (rest : List Op)
    (h : unambJust env cb ml top x (nxt :: rest) = true) :
    (nxt = .eol ∧ ml = false) ∨ (nxt = .endProgram ∧ rest = [] ∧ top = true) ∨
    isDisjoint (initialClass env cb x) (initialClass env cb nxt) = true := by
  simp only [unambJust, Bool.or_eq_true, Bool.and_eq_true, Bool.not_eq_true', List.isEmpty_iff] at h
  rcases h with (⟨h1, h2⟩ | ⟨⟨h1, h2⟩, h3⟩) | h
  · left
    cases nxt <;> first | exact ⟨rfl, h2⟩ | (simp [isEol] at h1)
  · right; left
    cases nxt <;> first | exact ⟨rfl, h2, h3⟩ | (simp [isEnd] at h1)
  · exact .inr (.inr h)

theorem unamb_maximal (env : Env) (ctx : Ctx) (hI : InputOK env ctx) (top : Bool) (x : Op) (mn mx : Nat)
    (F : List Op) (hx : isAtomOrClass x = true) (hnx : noEmptyAtoms x = true) (hcx : clsCanon x)
    (hj : mn = mx ∨ unambJust env ctx.caseBlind ctx.multiLine top x F = true)
    (hwF : wfOps F = true) (hnF : noEmptyAtomsL F = true) (hcF : clsCanonL F)
    (k p m q : Nat) (hp : p ≤ ctx.len) (hk1 : mn ≤ k) (hk2 : k ≤ mx)
    (hi : IterR (fun a b => OpR ctx x a b) k p m) (hF : OpRSeq ctx F m q) :
    (k = mx ∨ ¬ ∃ m', OpR ctx x m m') ∨ (F = [.endProgram] ∧ top = true) := by
  rcases hj with hj | hj
  · exact .inl (.inl (by omega))
  · cases F with
    | nil => simp [unambJust] at hj
    | cons nxt rest =>
      simp only [wfOps, Bool.and_eq_true] at hwF
      simp only [noEmptyAtomsL, Bool.and_eq_true] at hnF
      simp only [clsCanonL] at hcF
      simp only [OpRSeq] at hF
      obtain ⟨m2, hn, _⟩ := hF
      rcases unambJust_cases _ _ _ _ _ _ _ hj with ⟨rfl, hml⟩ | ⟨rfl, rfl, ht⟩ | hdis
      · left; right
        intro ⟨m', hm'⟩
        have hmL := FirstL.iter_bounds ctx x hi hp
        have h1 := PreL.atomcls_nonempty ctx x hx hnx m m' hm'
        have h2 := (OpR_bounds_op ctx x m m' hmL hm').2
        simp only [OpR] at hn
        rcases hn.2 with h | h
        · omega
        · rw [hml] at h; cases h.1
      · exact .inr ⟨rfl, ht⟩
      · exact .inl (C08.disjoint_maxmunch_wf env ctx hI.hcase hI.hce hI.hin hI.hsc x nxt hx hcx hcF.1
          hnx hnF.1 hwF.1 hdis k p m m2 hp hi hn mx hk2)

def isUnamb : Op → Bool
  | .unamb _ _ _ => true
  | _ => false

theorem isUnamb_true {o : Op} (h : isUnamb o = true) : ∃ x mn mx, o = .unamb x mn mx := by
  cases o <;> first | exact ⟨_, _, _, rfl⟩ | (simp [isUnamb] at h)

theorem cleanOp2F_irrel (env : Env) (cb ml top : Bool) (F : List Op) (o : Op) (h : ¬ isUnamb o = true) :
    cleanOp2F env cb ml top F o = cleanOp2F env cb ml false [] o := by
  cases o with
  | unamb x mn mx => exact absurd rfl h
  | _ => simp only [cleanOp2F]

theorem shape_of_clean2 (env : Env) (cb ml : Bool) : (cleanP2 env cb ml).Sub shapeP2 :=
  impl0 (cleanP2_transp env cb ml).desc shapeP2_transp.gen cleanP2_backref
    (leaf := fun _ _ _ hl _ => by cases hl <;> rfl)
    (rep := fun _ _ _ _ _ _ _ _ h => absurd h cleanP2_rep)
    (unamb := fun _ _ _ _ _ _ h => by
      simp only [cleanP2, cleanOp2F, Bool.and_eq_true] at h
      exact h.1)

theorem shape_of_cleanAll2 (env : Env) (cb ml : Bool) : (ops : List Op) →
    cleanAll2 env cb ml ops = true → shape2L ops = true :=
  fun _ => (shape_of_clean2 env cb ml).all

theorem cleanProg2_iff {env : Env} {cb ml : Bool} {op : Op} :
    cleanProg2 env cb ml op = true ↔ (cleanP2 env cb ml).prog op := by cases op <;> exact Iff.rfl

theorem shape_of_cleanProg2 (env : Env) (cb ml : Bool) (op : Op) (h : cleanProg2 env cb ml op = true) :
    shape2 op = true :=
  shapeP2_transp.prog_iff.1 ((shape_of_clean2 env cb ml).prog (cleanProg2_iff.1 h))

theorem unamb_elem (env : Env) (ctx : Ctx) (hI : InputOK env ctx) (top : Bool) (x : Op) (mn mx : Nat)
    (F : List Op) (hc : cleanOp2F env ctx.caseBlind ctx.multiLine top F (.unamb x mn mx) = true)
    (hnx : noEmptyAtoms x = true) (hcx : clsCanon x)
    (hwF : wfOps F = true) (hnF : noEmptyAtomsL F = true) (hcF : clsCanonL F)
    (p m q : Nat) (hp : p ≤ ctx.len) (h1 : OpR ctx (.unamb x mn mx) p m) (hF : OpRSeq ctx F m q) :
    (enum2 ctx (.unamb x mn mx) p = [m] ∧ m ≤ ctx.len) ∨
    (F = [.endProgram] ∧ top = true ∧ ∃ m', enum2 ctx (.unamb x mn mx) p = [m'] ∧ m' ≤ ctx.len) := by
  simp only [cleanOp2F, Bool.and_eq_true, Bool.or_eq_true, beq_iff_eq] at hc
  obtain ⟨hx, hj⟩ := hc
  simp only [OpR] at h1
  obtain ⟨k, hk1, hk2, hi⟩ := h1
  have hd := leaf_headDet ctx x hx hnx
  have hs : ∀ a, a ≤ ctx.len → ∀ b t, enum2 ctx x a = b :: t → OpR ctx x a b :=
    fun a ha b t h => leaf_enum2_sound ctx x hx ha h
  obtain ⟨hle, hmax⟩ := munch_max hd hs mx p k m hp hi hk2
  obtain ⟨_, _, hmL⟩ := munch_sound hd hs mx p hp
  simp only [enum2]
  rw [if_pos (by omega)]
  rcases unamb_maximal env ctx hI top x mn mx F hx hnx hcx hj hwF hnF hcF k p m q hp hk1 hk2 hi hF with h | h
  · left
    obtain ⟨_, h2⟩ := hmax h
    rw [← h2]
    exact ⟨rfl, by rw [h2]; exact hmL⟩
  · exact .inr ⟨h.1, h.2, _, rfl, hmL⟩

end Rx
