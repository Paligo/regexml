/-
  Proofs/ApiGenericLemmas — the scan loops of `replace_all`, `tokenize` and `analyze` over a matcher that is asked for
  through `FindOKI` (Proofs/ApiContract) only.  `FindOKI.findSpec`: that contract is `C04.FindSpec` of Proofs/ScanRun
  for the concrete matcher, with `firstSpan` as the state-free specification and no data; what the three loops do is
  read off from there.
-/
import RxModel.Proofs.ApiContract
import RxModel.Proofs.ApiCompleteLemmas
import RxModel.Proofs.ScanRun
import RxModel.Props.C15
namespace Rx.ApiGeneric
open Rx Rx.SearchComplete Rx.Spec
open Rx.C08 (noEmptyAtoms)
open Rx.ApiComplete (firstFrom firstFrom_some firstFrom_none firstFrom_eq_some firstFrom_eq_none hasCapNode matchAt_pc
  le_of_lt_window lt_window)

section gate
variable {r : Regex} (hnull : r.nullable = false) (lower : Nat → Nat) (input : List Nat)
include hnull

theorem _root_.Rx.Regex.replaceAll_run (repl : List Nat) :
    r.replaceAll lower input repl = replaceLoop (r.prog.matcher lower input) (r.prog.subst input repl) input
      r.prog.literal (input.length + 2) 0 {} true false [] := by
  rw [Regex.replaceAll, if_neg (by rw [hnull]; exact Bool.false_ne_true)]
  rfl

theorem _root_.Rx.Regex.tokenize_run (hne : input ≠ []) (limit : Nat) :
    r.tokenize lower input limit = tokenLoop (r.prog.matcher lower input) input limit (some 0) {} [] := by
  rw [Regex.tokenize, if_neg (by rw [List.isEmpty_iff]; exact hne), if_neg (by rw [hnull]; exact Bool.false_ne_true)]

theorem _root_.Rx.Regex.analyze_run (limit : Nat) :
    (r.prog.literal = false ∧ nestingTable r.prog.pattern = none ∧
      r.analyze lower input limit = .panic panicNesting) ∨
    ∃ tbl, r.analyze lower input limit =
      analyzeLoop (r.prog.matcher lower input) (processMatch tbl) input limit { st := {} } [] := by
  rw [Regex.analyze, if_neg (by rw [hnull]; exact Bool.false_ne_true)]
  cases hl : r.prog.literal with
  | true => exact .inr ⟨[], rfl⟩
  | false =>
    cases nestingTable r.prog.pattern with
    | none => exact .inl ⟨rfl, rfl, by simp only [Bool.false_eq_true, if_false]⟩
    | some tbl => exact .inr ⟨tbl, by simp only [Bool.false_eq_true, if_false]⟩

end gate

variable [HeadFn]

-- lemmas that do not mention the head take the instance argument all the same
set_option linter.unusedSectionVars false

theorem spansFrom_cons (ctx : Ctx) (op : Op) (f pos a b : Nat) (hlt : pos < ctx.len)
    (h : firstSpan ctx op pos = some (a, b)) :
    spansFrom ctx op (f + 1) pos = (a, b) :: spansFrom ctx op f b := by
  rw [spansFrom, if_pos hlt, h]

theorem spansFrom_none (ctx : Ctx) (op : Op) (f pos : Nat) (h : firstSpan ctx op pos = none) :
    spansFrom ctx op f pos = [] := by
  cases f with
  | zero => rfl
  | succ f =>
    rw [spansFrom]
    split
    · rw [h]
    · rfl

theorem spansFrom_ge (ctx : Ctx) (op : Op) (f pos : Nat) (h : ¬ pos < ctx.len) :
    spansFrom ctx op f pos = [] := by
  cases f with
  | zero => rfl
  | succ f => rw [spansFrom, if_neg h]

/-- the state-free specification of one search (Proofs/ScanRun `FindSpec`): `firstSpan`, with no data -/
def nextSpan (ctx : Ctx) (op : Op) (pos : Nat) : Option (Nat × Nat × Unit) :=
  (firstSpan ctx op pos).map (fun x => (x.1, x.2, ()))

theorem nextSpans_eq (ctx : Ctx) (op : Op) : ∀ f pos,
    (C04.nextSpans (nextSpan ctx op) ctx.len f pos).map (fun y => (y.1, y.2.1)) = spansFrom ctx op f pos
  | 0, _ => rfl
  | f + 1, pos => by
    by_cases hlt : pos < ctx.len
    · cases h : firstSpan ctx op pos with
      | none =>
        rw [C04.nextSpans_miss _ (by rw [nextSpan, h]; rfl), spansFrom_none _ _ _ _ h]
        rfl
      | some x =>
        rw [C04.nextSpans_hit hlt (by rw [nextSpan, h]; rfl), spansFrom_cons _ _ _ _ x.1 x.2 hlt h, List.map_cons,
          nextSpans_eq ctx op f]
    · rw [C04.nextSpans_end _ hlt, spansFrom_ge _ _ _ _ hlt]
      rfl

section loops
variable {I : Nat → St → Prop} {pr : Prog} {lower : Nat → Nat} {input : List Nat}

theorem FindOKI.findSpec (F : FindOKI I (pr.ctx lower input) pr) :
    C04.FindSpec (pr.matcher lower input) input.length (fun pos st => st.panic = none ∧ I pos st)
      (nextSpan (pr.ctx lower input) pr.op) (fun st j n _ => PostMatch pr input st j n) :=
  ⟨fun pos st hpos hI => by
    rcases F.step pos st hpos hI.1 hI.2 with ⟨st', j, n, he, a3, a6, PM, aI⟩ | ⟨st', he, a2, a3⟩
    · exact .inr ⟨st', j, n, (), he, PM.clean, PM.start0, PM.end0, a6, PM.lt, PM.le, ⟨PM.clean, aI⟩,
        by rw [nextSpan, a3]; rfl, PM⟩
    · exact .inl ⟨st', he, a2, by rw [nextSpan, a3]; rfl⟩⟩

theorem FindOK.goodFind (F : FindOK (pr.ctx lower input) pr) :
    C04.GoodFind (pr.matcher lower input) input.length (fun st => st.panic = none) :=
  F.findSpec.goodFind (fun _ _ h => ⟨h, trivial⟩) (fun _ h => h)

/-- the groups as seen by a replacement string that only refers to the whole match -/
def grp0 (input : List Nat) (j n : Nat) : Nat → Option (List Nat) :=
  fun g => if g = 0 then some (slice input j n) else none

/-- the replacement string is well formed and its expansion depends on group 0 only
    (no `$N` with `N ≥ 1`); holds of every plain replacement, of `$0`, and is implied by the
    decidable `dollar0Only` -/
def Dep0 (mc : Nat) (repl : List Nat) : Prop :=
  ∀ grp grp' : Nat → Option (List Nat), grp 0 = grp' 0 →
    expandSpec mc grp repl = expandSpec mc grp' repl ∧ (expandSpec mc grp repl).isSome = true

/-- decidable: well formed, and every group reference is `$0` -/
def dollar0Only (mc : Nat) (repl : List Nat) : Bool :=
  match tokens mc (repl.length + 1) repl with
  | some ts => ts.all (fun t => match t with | .lit _ => true | .group n => n == 0)
  | none => false

theorem dep0_of_dollar0Only (mc : Nat) (repl : List Nat) (h : dollar0Only mc repl = true) : Dep0 mc repl :=
  ApiComplete.dep0_of_dollar0Only mc repl h

theorem dep0_of_plain (mc : Nat) (repl : List Nat) (h : plainRepl repl = true) : Dep0 mc repl := by
  intro grp grp' _
  rw [C15.expandSpec_plain mc grp repl h, C15.expandSpec_plain mc grp' repl h]
  exact ⟨rfl, rfl⟩

theorem expandSpec_dollar0 (mc : Nat) (grp : Nat → Option (List Nat)) :
    expandSpec mc grp [36, 48] = some ((grp 0).getD []) := by
  rw [← C15.expand_spec, C15.expand_dollar0]

theorem dep0_dollar0 (mc : Nat) : Dep0 mc [36, 48] := by
  intro grp grp' h0
  rw [expandSpec_dollar0, expandSpec_dollar0, h0]
  exact ⟨rfl, rfl⟩

/-- the text a match `[j, n)` is replaced by -/
def replText (pr : Prog) (input repl : List Nat) (j n : Nat) : List Nat :=
  if pr.literal then repl else (expandSpec (pr.maxParens - 1) (grp0 input j n) repl).getD []

theorem getParen_post {st : St} {j n : Nat} (h : PostMatch pr input st j n) :
    getParen input st 0 = some (slice input j n) := by
  unfold getParen
  rw [if_pos (show 0 < st.cap.parenCount from h.pc), h.start0, h.end0]

theorem subst_post (repl : List Nat) (hmp : pr.maxParens ≠ 0) (hd : Dep0 (pr.maxParens - 1) repl)
    {st : St} {j n : Nat} (h : PostMatch pr input st j n) (simple : Bool)
    (h1 : pr.literal = true → simple = true)
    (h2 : simple = true → pr.literal = true ∨ plainRepl repl = true) :
    ∃ s', pr.subst input repl st simple = some (replText pr input repl j n, s') ∧
      (pr.literal = true → s' = true) ∧ (s' = true → pr.literal = true ∨ plainRepl repl = true) := by
  unfold replText
  cases hl : pr.literal with
  | true => exact ⟨true, by rw [h1 hl, C15.subst_literal]; rfl, fun _ => rfl, fun _ => .inl rfl⟩
  | false =>
    -- the replacement reads group 0 only, which is the match
    obtain ⟨hc, hs⟩ := hd (getParen input st) (grp0 input j n) (by rw [getParen_post h]; rfl)
    obtain ⟨s', e1, e2⟩ := C15.subst_spec pr input repl st hmp (by rw [← C15.expandSpec_isSome, hs]) simple
      (fun hsim => (h2 hsim).resolve_left (by rw [hl]; exact Bool.false_ne_true))
    exact ⟨s', by rw [e1, hc]; rfl, nofun, fun hs' => .inr (e2 hs')⟩

end loops

end Rx.ApiGeneric
