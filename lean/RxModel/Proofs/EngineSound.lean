/-
  Proofs/EngineSound — what an iterator yields, whatever its consumer does: it is in the language `OpR` of its tree
  (`sem_sound_op`), inside the input (`sem_bounds_op`), and at the distance `get_match_length` claims
  (`matchLen_sound_op`).  All three are read off `sem_sat` (Proofs/SatSem) at the trivial state invariant.
-/
import RxModel.Proofs.SatSem
namespace Rx

theorem GenSound.genSat {g : Gen} {R : Nat → Nat → Prop} (h : GenSound g R) :
    GenSat True (fun _ => True) (fun _ => True) R g :=
  fun p st _ _ => ((h p st).sat).mono (fun _ hn => ⟨trivial, hn⟩)

theorem greedyNode_sound {child : Gen} {R : Nat → Nat → Prop} (hc : GenSound child R)
    (min bound start : Nat) :
    ∀ fuel len pl k n st, IterR R k start n → GreedyInv min bound k len pl →
      (greedyNode child min bound fuel len pl n st).All
        (fun q => ∃ k', min ≤ k' ∧ k' ≤ bound ∧ IterR R k' start q) :=
  fun fuel len pl k n st hk hinv =>
    (greedyNode_sat hc.genSat min bound start fuel len pl k n st hk hinv trivial trivial).all.mono (fun _ h => h.2)

theorem repGreedyGen_sound {child : Gen} {R : Nat → Nat → Prop} (hc : GenSound child R)
    (ctx : Ctx) (id min max : Nat) :
    GenSound (repGreedyGen ctx id child min max)
      (fun p q => ∃ k, min ≤ k ∧ k ≤ max ∧ IterR R k p q) :=
  fun p st =>
    (repGreedyGen_sat hc.genSat ctx id min max p st trivial (fun _ => trivial) (fun _ _ => trivial)).all.mono
      (fun _ h => h.2)

theorem satEnv_any (ctx : Ctx) :
    SatEnv ctx True (fun _ => True) (fun _ => True) (fun _ => True) (fun _ => True) where
  down := Down.triv
  clear := fun _ _ _ _ => trivial
  restore := fun _ _ _ _ => trivial
  setEnd0 := fun _ _ _ => trivial
  up := fun _ _ _ _ _ => trivial
  pos := fun _ _ _ _ => Step.All.trivial _
  pull := fun _ C => C.pullOK (fun _ => trivial)
  mode := .inl ⟨trivial, fun _ _ => trivial⟩
  capture := fun _ => ⟨fun _ _ _ => trivial, fun _ _ _ _ => trivial⟩
  hist := fun _ _ _ _ _ => trivial
  unamb := fun _ => .inl (fun _ _ => trivial)
  bref := fun _ _ _ _ => trivial

/-- the start-position guard is part of the relation: only a back-reference needs it -/
def OpRG (ctx : Ctx) (op : Op) : Nat → Nat → Prop := fun p q => p ≤ ctx.len → OpR ctx op p q

theorem sem_sound_op (ctx : Ctx) : (op : Op) → wfOp op = true → GenSound (sem ctx op) (OpRG ctx op) :=
  fun op hwf p st => (sem_sat (satEnv_any ctx) op trivial p st trivial trivial).all.mono (fun _ hq => (hq.2 hwf).1)

theorem sem_sound_any (ctx : Ctx) : (bs : List Op) → wfOps bs = true →
    GenSound (choiceGen (semL ctx bs)) (fun p q => p ≤ ctx.len → OpRAny ctx bs p q) :=
  fun bs hwf p st =>
    (sem_sat_choice (satEnv_any ctx) bs trivial p st trivial trivial).all.mono (fun _ hq => (hq.2 hwf).1)

theorem sem_sound_seq (ctx : Ctx) : (ops : List Op) → wfOps ops = true →
    GenSound (seqGo (semL ctx ops)) (fun p q => p ≤ ctx.len → OpRSeq ctx ops p q) :=
  fun ops hwf p st =>
    (sem_sat_seq (satEnv_any ctx) ops trivial p st trivial trivial).all.mono (fun _ hq => (hq.2 hwf).1)

theorem sem_bounds_op (ctx : Ctx) (op : Op) (hwf : wfOp op = true) (p : Nat) (hp : p ≤ ctx.len) (st : St) :
    (sem ctx op p st).All (fun n => p ≤ n ∧ n ≤ ctx.len) :=
  (sem_sound_op ctx op hwf p st).mono (fun n h => OpR_bounds_op ctx op p n hp (h hp))

theorem matchLen_sound_op (ctx : Ctx) : (op : Op) → wfOp op = true → ∀ l, matchLen op = some l →
    l < usizeMax → GenSound (sem ctx op) (fun p n => n = p + l) :=
  fun op hwf l hl hlt p st =>
    (sem_sat (satEnv_any ctx) op trivial p st trivial trivial).all.mono (fun _ hq => (hq.2 hwf).2 l hl hlt)

theorem matchLen_sound_allEq (ctx : Ctx) : (bs : List Op) → wfOps bs = true → ∀ l,
    matchLenAllEq (some l) bs = true → l < usizeMax →
    GenSound (choiceGen (semL ctx bs)) (fun p n => n = p + l) :=
  fun bs hwf l hl hlt p st =>
    (sem_sat_choice (satEnv_any ctx) bs trivial p st trivial trivial).all.mono (fun _ hq => (hq.2 hwf).2 l hl hlt)

theorem matchLen_sound_choice (ctx : Ctx) : (bs : List Op) → wfOps bs = true → ∀ l,
    matchLenChoice bs = some l → l < usizeMax →
    GenSound (choiceGen (semL ctx bs)) (fun p n => n = p + l) :=
  fun bs hwf l hl hlt => matchLen_sound_allEq ctx bs hwf l (matchLenChoice_allEq hl) hlt

theorem matchLen_sound_seq (ctx : Ctx) : (ops : List Op) → wfOps ops = true → ∀ l,
    matchLenSeq ops = some l → l < usizeMax →
    GenSound (seqGo (semL ctx ops)) (fun p n => n = p + l) :=
  fun ops hwf l hl hlt p st =>
    (sem_sat_seq (satEnv_any ctx) ops trivial p st trivial trivial).all.mono (fun _ hq => (hq.2 hwf).2 l hl hlt)

end Rx
