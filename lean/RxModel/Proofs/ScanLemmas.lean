/-
  Proofs/ScanLemmas — list facts about `slice` and the specification functions of Spec/Pieces; the equations of
  one step of `replaceLoop` and of one pull of `TokenIter` / `AnalyzeIter` (`tokenNext`, `analyzeNext`); which
  loop can answer an `Err`, for any matcher.
-/
import RxModel.Spec.Pieces
import RxModel.Props.C04Defs
import RxModel.Proofs.PullLoop
namespace Rx.C04
open Rx Rx.Spec
variable {σ : Type}

theorem slice_append_drop (s : List Nat) (p a : Nat) (h : p ≤ a) :
    slice s p a ++ s.drop a = s.drop p := by
  unfold slice
  have e : s.drop a = (s.drop p).drop (a - p) := by
    rw [List.drop_drop]; congr 1; omega
  rw [e, List.take_append_drop]

theorem slice_slice_drop (s : List Nat) (p a b : Nat) (h1 : p ≤ a) (h2 : a ≤ b) :
    slice s p a ++ (slice s a b ++ s.drop b) = s.drop p := by
  rw [slice_append_drop s a b h2, slice_append_drop s p a h1]

/-! ### fuel: every bound has the form `len < fuel + pos` -/

theorem fuel_zero {len pos : Nat} (hp : pos ≤ len) : ¬ len < 0 + pos := by
  rw [Nat.zero_add]
  exact Nat.not_lt.mpr hp

theorem fuel_step {len fuel pos b : Nat} (h : len < fuel + 1 + pos) (hpb : pos < b) :
    len < fuel + b := by
  omega

theorem ofFailed_ne_ok {α : Type} (c : Nat) (r : α) : (Out.ofFailed c : Out α) ≠ .ok r := by
  unfold Out.ofFailed; split <;> simp

theorem ofFailed_ne_err {α : Type} (c : Nat) (e : Err) : (Out.ofFailed c : Out α) ≠ .err e := by
  unfold Out.ofFailed; split <;> simp

theorem ofFailed_bind {α β : Type} (c : Nat) (f : α → Out β) : (Out.ofFailed c : Out α).bind f = Out.ofFailed c := by
  unfold Out.ofFailed; split <;> rfl

theorem ordered_length (len : Nat) : ∀ (l : List (Nat × Nat)) (pos : Nat),
    pos ≤ len → Ordered len pos l → l.length ≤ len - pos
  | [], _, _, _ => by simp
  | (a, b) :: rest, pos, hp, h => by
    obtain ⟨h1, h2, h3, h4⟩ := h
    have := ordered_length len rest b h3 h4
    simp only [List.length_cons]; omega

theorem spanPairs_length (l : List (Nat × Nat × σ)) : (spanPairs l).length = l.length := by
  simp [spanPairs]

theorem spanPairs_cons (a b : Nat) (st : σ) (l : List (Nat × Nat × σ)) :
    spanPairs ((a, b, st) :: l) = (a, b) :: spanPairs l := by
  simp [spanPairs]

theorem spanPairs_nil : spanPairs ([] : List (Nat × Nat × σ)) = [] := rfl

theorem spansOf_ge (M : MatcherI σ) (len g pos : Nat) (st : σ) (h : ¬ pos < len) :
    spansOf M len g pos st = [] := by
  cases g <;> simp [spansOf, h]

theorem spansOf_false (M : MatcherI σ) (len g pos : Nat) (st st' : σ)
    (h : M.find st pos = (false, st')) : spansOf M len g pos st = [] := by
  cases g <;> simp [spansOf, h]

theorem spansOf_true (M : MatcherI σ) (len g pos a b : Nat) (st st' : σ) (hlt : pos < len)
    (h : M.find st pos = (true, st')) (ha : M.start0 st' = some a) (hb : M.end0 st' = some b) :
    spansOf M len (g + 1) pos st = (a, b, st') :: spansOf M len g b st' := by
  simp [spansOf, h, hlt, ha, hb]

theorem spansOf_mem (M : MatcherI σ) (len : Nat) : ∀ (g pos : Nat) (st : σ),
    ∀ x ∈ spansOf M len g pos st, M.start0 x.2.2 = some x.1 ∧ M.end0 x.2.2 = some x.2.1 := by
  intro g
  induction g with
  | zero => intro pos st x hx; simp [spansOf] at hx
  | succ g ih =>
    intro pos st x hx
    unfold spansOf at hx
    split at hx
    · split at hx
      · split at hx
        · rename_i st' _ _ a b ha hb
          rcases List.mem_cons.mp hx with rfl | hx
          · exact ⟨ha, hb⟩
          · exact ih _ _ _ hx
        · simp at hx
      · simp at hx
    · simp at hx

theorem spanPairs_map_spans {α : Type} (l : List (Nat × Nat × σ)) (t : Nat × Nat × σ → α) :
    spanPairs (l.map (fun x => (x.1, x.2.1, t x))) = spanPairs l := by
  simp only [spanPairs, List.map_map, Function.comp_def]

theorem spanPairs_map_pairs {α : Type} (l : List (Nat × Nat)) (t : Nat × Nat → α) :
    spanPairs (l.map (fun x => (x.1, x.2, t x))) = l := by
  simp only [spanPairs, List.map_map, Function.comp_def, List.map_id']

theorem replaced_self (input : List Nat) (len : Nat) :
    ∀ (T : List (Nat × Nat × List Nat)) (pos : Nat),
    Ordered len pos (spanPairs T) → (∀ x ∈ T, x.2.2 = slice input x.1 x.2.1) →
    replaced input pos T = input.drop pos
  | [], pos, _, _ => by rw [replaced]
  | (a, b, t) :: rest, pos, ho, ht => by
    rw [spanPairs_cons] at ho
    obtain ⟨h1, h2, _, h4⟩ := ho
    have e : t = slice input a b := ht (a, b, t) List.mem_cons_self
    rw [replaced, replaced_self input len rest b h4 (fun x hx => ht x (List.mem_cons_of_mem _ hx)), e,
      List.append_assoc]
    exact slice_slice_drop input pos a b h1 (Nat.le_of_lt h2)

theorem pieces_ne_nil (s : List Nat) : ∀ (l : List (Nat × Nat)) (pos : Nat),
    ∃ t ts, pieces s pos l = t :: ts
  | [], _ => ⟨_, _, rfl⟩
  | (_, _) :: _, _ => ⟨_, _, rfl⟩

theorem pieces_length (s : List Nat) : ∀ (l : List (Nat × Nat)) (pos : Nat),
    (pieces s pos l).length = l.length + 1
  | [], pos => rfl
  | (a, b) :: rest, pos => by simp [pieces, pieces_length s rest b]

theorem replaced_const (input R : List Nat) :
    ∀ (T : List (Nat × Nat × List Nat)) (pos : Nat), (∀ x ∈ T, x.2.2 = R) →
    replaced input pos T = joinWith R (pieces input pos (spanPairs T))
  | [], pos, _ => by rw [replaced, spanPairs_nil, pieces, joinWith]
  | (a, b, t) :: rest, pos, ht => by
    obtain ⟨p, ps, e⟩ := pieces_ne_nil input (spanPairs rest) b
    have et : t = R := ht (a, b, t) List.mem_cons_self
    rw [spanPairs_cons, replaced, pieces, replaced_const input R rest b (fun x hx => ht x (List.mem_cons_of_mem _ hx)),
      e, joinWith, et]

/-- a span list with the `entry` results attached -/
abbrev espans (entry : σ → List Nat → Out (List MEntry)) (input : List Nat)
    (l : List (Nat × Nat × σ)) : List (Nat × Nat × List MEntry) :=
  l.map (fun x => (x.1, x.2.1, entryD entry x.2.2 (slice input x.1 x.2.1)))

theorem espans_cons (entry : σ → List Nat → Out (List MEntry)) (input : List Nat) (a b : Nat) (st : σ)
    (l : List (Nat × Nat × σ)) :
    espans entry input ((a, b, st) :: l)
      = (a, b, entryD entry st (slice input a b)) :: espans entry input l := rfl

theorem entryD_ok {entry : σ → List Nat → Out (List MEntry)} {st : σ} {t : List Nat}
    {es : List MEntry} (h : entry st t = .ok es) : entryD entry st t = es := by
  rw [entryD, h]

def EntriesOk (entry : σ → List Nat → Out (List MEntry)) (input : List Nat)
    (l : List (Nat × Nat × σ)) : Prop :=
  ∀ x ∈ l, ∃ es, entry x.2.2 (slice input x.1 x.2.1) = .ok es

theorem EntriesOk.cons {entry : σ → List Nat → Out (List MEntry)} {input : List Nat} {a b : Nat}
    {st : σ} {l : List (Nat × Nat × σ)} {es : List MEntry}
    (h : entry st (slice input a b) = .ok es) (hl : EntriesOk entry input l) :
    EntriesOk entry input ((a, b, st) :: l) := by
  intro x hx
  rcases List.mem_cons.mp hx with rfl | hx
  · exact ⟨es, h⟩
  · exact hl x hx

theorem aTextL_append (l1 l2 : List AEntry) : aTextL (l1 ++ l2) = aTextL l1 ++ aTextL l2 := by
  induction l1 with
  | nil => simp [aTextL]
  | cons e es ih => simp [aTextL, ih]

theorem aTextL_entries (input : List Nat) : ∀ (L : List (Nat × Nat × List MEntry)) (pos : Nat),
    aTextL (entries input pos L) = replaced input pos (L.map fun x => (x.1, x.2.1, mTextL x.2.2))
  | [], pos => by
    rw [entries, List.map_nil, replaced]
    split
    · rw [aTextL, aText, aTextL, List.append_nil]
    · rename_i hlt
      rw [aTextL, List.drop_eq_nil_of_le (Nat.le_of_not_lt hlt)]
  | (a, b, es) :: rest, pos => by
    rw [entries, aTextL_append, aTextL_append, aTextL_entries input rest b, List.map_cons, replaced, aTextL, aText,
      aTextL, List.append_nil]
    split
    · rw [aTextL, aText, aTextL, List.append_nil]
    · rename_i hlt
      rw [aTextL, slice, Nat.sub_eq_zero_of_le (Nat.le_of_not_lt hlt), List.take_zero]

theorem entries_text (input : List Nat) (L : List (Nat × Nat × List MEntry)) (pos : Nat)
    (ho : Ordered input.length pos (spanPairs L)) (ht : ∀ x ∈ L, mTextL x.2.2 = slice input x.1 x.2.1) :
    aTextL (entries input pos L) = input.drop pos := by
  rw [aTextL_entries]
  exact replaced_self input input.length _ pos (by rw [spanPairs_map_spans]; exact ho) (fun x hx => by
    obtain ⟨y, hy, rfl⟩ := List.mem_map.1 hx
    exact ht y hy)

theorem first_end (input acc : List Nat) (pos : Nat) (first : Bool)
    (hfirst : first = true → acc = [] ∧ pos = 0) :
    (if first = true then Out.ok input else Out.ok (acc ++ input.drop pos))
      = Out.ok (acc ++ input.drop pos) := by
  cases first
  · simp
  · obtain ⟨rfl, rfl⟩ := hfirst rfl
    simp

section replaceStep
variable {M : MatcherI σ} {subst : Subst σ} {input : List Nat} {lit : Bool} {f pos : Nat} {st : σ}
  {first simple : Bool} {acc : List Nat}

theorem replaceLoop_end (h : ¬ pos < input.length) :
    replaceLoop M subst input lit (f + 1) pos st first simple acc
      = if first then .ok input else .ok (acc ++ input.drop pos) := by
  rw [replaceLoop, if_neg h]

theorem replaceLoop_failed {c : Nat} (hlt : pos < input.length)
    (hfl : M.failed (M.find st pos).2 = some c) :
    replaceLoop M subst input lit (f + 1) pos st first simple acc = Out.ofFailed c := by
  rw [replaceLoop, if_pos hlt]
  rcases hfind : M.find st pos with ⟨m, st'⟩
  rw [hfind] at hfl
  cases m <;> simp only [hfl]

theorem replaceLoop_nomatch {st' : σ} (hlt : pos < input.length)
    (hfind : M.find st pos = (false, st')) (hfl : M.failed st' = none) :
    replaceLoop M subst input lit (f + 1) pos st first simple acc
      = if first then .ok input else .ok (acc ++ input.drop pos) := by
  rw [replaceLoop, if_pos hlt, hfind]
  simp only [hfl]

theorem replaceLoop_match {st' : σ} {a b : Nat} {text : List Nat} {simple' : Bool}
    (hlt : pos < input.length) (hfind : M.find st pos = (true, st')) (hfl : M.failed st' = none)
    (ha : M.start0 st' = some a) (hb : M.end0 st' = some b) (hpa : pos ≤ a) (hpb : pos < b)
    (hs : subst st' (if first then lit else simple) = some (text, simple')) :
    replaceLoop M subst input lit (f + 1) pos st first simple acc
      = replaceLoop M subst input lit f b st' false simple' (acc ++ slice input pos a ++ text) := by
  rw [replaceLoop, if_pos hlt, hfind]
  have hne : (b == pos) = false := beq_false_of_ne (Nat.ne_of_gt hpb)
  simp only [hfl, ha, hb, if_neg (Nat.not_lt.mpr hpa), hs, hne, Bool.false_eq_true, if_false]

theorem replaceLoop_match_err {st' : σ} {a : Nat}
    (hlt : pos < input.length) (hfind : M.find st pos = (true, st')) (hfl : M.failed st' = none)
    (ha : M.start0 st' = some a) (hpa : pos ≤ a)
    (hs : subst st' (if first then lit else simple) = none) :
    replaceLoop M subst input lit (f + 1) pos st first simple acc = .err .invalidReplacement := by
  rw [replaceLoop, if_pos hlt, hfind]
  simp only [hfl, ha, if_neg (Nat.not_lt.mpr hpa), hs]
end replaceStep

/-- `Q` holds of every value of `simple_replacement` the substitution is called with -/
theorem replaceLoop_no_error (M : MatcherI σ) (subst : Subst σ) (Q : Bool → Prop)
    (hsub : ∀ st simple, Q simple → ∃ t s', subst st simple = some (t, s') ∧ Q s')
    (input : List Nat) (lit : Bool) (f pos : Nat) (st : σ) (first simple : Bool) (acc : List Nat)
    (hQ : Q (if first then lit else simple)) :
    replaceLoop M subst input lit f pos st first simple acc ≠ .err .invalidReplacement := by
  fun_induction replaceLoop M subst input lit f pos st first simple acc with
  | case2 | case5 => -- the matcher failed
    exact ofFailed_ne_err _ _
  | case8 => -- the substitution returned `none`
    rename_i hnone
    obtain ⟨t, s', hs, -⟩ := hsub _ _ hQ
    cases hs.symm.trans hnone
  | case10 => -- the next round
    rename_i hs _ _ _ ih
    obtain ⟨t, s', hs', hQ'⟩ := hsub _ _ hQ
    cases hs'.symm.trans hs
    exact ih hQ'
  | case1 | case3 | case4 | case6 | case7 | case9 | case11 | case12 => -- `.diverge`, `.ok _`, `.panic _`
    nofun

theorem _root_.Rx.replaceLoop_err (M : MatcherI σ) (subst : Subst σ) (input : List Nat) (literal : Bool)
    (fuel pos : Nat) (st : σ) (first simple : Bool) (acc : List Nat) :
    ∀ e : Err, replaceLoop M subst input literal fuel pos st first simple acc = .err e → e = .invalidReplacement := by
  fun_induction replaceLoop M subst input literal fuel pos st first simple acc with
  | case2 | case5 => -- the matcher failed
    exact fun e h => absurd h (ofFailed_ne_err _ _)
  | case8 => -- the substitution returned `none`
    exact fun e h => (Out.err.inj h).symm
  | case10 => -- the next round
    rename_i ih
    exact ih
  | case1 | case3 | case4 | case6 | case7 | case9 | case11 | case12 => -- `.diverge`, `.ok _`, `.panic _`
    nofun

theorem _root_.Rx.tokenNext_ne_err (M : MatcherI σ) (input : List Nat) (pe : Option Nat) (st : σ) (e : Err) :
    (tokenNext M input pe st).1 ≠ .err e := by
  fun_cases tokenNext M input pe st with
  | case2 | case6 => -- the matcher failed
    exact ofFailed_ne_err _ _
  | case1 | case3 | case4 | case5 | case7 => -- `.ok _`, `.panic _`
    nofun

theorem _root_.Rx.tokenLoop_ne_err (M : MatcherI σ) (input : List Nat) (limit : Nat) (pe : Option Nat) (st : σ)
    (acc : List (List Nat)) (e : Err) : tokenLoop M input limit pe st acc ≠ .err e := fun h => by
  rw [tokenLoop_eq_pull] at h
  obtain ⟨s, -, hs⟩ := (pullLoop_fail (J := fun _ => True) (fun _ _ => trivial) limit _ acc trivial).1 e h
  exact tokenNext_ne_err M input s.1 s.2 e hs

section tokenStep
variable {M : MatcherI σ} {input : List Nat} {pe : Nat} {st st' : σ}

theorem tokenNext_failed {c : Nat} (hfl : M.failed (M.find st pe).2 = some c) :
    tokenNext M input (some pe) st = (Out.ofFailed c, none, (M.find st pe).2) := by
  rw [tokenNext]
  rcases hfind : M.find st pe with ⟨m, st'⟩
  rw [hfind] at hfl
  cases m <;> simp only [hfl]

theorem tokenNext_nomatch (hfind : M.find st pe = (false, st')) (hfl : M.failed st' = none) :
    tokenNext M input (some pe) st = (.ok (some (input.drop pe)), none, st') := by
  rw [tokenNext, hfind]
  simp only [hfl]

theorem tokenNext_match {a : Nat} (hfind : M.find st pe = (true, st')) (hfl : M.failed st' = none)
    (ha : M.start0 st' = some a) (hpa : pe ≤ a) :
    tokenNext M input (some pe) st = (.ok (some (slice input pe a)), M.end0 st', st') := by
  rw [tokenNext, hfind]
  simp only [hfl, ha, if_neg (Nat.not_lt.mpr hpa)]
end tokenStep

theorem _root_.Rx.analyzeNext_err (M : MatcherI σ) (entry : σ → List Nat → Out (List MEntry))
    (hentry : ∀ st t e, entry st t ≠ .err e) (input : List Nat) (a : AState σ) (e : Err) :
    (analyzeNext M entry input a).1 ≠ .err e := by
  fun_cases analyzeNext M entry input a with
  | case3 | case10 => -- `entry` returned `.err`
    rename_i h
    exact absurd h (hentry _ _ _)
  | case8 | case16 => -- the matcher failed
    exact ofFailed_ne_err _ _
  | case1 | case2 | case4 | case5 | case6 | case7 | case9 | case11 | case12 | case13 | case14 | case15
    | case17 | case18 => -- `.ok _`, `.panic _`, `.diverge`
    nofun

theorem _root_.Rx.analyzeLoop_ne_err (M : MatcherI σ) (entry : σ → List Nat → Out (List MEntry))
    (hentry : ∀ st t e, entry st t ≠ .err e) (input : List Nat) (limit : Nat) (a : AState σ) (acc : List AEntry)
    (e : Err) : analyzeLoop M entry input limit a acc ≠ .err e := fun h => by
  rw [analyzeLoop_eq_pull] at h
  obtain ⟨a', -, ha'⟩ := (pullLoop_fail (J := fun _ => True) (fun _ _ => trivial) limit a acc trivial).1 e h
  exact analyzeNext_err M entry hentry input a' e ha'

/-- how `AnalyzeIter::next` passes on the result of `process_matching_substring` -/
def wrapEntry : Out (List MEntry) → Out (Option AEntry)
  | .ok es => .ok (some (.isMatch es))
  | .err e => .err e
  | .panic c => .panic c
  | .diverge => .diverge

theorem _root_.Rx.wrapEntry_panic {o : Out (List MEntry)} {c : Nat} (h : wrapEntry o = .panic c) :
    o = .panic c := by
  cases o with
  | panic c' => exact congrArg Out.panic (Out.panic.inj h)
  | ok _ => cases h
  | err _ => cases h
  | diverge => cases h

section analyzeStep
variable {M : MatcherI σ} {entry : σ → List Nat → Out (List MEntry)} {input : List Nat} {pe : Nat}
  {st st' : σ}

theorem analyzeNext_pending {sub : List Nat} {skip : Bool} {b : Nat} (hb : M.end0 st = some b) :
    analyzeNext M entry input { st := st, nextSub := some sub, prevEnd := some pe, skip := skip }
      = (wrapEntry (entry st sub), { st := st, nextSub := none, prevEnd := some b, skip := skip }) := by
  simp only [analyzeNext, hb]
  cases entry st sub <;> rfl

/-- the search position of `AnalyzeIter::next` when the previous match was not the last possible one (`skip` is
    set after a zero-length match) -/
abbrev _root_.Rx.searchFrom (skip : Bool) (pe : Nat) : Nat := if skip then pe + 1 else pe

theorem _root_.Rx.analyzeNext_search_failed {skip : Bool} {c : Nat}
    (hstop : (skip && decide (pe + 1 ≥ input.length) && !decide (pe < input.length)) = false)
    (hfl : M.failed (M.find st (searchFrom skip pe)).2 = some c) :
    analyzeNext M entry input { st := st, nextSub := none, prevEnd := some pe, skip := skip }
      = (Out.ofFailed c,
         { st := (M.find st (searchFrom skip pe)).2, nextSub := none, prevEnd := some pe, skip := skip }) := by
  simp only [analyzeNext, hstop, Bool.false_eq_true, if_false]
  rcases hfind : M.find st (searchFrom skip pe) with ⟨m, st'⟩
  rw [hfind] at hfl
  cases m <;> simp only [hfl]

theorem _root_.Rx.analyzeNext_search_nomatch_eq {skip : Bool}
    (hstop : (skip && decide (pe + 1 ≥ input.length) && !decide (pe < input.length)) = false)
    (hfind : M.find st (searchFrom skip pe) = (false, st')) (hfl : M.failed st' = none) :
    analyzeNext M entry input { st := st, nextSub := none, prevEnd := some pe, skip := skip }
      = (if pe < input.length then .ok (some (.nonMatch (input.drop pe))) else .ok none,
         { st := st', nextSub := none, prevEnd := none, skip := skip }) := by
  simp only [analyzeNext, hstop, Bool.false_eq_true, if_false, hfind, hfl]
  split <;> rfl

theorem _root_.Rx.analyzeNext_search_match {skip : Bool} {s0 e0 : Nat}
    (hstop : (skip && decide (pe + 1 ≥ input.length) && !decide (pe < input.length)) = false)
    (hfind : M.find st (searchFrom skip pe) = (true, st')) (hfl : M.failed st' = none)
    (hs0 : M.start0 st' = some s0) (he0 : M.end0 st' = some e0) (hps : pe ≤ s0) :
    analyzeNext M entry input { st := st, nextSub := none, prevEnd := some pe, skip := skip }
      = if pe == s0 then
          (wrapEntry (entry st' (slice input s0 e0)),
            { st := st', nextSub := none, prevEnd := some e0, skip := s0 == e0 })
        else
          (.ok (some (.nonMatch (slice input pe s0))),
            { st := st', nextSub := some (slice input s0 e0), prevEnd := some pe, skip := s0 == e0 }) := by
  simp only [analyzeNext, hstop, Bool.false_eq_true, if_false, hfind, hfl, hs0, he0,
    if_neg (Nat.not_lt.mpr hps)]
  split
  · cases entry st' (slice input s0 e0) <;> rfl
  · rfl

/-! under `GoodFind` spans are non-empty, so `skip` stays `false` -/

theorem analyzeNext_failed {c : Nat} (hfl : M.failed (M.find st pe).2 = some c) :
    analyzeNext M entry input { st := st, nextSub := none, prevEnd := some pe, skip := false }
      = (Out.ofFailed c,
         { st := (M.find st pe).2, nextSub := none, prevEnd := some pe, skip := false }) :=
  analyzeNext_search_failed (skip := false) rfl hfl

theorem analyzeNext_nomatch (hfind : M.find st pe = (false, st')) (hfl : M.failed st' = none) :
    analyzeNext M entry input { st := st, nextSub := none, prevEnd := some pe, skip := false }
      = (if pe < input.length then .ok (some (.nonMatch (input.drop pe))) else .ok none,
         { st := st', nextSub := none, prevEnd := none, skip := false }) :=
  analyzeNext_search_nomatch_eq (skip := false) rfl hfind hfl
end analyzeStep

end Rx.C04
