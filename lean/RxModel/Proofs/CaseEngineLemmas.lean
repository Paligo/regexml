/-
  Proofs/CaseEngineLemmas — case invariance of the ENGINE's answers on the fragments where the engine is proved
  complete: the ordered enumerations `enumK H` are the same list on case-equivalent inputs and for case-equivalent
  trees — whatever the handlers `H` of `.unamb` / `.rep` (they see the body's enumeration only), hence for `enum` …
  `enum4` and for every tree, inside a fragment or not — and two complete searches with the same enumeration report
  the same (`ProgOK.agree`).  At the end `cleanOp` is inside `shape2`, and a literal prefix that matches without
  flag i matches with it.
-/
import RxModel.Proofs.CaseLemmas
import RxModel.Proofs.EnumK
import RxModel.Proofs.TreePredInst
import RxModel.Proofs.ProgOK
namespace Rx.CaseE
open Rx Rx.C11b Rx.SearchComplete

theorem enumK_cls_leaf (H : EnumH) {ctx ctx' : Ctx} (A : Nat → Bool)
    (hin : CaseEquivInputs ctx.lower ctx.input ctx'.input) (hA : Over A ctx.input) (hA' : Over A ctx'.input)
    (rs : Ranges) (hcl : clsClosedOn A ctx.lower rs) (p : Nat) :
    enumK H ctx (.cls rs) p = enumK H ctx' (.cls rs) p := by
  rcases Nat.lt_or_ge p ctx.input.length with hp | hp
  · have hp' : p < ctx'.input.length := by have := hin.1; omega
    simp only [enumK, List.getElem?_eq_getElem hp, List.getElem?_eq_getElem hp']
    rw [hcl _ _ (hA _ (List.getElem_mem hp)) (hA' _ (List.getElem_mem hp')) (hin.2 p hp hp')]
  · have hp' : ctx'.input.length ≤ p := by have := hin.1; omega
    simp only [enumK, List.getElem?_eq_none hp, List.getElem?_eq_none hp']

section
variable (H : EnumH) (A : Nat → Bool) (ctx ctx' : Ctx) (hs : SameSettings ctx ctx')
  (hcb : ctx.caseBlind = true) (hin : CaseEquivInputs ctx.lower ctx.input ctx'.input)
  (hA : Over A ctx.input) (hA' : Over A ctx'.input) (hnl : NewlineCaseless ctx.lower)
include hs hcb hin hA hA' hnl

theorem enumK_inv_both :
    (∀ op, allClsClosedOn A ctx.lower op → enumK H ctx op = enumK H ctx' op) ∧
    (∀ l, allClsL (clsClosedOn A ctx.lower) l →
      enumAnyK H ctx l = enumAnyK H ctx' l ∧ enumSeqK H ctx l = enumSeqK H ctx' l) := by
  refine (enumK.cong H ctx ctx').diag (down_allCls _) (fun o hl hc => ?_)
  cases hl with
  | bol | eol => funext p; simp only [enumK, hs.multiLine, len_eq hin, nl_leaf hin hnl]
  | nothing | endProgram | backref => funext p; simp only [enumK]
  | atom cs => funext p; simp only [enumK, len_eq hin, atom_leaf hs hcb hin]
  | cls rs => funext p; exact enumK_cls_leaf H A hin hA hA' rs hc p

theorem enumK_inv_op : (op : Op) → allClsClosedOn A ctx.lower op → enumK H ctx op = enumK H ctx' op :=
  (enumK_inv_both H A ctx ctx' hs hcb hin hA hA' hnl).1

theorem enumK_inv_any (bs : List Op) (hc : allClsL (clsClosedOn A ctx.lower) bs) :
    enumAnyK H ctx bs = enumAnyK H ctx' bs :=
  ((enumK_inv_both H A ctx ctx' hs hcb hin hA hA' hnl).2 bs hc).1

theorem enumK_inv_seq (ops : List Op) (hc : allClsL (clsClosedOn A ctx.lower) ops) :
    enumSeqK H ctx ops = enumSeqK H ctx' ops :=
  ((enumK_inv_both H A ctx ctx' hs hcb hin hA hA' hnl).2 ops hc).2

end

theorem enumK_pat (H : EnumH) (ctx : Ctx) (hcb : ctx.caseBlind = true) :
    (∀ op op', CaseEquivOps ctx.lower op op' → enumK H ctx op = enumK H ctx op') ∧
    (∀ l l', CaseEquivOpsL ctx.lower l l' →
      enumAnyK H ctx l = enumAnyK H ctx l' ∧ enumSeqK H ctx l = enumSeqK H ctx l') :=
  CaseEquivOps.rel ctx.lower (enumK.cong H ctx ctx) (fun _ _ => rfl) (fun cs ds he => by
    funext p
    simp only [enumK, ← he.1, C11.prefixMatch_caseEquiv ⟨rfl, rfl, rfl⟩ hcb he (.refl _ _)])

end Rx.CaseE

namespace Rx.SearchComplete.ProgOK
open Rx Rx.C11b Rx.CaseE

theorem agree {pr pr' : Prog} {lower lower' : Nat → Nat} {input input' : List Nat} {e e' : Nat → List Nat}
    (S : ProgOK pr lower input e) (S' : ProgOK pr' lower' input' e') (hlen : input.length = input'.length)
    (he : e = e') :
    pr.isMatch lower input = pr'.isMatch lower' input' ∧
    ∀ (i : Nat), i ≤ input.length → ∀ (st st' : St), st.panic = none → st'.panic = none →
      (matchesFrom (pr.ctx lower input) pr i st).1 = (matchesFrom (pr'.ctx lower' input') pr' i st').1 ∧
      (C02.capsPos pr.op = true → C02.capsPos pr'.op = true → (matchesFrom (pr.ctx lower input) pr i st).1 = true →
        getParenStart (matchesFrom (pr.ctx lower input) pr i st).2 0 =
          getParenStart (matchesFrom (pr'.ctx lower' input') pr' i st').2 0 ∧
        getParenEnd (matchesFrom (pr.ctx lower input) pr i st).2 0 =
          getParenEnd (matchesFrom (pr'.ctx lower' input') pr' i st').2 0) := by
  have h := fun i hi st st' => S.agree_of_heads S' hlen (i := i) (fun k _ _ => by rw [he]) hi st st'
  exact ⟨isMatch_congr (h 0 (Nat.zero_le _) {} {} rfl rfl).1 (S.outcome 0 (Nat.zero_le _) {} rfl).clean
    (S'.outcome 0 (Nat.zero_le _) {} rfl).clean, h⟩

end Rx.SearchComplete.ProgOK

namespace Rx.CaseE
open Rx Rx.C11b Rx.SearchComplete

theorem shape2_of_cleanOp (op : Op) (h : cleanOp op = true) : shape2 op = true :=
  (cleanP_sub shapeP2_transp.gen fun _ _ _ hl => by cases hl <;> rfl).op' op h

/-- identical characters are equal up to case -/
theorem prefixMatch_mono_i (ctx : Ctx) (hcb : ctx.caseBlind = false) (cs xs : List Nat)
    (h : prefixMatch ctx cs xs = true) : prefixMatch { ctx with caseBlind := true } cs xs = true := by
  obtain ⟨t, rfl⟩ := (C11.atom_exact ctx hcb cs xs).1 h
  rw [C11.atom_ci _ rfl]
  exact ⟨by simp only [List.length_append, Nat.le_add_right], fun k hk _ => by
    rw [List.getElem_append_left hk]; exact C11.eqCB_refl _ _⟩

end Rx.CaseE
