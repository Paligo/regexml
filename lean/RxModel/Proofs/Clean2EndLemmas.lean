/-
  Proofs/Clean2EndLemmas — the follower argument on lists: the repeat `X{mn,mx}` of a sequence lists the ends of all
  feasible counts (`greedyIter` / `reluctIter`), the `.unamb X mn mx` that `optimizeSeq` puts in its place only the
  maximal-munch end (`munch`).  Followed by an enumeration `T` of the rest that yields nothing wherever `X` still
  matches — or when `mn = mx` — the two give the same list, whatever the order of the counts (`iter_flatMap`); in
  front of the closing EndProgram, where `T` is the identity, the greedy repeat and the `.unamb` still have the same
  head (`greedyIter_head`).  No hypothesis on the body's enumeration is needed: both iterations follow its heads only.
-/
import RxModel.Proofs.Enum2Lemmas
namespace Rx.Clean2End
open Rx

theorem flatMap_head_congr {l : List Nat} {f g : Nat → List Nat}
    (h : ∀ x, x ∈ l → (f x).head? = (g x).head?) : (l.flatMap f).head? = (l.flatMap g).head? := by
  induction l with
  | nil => rfl
  | cons a l ih =>
    rw [List.flatMap_cons, List.flatMap_cons]
    have ha := h a List.mem_cons_self
    cases hf : f a with
    | nil =>
      rw [hf] at ha
      have hg : g a = [] := List.head?_eq_none_iff.1 ha.symm
      rw [hg, List.nil_append, List.nil_append]
      exact ih (fun x hx => h x (List.mem_cons_of_mem _ hx))
    | cons y t =>
      rw [hf] at ha
      cases hg : g a with
      | nil => rw [hg] at ha; cases ha
      | cons y' t' =>
        rw [hg] at ha
        simp only [List.head?_cons, Option.some.injEq] at ha
        subst ha
        rfl

/-- after `k` iterations, with `b` more allowed; `k + b ≤ mn`: the run cannot stop early -/
theorem iter_flatMap (e T : Nat → List Nat) (mn : Nat) : ∀ b k p,
    (k + b ≤ mn ∨ ∀ x, e x ≠ [] → T x = []) →
    (greedyIter e mn b k p).flatMap T =
        (if mn ≤ k + (munch e b p).1 then [(munch e b p).2] else []).flatMap T ∧
    (reluctIter e mn b k p).flatMap T =
        (if mn ≤ k + (munch e b p).1 then [(munch e b p).2] else []).flatMap T := by
  intro b
  induction b with
  | zero => exact fun k p _ => ⟨rfl, rfl⟩
  | succ b ih =>
    intro k p hj
    cases he : e p with
    | nil =>
      simp only [greedyIter, reluctIter, munch, he, List.nil_append, List.append_nil, Nat.add_zero, and_self]
    | cons q t =>
      -- stopping at `p`, where the body matches, contributes nothing
      have hp : (if mn ≤ k then [p] else []).flatMap T = [] := by
        split
        · rcases hj with h | h
          · omega
          · rw [List.flatMap_cons, h p (by rw [he]; exact List.cons_ne_nil _ _)]; rfl
        · rfl
      obtain ⟨i1, i2⟩ := ih (k + 1) q (hj.imp (fun h => by omega) id)
      have ea : k + ((munch e b q).1 + 1) = k + 1 + (munch e b q).1 := by omega
      simp only [greedyIter, reluctIter, munch, he, List.flatMap_append, hp, List.append_nil, List.nil_append, ea]
      exact ⟨i1, i2⟩

theorem greedyIter_head (e : Nat → List Nat) (mn : Nat) : ∀ b k p,
    (greedyIter e mn b k p).head? = (if mn ≤ k + (munch e b p).1 then [(munch e b p).2] else []).head? := by
  intro b
  induction b with
  | zero => exact fun k p => rfl
  | succ b ih =>
    intro k p
    cases he : e p with
    | nil => simp only [greedyIter, munch, he, List.nil_append, Nat.add_zero]
    | cons q t =>
      have ea : k + ((munch e b q).1 + 1) = k + 1 + (munch e b q).1 := by omega
      simp only [greedyIter, munch, he, List.head?_append, ih (k + 1) q, ea]
      split
      · rfl
      · rw [if_neg (by omega)]; rfl

end Rx.Clean2End
