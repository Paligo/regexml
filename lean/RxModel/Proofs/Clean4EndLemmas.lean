/-
  Proofs/Clean4EndLemmas — `optimize` preserves the enumeration `enum4` of a parser tree of the fragment
  `src4` (Proofs/Clean4OptLemmas): the SAME FUNCTION on trees without EndProgram (`enumEq4_both`), equal HEADS on
  the root sequence (`headEq4_seq`, `headEq4_op`).

  The induction follows `optimize`; every node but one is a congruence.  The one place where the two trees
  enumerate differently is an element `X{mn,mx}` (X one literal / class) that `optimizeSeq` rewrote to
  `.unamb X mn mx` (`seqElem_src`): the repeat lists the ends of all feasible counts, the `.unamb` only the
  maximal-munch end.  But `no_ambiguity` was asked of the un-optimised next element, and it is sound
  (`follower_kills`): wherever `X` still matches, the rest of the sequence matches nothing — so followed by the
  rest both give the same list (`marked_eq`, by `Clean2End.iter_flatMap`); except in front of the closing
  EndProgram, where only the heads agree (`marked_head`).  At the end: `numberReps` does not change `enum4`.
-/
import RxModel.Proofs.Clean4OptLemmas
import RxModel.Proofs.Clean2EndLemmas
import RxModel.Proofs.Clean4SearchLemmas
namespace Rx.Clean4EndL
open Rx Rx.Clean2Opt Rx.SearchComplete Rx.Clean4OptL
open Rx.Clean2End (Setting flatMap_head_congr iter_flatMap greedyIter_head)
open Rx.OptL (seqElem optimizeSeq_cons2 optimize_gfixed_wf)
open Rx.C08 (noEmptyAtoms noEmptyAtomsL clsCanon clsCanonL)

structure Tree4OK (env : Env) (fl : CFlags) (op : Op) : Prop where
  src : src4 env fl op = true
  wf : wfOp op = true
  ge2 : seqGe2 op = true
  ne : noEmptyAtoms op = true
  can : clsCanonB op = true

structure List4OK (env : Env) (fl : CFlags) (l : List Op) : Prop where
  src : src4L env fl l = true
  wf : wfOps l = true
  ge2 : seqGe2L l = true
  ne : noEmptyAtomsL l = true
  can : clsCanonBL l = true

variable {env : Env} {fl : CFlags}

theorem down_tree4 : Down (Tree4OK env fl) (List4OK env fl) where
  capture h := ⟨(down_src4 env fl).capture h.src, down_wfOp.capture h.wf, down_seqGe2.capture h.ge2,
    C08.down_noEmptyAtoms.capture h.ne, down_clsCanonB.capture h.can⟩
  choice h := ⟨(down_src4 env fl).choice h.src, down_wfOp.choice h.wf, down_seqGe2.choice h.ge2,
    C08.down_noEmptyAtoms.choice h.ne, down_clsCanonB.choice h.can⟩
  seq h := ⟨(down_src4 env fl).seq h.src, down_wfOp.seq h.wf, down_seqGe2.seq h.ge2,
    C08.down_noEmptyAtoms.seq h.ne, down_clsCanonB.seq h.can⟩
  rpt e h := ⟨(down_src4 env fl).rpt e h.src, down_wfOp.rpt e h.wf, down_seqGe2.rpt e h.ge2,
    C08.down_noEmptyAtoms.rpt e h.ne, down_clsCanonB.rpt e h.can⟩
  head h := ⟨(down_src4 env fl).head h.src, down_wfOp.head h.wf, down_seqGe2.head h.ge2,
    C08.down_noEmptyAtoms.head h.ne, down_clsCanonB.head h.can⟩
  tail h := ⟨(down_src4 env fl).tail h.src, down_wfOp.tail h.wf, down_seqGe2.tail h.ge2,
    C08.down_noEmptyAtoms.tail h.ne, down_clsCanonB.tail h.can⟩

theorem List4OK.head {o : Op} {l : List Op} (h : List4OK env fl (o :: l)) : Tree4OK env fl o :=
  down_tree4.head h

theorem List4OK.tail {o : Op} {l : List Op} (h : List4OK env fl (o :: l)) : List4OK env fl l :=
  down_tree4.tail h

theorem Tree4OK.capture {g : Nat} {c : Op} (h : Tree4OK env fl (.capture g c)) : Tree4OK env fl c :=
  down_tree4.capture h

theorem Tree4OK.choice {bs : List Op} (h : Tree4OK env fl (.choice bs)) : List4OK env fl bs :=
  down_tree4.choice h

theorem Tree4OK.gfixed {c : Op} {mn mx len : Nat} (h : Tree4OK env fl (.gfixed c mn mx len)) :
    Tree4OK env fl c :=
  down_tree4.rpt (o := .gfixed c mn mx len) rfl h

theorem Tree4OK.rfixed {c : Op} {mn mx len : Nat} (h : Tree4OK env fl (.rfixed c mn mx len)) :
    Tree4OK env fl c :=
  down_tree4.rpt (o := .rfixed c mn mx len) rfl h

theorem Tree4OK.clean4 {o : Op} (h : Tree4OK env fl o) (ctx : Ctx) (S : Setting env fl ctx) (top : Bool)
    (F : List Op) : cleanOp4F env ctx.caseBlind ctx.multiLine top F o = true := by
  rw [S.hcb, S.hml]; exact (src4_clean env fl).op h.src

theorem Tree4OK.canon {o : Op} (h : Tree4OK env fl o) : clsCanon o := clsCanon_of_B o h.can

theorem Tree4OK.sound {o : Op} (h : Tree4OK env fl o) (ctx : Ctx) (S : Setting env fl ctx) {p q : Nat}
    (hp : p ≤ ctx.len) (hq : q ∈ enum4 ctx o p) : OpR ctx o p q :=
  enum4_sound_op env ctx S.ok o false [] (h.clean4 ctx S false []) h.wf h.ne h.canon hp hq

theorem enumSeq4_sound (ctx : Ctx) (S : Setting env fl ctx) (l : List Op) (h : List4OK env fl l) (hne : l ≠ [])
    (m q : Nat) (hm : m ≤ ctx.len) (hq : q ∈ enumSeq4 ctx l m) : OpRSeq ctx l m q := by
  have hc : cleanOp4F env ctx.caseBlind ctx.multiLine false [] (.seq l) = true := by
    simp only [cleanOp4F]; rw [S.hcb, S.hml]; exact (src4_clean env fl).seq h.src
  have hw : wfOp (.seq l) = true := by
    simp only [wfOp, Bool.and_eq_true, Bool.not_eq_true', List.isEmpty_eq_false_iff]
    exact ⟨hne, h.wf⟩
  have hn : noEmptyAtoms (.seq l) = true := by simp only [noEmptyAtoms]; exact h.ne
  have hcc : clsCanon (.seq l) := by simp only [clsCanon]; exact clsCanonL_of_B l h.can
  have := enum4_sound_op env ctx S.ok (.seq l) false [] hc hw hn hcc hm
    (show q ∈ enum4 ctx (.seq l) m by simpa only [enum4] using hq)
  simpa only [OpR] using this

theorem leaf_sound (ctx : Ctx) {c : Op} (hac : isAtomOrClass c = true) (hne : noEmptyAtoms c = true) {x : Nat}
    (h : enum4 ctx c x ≠ []) : x < ctx.len ∧ ∃ m, OpR ctx c x m := by
  cases c with
  | atom cs =>
    cases cs with
    | nil => simp [noEmptyAtoms] at hne
    | cons a t =>
      simp only [enum4] at h
      split at h
      · rename_i hc
        exact ⟨by simp only [List.length_cons] at hc; omega, _, by simp only [OpR]; exact ⟨rfl, hc⟩⟩
      · exact absurd rfl h
  | cls rs =>
    simp only [enum4] at h
    split at h
    · rename_i c hc
      split at h
      · rename_i hm
        exact ⟨(List.getElem?_eq_some_iff.1 hc).1, _, by simp only [OpR]; exact ⟨rfl, c, hc, hm⟩⟩
      · exact absurd rfl h
    · exact absurd rfl h
  | _ => simp [isAtomOrClass] at hac

theorem follower_kills (ctx : Ctx) (S : Setting env fl ctx) {child nxt : Op} {os : List Op} {r : Bool}
    (hac : isAtomOrClass child = true) (hnx : noEmptyAtoms child = true) (hcx : clsCanon child)
    (hF : List4OK env fl (nxt :: os))
    (hna : noAmbiguity env child nxt fl.caseBlind r fl.multiLine = true) (hne : nxt ≠ .endProgram) (x : Nat)
    (hx : enum4 ctx child x ≠ []) : enumSeq4 ctx (nxt :: os) x = [] := by
  obtain ⟨hxL, m', hm'⟩ := leaf_sound ctx hac hnx hx
  cases hT : enumSeq4 ctx (nxt :: os) x with
  | nil => rfl
  | cons q t =>
    exfalso
    have hq := enumSeq4_sound ctx S _ hF (List.cons_ne_nil _ _) x q (Nat.le_of_lt hxL)
      (by rw [hT]; exact List.mem_cons_self)
    have hj : unambJust env ctx.caseBlind ctx.multiLine false child (nxt :: os) = true := by
      rw [S.hcb, S.hml]
      exact just_of_noAmbiguity env _ _ false child nxt nxt os r hna rfl id
        (fun h => absurd (isEnd_iff.1 h) hne)
    -- asked about the run of no iteration from `x`, of at most one
    rcases unamb_maximal env ctx S.ok false child 0 1 (nxt :: os) hac hnx hcx (.inr hj) hF.wf hF.ne
        (clsCanonL_of_B _ hF.can) 0 x x q (Nat.le_of_lt hxL) (Nat.le_refl 0) (Nat.zero_le 1) (.zero x) hq
      with (h | h) | h
    · cases h
    · exact h ⟨m', hm'⟩
    · cases h.2

theorem marked_eq (ctx : Ctx) (S : Setting env fl ctx) {o child nxt : Op} {os : List Op} {mn mx : Nat} {g : Bool}
    (hsrc : (∃ len, o = .gfixed child mn mx len ∧ g = true) ∨ (∃ len, o = .rfixed child mn mx len ∧ g = false))
    (hac : isAtomOrClass child = true) (hl : List4OK env fl (o :: nxt :: os))
    (hj : mn = mx ∨ noAmbiguity env child nxt fl.caseBlind (!g) fl.multiLine = true) (hne : nxt ≠ .endProgram)
    (p : Nat) :
    (enum4 ctx (.unamb child mn mx) p).flatMap (enumSeq4 ctx (nxt :: os)) =
      (enum4 ctx o p).flatMap (enumSeq4 ctx (nxt :: os)) := by
  have hc : Tree4OK env fl child := by
    rcases hsrc with ⟨len, rfl, _⟩ | ⟨len, rfl, _⟩
    · exact hl.head.gfixed
    · exact hl.head.rfixed
  have h := iter_flatMap (enum4 ctx child) (enumSeq4 ctx (nxt :: os)) mn mx 0 p
    (hj.imp (fun h => by omega)
      (fun h x => follower_kills ctx S hac hc.ne hc.canon hl.tail h hne x))
  rw [Nat.zero_add] at h
  rcases hsrc with ⟨len, rfl, _⟩ | ⟨len, rfl, _⟩
  · simp only [enum4]; exact h.1.symm
  · simp only [enum4]; exact h.2.symm

theorem marked_head (ctx : Ctx) {o child : Op} {mn mx : Nat} {g : Bool}
    (hsrc : (∃ len, o = .gfixed child mn mx len ∧ g = true) ∨ (∃ len, o = .rfixed child mn mx len ∧ g = false))
    (hj : mn = mx ∨ noAmbiguity env child .endProgram fl.caseBlind (!g) fl.multiLine = true) (p : Nat) :
    (enum4 ctx (.unamb child mn mx) p).head? = (enum4 ctx o p).head? := by
  rcases hsrc with ⟨len, rfl, _⟩ | ⟨len, rfl, rfl⟩
  · -- greedy: the head of the greedy enumeration is the maximal-munch end
    simp only [enum4]
    rw [greedyIter_head, Nat.zero_add]
  · -- reluctant: rewritten only for `mn = mx`, where the run cannot stop early
    have hmm : mn = mx := hj.resolve_right (by simp [noAmbiguity])
    have h := (iter_flatMap (enum4 ctx child) (fun m => [m]) mn mx 0 p (.inl (by omega))).2
    rw [List.flatMap_singleton', List.flatMap_singleton', Nat.zero_add] at h
    simp only [enum4]
    rw [h]

theorem Tree4OK.srcOK {o : Op} (h : Tree4OK env fl o) : SrcOK env fl o := ⟨h.src, h.wf, h.ge2⟩

theorem enumEq4_both (ctx : Ctx) (S : Setting env fl ctx) :
    (∀ op, Tree4OK env fl op ∧ noEnd op = true → enum4 ctx (optimize env fl op) = enum4 ctx op) ∧
    (∀ l, List4OK env fl l ∧ noEndL l = true →
      enumAny4 ctx (optimizeL env fl l) = enumAny4 ctx l ∧
      enumSeq4 ctx (optimizeSeq env fl l) = enumSeq4 ctx l) := by
  refine Op.ind_down (down_tree4.and down_noEnd) (fun _ => rfl) (fun _ => rfl) (fun _ => rfl) (fun _ => rfl)
    (fun _ _ => rfl) (fun _ _ => rfl) (fun _ _ => rfl) ?capture ?choice ?seq ?rpt (fun _ => ⟨rfl, rfl⟩) ?cons
  case capture => intro g c _ ih; funext p; simp only [optimize, enum4, ih]
  case choice => intro l _ ih; funext p; simp only [optimize, enum4, ih.1]
  case seq =>
    intro l h ih
    obtain ⟨o, o2, os, rfl⟩ := h.1.srcOK.seq_two
    funext p; simp only [optimize, enum4, ih.2]
  case rpt =>
    intro o c mn mx g e h ih
    rcases repeatParts_cases e with ⟨id, rfl⟩ | ⟨len, rfl, _⟩ | ⟨len, rfl, _⟩ | ⟨rfl, _⟩
    · rw [optimize_rep_src4 env fl id c mn mx g h.1.src h.1.wf]; funext p; simp only [enum4, ih]
    · rw [optimize_gfixed_wf env fl c mn mx len h.1.wf]; funext p; simp only [enum4, ih]
    · funext p; simp only [optimize, enum4, ih]
    · have := h.1.src; simp only [src4, Bool.false_eq_true] at this
  case cons =>
    intro o l h ih ihl
    refine ⟨by funext p; simp only [optimizeL, enumAny4, ih, ihl.1], ?_⟩
    cases l with
    | nil => funext p; simp only [optimizeSeq, enumSeq4, ih]
    | cons nxt os =>
      rw [optimizeSeq_cons2]
      funext p
      show (enum4 ctx (seqElem env fl (optimize env fl o) nxt) p).flatMap
          (enumSeq4 ctx (optimizeSeq env fl (nxt :: os))) = (enum4 ctx o p).flatMap (enumSeq4 ctx (nxt :: os))
      rw [ihl.2]
      rcases seqElem_src o nxt h.1.head.srcOK with hs | ⟨child, mn, mx, g, hsrc, hac, hj, hs⟩
      · rw [hs, ih]
      · rw [hs]
        refine marked_eq ctx S hsrc hac h.1 hj (fun e => ?_) p
        have := down_noEnd.head (down_noEnd.tail h.2)
        rw [e] at this
        cases this

theorem enumEq4_op (ctx : Ctx) (S : Setting env fl ctx) (op : Op) (h : Tree4OK env fl op) (he : noEnd op = true) :
    enum4 ctx (optimize env fl op) = enum4 ctx op :=
  (enumEq4_both ctx S).1 op ⟨h, he⟩

theorem enumEq4_any (ctx : Ctx) (S : Setting env fl ctx) : (bs : List Op) →
    List4OK env fl bs → noEndL bs = true →
    ∀ p, p ≤ ctx.len → enumAny4 ctx (optimizeL env fl bs) p = enumAny4 ctx bs p :=
  fun bs h he p _ => congrFun ((enumEq4_both ctx S).2 bs ⟨h, he⟩).1 p

theorem enumEq4_seq (ctx : Ctx) (S : Setting env fl ctx) : (l : List Op) →
    List4OK env fl l → noEndL l = true →
    ∀ p, p ≤ ctx.len → enumSeq4 ctx (optimizeSeq env fl l) p = enumSeq4 ctx l p :=
  fun l h he p _ => congrFun ((enumEq4_both ctx S).2 l ⟨h, he⟩).2 p

theorem headEq4_seq (ctx : Ctx) (S : Setting env fl ctx) : ∀ (l : List Op),
    List4OK env fl l → endLast l = true →
    ∀ p, (enumSeq4 ctx (optimizeSeq env fl l) p).head? = (enumSeq4 ctx l p).head? := by
  intro l
  induction l with
  | nil => intro _ _ p; rfl
  | cons o rest ih =>
    intro h he p
    cases rest with
    | nil =>
      simp only [endLast, List.isEmpty_nil, if_true, Bool.or_eq_true] at he
      rcases he with he | he
      · obtain rfl := isEnd_iff.1 he; rfl
      · simp only [optimizeSeq, enumSeq4]
        rw [enumEq4_op ctx S o h.head he]
    | cons nxt os =>
      have he1 : noEnd o = true ∧ endLast (nxt :: os) = true := by
        simpa only [endLast, List.isEmpty_cons, Bool.false_eq_true, if_false, Bool.and_eq_true] using he
      rw [optimizeSeq_cons2]
      show ((enum4 ctx (seqElem env fl (optimize env fl o) nxt) p).flatMap
          (enumSeq4 ctx (optimizeSeq env fl (nxt :: os)))).head? =
        ((enum4 ctx o p).flatMap (enumSeq4 ctx (nxt :: os))).head?
      rw [flatMap_head_congr (fun x _ => ih h.tail he1.2 x)]
      rcases seqElem_src o nxt h.head.srcOK with hs | ⟨child, mn, mx, g, hsrc, hac, hj, hs⟩
      · rw [hs, enumEq4_op ctx S o h.head he1.1]
      · rw [hs]
        by_cases hfin : nxt = .endProgram
        · -- EndProgram closes the sequence: what follows is the identity
          subst hfin
          have hos : os = [] := by
            cases os with
            | nil => rfl
            | cons y r => simp [endLast, noEnd] at he1
          subst hos
          have e1 : ∀ l : List Nat, l.flatMap (enumSeq4 ctx [.endProgram]) = l := fun l => List.flatMap_singleton' l
          rw [e1, e1]
          exact marked_head ctx hsrc hj p
        · rw [marked_eq ctx S hsrc hac h hj hfin p]

theorem headEq4_op (ctx : Ctx) (S : Setting env fl ctx) (t : Op) (ht : Tree4OK env fl t) (he : endTop t = true)
    (p : Nat) : (enum4 ctx (optimize env fl t) p).head? = (enum4 ctx t p).head? := by
  rcases endTop_cases he with ⟨l, rfl, he⟩ | ⟨_, hne⟩
  · obtain ⟨o, o2, os, rfl⟩ := ht.srcOK.seq_two
    exact headEq4_seq ctx S _ (down_tree4.seq ht) he p
  · rw [enumEq4_op ctx S t ht hne]

theorem trees_agree (ctx : Ctx) (S : Setting env fl ctx) (hbr : ctx.hasBackrefs = false) (t : Op)
    (ht : Tree4OK env fl t) (he : endTop t = true) (hcp : C02.capsPos t = true)
    (i : Nat) (st1 st2 : St) (h1 : st1.panic = none) (h2 : st2.panic = none) :
    (matchesNaive ctx (optimize env fl t) i st1).1 = (matchesNaive ctx t i st2).1 ∧
    ((matchesNaive ctx (optimize env fl t) i st1).1 = true →
      getParenStart (matchesNaive ctx (optimize env fl t) i st1).2 0 =
        getParenStart (matchesNaive ctx t i st2).2 0 ∧
      getParenEnd (matchesNaive ctx (optimize env fl t) i st1).2 0 =
        getParenEnd (matchesNaive ctx t i st2).2 0) := by
  have c1 : cleanProg4 env ctx.caseBlind ctx.multiLine (optimize env fl t) = true := by
    rw [S.hcb, S.hml]; exact clean4_optimize_prog t ht.srcOK he
  have c0 : cleanProg4 env ctx.caseBlind ctx.multiLine t = true := by
    rw [S.hcb, S.hml]; exact cleanProg4_of_src4 env fl t ht.src
  have w1 := WF.optimize_wf env fl t ht.wf
  have n1 := optimize_NE env fl t ht.ne
  have k1 := optimize_clsCanonB env fl t ht.can
  have p1 := WF.optimize_caps env fl t hcp
  have T1 := clean4_treeOK env ctx S.ok hbr _ c1 w1 n1 k1
  have T0 := clean4_treeOK env ctx S.ok hbr _ c0 ht.wf ht.ne ht.can
  have h := (T1.naive i st1 h1).agree_of_heads T1.enum T0.enum w1 ht.wf rfl
    (fun j _ _ => headEq4_op ctx S t ht he j) (T0.naive i st2 h2)
  exact ⟨h.1, h.2 p1 hcp⟩

theorem enumK_numRel (H : EnumH) (ctx : Ctx) : NumRel (fun o o' => enumK H ctx o = enumK H ctx o')
    (fun l l' => enumAnyK H ctx l = enumAnyK H ctx l' ∧ enumSeqK H ctx l = enumSeqK H ctx l') :=
  ⟨enumK.cong H ctx ctx, fun _ => rfl⟩

theorem enum4_numberReps (ctx : Ctx) : (op : Op) → ∀ n, enum4 ctx (numberReps op n).1 = enum4 ctx op :=
  fun op n => by rw [enum4_eq_K, enum4_eq_K, ← numberReps_rel (enumK_numRel enumH4 ctx) op n]

theorem enumAny4_numberRepsL (ctx : Ctx) : (l : List Op) → ∀ n, enumAny4 ctx (numberRepsL l n).1 = enumAny4 ctx l :=
  fun l n => by rw [enumAny4_eq_K, enumAny4_eq_K, ← (numberRepsL_rel (enumK_numRel enumH4 ctx) l n).1]

theorem enumSeq4_numberRepsL (ctx : Ctx) : (l : List Op) → ∀ n, enumSeq4 ctx (numberRepsL l n).1 = enumSeq4 ctx l :=
  fun l n => by rw [enumSeq4_eq_K, enumSeq4_eq_K, ← (numberRepsL_rel (enumK_numRel enumH4 ctx) l n).2]

end Rx.Clean4EndL
