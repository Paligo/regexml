/-
  Proofs/C03cTree — the capture nodes of a tree with its captures on the spine, read in the environment of a
  path, are a well-nested forest of spans (`forestOf`, `Spine.forest_*`, `CapsOK.forestOK`); so
  `process_matching_substring` answers its group tree (`processMatch_forest`, Proofs/GroupTree), and that tree
  read back along the path (`Spine.groupTree_*`, `SearchCaps.analyze`).
-/
import RxModel.Proofs.GroupTree
import RxModel.Proofs.C03cLemmas
import RxModel.Props.C04
namespace Rx

mutual
/-- the capture nodes of the tree as a forest, with the spans the environment gives them (relative to
    `j`); a group the environment does not bind contributes nothing -/
def forestOf (e' : CEnv) (j : Nat) : Op → List GT
  | .capture g c =>
    match e' g with
    | some ab => [.node g (ab.1 - j) (ab.2 - j) (forestOf e' j c)]
    | none => []
  | .seq ops => forestOfL e' j ops
  | _ => []
termination_by structural o => o
def forestOfL (e' : CEnv) (j : Nat) : List Op → List GT
  | [] => []
  | o :: os => forestOf e' j o ++ forestOfL e' j os
termination_by structural l => l
end

mutual
/-- the nesting table answers, for every capture node, the group that encloses it in the tree
    (`par` at the root: 0) -/
def tblOK (tbl : List (Nat × Nat)) : Op → Nat → Bool
  | .capture g c, par => (lookupNat tbl g == some par) && tblOK tbl c g
  | .seq ops, par => tblOKL tbl ops par
  | _, _ => true
termination_by structural o => o
def tblOKL (tbl : List (Nat × Nat)) : List Op → Nat → Bool
  | [], _ => true
  | o :: os, par => tblOK tbl o par && tblOKL tbl os par
termination_by structural l => l
end

theorem forestOf_leaf (e' : CEnv) (j : Nat) : (o : Op) → spineNode o = false → forestOf e' j o = []
  | .bol, _ | .eol, _ | .nothing, _ | .endProgram, _ | .atom _, _ | .cls _, _ | .choice _, _
  | .rep _ _ _ _ _, _ | .gfixed _ _ _ _, _ | .rfixed _ _ _ _, _ | .unamb _ _ _, _ => rfl
  | .capture _ _, h | .seq _, h | .backref _, h => by cases h

namespace Spine

theorem forest_grps_both (e' : CEnv) (j : Nat) :
    (∀ op, spineCaps op = true → (∀ g ∈ capsOf op, (e' g).isSome = true) →
      grpsF (forestOf e' j op) = capsOf op) ∧
    (∀ ops, spineCapsL ops = true → (∀ g ∈ capsOfL ops, (e' g).isSome = true) →
      grpsF (forestOfL e' j ops) = capsOfL ops) := by
  refine spine_induction ?_ ?_ ?_ ?_ ?_ ?_
  · intro g c ih hs hd
    simp only [spineCaps] at hs
    simp only [capsOf] at hd ⊢
    have hg := hd g List.mem_cons_self
    cases he : e' g with
    | none => rw [he] at hg; cases hg
    | some ab =>
      simp only [forestOf, he]
      rw [grpsF_cons, grpsT_node, ih hs (fun k hk => hd k (List.mem_cons_of_mem _ hk))]
      simp [grpsF, flatF]
  · intro ops ih hs hd
    simp only [spineCaps] at hs
    simp only [capsOf] at hd ⊢
    simp only [forestOf]
    exact ih hs hd
  · intro _ _ _
    rfl
  · intro o hn hs _
    rw [noCapBr_capsOf o (spine_leaf o hn hs), forestOf_leaf e' j o hn]
    rfl
  · intro _ _
    rfl
  · intro o os ih1 ih2 hs hd
    simp only [spineCapsL, Bool.and_eq_true] at hs
    simp only [capsOfL] at hd ⊢
    simp only [forestOfL]
    rw [grpsF_append, ih1 hs.1 (fun k hk => hd k (List.mem_append_left _ hk)),
      ih2 hs.2 (fun k hk => hd k (List.mem_append_right _ hk))]

theorem forest_grps (e' : CEnv) (j : Nat) (op : Op) (hs : spineCaps op = true)
    (hd : ∀ g ∈ capsOf op, (e' g).isSome = true) : grpsF (forestOf e' j op) = capsOf op :=
  (forest_grps_both e' j).1 op hs hd

end Spine

theorem forestOfL_grps (e' : CEnv) (j : Nat) : (ops : List Op) → straightCapsL ops = true →
    (∀ g ∈ capsOfL ops, (e' g).isSome = true) → grpsF (forestOfL e' j ops) = capsOfL ops :=
  fun ops hs => (Spine.forest_grps_both e' j).2 ops (spineL_of_straightL ops hs)

theorem forestOfL_grps3 (env : Env) (cb ml : Bool) (e' : CEnv) (j : Nat) : (ops : List Op) → straightCaps3L env cb ml ops = true →
    (∀ g ∈ capsOfL ops, (e' g).isSome = true) → grpsF (forestOfL e' j ops) = capsOfL ops :=
  fun ops hs => (Spine.forest_grps_both e' j).2 ops (spineL_of_straight3L env cb ml ops hs)

theorem forestOf_spans_both (e' : CEnv) (j : Nat) :
    (∀ op, ∀ x ∈ flatF (forestOf e' j op), ∃ a b, e' x.1 = some (a, b) ∧ x.2.1 = a - j ∧ x.2.2 = b - j) ∧
    (∀ ops, ∀ x ∈ flatF (forestOfL e' j ops), ∃ a b, e' x.1 = some (a, b) ∧ x.2.1 = a - j ∧ x.2.2 = b - j) := by
  refine spine_induction ?_ ?_ ?_ ?_ ?_ ?_
  · intro g c ih x hx
    cases he : e' g with
    | none => simp [forestOf, he, flatF] at hx
    | some ab =>
      simp only [forestOf, he, flatF, flatT, List.append_nil, List.mem_cons] at hx
      rcases hx with rfl | hx
      · exact ⟨ab.1, ab.2, he, rfl, rfl⟩
      · exact ih x hx
  · intro ops ih x hx
    simp only [forestOf] at hx
    exact ih x hx
  · intro _ x hx
    cases hx
  · intro o hn x hx
    rw [forestOf_leaf e' j o hn] at hx
    cases hx
  · intro x hx
    cases hx
  · intro o os ih1 ih2 x hx
    simp only [forestOfL, flatF_append, List.mem_append] at hx
    rcases hx with hx | hx
    · exact ih1 x hx
    · exact ih2 x hx

theorem forestOf_spans (e' : CEnv) (j : Nat) (op : Op) :
    ∀ x ∈ flatF (forestOf e' j op), ∃ a b, e' x.1 = some (a, b) ∧ x.2.1 = a - j ∧ x.2.2 = b - j :=
  (forestOf_spans_both e' j).1 op

theorem forestOfL_spans (e' : CEnv) (j : Nat) : (ops : List Op) → ∀ x ∈ flatF (forestOfL e' j ops),
    ∃ a b, e' x.1 = some (a, b) ∧ x.2.1 = a - j ∧ x.2.2 = b - j :=
  (forestOf_spans_both e' j).2

theorem forestOf_par_both (tbl : List (Nat × Nat)) (e' : CEnv) (j : Nat) :
    (∀ op par, tblOK tbl op par = true → ParF tbl par (forestOf e' j op)) ∧
    (∀ ops par, tblOKL tbl ops par = true → ParF tbl par (forestOfL e' j ops)) := by
  refine spine_induction ?_ ?_ ?_ ?_ ?_ ?_
  · intro g c ih par h
    simp only [tblOK, Bool.and_eq_true, beq_iff_eq] at h
    cases he : e' g with
    | none => simp [forestOf, he, ParF]
    | some ab =>
      simp only [forestOf, he, ParF, ParT, and_true]
      exact ⟨h.1, ih g h.2⟩
  · intro ops ih par h
    simp only [tblOK] at h
    simp only [forestOf]
    exact ih par h
  · intro _ _ _
    simp [forestOf, ParF]
  · intro o hn _ _
    rw [forestOf_leaf e' j o hn]
    simp [ParF]
  · intro _ _
    simp [forestOfL, ParF]
  · intro o os ih1 ih2 par h
    simp only [tblOKL, Bool.and_eq_true] at h
    simp only [forestOfL]
    exact ParF_append tbl par _ _ (ih1 par h.1) (ih2 par h.2)

theorem forestOf_par (tbl : List (Nat × Nat)) (e' : CEnv) (j : Nat) (op : Op) (par : Nat)
    (h : tblOK tbl op par = true) : ParF tbl par (forestOf e' j op) :=
  (forestOf_par_both tbl e' j).1 op par h

theorem forestOfL_par (tbl : List (Nat × Nat)) (e' : CEnv) (j : Nat) : (ops : List Op) → ∀ par,
    tblOKL tbl ops par = true → ParF tbl par (forestOfL e' j ops) :=
  (forestOf_par_both tbl e' j).2

namespace Spine

theorem forest_within_both (ctx : Ctx) (e' : CEnv) (j : Nat) :
    (∀ op, spineCaps op = true → ∀ p e q e1, p ≤ ctx.len → PathR ctx op p e q e1 → j ≤ p → (capsOf op).Nodup →
      (∀ g ∈ capsOf op, e' g = e1 g) → WithinF (p - j) (q - j) (forestOf e' j op)) ∧
    (∀ ops, spineCapsL ops = true → ∀ p e q e1, p ≤ ctx.len → PathRSeq ctx ops p e q e1 → j ≤ p →
      (capsOfL ops).Nodup → (∀ g ∈ capsOfL ops, e' g = e1 g) → WithinF (p - j) (q - j) (forestOfL e' j ops)) := by
  have empty : ∀ {p q : Nat}, p ≤ q → WithinF (p - j) (q - j) [] := fun h => by
    simp only [WithinF]; exact Nat.sub_le_sub_right h j
  refine path_ind spineCaps_spineDown spine_leaf ?_ (fun _ _ _ _ _ ih => ih) ?_ ?_
    (fun _ _ _ _ _ => empty (Nat.le_refl _)) ?_
  · intro g c p e q e0 _ hpq _ _ ih hj hnd hag
    simp only [capsOf, List.nodup_cons] at hnd
    simp only [capsOf] at hag
    have hg : e' g = some (p, q) := by rw [hag g List.mem_cons_self, CEnv.set_same]
    simp only [forestOf, hg, WithinF, WithinT, GT.hi]
    refine ⟨⟨Nat.le_refl _, Nat.sub_le_sub_right hpq j, Nat.le_refl _, ?_⟩, Nat.le_refl _⟩
    apply ih hj hnd.2
    intro k hk
    have hkg : k ≠ g := fun hc => hnd.1 (by rw [← hc]; exact hk)
    rw [hag k (List.mem_cons_of_mem _ hk), CEnv.set_other _ _ _ _ _ hkg]
  · intro g p e q hp hb _ _ _
    exact empty (hb.bounds hp).1
  · intro o p e q hn _ hp hr _ _ _
    rw [forestOf_leaf e' j o hn]
    exact empty (OpR_bounds_op ctx o p q hp hr).1
  · intro o os p e m em q e1 _ hpm _ _ _ ih1 h2 ih2 hj hnd hag
    simp only [capsOfL, List.nodup_append] at hnd
    obtain ⟨hn1, hn2, hdis⟩ := hnd
    simp only [capsOfL] at hag
    simp only [forestOfL]
    apply WithinF_append _ _ (p - j) (m - j) (q - j)
    · apply ih1 hj hn1
      intro g hg
      rw [hag g (List.mem_append_left _ hg)]
      exact PathRSeq_frame ctx os m em q e1 h2 g (fun hc => hdis g hg g hc rfl)
    · exact ih2 (Nat.le_trans hj hpm) hn2 (fun g hg => hag g (List.mem_append_right _ hg))

theorem forest_within (ctx : Ctx) (e' : CEnv) (j : Nat) (op : Op) (hs : spineCaps op = true)
    (p : Nat) (e : CEnv) (q : Nat) (e1 : CEnv) (hp : p ≤ ctx.len) (hj : j ≤ p) (h : PathR ctx op p e q e1)
    (hnd : (capsOf op).Nodup) (hag : ∀ g ∈ capsOf op, e' g = e1 g) :
    WithinF (p - j) (q - j) (forestOf e' j op) :=
  (forest_within_both ctx e' j).1 op hs p e q e1 hp h hj hnd hag

end Spine

theorem forestOfL_within (ctx : Ctx) (e' : CEnv) (j : Nat) : (ops : List Op) → straightCapsL ops = true →
    ∀ p e q e1, p ≤ ctx.len → j ≤ p → PathRSeq ctx ops p e q e1 → (capsOfL ops).Nodup →
    (∀ g ∈ capsOfL ops, e' g = e1 g) → WithinF (p - j) (q - j) (forestOfL e' j ops) :=
  fun ops hs p e q e1 hp hj h => (Spine.forest_within_both ctx e' j).2 ops (spineL_of_straightL ops hs) p e q e1 hp h hj

theorem forestOfL_within3 (env : Env) (cb ml : Bool) (ctx : Ctx) (e' : CEnv) (j : Nat) : (ops : List Op) → straightCaps3L env cb ml ops = true →
    ∀ p e q e1, p ≤ ctx.len → j ≤ p → PathRSeq ctx ops p e q e1 → (capsOfL ops).Nodup →
    (∀ g ∈ capsOfL ops, e' g = e1 g) → WithinF (p - j) (q - j) (forestOfL e' j ops) :=
  fun ops hs p e q e1 hp hj h =>
    (Spine.forest_within_both ctx e' j).2 ops (spineL_of_straight3L env cb ml ops hs) p e q e1 hp h hj

/-- `hsorted`: the groups are numbered in the order of their opening parentheses -/
theorem CapsOK.forestOK (ctx : Ctx) (op : Op) (H : CapsOK ctx op)
    (hsorted : (capsOf op).Pairwise (· < ·)) (tbl : List (Nat × Nat)) (htbl : tblOK tbl op 0 = true)
    (input : List Nat) (hin : ctx.len = input.length)
    (j n : Nat) (e' : CEnv) (st' : St) (h : MatchRes3 ctx op j n e' st') (hjn : j < n) :
    ForestOK st' tbl j (slice input j n) (forestOf e' j op) := by
  have hdom : ∀ g ∈ capsOf op, (e' g).isSome = true := fun g hg => (h.dom g).1 hg
  have hgr := Spine.forest_grps e' j op H.spine hdom
  have hlen : (slice input j n).length = n - j := length_slice input j n (by rw [← hin]; exact h.len)
  have hspan : ∀ x ∈ flatF (forestOf e' j op), ∃ a b, e' x.1 = some (a, b) ∧ x.2.1 = a - j ∧ x.2.2 = b - j ∧
      j ≤ a ∧ a ≤ b := by
    intro x hx
    obtain ⟨a, b, h1, h2, h3⟩ := forestOf_spans e' j op x hx
    have := h.env x.1 a b h1
    exact ⟨a, b, h1, h2, h3, this.1, this.2.1⟩
  have hmem : ∀ x ∈ flatF (forestOf e' j op), x.1 ∈ capsOf op := by
    intro x hx
    rw [← hgr]
    exact List.mem_map.2 ⟨x, hx, rfl⟩
  refine ⟨h.reprP.pc0, h.start0, ?_, ?_, ?_, ?_, ?_, forestOf_par tbl e' j op 0 htbl, ?_⟩
  · have : (grpsF (forestOf e' j op)).Pairwise (· < ·) := by rw [hgr]; exact hsorted
    unfold grpsF at this
    rw [List.pairwise_map] at this
    exact this
  · intro x hx
    obtain ⟨a, b, h1, h2, h3, h4, h5⟩ := hspan x hx
    have hg1 := capsPos_capsOf op H.capsPos x.1 (hmem x hx)
    have hpc := h.reprP.pc x.1 hg1 (by simp) (by rw [h1]; rfl)
    exact ⟨hg1, hpc, by rw [h2, h3]; exact Nat.sub_le_sub_right h5 j⟩
  · intro x hx
    obtain ⟨a, b, h1, h2, h3, h4, h5⟩ := hspan x hx
    have hg1 := capsPos_capsOf op H.capsPos x.1 (hmem x hx)
    have ha := h.reprP.repr.agree x.1 hg1 (by simp)
    rw [h1] at ha
    simp only [getParenStart, getParenEnd, ha.1, ha.2.1, Option.map_some, h2, h3]
    exact ⟨by rw [Nat.add_sub_of_le h4], by rw [Nat.add_sub_of_le (Nat.le_trans h4 h5)]⟩
  · intro k hk1 _ hk3
    rw [hgr] at hk3
    have hnone : e' k = none := by
      cases he : e' k with
      | none => rfl
      | some ab => exact absurd ((h.dom k).2 (by rw [he]; rfl)) hk3
    have ha := h.reprP.repr.agree k hk1 (by simp)
    rw [hnone] at ha
    exact ha.1
  · rw [hlen]
    have := Spine.forest_within ctx e' j op H.spine j CEnv.empty n e' (Nat.le_trans h.le h.len) (Nat.le_refl _)
      h.path (hsorted.imp (fun h => Nat.ne_of_lt h)) (fun _ _ => rfl)
    simpa using this
  · intro hc
    have : (slice input j n).length = 0 := by rw [hc]; rfl
    rw [hlen] at this
    exact absurd this (Nat.ne_of_gt (Nat.sub_pos_of_lt hjn))

/-- the group tree `analyze` reports for the match `(j, n, e')` -/
def groupTree (op : Op) (input : List Nat) (x : Nat × Nat × CEnv) : List MEntry :=
  outF (slice input x.1 x.2.1) 0 (x.2.1 - x.1) (forestOf x.2.2 x.1 op)

theorem CapsOK.processMatch_ok (ctx : Ctx) (op : Op) (H : CapsOK ctx op)
    (hsorted : (capsOf op).Pairwise (· < ·)) (tbl : List (Nat × Nat)) (htbl : tblOK tbl op 0 = true)
    (input : List Nat) (hin : ctx.len = input.length)
    (j n : Nat) (e' : CEnv) (st' : St) (h : MatchRes3 ctx op j n e' st') (hjn : j < n) :
    processMatch tbl st' (slice input j n) = .ok (groupTree op input (j, n, e')) := by
  have hF := CapsOK.forestOK ctx op H hsorted tbl htbl input hin j n e' st' h hjn
  have hlen : (slice input j n).length = n - j := length_slice input j n (by rw [← hin]; exact h.len)
  rw [processMatch_forest st' tbl j (slice input j n) (forestOf e' j op) hF, hlen]
  rfl

open Rx.Spec Rx.C03

theorem forestOf_node_both (e' : CEnv) (j : Nat) :
    (∀ op, (∀ k ∈ capsOf op, (e' k).isSome = true) → ∀ g c a b, (g, c) ∈ capNodes op → e' g = some (a, b) →
      inF (.node g (a - j) (b - j) (forestOf e' j c)) (forestOf e' j op)) ∧
    (∀ ops, (∀ k ∈ capsOfL ops, (e' k).isSome = true) → ∀ g c a b, (g, c) ∈ capNodesL ops →
      e' g = some (a, b) → inF (.node g (a - j) (b - j) (forestOf e' j c)) (forestOfL e' j ops)) := by
  refine spine_induction ?_ ?_ ?_ ?_ ?_ ?_
  · intro g' c' ih hd g c a b hm he
    simp only [capNodes, List.mem_cons, Prod.mk.injEq] at hm
    simp only [capsOf] at hd
    rcases hm with ⟨rfl, rfl⟩ | hm
    · simp only [forestOf, he, inF, inT]
      exact .inl (.inl trivial)
    · have ih := ih (fun k hk => hd k (List.mem_cons_of_mem _ hk)) g c a b hm he
      have hg' := hd g' List.mem_cons_self
      cases he' : e' g' with
      | none => rw [he'] at hg'; cases hg'
      | some ab =>
        simp only [forestOf, he', inF, inT]
        exact .inl (.inr ih)
  · intro ops ih hd g c a b hm he
    simp only [capNodes] at hm
    simp only [capsOf] at hd
    simp only [forestOf]
    exact ih hd g c a b hm he
  · intro _ _ g c a b hm _
    cases hm
  · intro o hn _ g c a b hm _
    rw [capNodes_leaf o hn] at hm
    cases hm
  · intro _ g c a b hm _
    cases hm
  · intro o os ih1 ih2 hd g c a b hm he
    simp only [capNodesL, List.mem_append] at hm
    simp only [capsOfL] at hd
    simp only [forestOfL]
    rcases hm with hm | hm
    · exact inF_append_left _ _ _ (ih1 (fun k hk => hd k (List.mem_append_left _ hk)) g c a b hm he)
    · exact inF_append_right _ _ _ (ih2 (fun k hk => hd k (List.mem_append_right _ hk)) g c a b hm he)

theorem forestOf_node (e' : CEnv) (j : Nat) (op : Op) (hd : ∀ k ∈ capsOf op, (e' k).isSome = true)
    (g : Nat) (c : Op) (a b : Nat) (hm : (g, c) ∈ capNodes op) (he : e' g = some (a, b)) :
    inF (.node g (a - j) (b - j) (forestOf e' j c)) (forestOf e' j op) :=
  (forestOf_node_both e' j).1 op hd g c a b hm he

theorem forestOfL_node (e' : CEnv) (j : Nat) : (ops : List Op) → (∀ k ∈ capsOfL ops, (e' k).isSome = true) →
    ∀ g c a b, (g, c) ∈ capNodesL ops →
    e' g = some (a, b) → inF (.node g (a - j) (b - j) (forestOf e' j c)) (forestOfL e' j ops) :=
  (forestOf_node_both e' j).2

theorem slice_slice (s : List Nat) (j n x y : Nat) (h : j + y ≤ n) :
    slice (slice s j n) x y = slice s (j + x) (j + y) := by
  unfold slice
  rw [List.drop_take, List.drop_drop, List.take_take, Nat.add_sub_add_left,
    Nat.min_eq_left (Nat.sub_le_sub_right (Nat.le_sub_of_add_le' h) x)]

theorem SearchCaps.spansOf_map {α : Type} {pr : Prog} {lower : Nat → Nat} {input : List Nat} (S : SearchCaps pr lower input)
    (φ : St → Nat → Nat → α) (ψ : Nat × Nat × CEnv → α)
    (hφ : ∀ j n e' st', MatchRes3 (pr.ctx lower input) pr.op j n e' st' → j < n → φ st' j n = ψ (j, n, e')) :
    ∀ (f pos : Nat) (st : St), st.panic = none → pos ≤ input.length →
    (C04.spansOf (pr.matcher lower input) input.length f pos st).map (fun x => (x.1, x.2.1, φ x.2.2 x.1 x.2.1)) =
      (specSpans3 (pr.ctx lower input) pr.op f pos).map (fun y => (y.1, y.2.1, ψ y)) := by
  intro f pos st hst hp
  rw [← nextSpans_firstMatch3]
  exact (S.findSpec.spansOf_rel f pos st hp hst).map_eq φ ψ (fun st' j n e' hres => hφ j n e' st' hres (S.nonempty hres))

theorem SearchCaps.analyze (r : Regex) (lower : Nat → Nat) (input : List Nat)
    (S : SearchCaps r.prog lower input) (hnull : r.nullable = false)
    (hsorted : (capsOf r.prog.op).Pairwise (· < ·)) (tbl : List (Nat × Nat))
    (htblE : (if r.prog.literal then some [] else nestingTable r.prog.pattern) = some tbl)
    (htbl : tblOK tbl r.prog.op 0 = true)
    (limit : Nat) (hl : 2 * input.length + 1 ≤ limit) (es : List AEntry) (more : Bool)
    (h : r.analyze lower input limit = .ok (es, more)) :
    es = Spec.entries input 0
      ((specSpans3 (r.prog.ctx lower input) r.prog.op (input.length + 2) 0).map
        (fun y => (y.1, y.2.1, groupTree r.prog.op input y))) ∧ more = false := by
  simp only [Regex.analyze, hnull, Bool.false_eq_true, if_false, htblE] at h
  obtain ⟨h1, h2⟩ := C04.analyze_spec (r.prog.matcher lower input) (fun st => st.panic = none) input
    (processMatch tbl) S.goodFind {} rfl limit hl es more h
  refine ⟨?_, h2⟩
  rw [h1]
  congr 1
  exact SearchCaps.spansOf_map S (fun st j n => C04.entryD (processMatch tbl) st (slice input j n))
    (groupTree r.prog.op input)
    (fun j n e' st' hres hjn => by
      simp only [C04.entryD]
      rw [CapsOK.processMatch_ok _ r.prog.op S.ok hsorted tbl htbl input rfl j n e' st' hres hjn])
    (input.length + 2) 0 {} rfl (Nat.zero_le _)

theorem capsOfL_sublist : (ops : List Op) → ∀ g c, (g, c) ∈ capNodesL ops → (capsOf c).Sublist (capsOfL ops) :=
  fun ops g c hm => (List.sublist_cons_self _ _).trans (capNodes_sublist_both.2 ops g c hm)

theorem Spine.groupTree_text (ctx : Ctx) (op : Op) (hs : spineCaps op = true) (hnd : (capsOf op).Nodup)
    (input : List Nat) (hin : ctx.len = input.length) (j n : Nat) (e' : CEnv)
    (hj : j ≤ ctx.len) (h : PathR ctx op j CEnv.empty n e') :
    Spec.mTextL (groupTree op input (j, n, e')) = slice input j n := by
  have hb := PathR_bounds ctx op hj h
  have hw := Spine.forest_within ctx e' j op hs j CEnv.empty n e' hj (Nat.le_refl _) h hnd (fun _ _ => rfl)
  rw [Nat.sub_self] at hw
  have hlen : (slice input j n).length = n - j := length_slice input j n (by rw [← hin]; exact hb.2)
  unfold groupTree
  rw [outF_text _ _ 0 (n - j) hw (by rw [hlen]; exact Nat.le_refl _),
    slice_slice input j n 0 (n - j) (Nat.le_of_eq (Nat.add_sub_of_le hb.1)), Nat.add_zero, Nat.add_sub_of_le hb.1]

theorem Spine.groupTree_groups (ctx : Ctx) (op : Op) (hs : spineCaps op = true)
    (input : List Nat) (j n : Nat) (e' : CEnv) (hj : j ≤ ctx.len) (h : PathR ctx op j CEnv.empty n e') :
    mGrpsL (groupTree op input (j, n, e')) = capsOf op := by
  unfold groupTree
  rw [outF_grps]
  apply Spine.forest_grps e' j op hs
  intro g hg
  obtain ⟨a, b, he, _⟩ := Spine.inside ctx op hs j CEnv.empty n e' hj h g hg
  rw [he]; rfl

theorem Spine.groupTree_node (ctx : Ctx) (op : Op) (hs : spineCaps op = true) (hnd : (capsOf op).Nodup)
    (input : List Nat) (hin : ctx.len = input.length) (j n : Nat) (e' : CEnv)
    (hj : j ≤ ctx.len) (h : PathR ctx op j CEnv.empty n e') (g : Nat) (c : Op) (hm : (g, c) ∈ capNodes op) :
    ∃ a b, e' g = some (a, b) ∧ j ≤ a ∧ a ≤ b ∧ b ≤ n ∧
      subL (.group g (outF (slice input j n) (a - j) (b - j) (forestOf e' j c))) (groupTree op input (j, n, e')) ∧
      Spec.mTextL (outF (slice input j n) (a - j) (b - j) (forestOf e' j c)) = slice input a b := by
  have hb := PathR_bounds ctx op hj h
  obtain ⟨a, b, ea, eb, h1, h2, h3, h4, h5⟩ := Spine.nodes ctx op hs j CEnv.empty n e' hj hnd h g c hm
  obtain ⟨a2, b2, k1, _, k3, _⟩ := Spine.inside ctx op hs j CEnv.empty n e' hj h g (capNodes_sub op g c hm).1
  rw [h1] at k1
  simp only [Option.some.injEq, Prod.mk.injEq] at k1
  obtain ⟨rfl, rfl⟩ := k1
  have hdom : ∀ k ∈ capsOf op, (e' k).isSome = true := by
    intro k hk
    obtain ⟨a', b', he, _⟩ := Spine.inside ctx op hs j CEnv.empty n e' hj h k hk
    rw [he]; rfl
  have hnode := forestOf_node e' j op hdom g c a b hm h1
  have hsub := outF_sub (slice input j n) _ (forestOf e' j op) 0 (n - j) hnode
  have hndc : (capsOf c).Nodup := List.Nodup.sublist (capsOf_sublist op g c hm) hnd
  have hw := Spine.forest_within ctx e' j c (Spine.body op hs g c hm) a ea b eb (Nat.le_trans k3 (Nat.le_trans h3 hb.2)) h2 h4 hndc
    (fun k hk => h5 k hk)
  have hlen : (slice input j n).length = n - j := length_slice input j n (by rw [← hin]; exact hb.2)
  refine ⟨a, b, h1, h2, k3, h3, ?_, ?_⟩
  · simpa only [outT, groupTree] using hsub
  · have hjb : j ≤ b := Nat.le_trans h2 k3
    rw [outF_text _ _ (a - j) (b - j) hw (by rw [hlen]; exact Nat.sub_le_sub_right h3 j),
      slice_slice input j n (a - j) (b - j) (by rw [Nat.add_sub_of_le hjb]; exact h3),
      Nat.add_sub_of_le h2, Nat.add_sub_of_le hjb]

end Rx
