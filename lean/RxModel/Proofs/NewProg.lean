/-
  Proofs/NewProg — the program of a regex accepted by `Regex::new`, whatever the fragment of its tree, is `mkProgram`
  of a well-formed tree without empty literal, groups numbered from 1 (`new_prog`): the hypotheses of Proofs/ProgOK.

  The compiler never builds an empty literal (outside the literal program for ""): the only place where the parser
  builds `.atom` is `parseAtom`, guarded by `ub.isEmpty`; every other function only combines trees (`parse_NE`, an
  instance of Proofs/ParserClosed); `optimize` and `numberReps` build no literal at all.
-/
import RxModel.Proofs.CleanSearchLemmas
import RxModel.Proofs.ParserClosed
import RxModel.Props.Api
import RxModel.Proofs.WFLemmas
namespace Rx.SearchComplete
open Rx
open Rx.C08 (noEmptyAtoms noEmptyAtomsL)

abbrev NE : Op → PS → Prop := fun op _ => noEmptyAtoms op = true

theorem noEmptyAtomsL_of_forall {l : List Op} : (∀ b ∈ l, noEmptyAtoms b = true) → noEmptyAtomsL l = true :=
  list_of_forall (PL := fun l => noEmptyAtomsL l = true) rfl (fun _ _ hb ht => by rw [noEmptyAtomsL, hb, ht]; rfl) l

theorem parserClosed_noEmptyAtoms : ParserClosed (fun o => noEmptyAtoms o = true) where
  bol := rfl
  eol := rfl
  nothing := rfl
  cls _ := rfl
  backref _ := rfl
  atom cs h := by simp only [noEmptyAtoms, h]; rfl
  capture _ _ h := by simpa only [noEmptyAtoms] using h
  choice _ h := by simp only [noEmptyAtoms]; exact noEmptyAtomsL_of_forall h
  seq := noEmptyAtoms_makeSequence
  gfixed _ _ _ _ h := by simpa only [noEmptyAtoms] using h
  rfixed _ _ _ _ h := by simpa only [noEmptyAtoms] using h
  rep _ _ _ _ h := by simpa only [noEmptyAtoms] using h

theorem parse_NE (c : PC) (f : Nat) :
    (∀ s top, POk NE (parseExpr c f s top)) ∧
    (∀ s acc, noEmptyAtomsL acc = true →
      POk (fun l _ => noEmptyAtomsL l = true) (parseBranches c f s acc)) ∧
    (∀ s cur, (∀ o, cur = some o → noEmptyAtoms o = true) → POk NE (parseBranch c f s cur)) ∧
    (∀ s, POk NE (parseTerminal c f s)) := by
  obtain ⟨h1, h2, h3, h4⟩ := parse_closed parserClosed_noEmptyAtoms c f
  refine ⟨fun s top => POk.mono (h1 s top) (fun op _ h => ?_),
    fun s acc hacc => POk.mono (h2 s acc (fun b hb => C08.down_noEmptyAtoms.mem hacc hb))
      (fun _ _ h => noEmptyAtomsL_of_forall h), h3, h4⟩
  rcases h.1 with h | ⟨o, ho, rfl⟩
  · exact h
  · exact noEmptyAtoms_makeSequence _ _ ho rfl

theorem compile_noEmptyAtoms (env : Env) (fl : CFlags) (pat : List Nat) (pr : Prog)
    (h : compileCore env fl pat true = .ok pr) (hlit : fl.literal = true → pat ≠ []) :
    noEmptyAtoms pr.op = true := by
  rcases compileCore_ok h with ⟨hl, rfl⟩ | ⟨_, op, s, hp, _, rfl⟩
  · rw [if_pos rfl, MkProgram.op, ApiL.noEmptyAtoms_numberReps]
    cases pat with
    | nil => exact absurd rfl (hlit hl)
    | cons a t => rfl
  · rw [if_pos rfl, MkProgram.op, ApiL.noEmptyAtoms_numberReps]
    exact optimize_NE env fl op ((parse_NE _ _).1 _ _ _ _ hp)

end Rx.SearchComplete

namespace Rx.CleanComplete
open Rx Rx.SearchComplete

theorem compile_is_mkProgram (env : Env) (fl : CFlags) (pat : List Nat) (pr : Prog)
    (h : compileCore env fl pat true = .ok pr) : ∃ op' mp hb, pr = mkProgram pat op' mp fl hb := by
  rcases compileCore_ok h with ⟨_, rfl⟩ | ⟨_, op, s, _, _, rfl⟩
  · exact ⟨_, _, _, if_pos rfl⟩
  · exact ⟨_, _, _, if_pos rfl⟩

theorem new_prog (env : Env) (p fs : List Nat) (xsd : Bool) (fl : Flags) (r : Regex)
    (hf : parseFlags fs xsd = some fl) (h : Regex.new env p fs xsd true = .ok r) (hns : Api.NoSat env fl p)
    (hnb : r.prog.hasBackrefs = false) (hlit : fl.literal = true → p ≠ []) :
    ∃ pat' op' mp, r.prog = mkProgram pat' op' mp fl.core false ∧ wfOp op' = true ∧
      C08.noEmptyAtoms op' = true ∧ C02.capsPos op' = true := by
  obtain ⟨hwf, hcp, _, _⟩ := Api.new_wf env p fs xsd fl r hf h hns
  have hcomp := ApiL.new_compile env p fs xsd true fl r hf h
  rw [ApiL.compileProg_core] at hcomp
  have hlit' : fl.core.literal = true → ApiL.effPat fl p ≠ [] := by
    intro hl
    have hl' : fl.literal = true := hl
    unfold ApiL.effPat
    rw [hl']
    simp only [Bool.not_true, Bool.false_and, Bool.false_eq_true, if_false]
    exact hlit hl'
  have hne := SearchComplete.compile_noEmptyAtoms env fl.core _ r.prog hcomp hlit'
  obtain ⟨op', mp, hb, heq⟩ := compile_is_mkProgram env fl.core _ r.prog hcomp
  have hop := MkProgram.op (ApiL.effPat fl p) op' mp fl.core hb
  have hhb := MkProgram.hasBackrefs (ApiL.effPat fl p) op' mp fl.core hb
  rw [heq] at hwf hcp hne hnb
  rw [hhb] at hnb
  subst hnb
  rw [hop] at hwf hcp hne
  rw [WF.wfOp_numberReps] at hwf
  rw [WF.capsPos_numberReps] at hcp
  rw [ApiL.noEmptyAtoms_numberReps] at hne
  exact ⟨_, op', mp, heq, hwf, hne, hcp⟩

end Rx.CleanComplete

namespace Rx.ApiComplete
open Rx

theorem compile_maxParens (env : Env) (fl : CFlags) (pat : List Nat) (pr : Prog)
    (h : compileCore env fl pat true = .ok pr) : pr.maxParens ≠ 0 := by
  rcases compileCore_ok h with ⟨_, rfl⟩ | ⟨_, op, s, hp, _, rfl⟩
  · rw [if_pos rfl, MkProgram.maxParens]; decide
  · rw [if_pos rfl, MkProgram.maxParens]
    exact Nat.pos_iff_ne_zero.1 (parseExpr_MS hp).1

end Rx.ApiComplete
