/-
  Proofs/Clean4CaseLemmas — the case invariance of the ordered enumerations for `enum3` and `enum4` (instances of
  `enumK_inv_*` / `enumK_pat`, Proofs/CaseEngineLemmas), and that `numberReps`, hence `mkProgram`, preserves
  `allCls` and `CaseEquivOps`.
-/
import RxModel.Proofs.CaseEngineLemmas
import RxModel.Proofs.CompileLemmas
import RxModel.Proofs.TreeInv
namespace Rx.Clean4Case
open Rx Rx.C11b Rx.SearchComplete

theorem enum3_inv_any (A : Nat → Bool) (ctx ctx' : Ctx) (hs : SameSettings ctx ctx') (hcb : ctx.caseBlind = true)
    (hin : CaseEquivInputs ctx.lower ctx.input ctx'.input) (hA : Over A ctx.input) (hA' : Over A ctx'.input)
    (hnl : NewlineCaseless ctx.lower) :
    (bs : List Op) → allClsL (clsClosedOn A ctx.lower) bs → ∀ p, enumAny3 ctx bs p = enumAny3 ctx' bs p := by
  intro bs hc p
  rw [enumAny3_eq_K, enumAny3_eq_K, CaseE.enumK_inv_any enumH3 A ctx ctx' hs hcb hin hA hA' hnl bs hc]

theorem enum3_inv_seq (A : Nat → Bool) (ctx ctx' : Ctx) (hs : SameSettings ctx ctx') (hcb : ctx.caseBlind = true)
    (hin : CaseEquivInputs ctx.lower ctx.input ctx'.input) (hA : Over A ctx.input) (hA' : Over A ctx'.input)
    (hnl : NewlineCaseless ctx.lower) :
    (ops : List Op) → allClsL (clsClosedOn A ctx.lower) ops → ∀ p, enumSeq3 ctx ops p = enumSeq3 ctx' ops p := by
  intro ops hc p
  rw [enumSeq3_eq_K, enumSeq3_eq_K, CaseE.enumK_inv_seq enumH3 A ctx ctx' hs hcb hin hA hA' hnl ops hc]

theorem enum3_pat_any (ctx : Ctx) (hcb : ctx.caseBlind = true) :
    (bs bs' : List Op) → CaseEquivOpsL ctx.lower bs bs' → ∀ p, enumAny3 ctx bs p = enumAny3 ctx bs' p := by
  intro bs bs' he p
  rw [enumAny3_eq_K, enumAny3_eq_K, ((CaseE.enumK_pat enumH3 ctx hcb).2 bs bs' he).1]

theorem enum3_pat_seq (ctx : Ctx) (hcb : ctx.caseBlind = true) :
    (ops ops' : List Op) → CaseEquivOpsL ctx.lower ops ops' → ∀ p, enumSeq3 ctx ops p = enumSeq3 ctx ops' p := by
  intro ops ops' he p
  rw [enumSeq3_eq_K, enumSeq3_eq_K, ((CaseE.enumK_pat enumH3 ctx hcb).2 ops ops' he).2]

theorem enum4_inv_any (A : Nat → Bool) (ctx ctx' : Ctx) (hs : SameSettings ctx ctx') (hcb : ctx.caseBlind = true)
    (hin : CaseEquivInputs ctx.lower ctx.input ctx'.input) (hA : Over A ctx.input) (hA' : Over A ctx'.input)
    (hnl : NewlineCaseless ctx.lower) :
    (bs : List Op) → allClsL (clsClosedOn A ctx.lower) bs → ∀ p, enumAny4 ctx bs p = enumAny4 ctx' bs p := by
  intro bs hc p
  rw [enumAny4_eq_K, enumAny4_eq_K, CaseE.enumK_inv_any enumH4 A ctx ctx' hs hcb hin hA hA' hnl bs hc]

theorem enum4_inv_seq (A : Nat → Bool) (ctx ctx' : Ctx) (hs : SameSettings ctx ctx') (hcb : ctx.caseBlind = true)
    (hin : CaseEquivInputs ctx.lower ctx.input ctx'.input) (hA : Over A ctx.input) (hA' : Over A ctx'.input)
    (hnl : NewlineCaseless ctx.lower) :
    (ops : List Op) → allClsL (clsClosedOn A ctx.lower) ops → ∀ p, enumSeq4 ctx ops p = enumSeq4 ctx' ops p := by
  intro ops hc p
  rw [enumSeq4_eq_K, enumSeq4_eq_K, CaseE.enumK_inv_seq enumH4 A ctx ctx' hs hcb hin hA hA' hnl ops hc]

theorem enum4_pat_any (ctx : Ctx) (hcb : ctx.caseBlind = true) :
    (bs bs' : List Op) → CaseEquivOpsL ctx.lower bs bs' → ∀ p, enumAny4 ctx bs p = enumAny4 ctx bs' p := by
  intro bs bs' he p
  rw [enumAny4_eq_K, enumAny4_eq_K, ((CaseE.enumK_pat enumH4 ctx hcb).2 bs bs' he).1]

theorem enum4_pat_seq (ctx : Ctx) (hcb : ctx.caseBlind = true) :
    (ops ops' : List Op) → CaseEquivOpsL ctx.lower ops ops' → ∀ p, enumSeq4 ctx ops p = enumSeq4 ctx ops' p := by
  intro ops ops' he p
  rw [enumSeq4_eq_K, enumSeq4_eq_K, ((CaseE.enumK_pat enumH4 ctx hcb).2 ops ops' he).2]

theorem allCls_numRel (P : Ranges → Prop) : NumRel (fun o o' => allCls P o' ↔ allCls P o)
    (fun l l' => allClsL P l' ↔ allClsL P l) where
  refl _ := Iff.rfl
  capture _ h := by simp only [allCls, h]
  choice h := by simp only [allCls, h]
  seq h := by simp only [allCls, h]
  gfixed _ _ _ h := by simp only [allCls, h]
  rfixed _ _ _ h := by simp only [allCls, h]
  unamb _ _ h := by simp only [allCls, h]
  nil := Iff.rfl
  cons h hl := by simp only [allClsL, h, hl]
  rep _ _ _ _ _ h := by simp only [allCls, h]

theorem allCls_numberReps (P : Ranges → Prop) : (op : Op) → ∀ n, allCls P (numberReps op n).1 ↔ allCls P op :=
  numberReps_rel (allCls_numRel P)

theorem allClsL_numberRepsL (P : Ranges → Prop) : (l : List Op) → ∀ n, allClsL P (numberRepsL l n).1 ↔ allClsL P l :=
  numberRepsL_rel (allCls_numRel P)

theorem caseEquiv_numberReps_both (lower : Nat → Nat) :
    (∀ op op', CaseEquivOps lower op op' → ∀ n,
      CaseEquivOps lower (numberReps op n).1 (numberReps op' n).1 ∧ (numberReps op n).2 = (numberReps op' n).2) ∧
    (∀ l l', CaseEquivOpsL lower l l' → ∀ n,
      CaseEquivOpsL lower (numberRepsL l n).1 (numberRepsL l' n).1 ∧
        (numberRepsL l n).2 = (numberRepsL l' n).2) := by
  refine CaseEquivOps.rel lower ?_ (fun o hl n => ?_) (fun cs ds he n => ?_)
  · -- both trees are numbered alike, so the numbered trees are related node by node
    exact
      { capture := fun g ih n => by simp only [numberReps, CaseEquivOps, true_and]; exact ih n
        choice := fun ih n => by simp only [numberReps, CaseEquivOps]; exact ih n
        seq := fun ih n => by simp only [numberReps, CaseEquivOps]; exact ih n
        rep := fun _ _ _ _ _ ih n => by simp only [numberReps, CaseEquivOps, true_and]; exact ih (n + 1)
        gfixed := fun _ _ _ ih n => by simp only [numberReps, CaseEquivOps, true_and]; exact ih n
        rfixed := fun _ _ _ ih n => by simp only [numberReps, CaseEquivOps, true_and]; exact ih n
        unamb := fun _ _ ih n => by simp only [numberReps, CaseEquivOps, true_and]; exact ih n
        nil := fun n => by simp only [numberRepsL, CaseEquivOpsL, and_self]
        cons := fun {o o' _ _} ih ihl n => by
          have ih1 := ih n
          have ih2 := ihl (numberReps o n).2
          simp only [numberRepsL, CaseEquivOpsL]
          rw [← ih1.2]
          exact ⟨⟨ih1.1, ih2.1⟩, ih2.2⟩ }
  · cases hl <;> exact ⟨CaseEquivOps.refl lower _, rfl⟩
  · simp only [numberReps, CaseEquivOps, and_true]; exact he

theorem caseEquiv_numberReps (lower : Nat → Nat) : (op op' : Op) → CaseEquivOps lower op op' → ∀ n,
    CaseEquivOps lower (numberReps op n).1 (numberReps op' n).1 ∧ (numberReps op n).2 = (numberReps op' n).2 :=
  (caseEquiv_numberReps_both lower).1

theorem caseEquiv_numberRepsL (lower : Nat → Nat) : (l l' : List Op) → CaseEquivOpsL lower l l' → ∀ n,
    CaseEquivOpsL lower (numberRepsL l n).1 (numberRepsL l' n).1 ∧ (numberRepsL l n).2 = (numberRepsL l' n).2 :=
  (caseEquiv_numberReps_both lower).2

theorem caseEquiv_mkProgram (lower : Nat → Nat) (pat1 pat2 : List Nat) (op1 op2 : Op) (mp : Nat) (fl : CFlags)
    (hb : Bool) (he : CaseEquivOps lower op1 op2) :
    CaseEquivOps lower (mkProgram pat1 op1 mp fl hb).op (mkProgram pat2 op2 mp fl hb).op := by
  rw [MkProgram.op, MkProgram.op]
  exact (caseEquiv_numberReps lower op1 op2 he 0).1

theorem allClsClosedOn_mkProgram (A : Nat → Bool) (lower : Nat → Nat) (pat : List Nat) (op : Op) (mp : Nat)
    (fl : CFlags) (hb : Bool) (h : allClsClosedOn A lower op) :
    allClsClosedOn A lower (mkProgram pat op mp fl hb).op := by
  rw [MkProgram.op]
  exact (allCls_numberReps _ op 0).2 h

end Rx.Clean4Case
