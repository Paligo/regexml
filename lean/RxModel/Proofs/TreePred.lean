/-
  Proofs/TreePred — predicates on operation trees that hold of a node exactly when they hold of its children, at
  the constructors which only pass to their children (capture, choice, sequence, the two fixed-length repeats, the
  list constructors).  A predicate may judge an element of a sequence against its followers `F` (and `top`: the root
  sequence), as `cleanOp2F` … `cleanOp4F` do; the others ignore the context (`plain`) or are asked of the followers
  as well (`withF`).
-/
import RxModel.Proofs.OpRCalc
namespace Rx

structure TreePred where
  op : Bool → List Op → Op → Prop
  all : List Op → Prop
  seq : Bool → List Op → Prop

namespace TreePred

def plain (P : Op → Prop) (PL : List Op → Prop) : TreePred := ⟨fun _ _ o => P o, PL, fun _ l => PL l⟩

def withF (P : Op → Prop) (PL : List Op → Prop) : TreePred := ⟨fun _ F o => P o ∧ PL F, PL, fun _ l => PL l⟩

def and (A B : TreePred) : TreePred :=
  ⟨fun top F o => A.op top F o ∧ B.op top F o, fun l => A.all l ∧ B.all l, fun top l => A.seq top l ∧ B.seq top l⟩

/-- the predicate passes from a node to its children -/
structure Desc (A : TreePred) : Prop where
  capture : ∀ {top F g c}, A.op top F (.capture g c) → A.op false [] c
  choice : ∀ {top F l}, A.op top F (.choice l) → A.all l
  seq : ∀ {top F l}, A.op top F (.seq l) → A.seq false l
  gfixed : ∀ {top F c mn mx len}, A.op top F (.gfixed c mn mx len) → A.op false [] c
  rfixed : ∀ {top F c mn mx len}, A.op top F (.rfixed c mn mx len) → A.op false [] c
  allCons : ∀ {o l}, A.all (o :: l) → A.op false [] o ∧ A.all l
  seqCons : ∀ {top o l}, A.seq top (o :: l) → A.op top l o ∧ A.seq top l

/-- the predicate holds of a node as soon as it holds of the children -/
structure Gen (B : TreePred) : Prop where
  capture : ∀ {top F g c}, B.op false [] c → B.op top F (.capture g c)
  choice : ∀ {top F l}, B.all l → B.op top F (.choice l)
  seq : ∀ {top F l}, B.seq false l → B.op top F (.seq l)
  gfixed : ∀ {top F c mn mx len}, B.op false [] c → B.op top F (.gfixed c mn mx len)
  rfixed : ∀ {top F c mn mx len}, B.op false [] c → B.op top F (.rfixed c mn mx len)
  allNil : B.all []
  seqNil : ∀ {top}, B.seq top []
  allCons : ∀ {o l}, B.op false [] o → B.all l → B.all (o :: l)
  seqCons : ∀ {top o l}, B.op top l o → B.seq top l → B.seq top (o :: l)

theorem Desc.ofDown {N : Op → Prop} {NL : List Op → Prop} (D : Down N NL) : (plain N NL).Desc where
  capture := D.capture
  choice := D.choice
  seq := D.seq
  gfixed := D.rpt (o := .gfixed _ _ _ _) (g := true) rfl
  rfixed := D.rpt (o := .rfixed _ _ _ _) (g := false) rfl
  allCons h := ⟨D.head h, D.tail h⟩
  seqCons h := ⟨D.head h, D.tail h⟩

theorem Desc.withF {P : Op → Prop} {PL : List Op → Prop} (h : (plain P PL).Desc) (hnil : PL []) :
    (withF P PL).Desc where
  capture h1 := ⟨h.capture (top := false) (F := []) h1.1, hnil⟩
  choice h1 := h.choice (top := false) (F := []) h1.1
  seq h1 := h.seq (top := false) (F := []) h1.1
  gfixed h1 := ⟨h.gfixed (top := false) (F := []) h1.1, hnil⟩
  rfixed h1 := ⟨h.rfixed (top := false) (F := []) h1.1, hnil⟩
  allCons h1 := ⟨⟨(h.allCons h1).1, hnil⟩, (h.allCons h1).2⟩
  seqCons h1 := ⟨h.seqCons (top := false) h1, (h.seqCons (top := false) h1).2⟩

theorem Desc.and {A B : TreePred} (hA : A.Desc) (hB : B.Desc) : (A.and B).Desc where
  capture h := ⟨hA.capture h.1, hB.capture h.2⟩
  choice h := ⟨hA.choice h.1, hB.choice h.2⟩
  seq h := ⟨hA.seq h.1, hB.seq h.2⟩
  gfixed h := ⟨hA.gfixed h.1, hB.gfixed h.2⟩
  rfixed h := ⟨hA.rfixed h.1, hB.rfixed h.2⟩
  allCons h := ⟨⟨(hA.allCons h.1).1, (hB.allCons h.2).1⟩, (hA.allCons h.1).2, (hB.allCons h.2).2⟩
  seqCons h := ⟨⟨(hA.seqCons h.1).1, (hB.seqCons h.2).1⟩, (hA.seqCons h.1).2, (hB.seqCons h.2).2⟩

/-- `Desc` and `Gen` at once: the predicate holds of a node exactly when it holds of the children -/
structure Transp (A : TreePred) : Prop where
  capture : ∀ {top F g c}, A.op top F (.capture g c) ↔ A.op false [] c
  choice : ∀ {top F l}, A.op top F (.choice l) ↔ A.all l
  seq : ∀ {top F l}, A.op top F (.seq l) ↔ A.seq false l
  gfixed : ∀ {top F c mn mx len}, A.op top F (.gfixed c mn mx len) ↔ A.op false [] c
  rfixed : ∀ {top F c mn mx len}, A.op top F (.rfixed c mn mx len) ↔ A.op false [] c
  allNil : A.all []
  seqNil : ∀ {top}, A.seq top []
  allCons : ∀ {o l}, A.all (o :: l) ↔ A.op false [] o ∧ A.all l
  seqCons : ∀ {top o l}, A.seq top (o :: l) ↔ A.op top l o ∧ A.seq top l

theorem Transp.desc {A : TreePred} (h : A.Transp) : A.Desc :=
  ⟨h.capture.1, h.choice.1, h.seq.1, h.gfixed.1, h.rfixed.1, h.allCons.1, h.seqCons.1⟩

theorem Transp.gen {A : TreePred} (h : A.Transp) : A.Gen :=
  ⟨h.capture.2, h.choice.2, h.seq.2, h.gfixed.2, h.rfixed.2, h.allNil, h.seqNil,
    fun h1 h2 => h.allCons.2 ⟨h1, h2⟩, fun h1 h2 => h.seqCons.2 ⟨h1, h2⟩⟩

/-- a context-free predicate with a `Transp` record passes down the whole tree once it passes to the bodies of
    `.rep` and `.unamb` -/
theorem Transp.down {N : Op → Prop} {NL : List Op → Prop} (h : (plain N NL).Transp)
    (rep : ∀ {id c mn mx g}, N (.rep id c mn mx g) → N c) (unamb : ∀ {c mn mx}, N (.unamb c mn mx) → N c) :
    Down N NL where
  capture := (h.capture (top := false) (F := [])).1
  choice := (h.choice (top := false) (F := [])).1
  seq := (h.seq (top := false) (F := [])).1
  rpt e a := by
    rcases repeatParts_cases e with ⟨_, rfl⟩ | ⟨_, rfl, _⟩ | ⟨_, rfl, _⟩ | ⟨rfl, _⟩
    · exact rep a
    · exact (h.gfixed (top := false) (F := [])).1 a
    · exact (h.rfixed (top := false) (F := [])).1 a
    · exact unamb a
  head a := (h.allCons.1 a).1
  tail a := (h.allCons.1 a).2

structure Sub (A B : TreePred) : Prop where
  op : ∀ {o top F}, A.op top F o → B.op top F o
  all : ∀ {l}, A.all l → B.all l
  seq : ∀ {l top}, A.seq top l → B.seq top l

/-- the form in which a context-free predicate is asked -/
theorem Sub.op' {A B : TreePred} (h : A.Sub B) (o : Op) (ho : A.op false [] o) : B.op false [] o := h.op ho

theorem Sub.trans {A B C : TreePred} (h : A.Sub B) (h' : B.Sub C) : A.Sub C :=
  ⟨fun a => h'.op (h.op a), fun a => h'.all (h.all a), fun a => h'.seq (h.seq a)⟩

theorem Sub.andRight {A B : TreePred} (h : A.Sub B) (C : TreePred) : (A.and C).Sub (B.and C) :=
  ⟨fun a => ⟨h.op a.1, a.2⟩, fun a => ⟨h.all a.1, a.2⟩, fun a => ⟨h.seq a.1, a.2⟩⟩

theorem Sub.and {A B C : TreePred} (h : A.Sub B) (h' : A.Sub C) : A.Sub (B.and C) :=
  ⟨fun a => ⟨h.op a, h'.op a⟩, fun a => ⟨h.all a, h'.all a⟩, fun a => ⟨h.seq a, h'.seq a⟩⟩

/-- a whole program: the root sequence is judged with `top = true` (`cleanProg2` … `cleanProg4`) -/
def prog (A : TreePred) : Op → Prop
  | .seq ops => A.seq true ops
  | o => A.op false [] o

theorem Sub.prog {A B : TreePred} (h : A.Sub B) {o : Op} (ho : A.prog o) : B.prog o := by
  cases o with
  | seq => exact h.seq ho
  | _ => exact h.op ho

theorem prog_and {A B : TreePred} {o : Op} : (A.and B).prog o ↔ A.prog o ∧ B.prog o := by
  cases o <;> exact Iff.rfl

theorem Gen.of_prog {P : Op → Prop} {PL : List Op → Prop} (h : (plain P PL).Gen) {o : Op}
    (ho : (plain P PL).prog o) : P o := by
  cases o with
  | seq => exact h.seq (top := false) (F := []) ho
  | _ => exact ho

theorem Transp.prog_iff {P : Op → Prop} {PL : List Op → Prop} (h : (plain P PL).Transp) {o : Op} :
    (plain P PL).prog o ↔ P o := by
  cases o with
  | seq => exact (h.seq (top := false) (F := [])).symm
  | _ => exact Iff.rfl

/-- every case has `A` of its node at hand, and the induction hypotheses are those of the children (their `A` has
    been discharged) -/
theorem ind {A : TreePred} (hA : A.Desc) {M : Bool → List Op → Op → Prop} {MA : List Op → Prop}
    {MS : Bool → List Op → Prop}
    (leaf : ∀ top F o, Leaf o → A.op top F o → M top F o)
    (capture : ∀ top F g c, A.op top F (.capture g c) → M false [] c → M top F (.capture g c))
    (choice : ∀ top F l, A.op top F (.choice l) → MA l → M top F (.choice l))
    (seq : ∀ top F l, A.op top F (.seq l) → MS false l → M top F (.seq l))
    (rep : ∀ top F id c mn mx g, A.op top F (.rep id c mn mx g) → (A.op false [] c → M false [] c) →
      M top F (.rep id c mn mx g))
    (gfixed : ∀ top F c mn mx len, A.op top F (.gfixed c mn mx len) → M false [] c → M top F (.gfixed c mn mx len))
    (rfixed : ∀ top F c mn mx len, A.op top F (.rfixed c mn mx len) → M false [] c → M top F (.rfixed c mn mx len))
    (unamb : ∀ top F c mn mx, A.op top F (.unamb c mn mx) → (A.op false [] c → M false [] c) →
      M top F (.unamb c mn mx))
    (allNil : MA []) (allCons : ∀ o l, A.all (o :: l) → M false [] o → MA l → MA (o :: l))
    (seqNil : ∀ top, MS top []) (seqCons : ∀ top o l, A.seq top (o :: l) → M top l o → MS top l → MS top (o :: l)) :
    A.Sub ⟨M, MA, MS⟩ :=
  have h := Op.ind_both (M := fun op => ∀ top F, A.op top F op → M top F op)
    (ML := fun l => (A.all l → MA l) ∧ ∀ top, A.seq top l → MS top l)
    (bol := fun top F => leaf top F _ .bol) (eol := fun top F => leaf top F _ .eol)
    (nothing := fun top F => leaf top F _ .nothing) (endProgram := fun top F => leaf top F _ .endProgram)
    (atom := fun cs top F => leaf top F _ (.atom cs)) (cls := fun rs top F => leaf top F _ (.cls rs))
    (backref := fun g top F => leaf top F _ (.backref g))
    (capture := fun g c ih top F h => capture top F g c h (ih _ _ (hA.capture h)))
    (choice := fun l ih top F h => choice top F l h (ih.1 (hA.choice h)))
    (seq := fun l ih top F h => seq top F l h (ih.2 _ (hA.seq h)))
    (rep := fun id c mn mx g ih top F h => rep top F id c mn mx g h (ih _ _))
    (gfixed := fun c mn mx len ih top F h => gfixed top F c mn mx len h (ih _ _ (hA.gfixed h)))
    (rfixed := fun c mn mx len ih top F h => rfixed top F c mn mx len h (ih _ _ (hA.rfixed h)))
    (unamb := fun c mn mx ih top F h => unamb top F c mn mx h (ih _ _))
    (nil := ⟨fun _ => allNil, fun top _ => seqNil top⟩)
    (cons := fun o l ih ihl =>
      ⟨fun h => allCons o l h (ih _ _ (hA.allCons h).1) (ihl.1 (hA.allCons h).2),
       fun top h => seqCons top o l h (ih _ _ (hA.seqCons h).1) (ihl.2 top (hA.seqCons h).2)⟩)
  ⟨fun a => h.1 _ _ _ a, fun a => (h.2 _).1 a, fun a => (h.2 _).2 _ a⟩

/-- what is left are the leaves and the two nodes whose bodies the fragments treat in their own ways -/
theorem impl {A B : TreePred} (hA : A.Desc) (hB : B.Gen)
    (leaf : ∀ top F o, Leaf o → A.op top F o → B.op top F o)
    (rep : ∀ top F id c mn mx g, (A.op false [] c → B.op false [] c) → A.op top F (.rep id c mn mx g) →
      B.op top F (.rep id c mn mx g))
    (unamb : ∀ top F c mn mx, (A.op false [] c → B.op false [] c) → A.op top F (.unamb c mn mx) →
      B.op top F (.unamb c mn mx)) :
    A.Sub B :=
  ind hA (M := B.op) (MA := B.all) (MS := B.seq) leaf
    (fun _ _ _ _ _ ih => hB.capture ih) (fun _ _ _ _ ih => hB.choice ih) (fun _ _ _ _ ih => hB.seq ih)
    (fun top F id c mn mx g h ih => rep top F id c mn mx g ih h)
    (fun _ _ _ _ _ _ _ ih => hB.gfixed ih) (fun _ _ _ _ _ _ _ ih => hB.rfixed ih)
    (fun top F c mn mx h ih => unamb top F c mn mx ih h)
    hB.allNil (fun _ _ _ ih ihl => hB.allCons ih ihl) (fun _ => hB.seqNil) (fun _ _ _ _ ih ihl => hB.seqCons ih ihl)

/-- the leaves other than a back-reference -/
inductive Leaf0 : Op → Prop
  | bol : Leaf0 .bol
  | eol : Leaf0 .eol
  | nothing : Leaf0 .nothing
  | endProgram : Leaf0 .endProgram
  | atom (cs) : Leaf0 (.atom cs)
  | cls (rs) : Leaf0 (.cls rs)

/-- `impl` for a source that admits no back-reference, as every fragment of Spec/Enum … Spec/Enum4 does -/
theorem impl0 {A B : TreePred} (hA : A.Desc) (hB : B.Gen) (nobr : ∀ {top F g}, ¬ A.op top F (.backref g))
    (leaf : ∀ top F o, Leaf0 o → A.op top F o → B.op top F o)
    (rep : ∀ top F id c mn mx g, (A.op false [] c → B.op false [] c) → A.op top F (.rep id c mn mx g) →
      B.op top F (.rep id c mn mx g))
    (unamb : ∀ top F c mn mx, (A.op false [] c → B.op false [] c) → A.op top F (.unamb c mn mx) →
      B.op top F (.unamb c mn mx)) :
    A.Sub B :=
  impl hA hB
    (fun top F _ hl h => by
      cases hl with
      | backref g => exact absurd h nobr
      | _ => exact leaf top F _ (by constructor) h)
    rep unamb

end TreePred
end Rx
