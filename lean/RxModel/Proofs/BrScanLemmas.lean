/-
  Proofs/BrScanLemmas — the three scan loops of Model/Scan add no panic of their own, for every matcher satisfying
  `SafeFind`.  Unlike `C04.GoodFind` nothing is assumed about the outcome: the statements are about ALL runs,
  including those that end in `.err` / `.diverge`.
-/
import RxModel.Proofs.ScanLemmas
namespace Rx
open Rx.C04
variable {σ : Type}

/-- the hypothesis on the matcher: started at `pos ≤ len` from a state satisfying `Inv`, `find` keeps
    `Inv`, the only failure marker it may leave is the fuel marker, and a successful search reports
    a span at or after `pos` inside the input -/
structure SafeFind (M : MatcherI σ) (len : Nat) (Inv : σ → Prop) : Prop where
  step : ∀ st pos st' m, Inv st → pos ≤ len → M.find st pos = (m, st') →
    Inv st' ∧ (∀ c, M.failed st' = some c → c = panicDiverge) ∧
    (m = true → M.failed st' = none →
      ∃ a b, M.start0 st' = some a ∧ M.end0 st' = some b ∧ pos ≤ a ∧ a ≤ b ∧ b ≤ len)

theorem ofFailed_diverge_ne_panic {α : Type} (c : Nat) : (Out.ofFailed panicDiverge : Out α) ≠ .panic c := by
  simp [Out.ofFailed]

theorem replaceLoop_no_panic (M : MatcherI σ) (Inv : σ → Prop) (input : List Nat) (lit : Bool)
    (subst : Subst σ) (hM : SafeFind M input.length Inv) (c : Nat) :
    ∀ fuel pos st first simple acc, Inv st →
      replaceLoop M subst input lit fuel pos st first simple acc ≠ .panic c := by
  intro fuel
  induction fuel with
  | zero => intro pos st first simple acc _ hx; simp [replaceLoop] at hx
  | succ f ih =>
    intro pos st first simple acc hI
    by_cases hlt : pos < input.length
    · cases hfind : M.find st pos with
      | mk m st' =>
        obtain ⟨hI', hf, hspan⟩ := hM.step st pos st' m hI (Nat.le_of_lt hlt) hfind
        cases hfl : M.failed st' with
        | some c' =>
          rw [replaceLoop_failed hlt (by rw [hfind]; exact hfl), hf c' hfl]
          exact ofFailed_diverge_ne_panic c
        | none =>
          cases m with
          | false =>
            rw [replaceLoop_nomatch hlt hfind hfl]
            split
            · intro hx; cases hx
            · intro hx; cases hx
          | true =>
            obtain ⟨a, b, ha, hb, hpa, hab, hbl⟩ := hspan rfl hfl
            cases hs : subst st' (if first then lit else simple) with
            | none =>
              rw [replaceLoop_match_err hlt hfind hfl ha hpa hs]
              intro hx; cases hx
            | some ts =>
              -- the match may be empty: the loop then steps over one character
              rw [replaceLoop, if_pos hlt, hfind]
              simp only [hfl, ha, hb, if_neg (Nat.not_lt.mpr hpa), hs]
              exact ih _ _ _ _ _ hI'
    · rw [replaceLoop_end hlt]
      split
      · intro hx; cases hx
      · intro hx; cases hx

theorem replaceWith_no_panic (M : MatcherI σ) (Inv : σ → Prop) (input : List Nat) (lit : Bool)
    (subst : Subst σ) (hM : SafeFind M input.length Inv) (st : σ) (h0 : Inv st) (c : Nat) :
    replaceWith M subst input lit st ≠ .panic c :=
  replaceLoop_no_panic M Inv input lit subst hM c _ _ _ _ _ _ h0

theorem tokenNext_no_panic (M : MatcherI σ) (Inv : σ → Prop) (input : List Nat)
    (hM : SafeFind M input.length Inv) (prevEnd : Option Nat) (st : σ) (h0 : Inv st)
    (hpe : ∀ pe, prevEnd = some pe → pe ≤ input.length) :
    (∀ c, (tokenNext M input prevEnd st).1 ≠ .panic c) ∧ Inv (tokenNext M input prevEnd st).2.2 ∧
    (∀ pe, (tokenNext M input prevEnd st).2.1 = some pe → pe ≤ input.length) := by
  cases prevEnd with
  | none => exact ⟨(fun c hx => by cases hx), h0, (fun pe hx => by cases hx)⟩
  | some pe =>
    cases hfind : M.find st pe with
    | mk m st' =>
      obtain ⟨hI', hf, hspan⟩ := hM.step st pe st' m h0 (hpe pe rfl) hfind
      cases hfl : M.failed st' with
      | some c' =>
        rw [tokenNext_failed (by rw [hfind]; exact hfl), hf c' hfl, hfind]
        exact ⟨fun c => ofFailed_diverge_ne_panic c, hI', (fun pe hx => by cases hx)⟩
      | none =>
        cases m with
        | false =>
          rw [tokenNext_nomatch hfind hfl]
          exact ⟨(fun c hx => by cases hx), hI', (fun pe hx => by cases hx)⟩
        | true =>
          obtain ⟨a, b, ha, hb, hpa, hab, hbl⟩ := hspan rfl hfl
          rw [tokenNext_match hfind hfl ha hpa]
          refine ⟨(fun c hx => by cases hx), hI', fun x hx => ?_⟩
          rw [hb] at hx
          cases hx
          omega

theorem tokenLoop_no_panic (M : MatcherI σ) (Inv : σ → Prop) (input : List Nat)
    (hM : SafeFind M input.length Inv) (c : Nat) (limit : Nat) (prevEnd : Option Nat) (st : σ)
    (acc : List (List Nat)) (h0 : Inv st) (hpe : ∀ pe, prevEnd = some pe → pe ≤ input.length) :
    tokenLoop M input limit prevEnd st acc ≠ .panic c := fun hx => by
  rw [tokenLoop_eq_pull] at hx
  obtain ⟨s, hs, hc⟩ := (pullLoop_fail (J := fun s => Inv s.2 ∧ ∀ pe, s.1 = some pe → pe ≤ input.length)
    (fun s hs => (tokenNext_no_panic M Inv input hM s.1 s.2 hs.1 hs.2).2) limit (prevEnd, st) acc ⟨h0, hpe⟩).2 c hx
  exact (tokenNext_no_panic M Inv input hM s.1 s.2 hs.1 hs.2).1 c hc

structure AInv (M : MatcherI σ) (Inv : σ → Prop) (len : Nat) (a : AState σ) : Prop where
  inv : Inv a.st
  pe : ∀ pe, a.prevEnd = some pe → pe ≤ len
  sub : a.nextSub.isSome = true → ∀ b, M.end0 a.st = some b → b ≤ len

theorem analyzeNext_panic (M : MatcherI σ) (Inv : σ → Prop) (entry : σ → List Nat → Out (List MEntry))
    (input : List Nat) (hM : SafeFind M input.length Inv) (a : AState σ) (ha : AInv M Inv input.length a) :
    (∀ c, (analyzeNext M entry input a).1 = .panic c → ∃ st t, entry st t = .panic c) ∧
    AInv M Inv input.length (analyzeNext M entry input a).2 := by
  obtain ⟨st, nextSub, prevEnd, skip⟩ := a
  cases prevEnd with
  | none => exact ⟨(fun c hx => by cases hx), ha⟩
  | some pe =>
    have hpel : pe ≤ input.length := ha.pe pe rfl
    cases nextSub with
    | some sub =>
      cases hb : M.end0 st with
      | some b =>
        rw [analyzeNext_pending hb]
        exact ⟨fun c hx => ⟨_, _, wrapEntry_panic hx⟩,
          ha.inv, fun x hx => by cases hx; exact ha.sub rfl b hb, fun hx => by cases hx⟩
      | none =>
        simp only [analyzeNext, hb]
        exact ⟨(fun c hx => by cases hx), ha.inv, (fun x hx => by cases hx), (fun hx => by cases hx)⟩
    | none =>
      cases hstop : (skip && decide (pe + 1 ≥ input.length) && !decide (pe < input.length)) with
      | true =>
        simp only [analyzeNext, hstop, if_true]
        exact ⟨(fun c hx => by cases hx), ha.inv, (fun x hx => by cases hx), (fun hx => by cases hx)⟩
      | false =>
        have hss : searchFrom skip pe ≤ input.length := by
          cases skip with
          | false => exact hpel
          | true =>
            simp only [Bool.true_and, Bool.and_eq_false_iff, decide_eq_false_iff_not, Bool.not_eq_false',
              decide_eq_true_eq] at hstop
            show pe + 1 ≤ input.length
            omega
        cases hfind : M.find st (searchFrom skip pe) with
        | mk m st' =>
          obtain ⟨hI', hf, hspan⟩ := hM.step st _ st' m ha.inv hss hfind
          cases hfl : M.failed st' with
          | some c' =>
            rw [analyzeNext_search_failed hstop (by rw [hfind]; exact hfl), hf c' hfl, hfind]
            exact ⟨fun c hx => absurd hx (ofFailed_diverge_ne_panic c),
              hI', (fun x hx => by cases hx; exact hpel), (fun hx => by cases hx)⟩
          | none =>
            cases m with
            | false =>
              rw [analyzeNext_search_nomatch_eq hstop hfind hfl]
              exact ⟨(fun c hx => by split at hx <;> cases hx), hI', (fun x hx => by cases hx), (fun hx => by cases hx)⟩
            | true =>
              obtain ⟨s0, e0, hs0, he0, hpa, hab, hbl⟩ := hspan rfl hfl
              have hps : pe ≤ s0 := by
                have : pe ≤ searchFrom skip pe := by
                  cases skip
                  · exact Nat.le_refl _
                  · exact Nat.le_succ _
                omega
              rw [analyzeNext_search_match hstop hfind hfl hs0 he0 hps]
              split
              · exact ⟨fun c hx => ⟨_, _, wrapEntry_panic hx⟩,
                  hI', (fun x hx => by cases hx; omega), (fun hx => by cases hx)⟩
              · exact ⟨(fun c hx => by cases hx),
                  hI', (fun x hx => by cases hx; exact hpel), fun _ x hx => by rw [he0] at hx; cases hx; omega⟩

theorem analyzeLoop_panic (M : MatcherI σ) (Inv : σ → Prop) (entry : σ → List Nat → Out (List MEntry))
    (input : List Nat) (hM : SafeFind M input.length Inv) (c : Nat) (limit : Nat) (a : AState σ) (acc : List AEntry)
    (ha : AInv M Inv input.length a) (hx : analyzeLoop M entry input limit a acc = .panic c) :
    ∃ st t, entry st t = .panic c := by
  rw [analyzeLoop_eq_pull] at hx
  obtain ⟨a', ha', hc⟩ := (pullLoop_fail (J := AInv M Inv input.length)
    (fun a ha => (analyzeNext_panic M Inv entry input hM a ha).2) limit a acc ha).2 c hx
  exact (analyzeNext_panic M Inv entry input hM a' ha').1 c hc

end Rx
