/-
  Proofs/PreComplete — the engine test decides every operation `add_precondition` records, for ANY well-formed tree
  without empty literal, whatever fragment the tree is in (`mkProgram_pres_completeAt`, `mkProgram_pres_quietAll`).

  A recorded operation is a literal / class, a repeat node with minimum 1 over one, or `x{n}` as the general greedy
  repeat `rep 0 x n n true` (`PreAt`, Proofs/AddPre).  On each of these the iterator yields an exact enumeration
  whatever the case tables and the input: the body is one character.
-/
import RxModel.Proofs.CleanSearchLemmas
namespace Rx.SearchComplete
open Rx
open Rx.C08 (noEmptyAtoms)

theorem shape2_of_leaf {c : Op} (h : isAtomOrClass c = true) : shape2 c = true := by
  rcases ApiL.leaf_cases h with ⟨_, rfl⟩ | ⟨_, rfl⟩ <;> rfl

theorem leaf_detBody (ctx : Ctx) (c : Op) (hac : isAtomOrClass c = true) (hne : noEmptyAtoms c = true) :
    DetBody (sem ctx c) (enum4 ctx c) ctx.len := by
  obtain ⟨len, hb⟩ := leaf_fixedBody ctx c hac hne
  rw [← enum4_eq_enum2 ctx c (shape2_of_leaf hac)] at hb
  refine ⟨hb.ex, fun q _ => ?_, hb.progBody.prog⟩
  rcases ApiL.leaf_cases hac with ⟨cs, rfl⟩ | ⟨rs, rfl⟩
  · simp only [enum4]; split <;> simp
  · simp only [enum4]; split
    · split <;> simp
    · simp

theorem enumerates_repLeaf (ctx : Ctx) (id : Nat) (c : Op) (hac : isAtomOrClass c = true)
    (hne : noEmptyAtoms c = true) (mn mx : Nat) (g : Bool) (hmn : 1 ≤ mn) (hmm : mn ≤ mx) :
    Enumerates ctx (.rep id c mn mx g) (enum4 ctx (.rep id c mn mx g)) := by
  have hwf : wfOp (.rep id c mn mx g) = true := by
    simp only [wfOp, (leaf_clean c hac).2, Bool.true_and, Bool.and_eq_true, decide_eq_true_eq]
    exact ⟨hmm, Nat.lt_of_lt_of_le hmn hmm⟩
  have hd : HeadDet (fun a b => OpR ctx c a b) (enum4 ctx c) ctx.len := by
    rw [enum4_eq_enum2 ctx c (shape2_of_leaf hac)]
    exact leaf_headDet ctx c hac hne
  have hnc : NodesC ctx (fun _ _ _ => True) false [] c := by
    rcases ApiL.leaf_cases hac with ⟨_, rfl⟩ | ⟨_, rfl⟩ <;> simp only [NodesC]
  have hn : NodesC ctx (fun _ _ _ => True) false [] (.rep id c mn mx g) := by
    simp only [NodesC]
    exact ⟨⟨fun _ => hmn, leaf_detBody ctx c hac hne⟩, hnc⟩
  refine .of_ex hwf (sem_ex4 ctx _ hn hwf) (fun p hp ⟨q, h⟩ hnil => ?_)
  have hmem : q ∈ enum4 ctx (.rep id c mn mx g) p := by
    simp only [OpR] at h
    obtain ⟨k, hk1, hk2, hi⟩ := h
    cases g with
    | true =>
      simp only [enum4, if_true]
      exact greedyIter_complete hd mn mx 0 p k q hp hi hk2 (by omega)
    | false =>
      simp only [enum4, Bool.false_eq_true, if_false]
      exact reluctIter_complete hd mn mx 0 p k q hp hi hk2 (by omega)
  rw [hnil] at hmem
  cases hmem

/-- the maximal run has `≥ mn` members iff SOME run of `mn … mx` members exists (`munch_max`) -/
theorem completeAt_unambLeaf (ctx : Ctx) (c : Op) (hac : isAtomOrClass c = true)
    (hne : noEmptyAtoms c = true) (mn mx : Nat) (hmm : mn ≤ mx) (hmx : 0 < mx) :
    CompleteAt ctx (.unamb c mn mx) := by
  have hs : shape2 (.unamb c mn mx) = true := by simp only [shape2]; exact hac
  have hwc : wfOp c = true := (leaf_clean c hac).2
  have hwf : wfOp (.unamb c mn mx) = true := by
    simp only [wfOp, hwc, Bool.true_and, Bool.and_eq_true, decide_eq_true_eq]; exact ⟨hmm, hmx⟩
  have hn : noEmptyAtoms (.unamb c mn mx) = true := by simp only [noEmptyAtoms]; exact hne
  refine completeAt_of_ex ctx _ (enum2 ctx (.unamb c mn mx)) (fun j hj st => sem_ex2_op ctx _ hs hwf hn j hj st) ?_
  intro j hj
  constructor
  · intro hnil
    cases hl : enum2 ctx (.unamb c mn mx) j with
    | nil => exact absurd hl hnil
    | cons q t => exact ⟨q, enum2_sound_of_shape ctx _ hs hwf hn hj (by rw [hl]; exact List.mem_cons_self)⟩
  · rintro ⟨q, hq⟩
    simp only [OpR] at hq
    obtain ⟨k, hk1, hk2, hi⟩ := hq
    have hd := leaf_headDet ctx c hac hne
    have hsd : ∀ a, a ≤ ctx.len → ∀ b t, enum2 ctx c a = b :: t → OpR ctx c a b :=
      fun a ha b t h => leaf_enum2_sound ctx c hac ha h
    have := (munch_max hd hsd mx j k q hj hi hk2).1
    simp only [enum2]
    rw [if_pos (Nat.le_trans hk1 this)]
    exact List.cons_ne_nil _ _

theorem preShape_completeAt (ctx : Ctx) (o : Op) (h : preShape o = true) : CompleteAt ctx o := by
  unfold preShape at h
  rcases Bool.or_eq_true_iff.1 h with h | h
  · simp only [Bool.and_eq_true] at h
    exact completeAt_clean ctx o h.1 h.2
  · cases o with
    | rep id c mn mx g =>
      simp only [Bool.and_eq_true, beq_iff_eq, decide_eq_true_eq] at h
      obtain ⟨⟨⟨⟨_, hac⟩, hne⟩, rfl⟩, hmn⟩ := h
      exact (enumerates_repLeaf ctx id c hac hne mn mn g hmn (Nat.le_refl _)).completeAt
    | _ => simp at h

/-- `b`: however `numberPres` renumbers the recorded operation -/
theorem preAt_completeAt (ctx : Ctx) {n t : Op} (h : PreAt n t) (hwf : wfOp n = true)
    (hne : noEmptyAtoms n = true) (b : Nat) : CompleteAt ctx (numberReps t b).1 := by
  cases h with
  | leaf hl =>
    rw [ApiL.numberReps_leaf n hl]
    exact completeAt_clean ctx n (leaf_clean n hl).1 hwf
  | @self c mx g hp hac =>
    have hnc := C08.down_noEmptyAtoms.rpt hp hne
    rcases repeatParts_cases hp with ⟨id, rfl⟩ | ⟨len, rfl, _⟩ | ⟨len, rfl, _⟩ | ⟨rfl, _⟩
    · simp only [wfOp, Bool.and_eq_true, decide_eq_true_eq] at hwf
      simp only [numberReps, ApiL.numberReps_leaf c hac]
      exact (enumerates_repLeaf ctx _ c hac hnc 1 mx g (Nat.le_refl 1) hwf.1.2).completeAt
    · simp only [numberReps, ApiL.numberReps_leaf c hac]
      exact completeAt_clean ctx _ (by simp only [cleanOp]; exact (leaf_clean c hac).1) hwf
    · simp only [numberReps, ApiL.numberReps_leaf c hac]
      exact completeAt_clean ctx _ (by simp only [cleanOp]; exact (leaf_clean c hac).1) hwf
    · simp only [wfOp, Bool.and_eq_true, decide_eq_true_eq] at hwf
      simp only [numberReps, ApiL.numberReps_leaf c hac]
      exact completeAt_unambLeaf ctx c hac hnc 1 mx hwf.1.2 hwf.2
  | @fixed c mn mx g hp hac h2 =>
    have hnc := C08.down_noEmptyAtoms.rpt hp hne
    simp only [numberReps, ApiL.numberReps_leaf c hac]
    exact (enumerates_repLeaf ctx _ c hac hnc mn mn true (by omega) (Nat.le_refl _)).completeAt

theorem mkProgram_pres_completeAt (pat : List Nat) (op : Op) (mp : Nat) (fl : CFlags) (hb : Bool) (ctx : Ctx)
    (hwf : wfOp op = true) (hne : noEmptyAtoms op = true) :
    ∀ q ∈ (mkProgram pat op mp fl hb).pres, CompleteAt ctx q.op := fun q hq => by
  obtain ⟨n, t, b, ⟨hwn, hnn⟩, hat, he⟩ := ApiL.mkProgram_pres_at pat op mp fl hb hwf hne hq
  rw [he]
  exact preAt_completeAt ctx hat hwn hnn b

theorem mkProgram_pres_quietAll (pat : List Nat) (op : Op) (mp : Nat) (fl : CFlags) (hb : Bool) (ctx : Ctx)
    (hwf : wfOp op = true) (hne : noEmptyAtoms op = true) :
    ∀ q ∈ (mkProgram pat op mp fl hb).pres, QuietAll ctx q.op := fun q hq =>
  quietAll_of_simplePre ctx q.op (ApiL.mkProgram_pres_simple pat op mp fl hb hwf hne q hq)

end Rx.SearchComplete
