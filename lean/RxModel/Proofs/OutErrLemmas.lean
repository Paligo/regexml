/-
  Proofs/OutErrLemmas — `process_matching_substring` answers `.ok` or its own panic (`processMatch_cases`); it and
  `is_match` answer no `Out.err` (the three loops: `replaceLoop_err`, `tokenLoop_ne_err`, `analyzeLoop_ne_err` in
  Proofs/ScanLemmas).
-/
import RxModel.Proofs.ScanLemmas
import RxModel.Model.Api
namespace Rx

theorem processMatch_cases (tbl : List (Nat × Nat)) (st : St) (cur : List Nat) :
    (∃ es, processMatch tbl st cur = .ok es) ∨ processMatch tbl st cur = .panic panicAnalyze := by
  unfold processMatch
  -- `parenCount = 0`: the subtraction in `paren_count() - 1` panics
  split
  · exact .inr rfl
  · dsimp only
    -- no capturing group: the matched text
    split
    · exact .inl ⟨_, rfl⟩
    · -- the action list, then the walk: each either fails at the builder's site or returns entries
      split
      · exact .inr rfl
      · split
        · exact .inl ⟨_, rfl⟩
        · exact .inr rfl

theorem processMatch_ne_err (tbl : List (Nat × Nat)) (st : St) (cur : List Nat) (e : Err) :
    processMatch tbl st cur ≠ .err e := fun h => by
  rcases processMatch_cases tbl st cur with ⟨es, h'⟩ | h' <;> cases h'.symm.trans h

theorem isMatch_ne_err (pr : Prog) (lower : Nat → Nat) (input : List Nat) (e : Err) :
    pr.isMatch lower input ≠ .err e := by
  unfold Prog.isMatch
  split
  split
  · exact C04.ofFailed_ne_err _ _
  · simp

end Rx
