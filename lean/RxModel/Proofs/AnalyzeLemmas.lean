/-
  Proofs/AnalyzeLemmas — for Props/C03: the text of analyze entries and of the handler stack; the nesting-table
  invariant (`nestingGo_rule`); a lower bound on the group counter through a parser call (`GE`).
-/
import RxModel.Spec.Pieces
import RxModel.Model.Api
import RxModel.Model.Parser
namespace Rx.C03
open Rx Rx.Spec

theorem mText_str (s : List Nat) : mText (.str s) = s := by simp [mText]
theorem mText_group (nr : Nat) (v : List MEntry) : mText (.group nr v) = mTextL v := by simp [mText]
theorem mTextL_nil : mTextL [] = [] := by simp [mTextL]
theorem mTextL_cons (e : MEntry) (es : List MEntry) : mTextL (e :: es) = mText e ++ mTextL es := by
  simp [mTextL]

theorem mTextL_append (a b : List MEntry) : mTextL (a ++ b) = mTextL a ++ mTextL b := by
  induction a with
  | nil => simp [mTextL_nil]
  | cons e es ih => simp [mTextL_cons, ih, List.append_assoc]

/-- the text held by a handler stack, outermost group first -/
def stackText : HStack → List Nat
  | [] => []
  | (_, es) :: t => stackText t ++ mTextL es

theorem stackText_nil : stackText [] = [] := rfl
theorem stackText_cons (nr : Nat) (es : List MEntry) (t : HStack) :
    stackText ((nr, es) :: t) = stackText t ++ mTextL es := rfl

/-- Invariant rule for `compute_nesting_table`: the scanner changes `(stack, group, tbl)` only by
    opening a capturing group and by popping the stack, so a property kept by both holds at the end. -/
theorem nestingGo_rule (pat : List Nat) (plen : Nat) (P : List Nat → Nat → List (Nat × Nat) → Prop)
    (hopen : ∀ stack group tbl, P stack group tbl →
      P (group :: stack) (group + 1) ((group, stack.headD 0) :: tbl))
    (hclose : ∀ stack group tbl, P stack group tbl → P stack.tail group tbl)
    (f i : Nat) (stack : List Nat) (capStack : List Bool) (group : Nat) (inBr : Int)
    (tbl res : List (Nat × Nat)) (h0 : P stack group tbl)
    (h : nestingGo pat plen f i stack capStack group inBr tbl = some res) :
    ∃ stack' group', P stack' group' res := by
  fun_induction nestingGo pat plen f i stack capStack group inBr tbl with
  | case1 | case2 => -- out of fuel, end of the pattern
    cases h; exact ⟨_, _, h0⟩
  | case6 | case7 | case8 | case11 => -- the Rust panics
    cases h
  | case9 => -- `(` of a capturing group
    rename_i ih; exact ih (hopen _ _ _ h0) h
  | case12 => -- `)` of a capturing group
    rename_i ih; exact ih (hclose _ _ _ h0) h
  | case3 | case4 | case5 | case10 | case13 | case14 => -- the triple is passed on as it is
    rename_i ih; exact ih h0 h

/-- open groups and recorded parents are below the next group number -/
def ParentLt (stack : List Nat) (group : Nat) (tbl : List (Nat × Nat)) : Prop :=
  1 ≤ group ∧ (∀ x ∈ stack, x < group) ∧ ∀ g p, (g, p) ∈ tbl → p < g

theorem ParentLt.open {stack : List Nat} {group : Nat} {tbl : List (Nat × Nat)}
    (h : ParentLt stack group tbl) :
    ParentLt (group :: stack) (group + 1) ((group, stack.headD 0) :: tbl) := by
  obtain ⟨hg, hst, htbl⟩ := h
  refine ⟨Nat.le_succ_of_le hg, ?_, ?_⟩
  · intro x hx
    rcases List.mem_cons.mp hx with rfl | hx
    · exact Nat.lt_succ_self _
    · exact Nat.lt_succ_of_lt (hst x hx)
  · intro g p hgp
    rcases List.mem_cons.mp hgp with hgp | hgp
    · cases hgp
      cases stack with
      | nil => exact hg
      | cons a t => exact hst a List.mem_cons_self
    · exact htbl g p hgp

theorem ParentLt.close {stack : List Nat} {group : Nat} {tbl : List (Nat × Nat)}
    (h : ParentLt stack group tbl) : ParentLt stack.tail group tbl :=
  ⟨h.1, fun x hx => h.2.1 x (List.mem_of_mem_tail hx), h.2.2⟩

theorem nestingGo_inv (pat : List Nat) (plen f i : Nat) (stack : List Nat) (capStack : List Bool)
    (group : Nat) (inBr : Int) (tbl res : List (Nat × Nat)) (h0 : ParentLt stack group tbl)
    (h : nestingGo pat plen f i stack capStack group inBr tbl = some res) :
    ∀ g p, (g, p) ∈ res → p < g := by
  obtain ⟨_, _, hres⟩ := nestingGo_rule pat plen ParentLt (fun _ _ _ => ParentLt.open)
    (fun _ _ _ => ParentLt.close) f i stack capStack group inBr tbl res h0 h
  exact hres.2.2

def GE (n : Nat) : PS → Prop := fun s => n ≤ s.parens

-- steps through one parser call under `SOk` (Proofs/ParserWalk)
macro "sok_next" h:term "with" h1:ident : tactic =>
  `(tactic| (split <;> first | exact SOk.err | (rename_i heq; have $h1 := ($h) _ _ heq; try dsimp only [GE] at $h1:ident)))

end Rx.C03
