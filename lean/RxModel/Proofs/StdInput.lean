/-
  The standard tables (`Env.std`) meet the hypotheses on case data and input (Spec/InputPreds) when
  matching is case-sensitive and the input consists of scalar values: closures are code points
  (`EnvStd.closure_bound_std`).
-/
import RxModel.Props.CaseTables
import RxModel.Proofs.Clean2SearchLemmas
namespace Rx.Clean2Api
open Rx Rx.SearchComplete

theorem inputOK_std_cs {fl : Flags} (hcb : fl.caseBlind = false) {input : List Nat} (hsv : ScalarInput input) :
    InputOKFor Env.std fl.core Env.std.lower input :=
  .of_caseSensitive hcb EnvStd.closure_bound_std (fun c hc => (hsv c hc).1) (fun c hc => (hsv c hc).2)

end Rx.Clean2Api

namespace Rx.ApiComplete
open Rx Rx.SearchComplete

theorem goodInput_std_cs {fl : Flags} (hcb : fl.caseBlind = false) {input : List Nat}
    (hsv : Clean2Api.ScalarInput input) (hlen : input.length < usizeMax) : GoodInput Env.std fl input :=
  ⟨Clean2Api.inputOK_std_cs hcb hsv, hlen⟩

end Rx.ApiComplete
