/-
  The look-up functions of Model/Unicode, and evaluators with which the kernel decides a fact about a
  whole generated table without one `lookupN` per row: a cursor moving through a table with
  increasing keys, a search tree, bit masks.

  Of the search tree only one direction is proved — what `find` returns is an entry of the list the
  tree was built from (`Tree.build_sound`) — so a check that uses it REQUIRES its look-ups to
  succeed.  Distinctness is shown without comparing all pairs: a list whose elements some function
  numbers consecutively has no duplicates (`nodup_of_numbered`), whatever the function is — here a
  search tree filled by insertion, about which nothing has to be proved.
-/
import RxModel.Model.Unicode
namespace Rx.EnvStdL
open Rx

def keysIncFrom {β : Type} : Nat → List (Nat × β) → Bool
  | _, [] => true
  | lo, (a, _) :: t => decide (lo ≤ a) && keysIncFrom (a + 1) t

def keysInc {β : Type} (tbl : List (Nat × β)) : Bool := keysIncFrom 0 tbl

theorem keysIncFrom_mem {β : Type} : ∀ (tbl : List (Nat × β)) (lo : Nat), keysIncFrom lo tbl = true →
    ∀ x ∈ tbl, lo ≤ x.1
  | [], _, _, _, hx => by cases hx
  | (a, b) :: t, lo, h, x, hx => by
    simp only [keysIncFrom, Bool.and_eq_true, decide_eq_true_eq] at h
    rcases List.mem_cons.1 hx with rfl | hx
    · exact h.1
    · have := keysIncFrom_mem t (a + 1) h.2 x hx
      omega

theorem lookupN_mem {β : Type} : ∀ (tbl : List (Nat × β)) (k : Nat) (v : β), lookupN tbl k = some v →
    (k, v) ∈ tbl
  | [], _, _, h => nomatch h
  | (a, b) :: t, k, v, h => by
    rw [lookupN] at h
    split at h
    · rename_i hak
      cases h
      rw [← eq_of_beq hak]
      exact List.mem_cons_self
    · exact List.mem_cons_of_mem _ (lookupN_mem t k v h)

theorem lookupN_none_of_lt {β : Type} (tbl : List (Nat × β)) (lo : Nat) (h : keysIncFrom lo tbl = true)
    (k : Nat) (hk : k < lo) : lookupN tbl k = none := by
  induction tbl generalizing lo with
  | nil => rfl
  | cons e t ih =>
    obtain ⟨a, b⟩ := e
    simp only [keysIncFrom, Bool.and_eq_true, decide_eq_true_eq] at h
    have hne : (a == k) = false := by simp only [beq_eq_false_iff_ne, ne_eq]; omega
    simp only [lookupN, hne, Bool.false_eq_true, if_false]
    exact ih (a + 1) h.2 (by omega)

theorem lookupN_of_mem {β : Type} (tbl : List (Nat × β)) (lo : Nat) (h : keysIncFrom lo tbl = true)
    (a : Nat) (b : β) (hm : (a, b) ∈ tbl) : lookupN tbl a = some b := by
  induction tbl generalizing lo with
  | nil => cases hm
  | cons e t ih =>
    obtain ⟨a0, b0⟩ := e
    simp only [keysIncFrom, Bool.and_eq_true, decide_eq_true_eq] at h
    rcases List.mem_cons.1 hm with heq | hm
    · cases heq
      simp only [lookupN, beq_self_eq_true, if_true]
    · have hlo := keysIncFrom_mem t (a0 + 1) h.2 _ hm
      have hne : (a0 == a) = false := by simp only [beq_eq_false_iff_ne, ne_eq]; simp only at hlo; omega
      simp only [lookupN, hne, Bool.false_eq_true, if_false]
      exact ih (a0 + 1) h.2 hm

def seek {β : Type} (k : Nat) : List (Nat × β) → List (Nat × β)
  | [] => []
  | (a, b) :: t => if a < k then seek k t else (a, b) :: t

def headVal {β : Type} (k : Nat) : List (Nat × β) → Option β
  | [] => none
  | (a, b) :: _ => if a == k then some b else none

theorem lookupN_eq_seek {β : Type} (tbl : List (Nat × β)) (lo : Nat) (h : keysIncFrom lo tbl = true) (k : Nat) :
    lookupN tbl k = headVal k (seek k tbl) := by
  induction tbl generalizing lo with
  | nil => rfl
  | cons e t ih =>
    obtain ⟨a, b⟩ := e
    simp only [keysIncFrom, Bool.and_eq_true, decide_eq_true_eq] at h
    by_cases hak : a < k
    · have hne : (a == k) = false := by simp only [beq_eq_false_iff_ne, ne_eq]; omega
      simp only [lookupN, seek, hne, hak, Bool.false_eq_true, if_false, if_true]
      exact ih (a + 1) h.2
    · simp only [lookupN, seek, hak, if_false, headVal]
      by_cases hek : a = k
      · subst hek
        simp only [beq_self_eq_true, if_true]
      · have hne : (a == k) = false := by simpa using hek
        simp only [hne, Bool.false_eq_true, if_false]
        exact lookupN_none_of_lt t (a + 1) h.2 k (by omega)

theorem seek_seek {β : Type} (k' k : Nat) (hk : k' ≤ k) : ∀ (tbl : List (Nat × β)),
    seek k (seek k' tbl) = seek k tbl
  | [] => rfl
  | (a, b) :: t => by
    by_cases h1 : a < k'
    · have h2 : a < k := by omega
      simp only [seek, h1, h2, if_true]
      exact seek_seek k' k hk t
    · simp only [seek, h1, if_false]

/-- the cursor for key `k`, given the cursor `cur` of the previously sought key `last`: continue from
    `cur` when the keys come in increasing order, start again otherwise -/
def findAt {β : Type} (k last : Nat) (cur tbl : List (Nat × β)) : List (Nat × β) :=
  if last ≤ k then seek k cur else seek k tbl

theorem findAt_eq {β : Type} (tbl : List (Nat × β)) (k last : Nat) (cur : List (Nat × β))
    (hcur : cur = seek last tbl) : findAt k last cur tbl = seek k tbl := by
  unfold findAt
  split
  · rename_i h
    rw [hcur, seek_seek last k h]
  · rfl

/-- look up `key e` for every element `e` of a list, moving a cursor through the table: linear when
    the keys come (mostly) in increasing order -/
def joinMap {α β : Type} (key : α → Nat) (tbl : List (Nat × β)) :
    List α → Nat → List (Nat × β) → List (α × Option β)
  | [], _, _ => []
  | e :: es, last, cur =>
    (e, headVal (key e) (findAt (key e) last cur tbl)) :: joinMap key tbl es (key e) (findAt (key e) last cur tbl)

def lookupAll {α β : Type} (key : α → Nat) (tbl : List (Nat × β)) (l : List α) : List (α × Option β) :=
  joinMap key tbl l 0 tbl

theorem seek_zero {β : Type} (tbl : List (Nat × β)) : seek 0 tbl = tbl := by
  cases tbl with
  | nil => rfl
  | cons e t => obtain ⟨a, b⟩ := e; simp only [seek, Nat.not_lt_zero, if_false]

theorem joinMap_eq {α β : Type} (key : α → Nat) (tbl : List (Nat × β)) (h : keysInc tbl = true) :
    ∀ (l : List α) (last : Nat) (cur : List (Nat × β)), cur = seek last tbl →
      joinMap key tbl l last cur = l.map (fun e => (e, lookupN tbl (key e)))
  | [], _, _, _ => rfl
  | e :: es, last, cur, hcur => by
    have h1 := findAt_eq tbl (key e) last cur hcur
    simp only [joinMap, List.map_cons, h1, ← lookupN_eq_seek tbl 0 h]
    rw [joinMap_eq key tbl h es (key e) _ rfl]

theorem lookupAll_eq {α β : Type} (key : α → Nat) (tbl : List (Nat × β)) (h : keysInc tbl = true) (l : List α) :
    lookupAll key tbl l = l.map (fun e => (e, lookupN tbl (key e))) :=
  joinMap_eq key tbl h l 0 tbl (seek_zero tbl).symm

theorem blt_eq_decide (a b : Nat) : Nat.blt a b = decide (a < b) := by
  rw [Bool.eq_iff_iff, Nat.blt_eq, decide_eq_true_iff]

inductive Tree (β : Type) where
  | leaf : Tree β
  | node : Tree β → Nat → β → Tree β → Tree β

namespace Tree

/-- (`Nat.blt` under `bif`, not `if k < a`: far fewer steps for the kernel) -/
def find {β : Type} : Tree β → Nat → Option β
  | .leaf, _ => none
  | .node l a b r, k => bif Nat.blt k a then find l k else bif Nat.blt a k then find r k else some b

/-- insertion without rebalancing; an entry with a key already present is filed to the right and
    never found -/
def insert {β : Type} (k : Nat) (v : β) : Tree β → Tree β
  | .leaf => .node .leaf k v .leaf
  | .node l a b r => bif Nat.blt k a then .node (insert k v l) a b r else .node l a b (insert k v r)

/-- a tree of height at most `h` from the front of `l` (all of it if `l.length < 2 ^ h`), and the
    part of `l` not used: one pass over the list -/
def build {β : Type} : Nat → List (Nat × β) → Tree β × List (Nat × β)
  | 0, l => (.leaf, l)
  | h + 1, l =>
    match build h l with
    | (lt, []) => (lt, [])
    | (lt, (a, b) :: l₁) =>
      match build h l₁ with
      | (rt, l₂) => (.node lt a b rt, l₂)

def ofList {β : Type} (l : List (Nat × β)) : Tree β := (build (l.length.log2 + 1) l).1

theorem build_sound {β : Type} : ∀ (h : Nat) (l : List (Nat × β)),
    (∀ k v, (build h l).1.find k = some v → (k, v) ∈ l) ∧ ∀ e ∈ (build h l).2, e ∈ l
  | 0, _ => ⟨fun _ _ hf => (nomatch hf), fun _ he => he⟩
  | h + 1, l => by
    have ih := build_sound h l
    rw [build]
    rcases hb : build h l with ⟨lt, _ | ⟨⟨a, b⟩, l₁⟩⟩
    · rw [hb] at ih
      exact ih
    · have ih' := build_sound h l₁
      rw [hb] at ih
      dsimp only
      rcases hb' : build h l₁ with ⟨rt, l₂⟩
      rw [hb'] at ih'
      refine ⟨fun k v hf => ?_, fun e he => ih.2 e (List.mem_cons_of_mem _ (ih'.2 e he))⟩
      simp only [find, blt_eq_decide] at hf
      by_cases h1 : k < a
      · simp only [h1, decide_true, cond_true] at hf
        exact ih.1 k v hf
      · by_cases h2 : a < k
        · simp only [h1, h2, decide_true, decide_false, cond_true, cond_false] at hf
          exact ih.2 _ (List.mem_cons_of_mem _ (ih'.1 k v hf))
        · simp only [h1, h2, decide_false, cond_false, Option.some.injEq] at hf
          obtain rfl : k = a := by omega
          subst hf
          exact ih.2 _ List.mem_cons_self

theorem find_ofList_lookupN {β : Type} (l : List (Nat × β)) (hk : keysInc l = true) (k : Nat) (v : β)
    (h : (ofList l).find k = some v) : lookupN l k = some v :=
  lookupN_of_mem l 0 hk k v ((build_sound _ l).1 k v h)

end Tree

def numbered {α : Type} (f : α → Option Nat) : List α → Nat → Bool
  | [], _ => true
  | x :: xs, i => f x == some i && numbered f xs (i + 1)

theorem numbered_ge {α : Type} (f : α → Option Nat) : ∀ (l : List α) (i : Nat), numbered f l i = true →
    ∀ x ∈ l, ∃ j, i ≤ j ∧ f x = some j
  | [], _, _, _, hx => by cases hx
  | y :: ys, i, h, x, hx => by
    simp only [numbered, Bool.and_eq_true, beq_iff_eq] at h
    rcases List.mem_cons.1 hx with rfl | hx
    · exact ⟨i, Nat.le_refl i, h.1⟩
    · obtain ⟨j, hj, hf⟩ := numbered_ge f ys (i + 1) h.2 x hx
      exact ⟨j, by omega, hf⟩

/-- equal elements would get equal numbers -/
theorem nodup_of_numbered {α : Type} (f : α → Option Nat) : ∀ (l : List α) (i : Nat), numbered f l i = true →
    l.Nodup
  | [], _, _ => List.nodup_nil
  | x :: xs, i, h => by
    have h' := h
    simp only [numbered, Bool.and_eq_true, beq_iff_eq] at h'
    refine List.nodup_cons.2 ⟨fun hx => ?_, nodup_of_numbered f xs (i + 1) h'.2⟩
    obtain ⟨j, hj, hf⟩ := numbered_ge f xs (i + 1) h'.2 x hx
    rw [h'.1] at hf
    cases hf
    omega

/-- the elements of a list filed under their codes, each with its position -/
def Tree.index {α : Type} (code : α → Nat) : List α → Nat → Tree Nat → Tree Nat
  | [], _, t => t
  | x :: xs, i, t => index code xs (i + 1) (t.insert (code x) i)

/-- every element is found at its own position under its code: `n log n` when `code` spreads the
    elements; two elements with the same code make the test fail -/
def distinctB {α : Type} (code : α → Nat) (l : List α) : Bool :=
  numbered (fun x => (Tree.index code l 0 .leaf).find (code x)) l 0

theorem nodup_of_distinctB {α : Type} (code : α → Nat) (l : List α) (h : distinctB code l = true) : l.Nodup :=
  nodup_of_numbered _ l 0 h

def mask : List Nat → Nat
  | [] => 0
  | k :: t => 1 <<< k ||| mask t

theorem testBit_mask : ∀ (l : List Nat) (k : Nat), k ∈ l → (mask l).testBit k = true
  | x :: t, k, h => by
    simp only [mask, Nat.testBit_or, Bool.or_eq_true]
    rcases List.mem_cons.1 h with rfl | h
    · exact .inl (by simp only [Nat.testBit_shiftLeft, ge_iff_le, Nat.le_refl, decide_true, Nat.sub_self, Nat.testBit_zero,
        Nat.mod_succ, Bool.and_self])
    · exact .inr (testBit_mask t k h)

theorem disjoint_of_mask (a b : List Nat) (h : mask a &&& mask b = 0) (k : Nat) (ha : k ∈ a) : k ∉ b := by
  intro hb
  have := Nat.testBit_and (mask a) (mask b) k
  rw [h, testBit_mask a k ha, testBit_mask b k hb] at this
  simp at this

/-- a range list as a bit mask: membership is one `testBit` where `clsContains` compares with
    every range -/
def rangesMask : Ranges → Nat
  | [] => 0
  | (a, b) :: rs => (2 ^ (b - a) - 1) <<< a ||| rangesMask rs

theorem testBit_rangesMask : ∀ (rs : Ranges) (c : Nat), (rangesMask rs).testBit c = clsContains rs c
  | [], c => by simp only [rangesMask, clsContains, Nat.zero_testBit]
  | (a, b) :: rs, c => by
    simp only [rangesMask, clsContains, Nat.testBit_or, Nat.testBit_shiftLeft, Nat.testBit_two_pow_sub_one,
      testBit_rangesMask rs c]
    congr 1
    by_cases h : a ≤ c
    · simp only [ge_iff_le, h, decide_true, Bool.true_and]
      congr 1
      exact propext ⟨fun h' => by omega, fun h' => by omega⟩
    · simp only [ge_iff_le, h, decide_false, Bool.false_and]

theorem all_agree_mask (M : List (Nat × Nat)) (A : Nat → Bool) (rs : Ranges) :
    M.all (fun e => !A e.1 || clsContains rs e.1 == clsContains rs e.2) =
    M.all (fun e => !A e.1 || (rangesMask rs).testBit e.1 == (rangesMask rs).testBit e.2) := by
  simp only [testBit_rangesMask]

theorem lookupL_mem {β : Type} : ∀ (tbl : List (List Nat × β)) (k : List Nat) (v : β), lookupL tbl k = some v →
    (k, v) ∈ tbl
  | [], _, _, h => nomatch h
  | (a, b) :: t, k, v, h => by
    rw [lookupL] at h
    split at h
    · rename_i hak
      cases h
      rw [← eq_of_beq hak]
      exact List.mem_cons_self
    · exact List.mem_cons_of_mem _ (lookupL_mem t k v h)

theorem lookupL_isSome {β : Type} (k : List Nat) : ∀ (tbl : List (List Nat × β)),
    (lookupL tbl k).isSome = (tbl.map (·.1)).contains k
  | [] => rfl
  | (a, b) :: t => by
    rw [lookupL, List.map_cons, List.contains_cons, ← lookupL_isSome k t]
    by_cases h : a = k
    · subst h
      simp only [beq_self_eq_true, if_true, Option.isSome_some, Bool.true_or]
    · simp only [beq_eq_false_iff_ne.2 h, beq_eq_false_iff_ne.2 (Ne.symm h), Bool.false_eq_true, if_false, Bool.false_or]

theorem blockLookupLast_mem (k : List Nat) : ∀ (tbl : List (List Nat × Nat × Nat)) (acc : Option (Nat × Nat)) (p : Nat × Nat),
    blockLookupLast tbl k acc = some p → acc = some p ∨ ∃ e ∈ tbl, normBlockName e.1 = k ∧ e.2 = p
  | [], acc, p, h => by simp only [blockLookupLast] at h; exact .inl h
  | (n, a, b) :: t, acc, p, h => by
    simp only [blockLookupLast] at h
    rcases blockLookupLast_mem k t _ p h with h1 | ⟨e, he, hp⟩
    · by_cases hk : (normBlockName n == k) = true
      · rw [if_pos hk] at h1
        exact .inr ⟨(n, a, b), List.mem_cons_self, eq_of_beq hk, by simpa using h1⟩
      · rw [if_neg hk] at h1
        exact .inl h1
    · exact .inr ⟨e, List.mem_cons_of_mem _ he, hp⟩

theorem blockLookupLast_absent (k : List Nat) : ∀ (tbl : List (List Nat × Nat × Nat)) (acc : Option (Nat × Nat)),
    k ∉ tbl.map (fun e => normBlockName e.1) → blockLookupLast tbl k acc = acc
  | [], _, _ => rfl
  | (n, a, b) :: t, acc, h => by
    simp only [List.map_cons, List.mem_cons, not_or] at h
    have hne : (normBlockName n == k) = false := by simpa using fun he => h.1 he.symm
    simp only [blockLookupLast, hne, Bool.false_eq_true, if_false]
    exact blockLookupLast_absent k t acc h.2

/-- when the normalised names are pairwise distinct "the last entry wins" is "the entry wins":
    every entry is what its own name finds, whatever the accumulator held -/
theorem blockLookupLast_of_nodup : ∀ (tbl : List (List Nat × Nat × Nat)) (acc : Option (Nat × Nat)),
    (tbl.map (fun e => normBlockName e.1)).Nodup →
    ∀ e ∈ tbl, blockLookupLast tbl (normBlockName e.1) acc = some e.2
  | [], _, _, _, he => by cases he
  | (n, a, b) :: t, acc, h, e, he => by
    simp only [List.map_cons, List.nodup_cons] at h
    rcases List.mem_cons.1 he with rfl | he
    · simp only [blockLookupLast, beq_self_eq_true, if_true]
      exact blockLookupLast_absent _ t _ h.1
    · exact blockLookupLast_of_nodup t _ h.2 e he

theorem categoryStd_mem (n : List Nat) (rs : Ranges) (h : categoryStd n = some rs) :
    ∃ long, (long, rs) ∈ Gen.grpAll := by
  unfold categoryStd at h
  split at h
  · cases h
  · rename_i long _
    exact ⟨long, lookupL_mem _ _ _ h⟩

theorem blockStd_mem (n : List Nat) (rs : Ranges) (h : blockStd n = some rs) :
    rs = rangesOfInclusive Gen.privateUseRanges ∨
    ∃ e ∈ Gen.allBlocks, rs = addRange e.2.1 (e.2.2 + 1) [] := by
  unfold blockStd at h
  split at h
  · exact .inl (by simpa [rangesOfInclusive] using h.symm)
  · split at h
    · rename_i a b hl
      rcases blockLookupLast_mem n _ none (a, b) hl with h0 | ⟨e, he, _, hp⟩
      · cases h0
      · refine .inr ⟨e, he, ?_⟩
        rw [hp]
        simpa using h.symm
    · cases h

end Rx.EnvStdL
