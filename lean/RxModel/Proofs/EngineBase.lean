/-
  Proofs/EngineBase — soundness of the leaf generators w.r.t. `OpR`, members of the language lie inside the input
  (`OpR_bounds_op`), and the arithmetic of `get_match_length`.
-/
import RxModel.Spec.OpLang
import RxModel.Proofs.InvCalc
import RxModel.Proofs.OpRCalc
namespace Rx

theorem bolGen_sound (ctx : Ctx) : GenSound (bolGen ctx) (OpR ctx .bol) := by
  intro p st
  unfold bolGen
  split
  · split
    · rename_i h1 h2
      apply Step.All.once
      simp only [Ctx.nlAt, Bool.and_eq_true, beq_iff_eq, decide_eq_true_eq] at h2
      simp only [OpR]
      exact ⟨trivial, .inr ⟨h2.1.1, h2.1.2, h2.2⟩⟩
    · exact .nil _
  · rename_i h1
    apply Step.All.once
    simp only [bne_iff_ne, ne_eq, Decidable.not_not] at h1
    simp only [OpR]
    exact ⟨trivial, .inl h1⟩

theorem eolGen_sound (ctx : Ctx) : GenSound (eolGen ctx) (OpR ctx .eol) := by
  intro p st
  unfold eolGen
  split
  · rename_i hm
    split
    · rename_i h
      apply Step.All.once
      simp only [Ctx.nlAt, Bool.or_eq_true, beq_iff_eq, decide_eq_true_eq] at h
      simp only [OpR]
      refine ⟨trivial, ?_⟩
      rcases h with (h | h) | h
      · left; omega
      · left; exact h
      · right; exact ⟨hm, h⟩
    · exact .nil _
  · split
    · rename_i h
      apply Step.All.once
      simp only [Bool.or_eq_true, beq_iff_eq, decide_eq_true_eq] at h
      simp only [OpR]
      refine ⟨trivial, .inl ?_⟩
      rcases h with h | h <;> omega
    · exact .nil _

theorem nothingGen_sound (ctx : Ctx) : GenSound nothingGen (OpR ctx .nothing) := by
  intro p st
  apply Step.All.once
  simp only [OpR]

theorem endGen_sound (ctx : Ctx) : GenSound endGen (OpR ctx .endProgram) := by
  intro p st
  apply Step.All.once
  simp only [OpR]

theorem atomGen_sound (ctx : Ctx) (cs : List Nat) : GenSound (atomGen ctx cs) (OpR ctx (.atom cs)) := by
  intro p st
  unfold atomGen
  split
  · exact .nil _
  · split
    · rename_i h1 h2
      apply Step.All.once
      simp only [OpR]
      exact ⟨trivial, by omega, h2⟩
    · exact .nil _

theorem clsGen_sound (ctx : Ctx) (rs : Ranges) : GenSound (clsGen ctx rs) (OpR ctx (.cls rs)) := by
  intro p st
  unfold clsGen
  split
  · rename_i c hc
    split
    · rename_i h
      apply Step.All.once
      simp only [OpR]
      exact ⟨trivial, c, hc, h⟩
    · exact .nil _
  · exact .nil _

/-- the only generator whose soundness needs the start position to be inside the input -/
theorem backrefGen_sound (ctx : Ctx) (g : Nat) :
    GenSound (backrefGen ctx g) (fun p q => p ≤ ctx.len → OpR ctx (.backref g) p q) :=
  fun p st => (backrefGen_sat (dv := True) ctx g p st True.intro (fun _ => True.intro)).all.mono
    (fun q hq hp => by simp only [OpR]; omega)

theorem OpR_bounds_both (ctx : Ctx) :
    (∀ o, True → ∀ p q, OpR ctx o p q → p ≤ ctx.len → p ≤ q ∧ q ≤ ctx.len) ∧
    (∀ l, True → (∀ p q, OpRAny ctx l p q → p ≤ ctx.len → p ≤ q ∧ q ≤ ctx.len) ∧
      (∀ p q, OpRSeq ctx l p q → p ≤ ctx.len → p ≤ q ∧ q ≤ ctx.len)) := by
  apply OpR.ind Down.triv
  case bol | eol => intro _ p q h hp; simp only [OpR] at h; omega
  case nothing | endProgram => exact fun _ _ hp => ⟨Nat.le_refl _, hp⟩
  case atom => intro _ _ p q h hp; simp only [OpR] at h; omega
  case cls =>
    intro rs _ p q h hp
    simp only [OpR] at h
    obtain ⟨rfl, c, hc, _⟩ := h
    have := (List.getElem?_eq_some_iff.1 hc).1
    simp only [Ctx.len]; omega
  case backref => intro _ _ p q h _; simpa only [OpR] using h
  case capture => exact fun _ _ _ _ _ _ h => h
  case choice | seq => exact fun _ _ _ _ _ h => h
  case rpt =>
    intro _ _ _ _ _ _ _ _ _ _ p q hi hp
    exact IterR.bounds (fun a b ha h => h.2 ha) hi hp
  case anyHead | anyTail => exact fun _ _ _ _ _ _ h => h
  case seqNil => exact fun _ _ hp => ⟨Nat.le_refl _, hp⟩
  case seqCons =>
    intro _ _ _ p m q _ h1 _ h2 hp
    have b1 := h1 hp
    have b2 := h2 b1.2
    omega

theorem OpR_bounds_op (ctx : Ctx) : (op : Op) → ∀ p q, p ≤ ctx.len → OpR ctx op p q → p ≤ q ∧ q ≤ ctx.len :=
  fun op p q hp h => (OpR_bounds_both ctx).1 op trivial p q h hp

theorem OpR_bounds_any (ctx : Ctx) : (bs : List Op) → ∀ p q, p ≤ ctx.len → OpRAny ctx bs p q → p ≤ q ∧ q ≤ ctx.len :=
  fun bs p q hp h => ((OpR_bounds_both ctx).2 bs trivial).1 p q h hp

theorem OpR_bounds_seq (ctx : Ctx) : (ops : List Op) → ∀ p q, p ≤ ctx.len → OpRSeq ctx ops p q → p ≤ q ∧ q ≤ ctx.len :=
  fun ops p q hp h => ((OpR_bounds_both ctx).2 ops trivial).2 p q h hp

theorem satAdd_eq_min (a b : Nat) : satAdd a b = min (a + b) usizeMax := rfl

theorem satMul_eq_min (a b : Nat) : satMul a b = min (a * b) usizeMax := rfl

theorem satMul_eq {a b l : Nat} (h : satMul a b = l) (hl : l < usizeMax) : a * b = l := by
  rw [satMul_eq_min, Nat.min_def] at h
  split at h <;> omega

theorem satAdd_eq {a b l : Nat} (h : satAdd a b = l) (hl : l < usizeMax) : a + b = l := by
  rw [satAdd_eq_min, Nat.min_def] at h
  split at h <;> omega

theorem fixedRep_some {mn mx lc l : Nat} (h : (if mn == mx then some (satMul mn lc) else none) = some l) :
    mn = mx ∧ satMul mn lc = l := by
  split at h
  · rename_i heq
    exact ⟨by simpa only [beq_iff_eq] using heq, Option.some.inj h⟩
  · cases h

theorem matchLen_rpt {o c : Op} {mn mx l : Nat} {g : Bool} (e : repeatParts o = some (c, mn, mx, g))
    (hwf : wfOp o = true) (h : matchLen o = some l) : ∃ lc, matchLen c = some lc ∧ mn = mx ∧ satMul mn lc = l := by
  -- the general and the unambiguous repeat compute the length from the body's (by the same expression), the
  -- fixed-length ones from the length they record
  have var : matchLen (.unamb c mn mx) = some l → ∃ lc, matchLen c = some lc ∧ mn = mx ∧ satMul mn lc = l := by
    intro h
    simp only [matchLen] at h
    cases hc : matchLen c with
    | none => rw [hc] at h; cases h
    | some lc => rw [hc] at h; exact ⟨lc, rfl, fixedRep_some h⟩
  rcases repeatParts_cases e with ⟨_, rfl⟩ | ⟨_, rfl, _⟩ | ⟨_, rfl, _⟩ | ⟨rfl, _⟩
  · exact var h
  · simp only [wfOp, Bool.and_eq_true, beq_iff_eq] at hwf
    exact ⟨_, hwf.1.1.1.1.2, fixedRep_some (by simpa only [matchLen] using h)⟩
  · simp only [wfOp, Bool.and_eq_true, beq_iff_eq] at hwf
    exact ⟨_, hwf.1.1.1.1.2, fixedRep_some (by simpa only [matchLen] using h)⟩
  · exact var h

theorem matchLenChoice_allEq {bs : List Op} {l : Nat} (h : matchLenChoice bs = some l) :
    matchLenAllEq (some l) bs = true := by
  cases bs with
  | nil => simp [matchLenChoice] at h
  | cons b bs =>
    simp only [matchLenChoice] at h
    split at h
    · rename_i he
      rw [h] at he
      simp only [matchLenAllEq, h, beq_self_eq_true, he, Bool.and_self]
    · cases h

/-- a leaf whose every match advances (`leaf1_adv`) -/
def isLeaf1 : Op → Bool
  | .atom cs => !cs.isEmpty
  | .cls _ => true
  | _ => false

theorem leaf1_adv {ctx : Ctx} {c : Op} (h : isLeaf1 c = true) {a b : Nat} (hr : OpR ctx c a b) : a + 1 ≤ b := by
  cases c with
  | atom cs =>
    simp only [OpR] at hr
    cases cs with
    | nil => simp [isLeaf1] at h
    | cons x xs => simp only [List.length_cons] at hr; omega
  | cls rs => simp only [OpR] at hr; omega
  | _ => simp [isLeaf1] at h

end Rx
