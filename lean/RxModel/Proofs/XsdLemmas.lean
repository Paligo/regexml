/-
  Proofs/XsdLemmas — the XSD dialect of the compiler against the XPath dialect: on a pattern without `^` / `$`,
  what the XSD parser accepts the XPath parser accepts with the same result (`parse_le`, `compileCore_le`; `nx c`
  is the context `c` with the dialect bit cleared), and the XSD parser builds no XPath-only node (`xsdOnly_inv`).
  Also: the XSD parser takes `^` / `$` as literal characters, and `ReFlags::new` differs between the dialects in the
  flag q alone (`parseFlagsGo_dialect`, `parseFlagsGo_q`).
-/
import RxModel.Model.Compile
import RxModel.Proofs.FlagsLemmas
import RxModel.Proofs.ParserWalk
import RxModel.Proofs.TreeInv
namespace Rx.C17
open Rx

/-- the pattern contains neither `^` nor `$` -/
def noAnchorChars (pat : List Nat) : Bool := pat.all (fun c => c != 94 && c != 36)

mutual
/-- no XPath-only construct in a compiled tree: no anchors, no reluctant repeat, no back-reference -/
def xsdOnly : Op → Bool
  | .bol | .eol => false
  | .backref _ => false
  | .rfixed _ _ _ _ => false
  | .rep _ c _ _ g => g && xsdOnly c
  | .capture _ c => xsdOnly c
  | .choice bs => xsdOnlyL bs
  | .seq ops => xsdOnlyL ops
  | .gfixed c _ _ _ => xsdOnly c
  | .unamb c _ _ => xsdOnly c
  | _ => true
termination_by structural o => o
def xsdOnlyL : List Op → Bool
  | [] => true
  | o :: os => xsdOnly o && xsdOnlyL os
termination_by structural l => l
end

def nx (c : PC) : PC := { c with fl := { c.fl with xsd := false } }

@[simp] theorem nx_at (c : PC) (i : Nat) : (nx c).at i = c.at i := rfl
@[simp] theorem nx_len (c : PC) : (nx c).len = c.len := rfl
@[simp] theorem nx_pat (c : PC) : (nx c).pat = c.pat := rfl
@[simp] theorem nx_env (c : PC) : (nx c).env = c.env := rfl
@[simp] theorem nx_xsd (c : PC) : (nx c).fl.xsd = false := rfl
@[simp] theorem nx_caseBlind (c : PC) : (nx c).fl.caseBlind = c.fl.caseBlind := rfl
@[simp] theorem nx_singleLine (c : PC) : (nx c).fl.singleLine = c.fl.singleLine := rfl
@[simp] theorem nx_thereFollows (c : PC) (i : Nat) (l : List Nat) :
    thereFollows (nx c) i l = thereFollows c i l := rfl

@[simp] theorem nx_addCharCI (c : PC) (ch : Nat) (rs : Ranges) :
    addCharCI (nx c) ch rs = addCharCI c ch rs := rfl

@[simp] theorem nx_addClosureRange (c : PC) (f a b : Nat) (rs : Ranges) :
    addClosureRange (nx c) f a b rs = addClosureRange c f a b rs := by
  induction f generalizing a rs with
  | zero => rfl
  | succ f ih => simp only [addClosureRange, nx_env, ih]

@[simp] theorem nx_clsSimple (c : PC) (i : Nat) (k : ClsSt) (o : Option Nat) :
    clsSimple (nx c) i k o = clsSimple c i k o := by
  simp only [clsSimple, nx_thereFollows, nx_caseBlind, nx_addClosureRange, nx_addCharCI]; rfl

def PLe {α : Type} (a b : PRes α) : Prop := ∀ r s, a = .ok r s → b = .ok r s

theorem PLe.rfl' {α : Type} {a : PRes α} : PLe a a := fun _ _ h => h
theorem PLe.err {α : Type} {e : Err} {b : PRes α} : PLe (.err e) b := fun _ _ h => by cases h
theorem PLe.ite {α : Type} {p : Prop} {i1 i2 : Decidable p} {a a' b b' : PRes α}
    (h1 : PLe a a') (h2 : PLe b b') : PLe (@_root_.ite _ p i1 a b) (@_root_.ite _ p i2 a' b') := by
  by_cases hp : p
  · rw [if_pos hp, if_pos hp]; exact h1
  · rw [if_neg hp, if_neg hp]; exact h2
theorem PLe.cases {α : Type} {a b : PRes α} (h : PLe a b) : (∃ e, a = .err e) ∨ b = a := by
  cases a with
  | err e => exact .inl ⟨e, rfl⟩
  | ok r s => exact .inr (h r s rfl)

/-- use `h : PLe x y` where the goal matches on `x` (left) and `y` (right) -/
macro "ple_bind" h:term : tactic =>
  `(tactic| (rcases (PLe.cases $h) with ⟨e, he⟩ | he <;> rw [he]))

/-! `escape` reads the dialect bit twice: `\$` is an error in the XSD dialect only, and so is a
  back-reference.  Every other outcome is the same in both dialects. -/

theorem escSingleOk_false {xsd : Bool} {e : Nat} (h : C09.escSingleOk xsd e = true) :
    C09.escSingleOk false e = true := by
  cases xsd with
  | false => exact h
  | true =>
    simp only [C09.escSingleOk, Bool.not_true, Bool.and_false, Bool.or_false] at h
    simp only [C09.escSingleOk, h, Bool.true_or]

theorem escape_le (c : PC) (hx : c.fl.xsd = true) (s : PS) (b : Bool) :
    PLe (escape c s b) (escape (nx c) s b) := by
  intro r s' h
  have hres := escape_res c s b
  rw [h] at hres
  cases hres with
  | single e htext hok => exact C09.escape_single (c := nx c) b htext (escSingleOk_false hok)
  | cls e htext hok => exact C09.escape_cls (c := nx c) b htext hok
  | prop pos name rs htext hall hl hlen => exact C09.escape_prop (c := nx c) b htext hall hl
  | backref ds htext hnum hb hx' => rw [hx] at hx'; cases hx'

/-- no character of the pattern is `^` or `$` (also beyond the end, where `PC.at` is 0) -/
def NoAnch (c : PC) : Prop := ∀ i, (c.at i == 94) = false ∧ (c.at i == 36) = false

theorem noAnch_of (pat : List Nat) (fl : CFlags) (env : Env) (h : noAnchorChars pat = true) :
    NoAnch { pat := pat, fl := fl, env := env } := by
  intro i
  simp only [PC.at, List.getD_eq_getElem?_getD]
  simp only [noAnchorChars, List.all_eq_true, Bool.and_eq_true, bne_iff_ne, ne_eq] at h
  cases hi : pat[i]? with
  | none => simp
  | some x =>
    have := h x (List.mem_of_getElem? hi)
    simp [this.1, this.2]

/-- inside brackets the dialect is asked at `\$` only -/
theorem escape_nx_brackets {c : PC} (hna : NoAnch c) (s : PS) : escape (nx c) s true = escape c s true := by
  -- `dsimp` and `rw`: the walk of `simp` down the chain of `if`s, branch by branch, is slow to check
  unfold escape
  dsimp only [nx_at, nx_len, nx_pat, nx_env, nx_xsd]
  rw [findClose_congr (nx_pat c), (hna _).2]
  -- the dialect is still asked, behind `false = true` (at `\$`) and `true = true` (in brackets)
  rfl

/-- without `$` in the pattern the class parser does not see the dialect: it reads the context through the
    text, the look-ahead, `clsSimple` and `escape` in brackets -/
theorem class_nx (c : PC) (hna : NoAnch c) (f : Nat) :
    (∀ s, parseClass (nx c) f s = parseClass c f s) ∧ (∀ s k, classLoop (nx c) f s k = classLoop c f s k) := by
  induction f with
  | zero => exact ⟨fun s => by rw [parseClass, parseClass], fun s k => by rw [classLoop, classLoop]⟩
  | succ f ih =>
    refine ⟨fun s => ?_, fun s k => ?_⟩
    · rw [parseClass, parseClass]
      simp only [nx_at, nx_len, nx_thereFollows, ih.2]
      rfl
    · rw [classLoop, classLoop]
      simp only [nx_at, nx_len, nx_thereFollows, nx_clsSimple, escape_nx_brackets hna, ih.1, ih.2]
      rfl

/-- replace `c.len`, `(nx c).len` by one variable and `c.at`, `(nx c).at` by another, everywhere
    (also inside `Decidable` instances, which `simp` does not rewrite) -/
macro "nx_gen" c:term "with" n:ident g:ident : tactic =>
  `(tactic| (
    generalize hn : PC.len $c = $n at *
    generalize hn' : PC.len (nx $c) = n' at *
    have e1 : $n = n' := hn.symm.trans hn'
    subst e1
    generalize hg : PC.at $c = $g at *
    generalize hg' : PC.at (nx $c) = g' at *
    have e2 : $g = g' := hg.symm.trans hg'
    subst e2
    clear hn hn' hg hg'))

theorem lookAhead_le (c : PC) (hx : c.fl.xsd = true) (s : PS) (ub : List Nat) :
    PLe (lookAhead c s ub) (lookAhead (nx c) s ub) := by
  unfold lookAhead
  refine PLe.ite (PLe.ite ?_ PLe.rfl') PLe.rfl'
  ple_bind (escape_le c hx s false)
  · exact PLe.err
  · exact PLe.rfl'

theorem dispatch_le (c : PC) (hx : c.fl.xsd = true) (hna : NoAnch c) {f : Nat}
    (ih : ∀ s ub, PLe (parseAtomGo c f s ub) (parseAtomGo (nx c) f s ub)) (s : PS) (ub : List Nat) :
    PLe (dispatch c f s ub) (dispatch (nx c) f s ub) := by
  have hanch : ∀ xsd : Bool, ¬ ((c.at s.idx == 94 || c.at s.idx == 36) && !xsd) = true := by
    intro xsd
    rw [(hna s.idx).1, (hna s.idx).2]
    exact Bool.false_ne_true
  unfold dispatch
  refine PLe.ite PLe.rfl' (PLe.ite PLe.rfl' (PLe.ite PLe.err (PLe.ite ?_ ?_)))
  · ple_bind (escape_le c hx s false)
    · exact PLe.err
    cases escape c s false with
    | err e => exact PLe.err
    | ok r s' =>
      cases r with
      | chr x => exact ih _ _
      | set rs => exact PLe.rfl'
      | backref n => exact PLe.rfl'
  · rw [if_neg (hanch c.fl.xsd)]
    show PLe _ (if ((c.at s.idx == 94 || c.at s.idx == 36) && !(nx c).fl.xsd) = true then _ else _)
    rw [if_neg (hanch (nx c).fl.xsd)]
    exact ih _ _

theorem parseAtomGo_le (c : PC) (hx : c.fl.xsd = true) (hna : NoAnch c) (f : Nat) :
    ∀ s ub, PLe (parseAtomGo c f s ub) (parseAtomGo (nx c) f s ub) := by
  induction f with
  | zero => intro s ub; rw [parseAtomGo, parseAtomGo]; exact PLe.rfl'
  | succ f ih =>
    intro s ub
    rw [parseAtomGo_succ, parseAtomGo_succ]
    refine PLe.ite ?_ PLe.rfl'
    ple_bind (lookAhead_le c hx s ub)
    · exact PLe.err
    cases lookAhead c s ub with
    | err e => exact PLe.err
    | ok bq s2 =>
      cases bq with
      | true => exact PLe.rfl'
      | false => exact dispatch_le c hx hna ih s2 ub

theorem parseAtom_le (c : PC) (hx : c.fl.xsd = true) (hna : NoAnch c) (s : PS) :
    PLe (parseAtom c s) (parseAtom (nx c) s) := by
  unfold parseAtom
  rw [nx_len]
  ple_bind (parseAtomGo_le c hx hna (c.len + 2) s [])
  · exact PLe.err
  · exact PLe.rfl'

theorem pieceQuant_le (c : PC) (hx : c.fl.xsd = true) (ret : Op) (s : PS) :
    PLe (pieceQuant c ret s) (pieceQuant (nx c) ret s) := by
  have hq : quantHead (nx c) s = quantHead c s := by
    simp only [quantHead, nx_at, bracket_congr (c' := nx c) (c := c) rfl]
  rw [pieceQuant_eq, pieceQuant_eq, hq]
  refine PLe.ite PLe.rfl' ?_
  cases quantHead c s with
  | err e => exact PLe.err
  | ok hasQ s1 =>
    cases hrel : relAt c s1 with
    | true =>
      have : (relAt c s1 && c.fl.xsd) = true := by rw [hrel, hx]; rfl
      dsimp only
      rw [if_pos this]
      exact PLe.err
    | false =>
      have h1 : ¬ (relAt c s1 && c.fl.xsd) = true := by rw [hrel]; exact Bool.false_ne_true
      have h2 : ¬ (relAt (nx c) s1 && (nx c).fl.xsd) = true := by
        rw [show relAt (nx c) s1 = relAt c s1 from rfl, hrel]; exact Bool.false_ne_true
      dsimp only
      rw [if_neg h1, if_neg h2]
      exact PLe.rfl'

theorem normalChar_nx {c : PC} (hna : NoAnch c) {i : Nat} (h : Grammar.normalChar c.fl.xsd (c.at i) = true) :
    Grammar.normalChar (nx c).fl.xsd ((nx c).at i) = true := by
  simp only [Grammar.normalChar, Bool.and_eq_true, nx_at, nx_xsd] at h ⊢
  exact ⟨h.1, by rw [(hna i).1, (hna i).2]; rfl⟩

/-- Each step of a run in the XSD dialect, on a pattern without `^` / `$`, is a step in the XPath
    dialect: the steps that only the XPath dialect has do not occur, the dialect bit is read nowhere
    else, and the calls made agree by induction. -/
theorem parse_le (c : PC) (hx : c.fl.xsd = true) (hna : NoAnch c) (f : Nat) :
    (∀ s top, PLe (parseExpr c f s top) (parseExpr (nx c) f s top)) ∧
    (∀ s acc, PLe (parseBranches c f s acc) (parseBranches (nx c) f s acc)) ∧
    (∀ s cur, PLe (parseBranch c f s cur) (parseBranch (nx c) f s cur)) ∧
    (∀ s, PLe (parseTerminal c f s) (parseTerminal (nx c) f s)) := by
  induction f with
  | zero =>
    exact ⟨fun _ _ _ _ h => (parseExpr_zero h).elim, fun _ _ _ _ h => (parseBranches_zero h).elim,
      fun _ _ _ _ h => (parseBranch_zero h).elim, fun _ _ _ h => (parseTerminal_zero h).elim⟩
  | succ f ih =>
    obtain ⟨ihE, ihBs, ihB, ihT⟩ := ih
    refine ⟨fun s top op s' h => ExprRes.run (c := nx c) ?_, fun s acc l s' h => BranchesRes.run (c := nx c) ?_,
      fun s cur op s' h => BranchRes.run (c := nx c) ?_, fun s op s' h => TerminalRes.run (c := nx c) ?_⟩
    · cases parseExpr_res h with
      | plain h0 hb hbs => exact .plain h0 (ihB _ _ _ _ hb) (ihBs _ _ _ _ hbs)
      | group ht h40 hnc hb hbs hlt h41 =>
        exact .group ht h40 hnc (ihB _ _ _ _ hb) (ihBs _ _ _ _ hbs) hlt h41
      | cluster _ hx' => rw [hx] at hx'; cases hx'
    · cases parseBranches_res h with
      | stop h0 => exact .stop h0
      | more hlt h124 hb hbs => exact .more hlt h124 (ihB _ _ _ _ hb) (ihBs _ _ _ _ hbs)
    · cases parseBranch_res h with
      | stop h0 => exact .stop h0
      | piece hlt h124 h41 ht hq hb =>
        exact .piece hlt h124 h41 (ihT _ _ _ ht) (pieceQuant_le c hx _ _ _ _ hq) (ihB _ _ _ _ hb)
    · cases parseTerminal_res h with
      | eol hx' | bol hx' => rw [hx] at hx'; cases hx'
      | dot h46 => exact .dot h46
      | cls hc => exact .cls (((class_nx c hna _).1 _).trans hc)
      | group h40 he => exact .group h40 (ihE _ _ _ _ he)
      | backref he hn => exact .backref (escape_le c hx _ _ _ _ he) hn
      | escSet he => exact .escSet (escape_le c hx _ _ _ _ he)
      | escChr he ha => exact .escChr (escape_le c hx _ _ _ _ he) (parseAtom_le c hx hna _ _ _ ha)
      | atom hch ha => exact .atom (normalChar_nx hna hch) (parseAtom_le c hx hna _ _ _ ha)

mutual
theorem optimize_xsd (env : Env) (fl : CFlags) :
    ∀ o : Op, optimize env { fl with xsd := false } o = optimize env fl o
  | .capture g c => by simp only [optimize, optimize_xsd env fl c]
  | .choice bs => by simp only [optimize, optimizeL_xsd env fl bs]
  | .seq [] => by simp only [optimize]
  | .seq [o] => by simp only [optimize]
  | .seq (o :: o2 :: os) => by simp only [optimize, optimizeSeq_xsd env fl (o :: o2 :: os)]
  | .rep id c mn mx g => by simp only [optimize, optimize_xsd env fl c]
  | .gfixed c mn mx len => by simp only [optimize, optimize_xsd env fl c]
  | .rfixed c mn mx len => by simp only [optimize, optimize_xsd env fl c]
  | .unamb c mn mx => by simp only [optimize, optimize_xsd env fl c]
  | .bol | .eol | .nothing | .endProgram | .atom _ | .cls _ | .backref _ => by simp only [optimize]
theorem optimizeL_xsd (env : Env) (fl : CFlags) :
    ∀ l : List Op, optimizeL env { fl with xsd := false } l = optimizeL env fl l
  | [] => by simp only [optimizeL]
  | o :: os => by simp only [optimizeL, optimize_xsd env fl o, optimizeL_xsd env fl os]
theorem optimizeSeq_xsd (env : Env) (fl : CFlags) :
    ∀ l : List Op, optimizeSeq env { fl with xsd := false } l = optimizeSeq env fl l
  | [] => by simp only [optimizeSeq]
  | [o] => by simp only [optimizeSeq, optimize_xsd env fl o]
  | o :: nxt :: os => by
    simp only [optimizeSeq, optimize_xsd env fl o, optimizeSeq_xsd env fl (nxt :: os)]
end

theorem mkProgram_xsd (pat : List Nat) (op : Op) (n : Nat) (fl : CFlags) (hb : Bool) :
    mkProgram pat op n { fl with xsd := false } hb = mkProgram pat op n fl hb := rfl

theorem mkBareProgram_xsd (pat : List Nat) (op : Op) (n : Nat) (fl : CFlags) (hb : Bool) :
    mkBareProgram pat op n { fl with xsd := false } hb = mkBareProgram pat op n fl hb := rfl

theorem compileCore_le (env : Env) (fl : CFlags) (hx : fl.xsd = true) (pat : List Nat)
    (hna : NoAnch { pat := pat, fl := fl, env := env }) (opt : Bool) (pr : Prog)
    (h : compileCore env fl pat opt = .ok pr) :
    compileCore env { fl with xsd := false } pat opt = .ok pr := by
  rcases Bool.eq_false_or_eq_true fl.literal with hl | hl
  · rw [compileCore_lit hl] at h
    rw [compileCore_lit (fl := { fl with xsd := false }) hl]
    exact h
  · rw [compileCore_eq env fl pat opt hl] at h
    rw [compileCore_eq env { fl with xsd := false } pat opt hl]
    cases hp : parseExpr { pat := pat, fl := fl, env := env } (4 * pat.length + 16) {} true with
    | err e => rw [hp] at h; cases h
    | ok op s =>
      rw [hp] at h
      have hp' : parseExpr { pat := pat, fl := { fl with xsd := false }, env := env }
          (4 * pat.length + 16) {} true = .ok op s :=
        (parse_le { pat := pat, fl := fl, env := env } hx hna _).1 _ _ op s hp
      rw [hp']
      simp only [optimize_xsd, mkProgram_xsd, mkBareProgram_xsd] at h ⊢
      exact h

theorem parseAtomGo_anchor_pushed (c : PC) (hx : c.fl.xsd = true) (f : Nat) (s : PS) (ub : List Nat)
    (hlt : s.idx < c.len) (h : c.at s.idx = 94 ∨ c.at s.idx = 36)
    (hnq : ¬ (s.idx + 1 < c.len ∧ isQuantChar (c.at (s.idx + 1)) = true ∧ ub ≠ [])) :
    parseAtomGo c (f + 1) s ub = parseAtomGo c f { s with idx := s.idx + 1 } (ub ++ [c.at s.idx]) := by
  rw [parseAtomGo]
  have h92 : (c.at s.idx == 92) = false := by rcases h with h | h <;> simp [h]
  have hlook : (if s.idx + 1 < c.len then
        (PRes.ok (isQuantChar (c.at (s.idx + 1)) && !ub.isEmpty) s : PRes Bool) else .ok false s)
      = .ok false s := by
    by_cases h1 : s.idx + 1 < c.len
    · rw [if_pos h1]
      cases hq : isQuantChar (c.at (s.idx + 1)) with
      | false => rfl
      | true =>
        cases ub with
        | nil => rfl
        | cons a as => exact absurd ⟨h1, hq, List.cons_ne_nil _ _⟩ hnq
    · rw [if_neg h1]
  simp only [hlt, if_true, h92, Bool.false_eq_true, if_false, hlook]
  rcases h with h | h <;> simp [h, hx, isQuantChar]

def OLe (a b : Option Flags) : Prop := ∀ fl, a = some fl → b = some { fl with xsd := false }

theorem OLe.none {b : Option Flags} : OLe none b := fun _ h => by cases h
theorem OLe.ite {p : Prop} {i1 i2 : Decidable p} {a a' b b' : Option Flags}
    (h1 : p → OLe a a') (h2 : ¬p → OLe b b') : OLe (@_root_.ite _ p i1 a b) (@_root_.ite _ p i2 a' b') := by
  by_cases hp : p
  · rw [if_pos hp, if_pos hp]; exact h1 hp
  · rw [if_neg hp, if_neg hp]; exact h2 hp
theorem OLe.ite_none_left {p : Prop} {i1 : Decidable p} {b b' : Option Flags}
    (h : ¬p → OLe b b') : OLe (@_root_.ite _ p i1 Option.none b) b' := by
  by_cases hp : p
  · rw [if_pos hp]; exact OLe.none
  · rw [if_neg hp]; exact h hp

theorem parseFlagsTail_dialect (fs : List Nat) :
    ∀ r : Flags, OLe (parseFlagsTail fs r) (parseFlagsTail fs { r with xsd := false }) := by
  induction fs with
  | nil => intro r fl h; simp only [parseFlagsTail, Option.some.injEq] at h ⊢; rw [← h]
  | cons c cs ih =>
    intro r
    rw [parseFlagsTail, parseFlagsTail]
    exact OLe.ite (fun _ => ih _) fun _ => OLe.ite (fun _ => ih _) fun _ =>
      OLe.ite (fun _ => ih _) fun _ => OLe.none

theorem parseFlagsGo_dialect (fs : List Nat) :
    ∀ r : Flags, OLe (parseFlagsGo fs r) (parseFlagsGo fs { r with xsd := false }) := by
  induction fs with
  | nil => intro r fl h; simp only [parseFlagsGo, Option.some.injEq] at h ⊢; rw [← h]
  | cons c cs ih =>
    intro r
    rw [parseFlagsGo, parseFlagsGo]
    simp only [Bool.false_eq_true, if_false]
    -- only `q` asks for the dialect: rejected on the left, taken on the right
    exact OLe.ite (fun _ => parseFlagsTail_dialect _ _) fun _ => OLe.ite (fun _ => ih _) fun _ =>
      OLe.ite (fun _ => ih _) fun _ => OLe.ite (fun _ => ih _) fun _ =>
      OLe.ite (fun _ => OLe.ite_none_left fun _ => ih _) fun _ => OLe.ite (fun _ => ih _) fun _ => OLe.none

theorem parseFlagsGo_q (pre post : List Nat) (hpre : ∀ c ∈ pre, c ≠ 59) :
    ∀ r : Flags, r.xsd = true → parseFlagsGo (pre ++ 113 :: post) r = none := by
  intro r hr
  -- `q` is not a flag of the XSD dialect, and no `;` comes before it
  have h2 : flagsOK' true (pre ++ 113 :: post) = false := by
    induction pre with
    | nil => rfl
    | cons a pre ih =>
      have ha : (a == 59) = false := by simpa using hpre a List.mem_cons_self
      rw [List.cons_append, flagsOK', ha, if_neg Bool.false_ne_true,
        ih (fun x hx => hpre x (List.mem_cons_of_mem _ hx)), Bool.and_false]
  have h1 := parseFlagsGo_isSome (pre ++ 113 :: post) r
  rw [hr, h2] at h1
  cases h : parseFlagsGo (pre ++ 113 :: post) r with
  | none => rfl
  | some fl => rw [h] at h1; cases h1

def HB {α : Type} (b : Bool) : α → PS → Prop := fun _ s => s.hasBackrefs = b

def XB (b : Bool) : Op → PS → Prop := fun op s => xsdOnly op = true ∧ s.hasBackrefs = b

/-- split the match on a sub-parser call; in the `ok` case record what `h : POk Q call` gives -/
macro "pok_next" h:term "with" h1:ident : tactic =>
  `(tactic| (split <;> first | exact POk.err | (rename_i heq; have $h1 := ($h) _ _ heq; try dsimp only [HB, XB] at $h1:ident)))

theorem xsdOnlyL_append (l1 l2 : List Op) :
    xsdOnlyL (l1 ++ l2) = (xsdOnlyL l1 && xsdOnlyL l2) := by
  induction l1 with
  | nil => simp [xsdOnlyL]
  | cons o os ih => simp [xsdOnlyL, ih, Bool.and_assoc]

theorem xsdOnlyL_seqList (o : Op) : xsdOnlyL o.seqList = xsdOnly o := by
  by_cases h : ∃ l, o = .seq l
  · obtain ⟨l, rfl⟩ := h
    rw [Op.seqList, xsdOnly]
  · rw [Op.seqList_of_not_seq fun l hl => h ⟨l, hl⟩, xsdOnlyL, xsdOnlyL, Bool.and_true]

theorem xsdOnly_makeSequence (a b : Op) (ha : xsdOnly a = true) (hb : xsdOnly b = true) :
    xsdOnly (makeSequence a b) = true := by
  rw [makeSequence_eq, xsdOnly, xsdOnlyL_append, xsdOnlyL_seqList, xsdOnlyL_seqList, ha, hb]
  rfl

theorem xsdOnlyL_of_forall : ∀ (l : List Op), (∀ b ∈ l, xsdOnly b = true) → xsdOnlyL l = true :=
  list_of_forall rfl fun _ _ hb ht => by rw [xsdOnlyL, hb, ht]; rfl

theorem xsdOnly_inv : ParserInv true 0 (fun o _ => xsdOnly o = true) where
  mono h _ := h
  bol h := nomatch h
  eol h := nomatch h
  nothing _ := rfl
  cls _ _ := rfl
  atom _ _ _ := rfl
  backref h := nomatch h
  capture _ _ _ _ _ h := by simpa only [xsdOnly] using h
  choice l _ h _ := by simpa only [xsdOnly] using xsdOnlyL_of_forall l h
  seq a b _ := xsdOnly_makeSequence a b
  gfixed _ _ _ _ _ h _ _ _ _ := by simpa only [xsdOnly] using h
  rfixed h := nomatch h
  rep _ _ _ g _ hg h _ _ _ := by
    rw [xsdOnly, h, hg.resolve_right Bool.noConfusion]
    rfl

end Rx.C17
