/-
  Proofs/DenLemmas — `Den rs S`: the inversion list `rs` is canonical and contains exactly the code points
  in `S`.  The builder operations of Model/CharSet are homomorphisms for it, so what a list built from them
  denotes is read off by composing them.
-/
import RxModel.Props.C09
namespace Rx.C09
open Rx

structure Den (rs : Ranges) (S : Nat → Prop) : Prop where
  canon : Canon rs
  mem : ∀ x, clsContains rs x = true ↔ x < cpLimit ∧ S x

theorem Den.nil : Den [] (fun _ => False) := ⟨trivial, fun x => by simp [clsContains]⟩

theorem Den.of_canon {rs : Ranges} (h : Canon rs) : Den rs (fun x => clsContains rs x = true) :=
  ⟨h, fun x => ⟨fun hx => ⟨contains_lt_limit rs h x hx, hx⟩, fun hx => hx.2⟩⟩

theorem Den.congr {rs : Ranges} {S T : Nat → Prop} (h : Den rs S) (hST : ∀ x, x < cpLimit → (S x ↔ T x)) :
    Den rs T :=
  ⟨h.canon, fun x => (h.mem x).trans ⟨fun ⟨h1, h2⟩ => ⟨h1, (hST x h1).1 h2⟩, fun ⟨h1, h2⟩ => ⟨h1, (hST x h1).2 h2⟩⟩⟩

theorem Den.addRange {rs : Ranges} {S : Nat → Prop} (h : Den rs S) (a b : Nat) (hb : b ≤ cpLimit) :
    Den (addRange a b rs) (fun x => (a ≤ x ∧ x < b) ∨ S x) := by
  refine ⟨canon_addRange rs h.canon a b hb, fun x => ?_⟩
  rw [contains_addRange rs h.canon, Bool.or_eq_true, h.mem x, Bool.and_eq_true, decide_eq_true_eq,
    decide_eq_true_eq]
  constructor
  · rintro (⟨h1, h2⟩ | ⟨h1, h2⟩)
    · exact ⟨by omega, .inl ⟨h1, h2⟩⟩
    · exact ⟨h1, .inr h2⟩
  · rintro ⟨h1, h2 | h2⟩
    · exact .inl h2
    · exact .inr ⟨h1, h2⟩

theorem Den.addChar {rs : Ranges} {S : Nat → Prop} (h : Den rs S) (ch : Nat) (hch : ch < cpLimit) :
    Den (addChar ch rs) (fun x => x = ch ∨ S x) :=
  (h.addRange ch (ch + 1) hch).congr fun x _ => or_congr_left ⟨fun h => by omega, fun h => by omega⟩

theorem Den.addChars {S : Nat → Prop} (l : List Nat) (hl : ∀ y ∈ l, y < cpLimit) :
    ∀ {rs : Ranges}, Den rs S → Den (addChars l rs) (fun x => x ∈ l ∨ S x) := by
  induction l generalizing S with
  | nil => intro rs h; exact h.congr fun x _ => by simp
  | cons ch l ih =>
    intro rs h
    exact (ih (fun y hy => hl y (List.mem_cons_of_mem _ hy)) (h.addChar ch (hl ch List.mem_cons_self))).congr
      fun x _ => by simp only [List.mem_cons]; exact or_left_comm.trans or_assoc.symm

theorem Den.union {a b : Ranges} {A B : Nat → Prop} (ha : Den a A) (hb : Den b B) :
    Den (unionR a b) (fun x => A x ∨ B x) := by
  refine ⟨canon_unionR a b ha.canon hb.canon, fun x => ?_⟩
  rw [contains_unionR a b ha.canon hb.canon, Bool.or_eq_true, ha.mem, hb.mem]
  exact ⟨fun h => h.elim (fun h => ⟨h.1, .inl h.2⟩) (fun h => ⟨h.1, .inr h.2⟩),
    fun h => h.2.elim (fun h2 => .inl ⟨h.1, h2⟩) (fun h2 => .inr ⟨h.1, h2⟩)⟩

theorem Den.compl {a : Ranges} {A : Nat → Prop} (ha : Den a A) : Den (complR a) (fun x => ¬ A x) := by
  refine ⟨canon_complR a ha.canon, fun x => ⟨fun hx => ?_, fun ⟨h1, h2⟩ => ?_⟩⟩
  · have hlt := contains_lt_limit _ (canon_complR a ha.canon) x hx
    rw [contains_complR a ha.canon x hlt, Bool.not_eq_true', ← Bool.not_eq_true, ha.mem] at hx
    exact ⟨hlt, fun h => hx ⟨hlt, h⟩⟩
  · rw [contains_complR a ha.canon x h1, Bool.not_eq_true', ← Bool.not_eq_true, ha.mem]
    exact fun h => h2 h.2

theorem Den.diff {a b : Ranges} {A B : Nat → Prop} (ha : Den a A) (hb : Den b B) :
    Den (diffR a b) (fun x => A x ∧ ¬ B x) := by
  refine ⟨canon_diffR a b ha.canon hb.canon, fun x => ?_⟩
  rw [contains_diffR a b ha.canon hb.canon, Bool.and_eq_true, Bool.not_eq_true', ← Bool.not_eq_true,
    ha.mem, hb.mem]
  exact ⟨fun ⟨h1, h2⟩ => ⟨h1.1, h1.2, fun h => h2 ⟨h1.1, h⟩⟩, fun ⟨h1, h2, h3⟩ => ⟨⟨h1, h2⟩, fun h => h3 h.2⟩⟩

end Rx.C09
