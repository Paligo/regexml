/-
  Proofs/EnumK — the four priority enumerations `enum` … `enum4` (Spec/Enum … Spec/Enum4) as ONE recursion
  `enumK H`.  They share every equation except the two nodes on which the fragments differ: `.unamb` (absent from
  `enum`) and the general repeat `.rep` (absent from `enum`, `enum2`; greedy only in `enum3`).  `H` supplies these
  two as functions of the body's enumeration, so a fact about all four that does not look inside the two handlers
  is proved once, for `enumK`, and carried over by `enum_eq_K` … `enum4_eq_K`.
-/
import RxModel.Spec.Enum4
import RxModel.Proofs.OpRCalc
namespace Rx

/-- what an enumeration does at `.unamb c mn mx` and at `.rep _ c mn mx g`, given the body's enumeration -/
structure EnumH where
  unamb : (Nat → List Nat) → Nat → Nat → Nat → List Nat
  rep : (Nat → List Nat) → Nat → Nat → Bool → Nat → List Nat

mutual
def enumK (H : EnumH) (ctx : Ctx) : Op → Nat → List Nat
  | .bol, p =>
      if p = 0 ∨ (ctx.multiLine = true ∧ ctx.input[p - 1]? = some 10 ∧ p < ctx.len) then [p] else []
  | .eol, p =>
      if p ≥ ctx.len ∨ (ctx.multiLine = true ∧ ctx.input[p]? = some 10) then [p] else []
  | .nothing, p => [p]
  | .endProgram, p => [p]
  | .atom cs, p =>
      if p + cs.length ≤ ctx.len ∧ prefixMatch ctx cs (ctx.input.drop p) = true then [p + cs.length] else []
  | .cls rs, p =>
      match ctx.input[p]? with
      | some c => if clsContains rs c = true then [p + 1] else []
      | none => []
  | .capture _ c, p => enumK H ctx c p
  | .choice bs, p => enumAnyK H ctx bs p
  | .seq ops, p => enumSeqK H ctx ops p
  | .gfixed c mn mx _, p => greedyIter (enumK H ctx c) mn mx 0 p
  | .rfixed c mn mx _, p => reluctIter (enumK H ctx c) mn mx 0 p
  | .unamb c mn mx, p => H.unamb (enumK H ctx c) mn mx p
  | .rep _ c mn mx g, p => H.rep (enumK H ctx c) mn mx g p
  | .backref _, _ => []
termination_by structural o => o
def enumAnyK (H : EnumH) (ctx : Ctx) : List Op → Nat → List Nat
  | [], _ => []
  | b :: bs, p => enumK H ctx b p ++ enumAnyK H ctx bs p
termination_by structural l => l
def enumSeqK (H : EnumH) (ctx : Ctx) : List Op → Nat → List Nat
  | [], p => [p]
  | o :: os, p => (enumK H ctx o p).flatMap (enumSeqK H ctx os)
termination_by structural l => l
end

def munchEnd (e : Nat → List Nat) (mn mx p : Nat) : List Nat :=
  if mn ≤ (munch e mx p).1 then [(munch e mx p).2] else []

def enumH1 : EnumH := ⟨fun _ _ _ _ => [], fun _ _ _ _ _ => []⟩
def enumH2 : EnumH := ⟨munchEnd, fun _ _ _ _ _ => []⟩
def enumH3 : EnumH := ⟨munchEnd, fun e mn mx _ p => greedyIter e mn mx 0 p⟩
def enumH4 : EnumH :=
  ⟨munchEnd, fun e mn mx g p => if g = true then greedyIter e mn mx 0 p else reluctIter e mn mx 0 p⟩

theorem enumK.cong (H : EnumH) (ctx ctx' : Ctx) :
    Cong (fun o o' => enumK H ctx o = enumK H ctx' o')
      (fun l l' => enumAnyK H ctx l = enumAnyK H ctx' l' ∧ enumSeqK H ctx l = enumSeqK H ctx' l') where
  capture _ h := by funext p; simp only [enumK, h]
  choice h := by funext p; simp only [enumK, h.1]
  seq h := by funext p; simp only [enumK, h.2]
  rep _ _ _ _ _ h := by funext p; simp only [enumK, h]
  gfixed _ _ _ h := by funext p; simp only [enumK, h]
  rfixed _ _ _ h := by funext p; simp only [enumK, h]
  unamb _ _ h := by funext p; simp only [enumK, h]
  nil := ⟨by funext p; simp only [enumAnyK], by funext p; simp only [enumSeqK]⟩
  cons h hl := ⟨by funext p; simp only [enumAnyK, h, hl.1], by funext p; simp only [enumSeqK, h, hl.2]⟩

/-- a triple of functions that satisfies the equations of `enumK H` -/
structure IsEnumK (H : EnumH) (ctx : Ctx) (e : Op → Nat → List Nat) (eA eS : List Op → Nat → List Nat) : Prop where
  leaf : ∀ o, TreePred.Leaf o → e o = enumK H ctx o
  capture : ∀ {g c}, e (.capture g c) = e c
  choice : ∀ {l}, e (.choice l) = eA l
  seq : ∀ {l}, e (.seq l) = eS l
  gfixed : ∀ {c mn mx len}, e (.gfixed c mn mx len) = greedyIter (e c) mn mx 0
  rfixed : ∀ {c mn mx len}, e (.rfixed c mn mx len) = reluctIter (e c) mn mx 0
  unamb : ∀ {c mn mx}, e (.unamb c mn mx) = H.unamb (e c) mn mx
  rep : ∀ {id c mn mx g}, e (.rep id c mn mx g) = H.rep (e c) mn mx g
  anyNil : eA [] = fun _ => []
  anyCons : ∀ {o l}, eA (o :: l) = fun p => e o p ++ eA l p
  seqNil : eS [] = fun p => [p]
  seqCons : ∀ {o l}, eS (o :: l) = fun p => (e o p).flatMap (eS l)

theorem IsEnumK.eq {H : EnumH} {ctx : Ctx} {e : Op → Nat → List Nat} {eA eS : List Op → Nat → List Nat}
    (h : IsEnumK H ctx e eA eS) :
    (∀ o, e o = enumK H ctx o) ∧ ∀ l, eA l = enumAnyK H ctx l ∧ eS l = enumSeqK H ctx l := by
  apply Op.ind_both
  case bol => exact h.leaf _ .bol
  case eol => exact h.leaf _ .eol
  case nothing => exact h.leaf _ .nothing
  case endProgram => exact h.leaf _ .endProgram
  case atom => exact fun cs => h.leaf _ (.atom cs)
  case cls => exact fun rs => h.leaf _ (.cls rs)
  case backref => exact fun g => h.leaf _ (.backref g)
  case capture => intro g c ih; rw [h.capture, ih]; funext p; simp only [enumK]
  case choice => intro l ih; rw [h.choice, ih.1]; funext p; simp only [enumK]
  case seq => intro l ih; rw [h.seq, ih.2]; funext p; simp only [enumK]
  case gfixed => intro c mn mx len ih; rw [h.gfixed, ih]; funext p; simp only [enumK]
  case rfixed => intro c mn mx len ih; rw [h.rfixed, ih]; funext p; simp only [enumK]
  case unamb => intro c mn mx ih; rw [h.unamb, ih]; funext p; simp only [enumK]
  case rep => intro id c mn mx g ih; rw [h.rep, ih]; funext p; simp only [enumK]
  case nil => exact ⟨by rw [h.anyNil]; funext p; simp only [enumAnyK], by rw [h.seqNil]; funext p; simp only [enumSeqK]⟩
  case cons =>
    intro o l ih ihl
    exact ⟨by rw [h.anyCons, ih, ihl.1]; funext p; simp only [enumAnyK],
      by rw [h.seqCons, ih, ihl.2]; funext p; simp only [enumSeqK]⟩

theorem enum_isK (ctx : Ctx) : IsEnumK enumH1 ctx (enum ctx) (enumAny ctx) (enumSeq ctx) :=
  ⟨fun _ hl => by cases hl <;> rfl, rfl, rfl, rfl, rfl, rfl, rfl, rfl, rfl, rfl, rfl, rfl⟩

theorem enum_eq_K (ctx : Ctx) (op : Op) : enum ctx op = enumK enumH1 ctx op := (enum_isK ctx).eq.1 op

theorem enumAny_eq_K (ctx : Ctx) (l : List Op) : enumAny ctx l = enumAnyK enumH1 ctx l := ((enum_isK ctx).eq.2 l).1

theorem enumSeq_eq_K (ctx : Ctx) (l : List Op) : enumSeq ctx l = enumSeqK enumH1 ctx l := ((enum_isK ctx).eq.2 l).2

theorem enum2_isK (ctx : Ctx) : IsEnumK enumH2 ctx (enum2 ctx) (enumAny2 ctx) (enumSeq2 ctx) :=
  ⟨fun _ hl => by cases hl <;> rfl, rfl, rfl, rfl, rfl, rfl, rfl, rfl, rfl, rfl, rfl, rfl⟩

theorem enum2_eq_K (ctx : Ctx) (op : Op) : enum2 ctx op = enumK enumH2 ctx op := (enum2_isK ctx).eq.1 op

theorem enumAny2_eq_K (ctx : Ctx) (l : List Op) : enumAny2 ctx l = enumAnyK enumH2 ctx l := ((enum2_isK ctx).eq.2 l).1

theorem enumSeq2_eq_K (ctx : Ctx) (l : List Op) : enumSeq2 ctx l = enumSeqK enumH2 ctx l := ((enum2_isK ctx).eq.2 l).2

theorem enum3_isK (ctx : Ctx) : IsEnumK enumH3 ctx (enum3 ctx) (enumAny3 ctx) (enumSeq3 ctx) :=
  ⟨fun _ hl => by cases hl <;> rfl, rfl, rfl, rfl, rfl, rfl, rfl, rfl, rfl, rfl, rfl, rfl⟩

theorem enum3_eq_K (ctx : Ctx) (op : Op) : enum3 ctx op = enumK enumH3 ctx op := (enum3_isK ctx).eq.1 op

theorem enumAny3_eq_K (ctx : Ctx) (l : List Op) : enumAny3 ctx l = enumAnyK enumH3 ctx l := ((enum3_isK ctx).eq.2 l).1

theorem enumSeq3_eq_K (ctx : Ctx) (l : List Op) : enumSeq3 ctx l = enumSeqK enumH3 ctx l := ((enum3_isK ctx).eq.2 l).2

theorem enum4_isK (ctx : Ctx) : IsEnumK enumH4 ctx (enum4 ctx) (enumAny4 ctx) (enumSeq4 ctx) :=
  ⟨fun _ hl => by cases hl <;> rfl, rfl, rfl, rfl, rfl, rfl, rfl, rfl, rfl, rfl, rfl, rfl⟩

theorem enum4_eq_K (ctx : Ctx) (op : Op) : enum4 ctx op = enumK enumH4 ctx op := (enum4_isK ctx).eq.1 op

theorem enumAny4_eq_K (ctx : Ctx) (l : List Op) : enumAny4 ctx l = enumAnyK enumH4 ctx l := ((enum4_isK ctx).eq.2 l).1

theorem enumSeq4_eq_K (ctx : Ctx) (l : List Op) : enumSeq4 ctx l = enumSeqK enumH4 ctx l := ((enum4_isK ctx).eq.2 l).2

end Rx
