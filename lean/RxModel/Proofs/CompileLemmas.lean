/-
  Proofs/CompileLemmas — `mkProgram`, `compileCore` and `Regex.new` seen from outside: the program `ReProgram::new`
  builds is the base record with the four search shortcuts filled in; `compileCore` is two equations
  (`compileCore_lit` with flag q, where nothing is parsed; `compileCore_eq` without) and `Regex.new` a pipeline over
  `Out.bind` (`Regex.new_bind`), from which every statement about what they return is read off.
-/
import RxModel.Model.Compile
import RxModel.Proofs.PullLoop
namespace Rx

theorem mkProgram_eq (pat : List Nat) (op : Op) (mp : Nat) (fl : CFlags) (hb : Bool) :
    ∃ hasBol prefix_ icc pres, mkProgram pat op mp fl hb =
      { op := (numberReps op 0).1, caseBlind := fl.caseBlind, multiLine := fl.multiLine, literal := fl.literal,
        hasBackrefs := hb, maxParens := mp, minLen := minLenOp (numberReps op 0).1, pattern := pat,
        hasBol := hasBol, prefix_ := prefix_, icc := icc, pres := pres } := by
  unfold mkProgram
  simp only
  split
  · split <;> exact ⟨_, _, _, _, rfl⟩
  · exact ⟨_, _, _, _, rfl⟩

namespace MkProgram
variable (pat : List Nat) (o : Op) (mp : Nat) (fl : CFlags) (hb : Bool)

theorem op : (mkProgram pat o mp fl hb).op = (numberReps o 0).1 := by
  obtain ⟨_, _, _, _, h⟩ := mkProgram_eq pat o mp fl hb; rw [h]
theorem caseBlind : (mkProgram pat o mp fl hb).caseBlind = fl.caseBlind := by
  obtain ⟨_, _, _, _, h⟩ := mkProgram_eq pat o mp fl hb; rw [h]
theorem multiLine : (mkProgram pat o mp fl hb).multiLine = fl.multiLine := by
  obtain ⟨_, _, _, _, h⟩ := mkProgram_eq pat o mp fl hb; rw [h]
theorem literal : (mkProgram pat o mp fl hb).literal = fl.literal := by
  obtain ⟨_, _, _, _, h⟩ := mkProgram_eq pat o mp fl hb; rw [h]
theorem hasBackrefs : (mkProgram pat o mp fl hb).hasBackrefs = hb := by
  obtain ⟨_, _, _, _, h⟩ := mkProgram_eq pat o mp fl hb; rw [h]
theorem maxParens : (mkProgram pat o mp fl hb).maxParens = mp := by
  obtain ⟨_, _, _, _, h⟩ := mkProgram_eq pat o mp fl hb; rw [h]
theorem minLen : (mkProgram pat o mp fl hb).minLen = minLenOp (numberReps o 0).1 := by
  obtain ⟨_, _, _, _, h⟩ := mkProgram_eq pat o mp fl hb; rw [h]
theorem pattern : (mkProgram pat o mp fl hb).pattern = pat := by
  obtain ⟨_, _, _, _, h⟩ := mkProgram_eq pat o mp fl hb; rw [h]

theorem ctx (lower : Nat → Nat) (input : List Nat) :
    (mkProgram pat o mp fl hb).ctx lower input =
      { input := input, caseBlind := fl.caseBlind, multiLine := fl.multiLine, hasBackrefs := hb,
        maxParens := mp, lower := lower } := by
  unfold Prog.ctx
  rw [caseBlind, multiLine, hasBackrefs, maxParens]

theorem ctx_eq (pat' : List Nat) (o' : Op) (lower : Nat → Nat) (input : List Nat) :
    (mkProgram pat o mp fl hb).ctx lower input = (mkProgram pat' o' mp fl hb).ctx lower input := by
  rw [ctx, ctx]

theorem shortcuts :
    ((mkProgram pat o mp fl hb).hasBol = true → ∃ rest, (numberReps o 0).1 = .seq (.bol :: rest)) ∧
    (∀ cs, (mkProgram pat o mp fl hb).prefix_ = some cs → ∃ rest, (numberReps o 0).1 = .seq (.atom cs :: rest)) ∧
    (∀ rs, (mkProgram pat o mp fl hb).icc = some rs → ∃ rest, (numberReps o 0).1 = .seq (.cls rs :: rest)) ∧
    ((mkProgram pat o mp fl hb).pres = [] ∨
      ∃ n, (mkProgram pat o mp fl hb).pres = numberPres (addPre fl.multiLine (numberReps o 0).1 none 0) n) := by
  unfold mkProgram
  simp only
  generalize numberReps o 0 = r
  obtain ⟨op', n'⟩ := r
  simp only
  split
  · rename_i first rest
    split
    · exact ⟨fun _ => ⟨rest, rfl⟩, fun cs h => by simp at h, fun rs h => by simp at h, .inr ⟨n', rfl⟩⟩
    · rename_i cs
      refine ⟨fun h => by simp at h, fun cs' h => ?_, fun rs h => by simp at h, .inr ⟨n', rfl⟩⟩
      simp only [Option.some.injEq] at h
      subst h
      exact ⟨rest, rfl⟩
    · rename_i rs
      refine ⟨fun h => by simp at h, fun cs h => by simp at h, fun rs' h => ?_, .inr ⟨n', rfl⟩⟩
      simp only [Option.some.injEq] at h
      subst h
      exact ⟨rest, rfl⟩
    · exact ⟨fun h => by simp at h, fun cs h => by simp at h, fun rs h => by simp at h, .inr ⟨n', rfl⟩⟩
  · exact ⟨fun h => by simp at h, fun cs h => by simp at h, fun rs h => by simp at h, .inl rfl⟩

end MkProgram

theorem compileCore_lit {env : Env} {fl : CFlags} {pat : List Nat} {opt : Bool} (hl : fl.literal = true) :
    compileCore env fl pat opt = .ok
      (if opt = true then mkProgram pat (makeSequence (.atom pat) .endProgram) 1 fl false
       else mkBareProgram pat (makeSequence (.atom pat) .endProgram) 1 fl false) := by
  unfold compileCore
  rw [if_pos hl]
  cases opt <;> rfl

theorem compileCore_eq (env : Env) (fl : CFlags) (pat : List Nat) (opt : Bool)
    (hlit : fl.literal = false) :
    compileCore env fl pat opt =
      match parseExpr { pat := pat, fl := fl, env := env } (4 * pat.length + 16) {} true with
      | .err e => .err e
      | .ok op s =>
        if s.idx != pat.length then .err .syntax else
        if opt then .ok (mkProgram pat (optimize env fl op) s.parens fl s.hasBackrefs)
        else .ok (mkBareProgram pat op s.parens fl s.hasBackrefs) := by
  unfold compileCore
  simp only [hlit, Bool.false_eq_true, if_false]
  rfl

theorem Regex.new_bind (env : Env) (p fs : List Nat) (xsd opt : Bool) :
    Regex.new env p fs xsd opt =
      match parseFlags fs xsd with
      | none => .err .invalidFlags
      | some fl => (compileProg env fl p opt).bind fun pr =>
          (pr.nullable env.lower).map fun n => { prog := pr, nullable := n } := by
  unfold Regex.new
  cases parseFlags fs xsd with
  | none => rfl
  | some fl =>
    dsimp only
    cases compileProg env fl p opt with
    | ok pr => dsimp only [Out.bind]; cases pr.nullable env.lower <;> rfl
    | _ => rfl

theorem Regex.new_some {env : Env} {p fs : List Nat} {xsd opt : Bool} {fl : Flags}
    (hf : parseFlags fs xsd = some fl) :
    Regex.new env p fs xsd opt = (compileProg env fl p opt).bind fun pr =>
      (pr.nullable env.lower).map fun n => { prog := pr, nullable := n } := by
  rw [Regex.new_bind, hf]

theorem Regex.new_ok {env : Env} {p fs : List Nat} {xsd opt : Bool} {r : Regex}
    (h : Regex.new env p fs xsd opt = .ok r) :
    ∃ fl, parseFlags fs xsd = some fl ∧ compileProg env fl p opt = .ok r.prog ∧
      r.prog.nullable env.lower = .ok r.nullable := by
  rw [Regex.new_bind] at h
  split at h
  · cases h
  · rename_i fl hf
    obtain ⟨pr, hc, h⟩ := Out.bind_eq_ok h
    obtain ⟨n, hn, rfl⟩ := Out.map_eq_ok h
    exact ⟨fl, hf, hc, hn⟩

theorem compileCore_ok {env : Env} {fl : CFlags} {pat : List Nat} {optimizeOn : Bool} {pr : Prog}
    (h : compileCore env fl pat optimizeOn = .ok pr) :
    (fl.literal = true ∧
      pr = if optimizeOn = true then mkProgram pat (makeSequence (.atom pat) .endProgram) 1 fl false
           else mkBareProgram pat (makeSequence (.atom pat) .endProgram) 1 fl false) ∨
    (fl.literal = false ∧ ∃ op s,
      parseExpr { pat := pat, fl := fl, env := env } (4 * pat.length + 16) {} true = .ok op s ∧
      s.idx = pat.length ∧
      pr = if optimizeOn = true then mkProgram pat (optimize env fl op) s.parens fl s.hasBackrefs
           else mkBareProgram pat op s.parens fl s.hasBackrefs) := by
  cases hl : fl.literal with
  | true => rw [compileCore_lit hl] at h; exact .inl ⟨rfl, (Out.ok.inj h).symm⟩
  | false =>
    rw [compileCore_eq env fl pat optimizeOn hl] at h
    refine .inr ⟨rfl, ?_⟩
    split at h
    · cases h
    · rename_i op s hp
      split at h
      · cases h
      · rename_i hidx
        refine ⟨op, s, hp, by simpa using hidx, ?_⟩
        cases optimizeOn <;> exact (Out.ok.inj h).symm

/-- the compiler proper neither panics nor diverges -/
theorem compileCore_total (env : Env) (fl : CFlags) (pat : List Nat) (opt : Bool) :
    (∃ pr, compileCore env fl pat opt = .ok pr) ∨ (∃ e, compileCore env fl pat opt = .err e) := by
  cases hl : fl.literal with
  | true => exact .inl ⟨_, compileCore_lit hl⟩
  | false =>
    rw [compileCore_eq env fl pat opt hl]
    split
    · exact .inr ⟨_, rfl⟩
    · split
      · exact .inr ⟨_, rfl⟩
      · cases opt <;> exact .inl ⟨_, rfl⟩

theorem compileCore_opt_ok {env : Env} {fl : CFlags} {pat : List Nat} {pr : Prog}
    (h : compileCore env fl pat true = .ok pr) (hl : fl.literal = false) :
    ∃ op s, parseExpr { pat := pat, fl := fl, env := env } (4 * pat.length + 16) {} true = .ok op s ∧
      s.idx = pat.length ∧ pr = mkProgram pat (optimize env fl op) s.parens fl s.hasBackrefs := by
  rcases compileCore_ok h with ⟨hl', _⟩ | ⟨_, op, s, hp, hi, hpr⟩
  · rw [hl] at hl'; cases hl'
  · exact ⟨op, s, hp, hi, by rw [hpr, if_pos rfl]⟩

theorem compileCore_bare_ok {env : Env} {fl : CFlags} {pat : List Nat} {pr : Prog}
    (h : compileCore env fl pat false = .ok pr) (hl : fl.literal = false) :
    ∃ op s, parseExpr { pat := pat, fl := fl, env := env } (4 * pat.length + 16) {} true = .ok op s ∧
      s.idx = pat.length ∧ pr = mkBareProgram pat op s.parens fl s.hasBackrefs := by
  rcases compileCore_ok h with ⟨hl', _⟩ | ⟨_, op, s, hp, hi, hpr⟩
  · rw [hl] at hl'; cases hl'
  · exact ⟨op, s, hp, hi, by rw [hpr, if_neg Bool.false_ne_true]⟩

theorem optimize_literal (env : Env) (fl : CFlags) (pat : List Nat) :
    optimize env fl (makeSequence (.atom pat) .endProgram) = makeSequence (.atom pat) .endProgram := by
  simp [makeSequence, optimize, optimizeSeq, repeatParts]

/-- with flag q as well: the tree is then the literal sequence -/
theorem compile_pair (env : Env) (fl : CFlags) (pat : List Nat) (pr bare : Prog)
    (h1 : compileCore env fl pat true = .ok pr) (h0 : compileCore env fl pat false = .ok bare) :
    ∃ op mp hb, bare = mkBareProgram pat op mp fl hb ∧ pr = mkProgram pat (optimize env fl op) mp fl hb := by
  rcases compileCore_ok h0 with ⟨hl, rfl⟩ | ⟨hl, op, s, hp, _, rfl⟩
  · rw [compileCore_lit hl] at h1
    exact ⟨_, 1, false, rfl, by rw [optimize_literal]; exact (Out.ok.inj h1).symm⟩
  · obtain ⟨op', s', hp', _, rfl⟩ := compileCore_opt_ok h1 hl
    rw [hp] at hp'
    cases hp'
    exact ⟨op, s.parens, s.hasBackrefs, rfl, rfl⟩

end Rx
