/-
  Proofs/ArrayLemmas — the option-valued arrays of the matcher state (Model/Basic: `getO`, `setAt`, `setIn`,
  `clearArr`): what a read returns after each write, and the lengths; then the back-reference generator, which
  only reads them, in closed form for a recorded pair.
-/
import RxModel.Model.Engine
namespace Rx

theorem getO_nil (k : Nat) : getO [] k = none := by simp [getO]

theorem getO_cons_zero (x : Option Nat) (xs : List (Option Nat)) : getO (x :: xs) 0 = x := by
  cases x <;> simp [getO]

theorem getO_cons_succ (x : Option Nat) (xs : List (Option Nat)) (k : Nat) :
    getO (x :: xs) (k + 1) = getO xs k := by simp [getO]

theorem getO_setAt (l : List (Option Nat)) (g : Nat) (v : Option Nat) (k : Nat) :
    getO (setAt l g v) k = if k = g then v else getO l k := by
  induction l generalizing g k with
  | nil =>
    induction g generalizing k with
    | zero =>
      cases k with
      | zero => simp [setAt, getO_cons_zero]
      | succ k => simp [setAt, getO_cons_succ, getO_nil]
    | succ g ih =>
      cases k with
      | zero => simp [setAt, getO_cons_zero, getO_nil]
      | succ k => simp only [setAt, getO_cons_succ, ih, getO_nil, Nat.add_right_cancel_iff]
  | cons x xs ih =>
    cases g with
    | zero =>
      cases k with
      | zero => simp [setAt, getO_cons_zero]
      | succ k => simp [setAt, getO_cons_succ]
    | succ g =>
      cases k with
      | zero => simp [setAt, getO_cons_zero]
      | succ k => simp only [setAt, getO_cons_succ, ih, Nat.add_right_cancel_iff]

theorem getO_setAt_zero (l : List (Option Nat)) (v : Option Nat) : getO (setAt l 0 v) 0 = v := by
  rw [getO_setAt, if_pos rfl]

theorem length_setIn (l : List (Option Nat)) (g : Nat) (v : Option Nat) : (setIn l g v).length = l.length := by
  induction l generalizing g with
  | nil => rfl
  | cons x xs ih => cases g <;> simp [setIn, ih]

theorem getO_setIn (l : List (Option Nat)) (g : Nat) (v : Option Nat) (k : Nat) :
    getO (setIn l g v) k = if k = g ∧ g < l.length then v else getO l k := by
  induction l generalizing g k with
  | nil => simp [setIn]
  | cons x xs ih =>
    cases g with
    | zero =>
      cases k with
      | zero => simp [setIn, getO_cons_zero]
      | succ k => simp [setIn, getO_cons_succ]
    | succ g =>
      cases k with
      | zero => simp [setIn, getO_cons_zero]
      | succ k => simp only [setIn, getO_cons_succ, ih, Nat.add_right_cancel_iff, List.length_cons, Nat.add_lt_add_iff_right]

theorem getO_setIn_ne (l : List (Option Nat)) (g g' : Nat) (v : Option Nat) (h : g' ≠ g) :
    getO (setIn l g v) g' = getO l g' := by
  rw [getO_setIn, if_neg (fun hc => h hc.1)]

theorem getO_setIn_eq (l : List (Option Nat)) (g : Nat) (v : Option Nat) (h : g < l.length) :
    getO (setIn l g v) g = v := by
  rw [getO_setIn, if_pos ⟨rfl, h⟩]

theorem getO_clearArr (ss es : List (Option Nat)) (pos k : Nat) :
    getO (clearArr ss es pos) k = if optGe (getO ss k) pos = true then getO ss k else getO es k := by
  induction ss generalizing es k with
  | nil => simp [clearArr, getO_nil, optGe]
  | cons s ss ih =>
    cases es with
    | nil =>
      cases k with
      | zero =>
        simp only [clearArr, getO_cons_zero, getO_nil]
      | succ k => simp only [clearArr, getO_cons_succ, ih, getO_nil]
    | cons e es =>
      cases k with
      | zero =>
        simp only [clearArr, getO_cons_zero]
      | succ k => simp only [clearArr, getO_cons_succ, ih]

theorem length_clearArr_ge (ss es : List (Option Nat)) (pos : Nat) : es.length ≤ (clearArr ss es pos).length := by
  induction ss generalizing es with
  | nil => simp [clearArr]
  | cons s ss ih =>
    cases es with
    | nil => simp [clearArr]
    | cons e es => simp only [clearArr, List.length_cons]; exact Nat.succ_le_succ (ih es)

theorem length_clearArr (ss es : List (Option Nat)) (pos : Nat) (h : ss.length = es.length) :
    (clearArr ss es pos).length = es.length := by
  induction ss generalizing es with
  | nil => rfl
  | cons s ss ih =>
    cases es with
    | nil => simp at h
    | cons e es =>
      simp only [clearArr, List.length_cons]
      rw [ih es (by simpa using h)]

theorem getO_some_lt {l : List (Option Nat)} {g a : Nat} (h : getO l g = some a) : g < l.length := by
  apply Classical.byContradiction
  intro hc
  have : l[g]? = none := List.getElem?_eq_none (Nat.le_of_not_lt hc)
  simp [getO, this] at h

theorem getO_replicate_none (n k : Nat) : getO (List.replicate n none) k = none := by
  simp only [getO, List.getElem?_replicate]
  split <;> rename_i h
  · split at h
    · simp only [Option.some.injEq] at h; exact h.symm
    · cases h
  · rfl

theorem backrefGen_some (ctx : Ctx) (g p : Nat) (st : St) (a b : Nat)
    (hs : getO st.startBr g = some a) (he : getO st.endBr g = some b) :
    backrefGen ctx g p st =
      if b ≤ a then Step.once p st
      else if p + (b - a) ≤ ctx.len ∧ sameText ctx (b - a) p a = true then Step.once (p + (b - a)) st
      else Step.nil st := by
  unfold backrefGen
  simp only [if_neg (Nat.not_le.2 (getO_some_lt hs)), hs, he]
  by_cases hba : b ≤ a
  · rw [if_pos hba, if_pos hba]
  · rw [if_neg hba, if_neg hba]
    -- `b - a ≥ 1`, so `p + (b - a) - 1 ≥ len` is `¬ p + (b - a) ≤ len`
    have hiff : p + (b - a) - 1 ≥ ctx.len ↔ ¬ p + (b - a) ≤ ctx.len := by omega
    by_cases h4 : p + (b - a) ≤ ctx.len
    · rw [if_neg (fun h => hiff.mp h h4)]
      simp only [h4, true_and]
    · rw [if_pos (hiff.mpr h4), if_neg (fun h => h4 h.1)]

end Rx
