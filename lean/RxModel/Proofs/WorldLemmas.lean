/-
  Proofs/WorldLemmas — for Props/C18 (history independence of `World.run`).
-/
import RxModel.Model.World
namespace Rx

/-- the iterator slot a call names -/
def HOp.slot : HOp → Option Nat
  | .openTok _ j _ | .openAna _ j _ | .next j | .drop j => some j
  | .isMatch _ _ | .replace _ _ _ => none

theorem World.setIt_objs (w : World) (j : Nat) (it : Option Iter) : (w.setIt j it).objs = w.objs := rfl

theorem World.setIt_its_ne (w : World) {i j : Nat} (it : Option Iter) (h : i ≠ j) :
    (w.setIt j it).its i = w.its i := if_neg h

theorem World.step_fst (lower : Nat → Nat) (w : World) (op : HOp) :
    (w.step lower op).1 = w ∨ ∃ j it, op.slot = some j ∧ (w.step lower op).1 = w.setIt j it := by
  cases op with
  | isMatch k input => rw [World.step]; split <;> exact .inl rfl
  | replace k input repl => rw [World.step]; split <;> exact .inl rfl
  | openTok k j input =>
    rw [World.step]
    split
    · exact .inl rfl
    · split
      · exact .inr ⟨j, _, rfl, rfl⟩
      · exact .inl rfl
  | openAna k j input =>
    rw [World.step]
    split
    · exact .inl rfl
    · split
      · exact .inr ⟨j, _, rfl, rfl⟩
      · exact .inl rfl
  | next j =>
    rw [World.step]
    split
    · exact .inl rfl
    · exact .inr ⟨j, _, rfl, rfl⟩
  | drop j => exact .inr ⟨j, none, rfl, rfl⟩

theorem World.step_objs (lower : Nat → Nat) (w : World) (op : HOp) :
    (w.step lower op).1.objs = w.objs := by
  rcases World.step_fst lower w op with h | ⟨j, it, -, h⟩
  · rw [h]
  · rw [h, World.setIt_objs]

theorem World.foldl_step_objs (lower : Nat → Nat) (mid : List HOp) (w : World) :
    (mid.foldl (fun w' op => (w'.step lower op).1) w).objs = w.objs := by
  induction mid generalizing w with
  | nil => rfl
  | cons op mid ih => rw [List.foldl_cons, ih, World.step_objs]

/-- the world `w` is exactly what the (most-recent-first) history `past` says it must be -/
def Agree (lower : Nat → Nat) (objs : Nat → Option Regex) (w : World) (past : List HOp) : Prop :=
  w.objs = objs ∧ ∀ j, w.its j = freshIter lower objs j past

theorem agree_init (lower : Nat → Nat) (objs : Nat → Option Regex) :
    Agree lower objs { objs := objs, its := fun _ => none } [] :=
  ⟨rfl, fun _ => rfl⟩

theorem step_answer (lower : Nat → Nat) (objs : Nat → Option Regex) (w : World) (past : List HOp)
    (h : Agree lower objs w past) (op : HOp) :
    (w.step lower op).2 = specAnswer lower objs past op := by
  obtain ⟨ho, hit⟩ := h
  subst ho
  cases op with
  | isMatch k input => simp only [World.step, specAnswer]; split <;> rfl
  | replace k input repl => simp only [World.step, specAnswer]; split <;> rfl
  | openTok k j input =>
    simp only [World.step, specAnswer]
    split
    · rfl
    · split <;> rfl
  | openAna k j input =>
    simp only [World.step, specAnswer]
    split
    · rfl
    · split <;> rfl
  | next j =>
    simp only [World.step, specAnswer]
    rw [← hit j]
    split <;> rfl
  | drop j => rfl

theorem freshIter_other (lower : Nat → Nat) (objs : Nat → Option Regex) (i : Nat) (op : HOp)
    (past : List HOp) (h : ∀ j, op.slot = some j → j ≠ i) :
    freshIter lower objs i (op :: past) = freshIter lower objs i past := by
  cases op with
  | isMatch k input => rfl
  | replace k input repl => rfl
  | openTok k j input => rw [freshIter, if_neg (h j rfl)]
  | openAna k j input => rw [freshIter, if_neg (h j rfl)]
  | next j => rw [freshIter, if_neg (h j rfl)]
  | drop j => rw [freshIter, if_neg (h j rfl)]

theorem World.setIt_its_self (w : World) (j : Nat) (it : Option Iter) : (w.setIt j it).its j = it :=
  if_pos rfl

theorem step_agree (lower : Nat → Nat) (objs : Nat → Option Regex) (w : World) (past : List HOp)
    (h : Agree lower objs w past) (op : HOp) :
    Agree lower objs (w.step lower op).1 (op :: past) := by
  refine ⟨(World.step_objs lower w op).trans h.1, ?_⟩
  obtain ⟨ho, hit⟩ := h
  subst ho
  intro i
  by_cases hs : op.slot = some i
  · -- the call names slot `i`
    cases op with
    | isMatch k input => cases hs
    | replace k input repl => cases hs
    | openTok k j input =>
      cases hs
      rw [World.step, freshIter, if_pos rfl]
      cases w.objs k with
      | none => exact hit i
      | some r =>
        dsimp only
        cases Iter.openTok r input with
        | error e => exact hit i
        | ok it => exact World.setIt_its_self w i _
    | openAna k j input =>
      cases hs
      rw [World.step, freshIter, if_pos rfl]
      cases w.objs k with
      | none => exact hit i
      | some r =>
        dsimp only
        cases Iter.openAna r input with
        | error e => exact hit i
        | ok it => exact World.setIt_its_self w i _
    | next j =>
      cases hs
      rw [World.step, freshIter, if_pos rfl, ← hit i]
      cases hw : w.its i with
      | none => exact hw
      | some it => exact World.setIt_its_self w i _
    | drop j =>
      cases hs
      rw [World.step, freshIter, if_pos rfl]
      exact World.setIt_its_self w i _
  · -- slot `i` is not named: neither side changes
    have hi : ∀ j, op.slot = some j → j ≠ i := fun j hj hji => hs (hji ▸ hj)
    rw [freshIter_other lower w.objs i op past hi, ← hit i]
    rcases World.step_fst lower w op with e | ⟨j, it, hj, e⟩
    · rw [e]
    · rw [e, World.setIt_its_ne w it (Ne.symm (hi j hj))]

theorem run_eq_specRun (lower : Nat → Nat) (objs : Nat → Option Regex) (ops : List HOp)
    (w : World) (past : List HOp) (h : Agree lower objs w past) :
    World.run lower w ops = specRun lower objs past ops := by
  induction ops generalizing w past with
  | nil => rfl
  | cons op ops ih =>
    simp only [World.run, specRun]
    rw [step_answer lower objs w past h op, ih _ _ (step_agree lower objs w past h op)]

end Rx
