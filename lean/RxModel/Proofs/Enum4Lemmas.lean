/-
  Proofs/Enum4Lemmas — the condition `NodesC` (Proofs/NodesC) established from what the fragment theorems of
  Spec/Enum … Spec/Enum4 assume: a body that passes the syntactic tests `detB`, `nonNull` has at most one end per
  start and makes progress (`det_op`, `BodyOK`); at an `.unamb` in front of justified followers the maximal run is
  the only one that can be continued (`unamb_elem`).  Per fragment one `TreePred.Sub` record says that its trees are
  exact (`…_ex`) and complete (`…_comp`); the theorems are its fields, carried to `enum` … `enum3` where the
  enumerations agree (Proofs/EnumFragments).
-/
import RxModel.Proofs.NodesC
namespace Rx
open Rx.C08 (noEmptyAtoms noEmptyAtomsL clsCanon clsCanonL)
open Rx.Clean2End (Progress)
open TreePred

theorem clean_ex (ctx : Ctx) : (cleanP.and wfP).Sub (exP ctx) :=
  ((nodesC_of_cleanOp ctx fun _ _ _ => True).andRight wfP).trans (exC ctx _)

theorem clean_comp (ctx : Ctx) : (cleanP.and wfP).Sub (compP ctx) :=
  ((nodesC_of_cleanOp ctx _).andRight wfP).trans (compC ctx)

theorem sem_ex_op (ctx : Ctx) (op : Op) (hc : cleanOp op = true) (hwf : wfOp op = true)
    (p : Nat) (hp : p ≤ ctx.len) (st : St) : Step.Ex (sem ctx op p st) (enum ctx op p) := by
  rw [← enum4_eq_enum ctx op hc]
  exact (clean_ex ctx).op' op ⟨hc, hwf⟩ p hp st

theorem sem_ex_any (ctx : Ctx) : (bs : List Op) → cleanOps bs = true → wfOps bs = true →
    ∀ p, p ≤ ctx.len → ∀ st, Step.Ex (choiceGen (semL ctx bs) p st) (enumAny ctx bs p) := by
  intro bs hc hwf p hp st
  rw [← Clean4EndL.enumAny4_eq_enumAny ctx bs hc]
  exact (clean_ex ctx).all ⟨hc, hwf⟩ p hp st

theorem sem_ex_seq (ctx : Ctx) : (ops : List Op) → ops ≠ [] → cleanOps ops = true → wfOps ops = true →
    ∀ p, p ≤ ctx.len → ∀ st, Step.Ex (seqGo (semL ctx ops) p st) (enumSeq ctx ops p) := by
  intro ops hne hc hwf p hp st
  rw [← Clean4EndL.enumSeq4_eq_enumSeq ctx ops hc]
  exact exP.seqGo ((clean_ex ctx).seq (top := false) ⟨hc, hwf⟩) hne p hp st

theorem enum_sound (ctx : Ctx) (op : Op) (hc : cleanOp op = true) (hwf : wfOp op = true) {p q : Nat}
    (hp : p ≤ ctx.len) (h : q ∈ enum ctx op p) : OpR ctx op p q :=
  (ex_sound ctx op hwf hp (sem_ex_op ctx op hc hwf p hp {}) q h).1

theorem enum_complete_op (ctx : Ctx) (op : Op) : cleanOp op = true → wfOp op = true →
    ∀ p q, p ≤ ctx.len → OpR ctx op p q → q ∈ enum ctx op p := by
  intro hc hwf p q hp h
  rw [← enum4_eq_enum ctx op hc]
  exact ((clean_comp ctx).op' op ⟨hc, hwf⟩).complete hp h rfl

theorem enum_complete_any (ctx : Ctx) : (bs : List Op) → cleanOps bs = true → wfOps bs = true →
    ∀ p q, p ≤ ctx.len → OpRAny ctx bs p q → q ∈ enumAny ctx bs p := by
  intro bs hc hwf p q hp h
  rw [← Clean4EndL.enumAny4_eq_enumAny ctx bs hc]
  exact (clean_comp ctx).all ⟨hc, hwf⟩ p q hp h

theorem enum_complete_seq (ctx : Ctx) : (ops : List Op) → cleanOps ops = true → wfOps ops = true →
    ∀ p q, p ≤ ctx.len → OpRSeq ctx ops p q → q ∈ enumSeq ctx ops p := by
  intro ops hc hwf p q hp h
  rw [← Clean4EndL.enumSeq4_eq_enumSeq ctx ops hc]
  exact ((clean_comp ctx).seq ⟨hc, hwf⟩ p q hp h).2 rfl

theorem shape2_ex (ctx : Ctx) : ((shapeP2.and neP).and wfP).Sub (exP ctx) :=
  ((nodesC_of_shape2 ctx).andRight wfP).trans (exC ctx _)

theorem sem_ex2_op (ctx : Ctx) (op : Op) (hs : shape2 op = true) (hwf : wfOp op = true)
    (hne : noEmptyAtoms op = true) (p : Nat) (hp : p ≤ ctx.len) (st : St) :
    Step.Ex (sem ctx op p st) (enum2 ctx op p) := by
  rw [← enum4_eq_enum2 ctx op hs]
  exact (shape2_ex ctx).op' op ⟨⟨hs, hne⟩, hwf⟩ p hp st

theorem sem_ex2_any (ctx : Ctx) : (bs : List Op) → shape2L bs = true → wfOps bs = true →
    noEmptyAtomsL bs = true →
    ∀ p, p ≤ ctx.len → ∀ st, Step.Ex (choiceGen (semL ctx bs) p st) (enumAny2 ctx bs p) := by
  intro bs hs hwf hne p hp st
  rw [← enumAny4_eq ctx bs hs]
  exact (shape2_ex ctx).all ⟨⟨hs, hne⟩, hwf⟩ p hp st

theorem sem_ex2_seq (ctx : Ctx) : (ops : List Op) → ops ≠ [] → shape2L ops = true → wfOps ops = true →
    noEmptyAtomsL ops = true →
    ∀ p, p ≤ ctx.len → ∀ st, Step.Ex (seqGo (semL ctx ops) p st) (enumSeq2 ctx ops p) := by
  intro ops hnil hs hwf hne p hp st
  rw [← enumSeq4_eq ctx ops hs]
  exact exP.seqGo ((shape2_ex ctx).seq (top := false) ⟨⟨hs, hne⟩, hwf⟩) hnil p hp st

theorem enum2_sound_of_shape (ctx : Ctx) (op : Op) (hc : shape2 op = true) (hwf : wfOp op = true)
    (hne : noEmptyAtoms op = true) {p q : Nat} (hp : p ≤ ctx.len) (h : q ∈ enum2 ctx op p) :
    OpR ctx op p q :=
  (ex_sound ctx op hwf hp (sem_ex2_op ctx op hc hwf hne p hp {}) q h).1

theorem mem_enumAny2 (ctx : Ctx) : ∀ (bs : List Op) (p y : Nat), y ∈ enumAny2 ctx bs p →
    ∃ b, b ∈ bs ∧ y ∈ enum2 ctx b p
  | [], _, _, h => by simp [enumAny2] at h
  | b :: bs, p, y, h => by
    simp only [enumAny2, List.mem_append] at h
    rcases h with h | h
    · exact ⟨b, List.mem_cons_self, h⟩
    · obtain ⟨b', hb', hy⟩ := mem_enumAny2 ctx bs p y h
      exact ⟨b', List.mem_cons_of_mem _ hb', hy⟩

theorem disjoint_exclusive (env : Env) (ctx : Ctx) (hI : InputOK env ctx) (b b' : Op)
    (hcb : clsCanon b) (hcb' : clsCanon b') (hnb : nonNull b = true) (hnb' : nonNull b' = true)
    (hd : isDisjoint (initialClass env ctx.caseBlind b) (initialClass env ctx.caseBlind b') = true)
    (p x y : Nat) (hp : p ≤ ctx.len) (h1 : OpR ctx b p x) (h2 : OpR ctx b' p y) : False := by
  obtain ⟨c1, hc1, hm1⟩ := C08.initialClass_sound env ctx hI.hcase hI.hce hI.hin b hcb p x hp h1
    (nonNull_sound ctx b hnb p x h1)
  obtain ⟨c2, hc2, hm2⟩ := C08.initialClass_sound env ctx hI.hcase hI.hce hI.hin b' hcb' p y hp h2
    (nonNull_sound ctx b' hnb' p y h2)
  rw [hc1] at hc2
  cases hc2
  have hmem : c1 ∈ ctx.input := List.mem_of_getElem? hc1
  have := C09.isDisjoint_sound _ _ (C08.initialClass_canon env ctx.caseBlind hI.hce b' hcb') hd c1
    (hI.hsc c1 hmem) hm2
  rw [hm1] at this
  cases this

def detFrag (env : Env) (ctx : Ctx) : TreePred :=
  ((((cleanP2 env ctx.caseBlind ctx.multiLine).and (detP env ctx.caseBlind)).and wfP).and neP).and canP

theorem detFrag_desc (env : Env) (ctx : Ctx) : (detFrag env ctx).Desc :=
  (((((cleanP2_transp env _ _).desc).and (detP_desc env _)).and wfP_desc).and neP_transp.desc).and canP_transp.desc

theorem detFrag_mem (env : Env) (ctx : Ctx) : ∀ {bs : List Op}, (detFrag env ctx).all bs → ∀ b, b ∈ bs →
    (detFrag env ctx).op false [] b ∧ nonNull b = true
  | [], _, b, hb => by cases hb
  | a :: bs, h, b, hb => by
    have hd : nonNull a = true := by
      have := h.1.1.1.2
      simp only [detP, detChoice, Bool.and_eq_true] at this
      exact this.1.1.2
    rcases List.mem_cons.1 hb with rfl | hb
    · exact ⟨((detFrag_desc env ctx).allCons h).1, hd⟩
    · exact detFrag_mem env ctx ((detFrag_desc env ctx).allCons h).2 b hb

theorem detFrag_sound {env : Env} {ctx : Ctx} {b : Op} {top : Bool} {F : List Op} (h : (detFrag env ctx).op top F b)
    {p x : Nat} (hp : p ≤ ctx.len) (hx : x ∈ enum2 ctx b p) : OpR ctx b p x :=
  enum2_sound_of_shape ctx _ ((shape_of_clean2 env _ _).op h.1.1.1.1) h.1.1.2 h.1.2 hp hx

theorem det_op (env : Env) (ctx : Ctx) (hI : InputOK env ctx) :
    (detFrag env ctx).Sub
      ⟨fun _ _ c => ∀ p, p ≤ ctx.len → (enum2 ctx c p).length ≤ 1,
       fun l => ∀ p, p ≤ ctx.len → (enumAny2 ctx l p).length ≤ 1,
       fun _ l => ∀ p, p ≤ ctx.len → (enumSeq2 ctx l p).length ≤ 1⟩ :=
  ind (detFrag_desc env ctx)
    (leaf := fun _ _ _ hl _ p _ => by
      cases hl with
      | bol | eol | atom _ => simp only [enum2]; split <;> simp
      | nothing | endProgram | backref _ => simp [enum2]
      | cls rs =>
        simp only [enum2]
        cases ctx.input[p]? with
        | none => simp
        | some c => simp only; split <;> simp)
    (capture := fun _ _ _ _ _ ih p hp => by simp only [enum2]; exact ih p hp)
    (choice := fun _ _ _ _ ih p hp => by simp only [enum2]; exact ih p hp)
    (seq := fun _ _ _ _ ih p hp => by simp only [enum2]; exact ih p hp)
    (rep := fun _ _ _ _ _ _ _ h => by have := h.1.1.1.1; simp [cleanP2, cleanOp2F] at this)
    (gfixed := fun _ _ c mn mx _ h _ p _ => by
      have hd := h.1.1.1.2
      simp only [detP, detB, Bool.and_eq_true, beq_iff_eq] at hd
      simp only [enum2]
      exact greedyIter_exact_len _ mn mx 0 p (by omega))
    (rfixed := fun _ _ c mn mx _ h _ p _ => by
      have hd := h.1.1.1.2
      simp only [detP, detB, Bool.and_eq_true, beq_iff_eq] at hd
      simp only [enum2]
      exact reluctIter_exact_len _ mn mx 0 p (by omega))
    (unamb := fun _ _ _ _ _ _ _ p _ => by simp only [enum2]; split <;> simp)
    (allNil := fun p _ => by simp [enumAny2])
    (allCons := fun b bs h ih ihl p hp => by
      have hb := (detFrag_desc env ctx).allCons h
      have hdis := h.1.1.1.2
      simp only [detP, detChoice, Bool.and_eq_true, List.all_eq_true] at hdis
      simp only [enumAny2, List.length_append]
      cases hl : enum2 ctx b p with
      | nil => simpa using ihl p hp
      | cons x t =>
        -- a second branch with a match from `p` would share its first character with `b`
        have hrest : enumAny2 ctx bs p = [] := by
          cases hr : enumAny2 ctx bs p with
          | nil => rfl
          | cons y t' =>
            exfalso
            obtain ⟨b', hb', hy⟩ := mem_enumAny2 ctx bs p y (by rw [hr]; exact List.mem_cons_self)
            obtain ⟨f, fnn⟩ := detFrag_mem env ctx hb.2 b' hb'
            exact disjoint_exclusive env ctx hI b b' hb.1.2 f.2 hdis.1.1.2 fnn (hdis.1.2 b' hb') p x y hp
              (detFrag_sound hb.1 hp (by rw [hl]; exact List.mem_cons_self)) (detFrag_sound f hp hy)
        have := ih p hp
        rw [hl] at this
        rw [hrest]
        simpa using this)
    (seqNil := fun _ p _ => by simp [enumSeq2])
    (seqCons := fun _ b l h ih ihl p hp => by
      have hb := ((detFrag_desc env ctx).seqCons h).1
      simp only [enumSeq2]
      cases hl : enum2 ctx b p with
      | nil => simp
      | cons x t =>
        obtain rfl : t = [] := tail_nil_of_length_le_one hl (ih p hp)
        have hxL := (OpR_bounds_op ctx b p x hp (detFrag_sound hb hp (by rw [hl]; exact List.mem_cons_self))).2
        simp only [List.flatMap_cons, List.flatMap_nil, List.append_nil]
        exact ihl x hxL)

theorem det_choice (env : Env) (ctx : Ctx) (hI : InputOK env ctx) : (bs : List Op) →
    cleanAll2 env ctx.caseBlind ctx.multiLine bs = true → detChoice env ctx.caseBlind bs = true →
    wfOps bs = true → noEmptyAtomsL bs = true → clsCanonL bs →
    ∀ p, p ≤ ctx.len → (enumAny2 ctx bs p).length ≤ 1 :=
  fun _ hc hd hw hn hcc => (det_op env ctx hI).all ⟨⟨⟨⟨hc, hd⟩, hw⟩, hn⟩, hcc⟩

theorem det_seq (env : Env) (ctx : Ctx) (hI : InputOK env ctx) : (ops : List Op) → ∀ top,
    cleanSeq2 env ctx.caseBlind ctx.multiLine top ops = true → detAll env ctx.caseBlind ops = true →
    wfOps ops = true → noEmptyAtomsL ops = true → clsCanonL ops →
    ∀ p, p ≤ ctx.len → (enumSeq2 ctx ops p).length ≤ 1 :=
  fun _ _ hc hd hw hn hcc => (det_op env ctx hI).seq ⟨⟨⟨⟨hc, hd⟩, hw⟩, hn⟩, hcc⟩

/-- the conditions on the body of a general repeat of the fragments of Spec/Enum3, Spec/Enum4 -/
structure BodyOK (env : Env) (ctx : Ctx) (c : Op) : Prop where
  clean : cleanOp2 env ctx.caseBlind ctx.multiLine c = true
  nn : nonNull c = true
  det : detB env ctx.caseBlind c = true
  wf : wfOp c = true
  ne : noEmptyAtoms c = true
  can : clsCanon c

theorem BodyOK.shape {env : Env} {ctx : Ctx} {c : Op} (h : BodyOK env ctx c) : shape2 c = true :=
  (shape_of_clean2 env _ _).op h.clean

theorem BodyOK.detBody {env : Env} {ctx : Ctx} {c : Op} (hI : InputOK env ctx) (h : BodyOK env ctx c) :
    DetBody (sem ctx c) (enum4 ctx c) ctx.len := by
  rw [enum4_eq_enum2 ctx c h.shape]
  refine ⟨fun q hq st => sem_ex2_op ctx c h.shape h.wf h.ne q hq st,
    (det_op env ctx hI).op (top := false) (F := []) ⟨⟨⟨⟨h.clean, h.det⟩, h.wf⟩, h.ne⟩, h.can⟩, ?_⟩
  intro q hq n hn
  have hr := enum2_sound_of_shape ctx c h.shape h.wf h.ne hq hn
  exact ⟨nonNull_sound ctx c h.nn q n hr, (OpR_bounds_op ctx c q n hq hr).2⟩

/-- the conditions on `.rep id c mn mx g` in the fragment of Spec/Enum4, unfolded -/
structure RepOK4 (env : Env) (ctx : Ctx) (c : Op) (mn mx : Nat) (g : Bool) : Prop extends BodyOK env ctx c where
  mng : g = true → 1 ≤ mn

theorem repOK4_of {env : Env} {ctx : Ctx} {id : Nat} {c : Op} {mn mx : Nat} {g top : Bool} {F : List Op}
    (hc : cleanOp4F env ctx.caseBlind ctx.multiLine top F (.rep id c mn mx g) = true)
    (hw : wfOp (.rep id c mn mx g) = true) (hn : noEmptyAtoms (.rep id c mn mx g) = true)
    (hcc : clsCanon (.rep id c mn mx g)) : RepOK4 env ctx c mn mx g := by
  simp only [cleanOp4F, Bool.and_eq_true, Bool.or_eq_true, Bool.not_eq_true', decide_eq_true_eq] at hc
  refine ⟨⟨hc.1.1.2, hc.1.2, hc.2, down_wfOp.rpt (o := .rep id c mn mx g) rfl hw, hn, hcc⟩, fun hg => ?_⟩
  rcases hc.1.1.1 with h | h
  · rw [hg] at h; cases h
  · exact h

/-- what the theorems about the fragments of Spec/Enum2 … Spec/Enum4 assume of a tree, asked of an element and
    (the three side conditions) of its followers -/
def frag4 (env : Env) (ctx : Ctx) : TreePred :=
  (((cleanP4 env ctx.caseBlind ctx.multiLine).and (.withF (wfOp · = true) (wfOps · = true))).and
    (.withF (noEmptyAtoms · = true) (noEmptyAtomsL · = true))).and (.withF clsCanon clsCanonL)

theorem frag4_desc (env : Env) (ctx : Ctx) : (frag4 env ctx).Desc :=
  ((((cleanP4_transp env _ _).desc).and (wfP_desc.withF rfl)).and (neP_transp.desc.withF rfl)).and
    (canP_transp.desc.withF (by simp only [clsCanonL]))

theorem frag4_op {env : Env} {ctx : Ctx} {op : Op}
    (hc : cleanOp4F env ctx.caseBlind ctx.multiLine false [] op = true) (hwf : wfOp op = true)
    (hne : noEmptyAtoms op = true) (hcc : clsCanon op) : (frag4 env ctx).op false [] op :=
  ⟨⟨⟨hc, hwf, rfl⟩, hne, rfl⟩, hcc, by simp only [clsCanonL]⟩

theorem nodesC_of_clean4 (env : Env) (ctx : Ctx) (hI : InputOK env ctx) :
    (frag4 env ctx).Sub (nodesCP ctx (ElemOK ctx)) :=
  impl0 (frag4_desc env ctx) (nodesCP_transp ctx _).gen (fun h => cleanP4_backref h.1.1.1)
    (leaf := fun _ _ _ hl _ => by cases hl <;> simp only [NodesC])
    (rep := fun _ _ id c mn mx g ih ⟨⟨⟨hc, hwf⟩, hne⟩, hcc⟩ => by
      have hr := repOK4_of hc hwf.1 hne.1 hcc.1
      exact ⟨⟨hr.mng, hr.toBodyOK.detBody hI⟩,
        ih (frag4_op ((clean4_of_clean2 env _ _).op hr.clean) hr.wf hr.ne hr.can)⟩)
    (unamb := fun top F x mn mx _ ⟨⟨⟨hc, hwf⟩, hne⟩, hcc⟩ => by
      have hx : isAtomOrClass x = true := by
        simp only [cleanP4, cleanOp4F, Bool.and_eq_true] at hc
        exact hc.1
      have hnx : noEmptyAtoms x = true := by simpa only [noEmptyAtoms] using hne.1
      refine ⟨⟨hx, hnx⟩, fun p m q hp h1 hF => ?_⟩
      have := unamb_elem env ctx hI top x mn mx F (by rw [← cleanOp4F_unamb]; exact hc) hnx
        (by simpa only [clsCanon] using hcc.1) hwf.2 hne.2 hcc.2 p m q hp h1 hF
      rw [← enum4_unamb ctx x mn mx hx] at this
      rcases this with ⟨he, hm⟩ | ⟨hF', ht, m', he, hm'⟩
      · exact ⟨m, by rw [he]; exact List.mem_singleton.2 rfl, hm, .inl rfl⟩
      · exact ⟨m', by rw [he]; exact List.mem_singleton.2 rfl, hm', .inr ⟨ht, hF'⟩⟩)

theorem frag4_nodes (env : Env) (ctx : Ctx) (hI : InputOK env ctx) :
    (frag4 env ctx).Sub ((nodesCP ctx (ElemOK ctx)).and wfP) :=
  (nodesC_of_clean4 env ctx hI).and ⟨fun ⟨⟨⟨_, hw, _⟩, _⟩, _⟩ => hw, fun ⟨⟨⟨_, hw⟩, _⟩, _⟩ => hw, fun ⟨⟨⟨_, hw⟩, _⟩, _⟩ => hw⟩

theorem frag4_ex (env : Env) (ctx : Ctx) (hI : InputOK env ctx) : (frag4 env ctx).Sub (exP ctx) :=
  (frag4_nodes env ctx hI).trans (exC ctx _)

theorem frag4_comp (env : Env) (ctx : Ctx) (hI : InputOK env ctx) : (frag4 env ctx).Sub (compP ctx) :=
  (frag4_nodes env ctx hI).trans (compC ctx)

theorem frag4_prog {env : Env} {ctx : Ctx} {op : Op} (hc : cleanProg4 env ctx.caseBlind ctx.multiLine op = true)
    (hwf : wfOp op = true) (hne : noEmptyAtoms op = true) (hcc : clsCanon op) : (frag4 env ctx).prog op := by
  cases op with
  | seq ops =>
    simp only [noEmptyAtoms] at hne
    simp only [clsCanon] at hcc
    exact ⟨⟨⟨hc, down_wfOp.seq hwf⟩, hne⟩, hcc⟩
  | _ => exact frag4_op hc hwf hne hcc

/-- an element in front of ANY followers: only an `.unamb` is judged against them, and its iterator does not
    depend on them -/
theorem sem_ex4_op (env : Env) (ctx : Ctx) (hI : InputOK env ctx) (op : Op) (top : Bool) (F : List Op)
    (hc : cleanOp4F env ctx.caseBlind ctx.multiLine top F op = true) (hwf : wfOp op = true)
    (hne : noEmptyAtoms op = true) (hcc : clsCanon op) (p : Nat) (hp : p ≤ ctx.len) (st : St) :
    Step.Ex (sem ctx op p st) (enum4 ctx op p) := by
  by_cases hu : isUnamb op = true
  · obtain ⟨x, mn, mx, rfl⟩ := isUnamb_true hu
    simp only [cleanOp4F, Bool.and_eq_true] at hc
    exact sem_ex4 ctx _ (U := fun _ _ _ => True) (top := top) (F := F)
      (by simp only [NodesC]; exact ⟨⟨hc.1, by simpa only [noEmptyAtoms] using hne⟩, trivial⟩) hwf p hp st
  · rw [cleanOp4F_irrel env _ _ top F op hu] at hc
    exact (frag4_ex env ctx hI).op (frag4_op hc hwf hne hcc) p hp st

theorem sem_ex4_any (env : Env) (ctx : Ctx) (hI : InputOK env ctx) : (bs : List Op) →
    cleanAll4 env ctx.caseBlind ctx.multiLine bs = true → wfOps bs = true →
    noEmptyAtomsL bs = true → clsCanonL bs →
    ∀ p, p ≤ ctx.len → ∀ st, Step.Ex (choiceGen (semL ctx bs) p st) (enumAny4 ctx bs p) :=
  fun _ hc hwf hne hcc => (frag4_ex env ctx hI).all ⟨⟨⟨hc, hwf⟩, hne⟩, hcc⟩

theorem sem_ex4_seq (env : Env) (ctx : Ctx) (hI : InputOK env ctx) (ops : List Op) (top : Bool)
    (hnil : ops ≠ []) (hc : cleanSeq4 env ctx.caseBlind ctx.multiLine top ops = true)
    (hwf : wfOps ops = true) (hne : noEmptyAtomsL ops = true) (hcc : clsCanonL ops)
    (p : Nat) (hp : p ≤ ctx.len) (st : St) :
    Step.Ex (seqGo (semL ctx ops) p st) (enumSeq4 ctx ops p) :=
  exP.seqGo ((frag4_ex env ctx hI).seq ⟨⟨⟨hc, hwf⟩, hne⟩, hcc⟩) hnil p hp st

theorem enum4_sound_op (env : Env) (ctx : Ctx) (hI : InputOK env ctx) (op : Op) (top : Bool) (F : List Op)
    (hc : cleanOp4F env ctx.caseBlind ctx.multiLine top F op = true) (hwf : wfOp op = true)
    (hne : noEmptyAtoms op = true) (hcc : clsCanon op) {p q : Nat} (hp : p ≤ ctx.len)
    (h : q ∈ enum4 ctx op p) : OpR ctx op p q :=
  (ex_sound ctx op hwf hp (sem_ex4_op env ctx hI op top F hc hwf hne hcc p hp {}) q h).1

theorem comp4_op (env : Env) (ctx : Ctx) (hI : InputOK env ctx) (op : Op) :
    cleanOp4F env ctx.caseBlind ctx.multiLine false [] op = true → wfOp op = true →
    noEmptyAtoms op = true → clsCanon op →
    ∀ p q, p ≤ ctx.len → OpR ctx op p q → q ∈ enum4 ctx op p :=
  fun hc hwf hne hcc _ _ hp h =>
    ((frag4_comp env ctx hI).op (frag4_op hc hwf hne hcc)).complete hp h rfl

theorem comp4_any (env : Env) (ctx : Ctx) (hI : InputOK env ctx) : (bs : List Op) →
    cleanAll4 env ctx.caseBlind ctx.multiLine bs = true → wfOps bs = true →
    noEmptyAtomsL bs = true → clsCanonL bs →
    ∀ p q, p ≤ ctx.len → OpRAny ctx bs p q → q ∈ enumAny4 ctx bs p :=
  fun _ hc hwf hne hcc => (frag4_comp env ctx hI).all ⟨⟨⟨hc, hwf⟩, hne⟩, hcc⟩

theorem comp4_seq (env : Env) (ctx : Ctx) (hI : InputOK env ctx) : (ops : List Op) →
    cleanSeq4 env ctx.caseBlind ctx.multiLine false ops = true → wfOps ops = true →
    noEmptyAtomsL ops = true → clsCanonL ops →
    ∀ p q, p ≤ ctx.len → OpRSeq ctx ops p q → q ∈ enumSeq4 ctx ops p :=
  fun _ hc hwf hne hcc p q hp h =>
    ((frag4_comp env ctx hI).seq ⟨⟨⟨hc, hwf⟩, hne⟩, hcc⟩ p q hp h).2 rfl

/-- a root sequence may end in `x{mn,mx} · EndProgram`: existence only -/
theorem exist4_seq (env : Env) (ctx : Ctx) (hI : InputOK env ctx) (ops : List Op)
    (hc : cleanSeq4 env ctx.caseBlind ctx.multiLine true ops = true) (hwf : wfOps ops = true)
    (hne : noEmptyAtomsL ops = true) (hcc : clsCanonL ops) (p q : Nat) (hp : p ≤ ctx.len)
    (h : OpRSeq ctx ops p q) : enumSeq4 ctx ops p ≠ [] :=
  ((frag4_comp env ctx hI).seq ⟨⟨⟨hc, hwf⟩, hne⟩, hcc⟩ p q hp h).1

theorem BodyOK.headDet {env : Env} {ctx : Ctx} {c : Op} (hI : InputOK env ctx) (h : BodyOK env ctx c) :
    HeadDet (fun a b => OpR ctx c a b) (enum4 ctx c) ctx.len :=
  (h.detBody hI).headDet (fun a b ha hab =>
    comp4_op env ctx hI c ((clean4_of_clean2 env _ _).op h.clean) h.wf h.ne h.can a b ha hab)

theorem enumerates_clean4 (env : Env) (ctx : Ctx) (hI : InputOK env ctx) (op : Op)
    (hc : cleanProg4 env ctx.caseBlind ctx.multiLine op = true) (hwf : wfOp op = true)
    (hne : noEmptyAtoms op = true) (hcc : clsCanon op) : Enumerates ctx op (enum4 ctx op) :=
  have h := frag4_prog hc hwf hne hcc
  .of_prog ((frag4_ex env ctx hI).prog h) ((frag4_comp env ctx hI).prog h) hwf

theorem enumerates_clean3 (env : Env) (ctx : Ctx) (hI : InputOK env ctx) (op : Op)
    (hc : cleanProg3 env ctx.caseBlind ctx.multiLine op = true) (hwf : wfOp op = true)
    (hne : noEmptyAtoms op = true) (hcc : clsCanon op) : Enumerates ctx op (enum3 ctx op) := by
  rw [← enum4_eq_enum3_shape ctx op (shape3_of_cleanProg3 env _ _ op hc)]
  exact enumerates_clean4 env ctx hI op (cleanProg4_of_prog3 env _ _ op hc) hwf hne hcc

theorem enumerates_clean2 (env : Env) (ctx : Ctx) (hI : InputOK env ctx) (op : Op)
    (hc : cleanProg2 env ctx.caseBlind ctx.multiLine op = true) (hwf : wfOp op = true)
    (hne : noEmptyAtoms op = true) (hcc : clsCanon op) : Enumerates ctx op (enum2 ctx op) := by
  rw [← enum4_eq_enum2 ctx op (shape_of_cleanProg2 env _ _ op hc)]
  exact enumerates_clean4 env ctx hI op (cleanProg4_of_prog2 env _ _ op hc) hwf hne hcc

theorem enumerates_clean (ctx : Ctx) (op : Op) (hc : cleanOp op = true) (hwf : wfOp op = true) :
    Enumerates ctx op (enum ctx op) :=
  .of_ex hwf (sem_ex_op ctx op hc hwf) (fun j hj ⟨q, hq⟩ hnil => by
    have := enum_complete_op ctx op hc hwf j q hj hq
    rw [hnil] at this
    cases this)

theorem sem_ex3_op (env : Env) (ctx : Ctx) (hI : InputOK env ctx) (op : Op) (top : Bool) (F : List Op)
    (hc : cleanOp3F env ctx.caseBlind ctx.multiLine top F op = true) (hwf : wfOp op = true)
    (hne : noEmptyAtoms op = true) (hcc : clsCanon op) (p : Nat) (hp : p ≤ ctx.len) (st : St) :
    Step.Ex (sem ctx op p st) (enum3 ctx op p) := by
  rw [← enum4_eq_enum3_shape ctx op ((shape3_of_clean3 env _ _).op hc)]
  exact sem_ex4_op env ctx hI op top F ((clean4_of_clean3 env _ _).op hc) hwf hne hcc p hp st

theorem sem_ex3_any (env : Env) (ctx : Ctx) (hI : InputOK env ctx) : (bs : List Op) →
    cleanAll3 env ctx.caseBlind ctx.multiLine bs = true → wfOps bs = true →
    noEmptyAtomsL bs = true → clsCanonL bs →
    ∀ p, p ≤ ctx.len → ∀ st, Step.Ex (choiceGen (semL ctx bs) p st) (enumAny3 ctx bs p) := by
  intro bs hc hwf hne hcc p hp st
  rw [← enumAny4_eq3 ctx bs (SearchComplete.shape3_of_cleanAll3 env _ _ bs hc)]
  exact sem_ex4_any env ctx hI bs (clean4_of_clean3All env _ _ bs hc) hwf hne hcc p hp st

theorem sem_ex3_seq (env : Env) (ctx : Ctx) (hI : InputOK env ctx) (ops : List Op) (top : Bool)
    (hnil : ops ≠ []) (hc : cleanSeq3 env ctx.caseBlind ctx.multiLine top ops = true)
    (hwf : wfOps ops = true) (hne : noEmptyAtomsL ops = true) (hcc : clsCanonL ops)
    (p : Nat) (hp : p ≤ ctx.len) (st : St) :
    Step.Ex (seqGo (semL ctx ops) p st) (enumSeq3 ctx ops p) := by
  rw [← enumSeq4_eq3 ctx ops ((shape3_of_clean3 env _ _).seq hc)]
  exact sem_ex4_seq env ctx hI ops top hnil ((clean4_of_clean3 env _ _).seq hc) hwf hne hcc p hp st

theorem enum3_sound_op (env : Env) (ctx : Ctx) (hI : InputOK env ctx) (op : Op) (top : Bool) (F : List Op)
    (hc : cleanOp3F env ctx.caseBlind ctx.multiLine top F op = true) (hwf : wfOp op = true)
    (hne : noEmptyAtoms op = true) (hcc : clsCanon op) {p q : Nat} (hp : p ≤ ctx.len)
    (h : q ∈ enum3 ctx op p) : OpR ctx op p q :=
  (ex_sound ctx op hwf hp (sem_ex3_op env ctx hI op top F hc hwf hne hcc p hp {}) q h).1

theorem comp3_op (env : Env) (ctx : Ctx) (hI : InputOK env ctx) (op : Op)
    (hc : cleanOp3F env ctx.caseBlind ctx.multiLine false [] op = true) (hwf : wfOp op = true)
    (hne : noEmptyAtoms op = true) (hcc : clsCanon op) (p q : Nat) (hp : p ≤ ctx.len)
    (h : OpR ctx op p q) : q ∈ enum3 ctx op p := by
  rw [← enum4_eq_enum3_shape ctx op ((shape3_of_clean3 env _ _).op hc)]
  exact comp4_op env ctx hI op ((clean4_of_clean3 env _ _).op hc) hwf hne hcc p q hp h

theorem comp3_any (env : Env) (ctx : Ctx) (hI : InputOK env ctx) : (bs : List Op) →
    cleanAll3 env ctx.caseBlind ctx.multiLine bs = true → wfOps bs = true →
    noEmptyAtomsL bs = true → clsCanonL bs →
    ∀ p q, p ≤ ctx.len → OpRAny ctx bs p q → q ∈ enumAny3 ctx bs p := by
  intro bs hc hwf hne hcc p q hp h
  rw [← enumAny4_eq3 ctx bs (SearchComplete.shape3_of_cleanAll3 env _ _ bs hc)]
  exact comp4_any env ctx hI bs (clean4_of_clean3All env _ _ bs hc) hwf hne hcc p q hp h

theorem comp3_seq (env : Env) (ctx : Ctx) (hI : InputOK env ctx) : (ops : List Op) →
    cleanSeq3 env ctx.caseBlind ctx.multiLine false ops = true → wfOps ops = true →
    noEmptyAtomsL ops = true → clsCanonL ops →
    ∀ p q, p ≤ ctx.len → OpRSeq ctx ops p q → q ∈ enumSeq3 ctx ops p := by
  intro ops hc hwf hne hcc p q hp h
  rw [← enumSeq4_eq3 ctx ops ((shape3_of_clean3 env _ _).seq hc)]
  exact comp4_seq env ctx hI ops ((clean4_of_clean3 env _ _).seq hc) hwf hne hcc p q hp h

theorem exist3_seq (env : Env) (ctx : Ctx) (hI : InputOK env ctx) (ops : List Op)
    (hc : cleanSeq3 env ctx.caseBlind ctx.multiLine true ops = true) (hwf : wfOps ops = true)
    (hne : noEmptyAtomsL ops = true) (hcc : clsCanonL ops) (p q : Nat) (hp : p ≤ ctx.len)
    (h : OpRSeq ctx ops p q) : enumSeq3 ctx ops p ≠ [] := by
  rw [← enumSeq4_eq3 ctx ops ((shape3_of_clean3 env _ _).seq hc)]
  exact exist4_seq env ctx hI ops ((clean4_of_clean3 env _ _).seq hc) hwf hne hcc p q hp h

theorem comp2_op (env : Env) (ctx : Ctx) (hI : InputOK env ctx) (op : Op)
    (hc : cleanOp2F env ctx.caseBlind ctx.multiLine false [] op = true) (hwf : wfOp op = true)
    (hne : noEmptyAtoms op = true) (hcc : clsCanon op) (p q : Nat) (hp : p ≤ ctx.len)
    (h : OpR ctx op p q) : q ∈ enum2 ctx op p := by
  rw [← enum4_eq_enum2 ctx op ((shape_of_clean2 env _ _).op hc)]
  exact comp4_op env ctx hI op ((clean4_of_clean2 env _ _).op hc) hwf hne hcc p q hp h

theorem comp2_any (env : Env) (ctx : Ctx) (hI : InputOK env ctx) : (bs : List Op) →
    cleanAll2 env ctx.caseBlind ctx.multiLine bs = true → wfOps bs = true →
    noEmptyAtomsL bs = true → clsCanonL bs →
    ∀ p q, p ≤ ctx.len → OpRAny ctx bs p q → q ∈ enumAny2 ctx bs p := by
  intro bs hc hwf hne hcc p q hp h
  rw [← enumAny4_eq ctx bs (shape_of_cleanAll2 env _ _ bs hc)]
  exact comp4_any env ctx hI bs (clean4_of_clean2All env _ _ bs hc) hwf hne hcc p q hp h

theorem comp2_seq (env : Env) (ctx : Ctx) (hI : InputOK env ctx) : (ops : List Op) →
    cleanSeq2 env ctx.caseBlind ctx.multiLine false ops = true → wfOps ops = true →
    noEmptyAtomsL ops = true → clsCanonL ops →
    ∀ p q, p ≤ ctx.len → OpRSeq ctx ops p q → q ∈ enumSeq2 ctx ops p := by
  intro ops hc hwf hne hcc p q hp h
  rw [← enumSeq4_eq ctx ops ((shape_of_clean2 env _ _).seq hc)]
  exact comp4_seq env ctx hI ops ((clean4_of_clean2 env _ _).seq hc) hwf hne hcc p q hp h

end Rx
