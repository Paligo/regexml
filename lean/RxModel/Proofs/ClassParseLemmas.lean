/-
  Proofs/ClassParseLemmas — the item grammar of Props/C09b (`CItem`): the head of a rendered item
  list, and membership in the set a list of items denotes.
-/
import RxModel.Props.C09
namespace Rx.C09
open Rx

theorem plainCh_iff (x : Nat) :
    plainCh x = true ↔ x ≠ 92 ∧ x ≠ 91 ∧ x ≠ 93 ∧ x ≠ 45 ∧ x ≠ 94 := by
  unfold plainCh
  -- the two sides then differ in the bracketing only
  simp only [Bool.not_eq_true', Bool.or_eq_false_iff, beq_eq_false_iff_ne, ne_eq, and_assoc]

theorem render_head_plain (items : List CItem) (hne : items ≠ []) (hok : items.all CItem.ok = true) :
    ∃ y tl, renderItems items = y :: tl ∧ plainCh y = true := by
  cases items with
  | nil => exact absurd rfl hne
  | cons it more =>
    rw [List.all_cons, Bool.and_eq_true] at hok
    cases it with
    | chr x => exact ⟨x, renderItems more, rfl, hok.1⟩
    | range a b =>
      have h := hok.1
      simp only [CItem.ok, Bool.and_eq_true] at h
      exact ⟨a, 45 :: b :: renderItems more, rfl, h.1.1⟩

theorem foldl_addTo_spec (x : Nat) : ∀ (items : List CItem) (rs : Ranges), Canon rs →
    items.all CItem.ok = true →
    (∀ i ∈ items, match i with | .chr c => c < cpLimit | .range _ b => b < cpLimit) →
    Canon (items.foldl CItem.addTo rs) ∧
    clsContains (items.foldl CItem.addTo rs) x =
      (items.any (fun i => match i with
          | .chr c => decide (x = c)
          | .range a b => decide (a ≤ x) && decide (x ≤ b)) || clsContains rs x) := by
  intro items
  induction items with
  | nil => intro rs hc _ _; exact ⟨hc, by simp⟩
  | cons it more ih =>
    intro rs hc hok hlim
    rw [List.all_cons, Bool.and_eq_true] at hok
    have hl := hlim it (by simp)
    have hlim' : ∀ i ∈ more, match i with | .chr c => c < cpLimit | .range _ b => b < cpLimit :=
      fun i hi => hlim i (List.mem_cons_of_mem _ hi)
    cases it with
    | chr c =>
      have hc' : Canon (addChar c rs) := canon_addRange rs hc c (c + 1) (by simp only at hl; omega)
      obtain ⟨h1, h2⟩ := ih (addChar c rs) hc' hok.2 hlim'
      refine ⟨h1, ?_⟩
      simp only [List.foldl_cons, CItem.addTo, List.any_cons]
      rw [h2, contains_addChar rs hc]
      cases List.any more _ <;> cases decide (x = c) <;> cases clsContains rs x <;> rfl
    | range a b =>
      have hc' : Canon (addRange a (b + 1) rs) :=
        canon_addRange rs hc a (b + 1) (by simp only at hl; omega)
      obtain ⟨h1, h2⟩ := ih (addRange a (b + 1) rs) hc' hok.2 hlim'
      refine ⟨h1, ?_⟩
      simp only [List.foldl_cons, CItem.addTo, List.any_cons]
      rw [h2, contains_addRange rs hc]
      have e : decide (x < b + 1) = decide (x ≤ b) := by
        rw [Bool.eq_iff_iff]; simp only [decide_eq_true_eq]; omega
      rw [e]
      cases List.any more _ <;> cases decide (a ≤ x) <;> cases decide (x ≤ b) <;>
        cases clsContains rs x <;> rfl

end Rx.C09
