/-
  Proofs/ParserClosed — a property of trees that every constructor the parser applies preserves
  (`ParserClosed P`) holds of every tree the parser returns (`parse_closed`), except that the top-level
  `parseExpr` closes the tree with `makeSequence · EndProgram`.
-/
import RxModel.Proofs.ParserWalk
namespace Rx

structure ParserClosed (P : Op → Prop) : Prop where
  bol : P .bol
  eol : P .eol
  nothing : P .nothing
  cls : ∀ rs, P (.cls rs)
  backref : ∀ n, P (.backref n)
  atom : ∀ cs, cs.isEmpty = false → P (.atom cs)
  capture : ∀ g o, P o → P (.capture g o)
  choice : ∀ l, (∀ b ∈ l, P b) → P (.choice l)
  seq : ∀ a b, P a → P b → P (makeSequence a b)
  gfixed : ∀ o a b l, P o → P (.gfixed o a b l)
  rfixed : ∀ o a b l, P o → P (.rfixed o a b l)
  rep : ∀ o a b g, P o → P (.rep 0 o a b g)

variable {P : Op → Prop}

theorem ParserClosed.inv (H : ParserClosed P) {xsd : Bool} : ParserInv xsd 0 (fun o _ => P o) where
  mono h _ := h
  bol _ _ := H.bol
  eol _ _ := H.eol
  nothing _ := H.nothing
  cls rs _ := H.cls rs
  atom cs _ h := H.atom cs h
  backref _ n _ _ _ := H.backref n
  capture g o _ _ _ h := H.capture g o h
  choice l _ h _ := H.choice l h
  seq a b _ ha hb := H.seq a b ha hb
  gfixed o mn mx l _ h _ _ _ _ := H.gfixed o mn mx l h
  rfixed _ o mn mx l _ h _ _ _ _ := H.rfixed o mn mx l h
  rep o mn mx g _ _ h _ _ _ := H.rep o mn mx g h

/-- second conjunct: entered at `(` below the top level — the only way `parseTerminal` calls `parseExpr` —
    the tree is not closed with `EndProgram` -/
abbrev ExprClosed (P : Op → Prop) (c : PC) (s : PS) (top : Bool) : Op → PS → Prop := fun op _ =>
  (P op ∨ ∃ o, P o ∧ op = makeSequence o .endProgram) ∧ ((top = false ∧ c.at s.idx = 40) → P op)

theorem parse_closed (H : ParserClosed P) (c : PC) (f : Nat) :
    (∀ s top, POk (ExprClosed P c s top) (parseExpr c f s top)) ∧
    (∀ s acc, (∀ b ∈ acc, P b) → POk (fun l _ => ∀ b ∈ l, P b) (parseBranches c f s acc)) ∧
    (∀ s cur, (∀ o, cur = some o → P o) → POk (fun op _ => P op) (parseBranch c f s cur)) ∧
    (∀ s, POk (fun op _ => P op) (parseTerminal c f s)) := by
  obtain ⟨hE, hBs, hB, hT⟩ := parse_inv c H.inv f
  refine ⟨fun s top op s' h => ?_, fun s acc hacc l s' h => (hBs s acc l s' (Nat.zero_le _) hacc h).1,
    fun s cur hcur op s' h => hB s cur op s' (Nat.zero_le _) hcur h,
    fun s op s' h => hT s op s' (Nat.zero_le _) h⟩
  obtain ⟨h1, h2⟩ := hE s top op s' (Nat.zero_le _) h
  exact ⟨h2, fun hh => h1 hh.1 hh.2⟩

end Rx
