/-
  Proofs/WFLemmas — the compiler (parser, `optimize`, `mkProgram`) establishes the decidable hypotheses of the
  engine theorems.  What `numberReps` keeps (`WF.wfOp_numberReps`, `WF.capsPos_numberReps`) is with `NumRel` in
  Proofs/TreeInv: the search layers need that and nothing of the parser.
-/
import RxModel.Spec.OpLang
import RxModel.Props.C05
import RxModel.Proofs.OptLemmas
import RxModel.Proofs.ParserWalk
import RxModel.Proofs.TreeInv
namespace Rx.WF
open Rx
open Rx.C02 (capsPos capsPosL)
open Rx.OptL (seqElem optimizeSeq_cons2)

mutual
/-- no recorded body length of a fixed-length repeat is saturated -/
def noSat : Op → Bool
  | .capture _ c => noSat c
  | .choice bs => noSatL bs
  | .seq ops => noSatL ops
  | .rep _ c _ _ _ => noSat c
  | .gfixed c _ _ len => noSat c && decide (len < usizeMax)
  | .rfixed c _ _ len => noSat c && decide (len < usizeMax)
  | .unamb c _ _ => noSat c
  | _ => true
termination_by structural o => o
def noSatL : List Op → Bool
  | [] => true
  | o :: os => noSat o && noSatL os
termination_by structural l => l
end

theorem unamb_wf {opt child : Op} {mn mx : Nat} {g : Bool}
    (h : repeatParts opt = some (child, mn, mx, g)) (hw : wfOp opt = true) :
    wfOp (.unamb child mn mx) = true ∧ matchLen (.unamb child mn mx) = matchLen opt := by
  obtain ⟨hwc, h1, h2⟩ := wfOp_rpt h hw
  refine ⟨by simp only [wfOp, hwc, h1, h2, decide_true, Bool.and_self], ?_⟩
  rcases repeatParts_cases h with ⟨_, rfl⟩ | ⟨_, rfl, _⟩ | ⟨_, rfl, _⟩ | ⟨rfl, _⟩
  · simp only [matchLen]
  · simp only [matchLen, (OptL.wfOp_fixed (.inl rfl) hw).2.1]
  · simp only [matchLen, (OptL.wfOp_fixed (.inr rfl) hw).2.1]
  · rfl

theorem satAdd_lt {a b : Nat} (h : satAdd a b < usizeMax) : satAdd a b = a + b ∧ a < usizeMax ∧ b < usizeMax := by
  unfold satAdd at *
  simp only [Nat.min_def] at *
  split at h <;> (try split) <;> omega

theorem satMul_lt {a b : Nat} (ha : 0 < a) (h : satMul a b < usizeMax) : b < usizeMax := by
  unfold satMul at h
  simp only [Nat.min_def] at h
  have : b ≤ a * b := Nat.le_mul_of_pos_left b ha
  split at h <;> omega

/-- `WM o o'` (well-formed, match length): what `optimize` keeps when it turns `o` into `o'` —
    well-formedness, and a fixed length below saturation -/
def WM (o o' : Op) : Prop :=
  wfOp o' = true ∧ ∀ l, l < usizeMax → matchLen o = some l → matchLen o' = some l

theorem matchLenChoice_eq_some (l : List Op) (x : Nat) :
    matchLenChoice l = some x ↔ l.isEmpty = false ∧ matchLenAllEq (some x) l = true := by
  cases l with
  | nil => simp [matchLenChoice]
  | cons b bs =>
    simp only [matchLenChoice, matchLenAllEq, List.isEmpty_cons, true_and, Bool.and_eq_true, beq_iff_eq]
    constructor
    · intro h
      split at h
      · rename_i hall
        rw [h] at hall
        exact ⟨h, hall⟩
      · cases h
    · intro h
      rw [h.1, if_pos h.2]

/-- `.rep` and `.unamb` record the same length and ask the same of their bounds, so this is the `.rep` case
    as well -/
theorem WM.unamb {c c' : Op} (mn mx : Nat) (ih : wfOp c = true → WM c c') (h : wfOp (.unamb c mn mx) = true) :
    WM (.unamb c mn mx) (.unamb c' mn mx) := by
  simp only [wfOp, Bool.and_eq_true, decide_eq_true_eq] at h
  obtain ⟨i1, i2⟩ := ih h.1.1
  simp only [WM, wfOp, Bool.and_eq_true, decide_eq_true_eq]
  refine ⟨⟨⟨i1, h.1.2⟩, h.2⟩, fun l hlt hl => ?_⟩
  simp only [matchLen] at hl
  cases hm : matchLen c with
  | none => simp [hm] at hl
  | some a =>
    simp only [hm] at hl
    split at hl
    · rename_i hmm
      simp only [beq_iff_eq] at hmm
      simp only [Option.some.injEq] at hl
      have ha : a < usizeMax := satMul_lt (by omega) (hl ▸ hlt)
      simp only [matchLen, i2 a ha hm, hmm, BEq.rfl, if_true, ← hl]
    · cases hl

/-- the body keeps the length the node records; `.rfixed` is the same case -/
theorem WM.gfixed {c c' : Op} (mn mx len : Nat) (ih : wfOp c = true → WM c c')
    (h : wfOp (.gfixed c mn mx len) = true) : WM (.gfixed c mn mx len) (.gfixed c' mn mx len) := by
  simp only [wfOp, Bool.and_eq_true, decide_eq_true_eq, beq_iff_eq] at h
  obtain ⟨⟨⟨⟨⟨h1, h2⟩, h3⟩, h4⟩, h5⟩, h6⟩ := h
  obtain ⟨i1, i2⟩ := ih h1
  simp only [WM, wfOp, Bool.and_eq_true, decide_eq_true_eq, beq_iff_eq]
  exact ⟨⟨⟨⟨⟨⟨i1, i2 len h4 h2⟩, h3⟩, h4⟩, h5⟩, h6⟩, fun l _ hl => by simpa only [matchLen] using hl⟩

theorem WM.toUnamb {o opt child : Op} {mn mx : Nat} {g : Bool} (ih : WM o opt)
    (h : repeatParts opt = some (child, mn, mx, g)) : WM o (.unamb child mn mx) := by
  obtain ⟨k1, k2⟩ := unamb_wf h ih.1
  exact ⟨k1, fun l hlt hl => k2 ▸ ih.2 l hlt hl⟩

/-- on lists: pointwise, with the two ways in which a fixed length of a list is read (all equal: alternation;
    the sum: sequence) -/
theorem wm_optRel : OptRel (fun o o' => wfOp o = true → WM o o')
    (fun l l' => wfOps l = true → wfOps l' = true ∧ l'.isEmpty = l.isEmpty ∧
      (∀ x, x < usizeMax → matchLenAllEq (some x) l = true → matchLenAllEq (some x) l' = true) ∧
      (∀ x, x < usizeMax → matchLenSeq l = some x → matchLenSeq l' = some x)) where
  refl _ h := ⟨h, fun _ _ hl => hl⟩
  capture _ ih h := by
    simp only [wfOp] at h
    simpa only [WM, wfOp, matchLen] using ih h
  choice ih h := by
    simp only [wfOp, Bool.and_eq_true, Bool.not_eq_true'] at h
    obtain ⟨i1, ie, i2, _⟩ := ih h.2
    refine ⟨by simp only [wfOp, Bool.and_eq_true, Bool.not_eq_true', ie]; exact ⟨h.1, i1⟩, fun x hx hl => ?_⟩
    simp only [matchLen, matchLenChoice_eq_some] at hl ⊢
    exact ⟨ie ▸ hl.1, i2 x hx hl.2⟩
  seq ih h := by
    simp only [wfOp, Bool.and_eq_true, Bool.not_eq_true'] at h
    obtain ⟨i1, ie, _, i3⟩ := ih h.2
    refine ⟨by simp only [wfOp, Bool.and_eq_true, Bool.not_eq_true', ie]; exact ⟨h.1, i1⟩, fun x hx hl => ?_⟩
    simp only [matchLen] at hl ⊢
    exact i3 x hx hl
  gfixed mn mx len ih h := WM.gfixed mn mx len ih h
  rfixed mn mx len ih h := WM.gfixed mn mx len ih h
  unamb mn mx ih h := WM.unamb mn mx ih h
  nil _ := ⟨rfl, rfl, fun _ _ h => h, fun _ _ h => h⟩
  cons {o o' l l'} ih ihl h := by
    simp only [wfOps, Bool.and_eq_true] at h
    obtain ⟨i1, i2⟩ := ih h.1
    obtain ⟨j1, _, j2, j3⟩ := ihl h.2
    refine ⟨by simp only [wfOps, Bool.and_eq_true]; exact ⟨i1, j1⟩, rfl, fun x hx hh => ?_, fun x hx hh => ?_⟩
    · simp only [matchLenAllEq, Bool.and_eq_true, beq_iff_eq] at hh ⊢
      exact ⟨i2 x hx hh.1, j2 x hx hh.2⟩
    · rw [matchLenSeq] at hh ⊢
      cases hm : matchLen o with
      | none => simp [hm] at hh
      | some a =>
        cases hm2 : matchLenSeq l with
        | none => simp [hm, hm2] at hh
        | some b =>
          simp only [hm, hm2, Option.some.injEq] at hh
          have := satAdd_lt (hh ▸ hx)
          rw [i2 a this.2.1 hm, j3 b this.2.2 hm2]
          simp only [hh]
  rep _ _ mn mx _ ih h := WM.unamb mn mx ih h
  rep01 {c c'} id mx g ih _ h := by
    simp only [wfOp, Bool.and_eq_true, decide_eq_true_eq] at h
    obtain ⟨i1, _⟩ := ih h.1.1
    refine ⟨by simp only [wfOp, Bool.and_eq_true, decide_eq_true_eq]; exact ⟨⟨i1, h.2⟩, h.2⟩, fun l _ hl => ?_⟩
    -- a fixed length would need `0 = mx`
    simp only [matchLen] at hl
    cases hm : matchLen c with
    | none => simp [hm] at hl
    | some a =>
      simp only [hm] at hl
      split at hl
      · rename_i hmm
        simp only [beq_iff_eq] at hmm
        omega
      · cases hl
  seq0 h := by simp [wfOp] at h
  seq1 o h := by
    simp only [wfOp, wfOps, Bool.and_true, List.isEmpty_cons, Bool.not_false, Bool.true_and] at h
    refine ⟨h, fun l hlt hl => ?_⟩
    simp only [matchLen, matchLenSeq] at hl
    cases hm : matchLen o with
    | none => simp [hm] at hl
    | some a =>
      simp only [hm, Option.some.injEq] at hl
      have := satAdd_lt (hl ▸ hlt)
      rw [Option.some.injEq]
      omega
  gfixed0 c mn len h := by
    simp only [wfOp, Bool.and_eq_true, decide_eq_true_eq] at h
    omega
  gfixedZ c mn mx len hz h := by
    simp only [wfOp, Bool.and_eq_true, decide_eq_true_eq, beq_iff_eq] at h
    have := h.1.1.1.1.2
    rw [hz, Option.some.injEq] at this
    omega
  unambRep id mn mx g ih _ h := (ih h).toUnamb (opt := .rep id _ mn mx g) rfl
  unambG mn mx len ih _ h := (ih h).toUnamb (opt := .gfixed _ mn mx len) rfl
  unambR mn mx len ih _ h := (ih h).toUnamb (opt := .rfixed _ mn mx len) rfl

theorem wm_optimize (env : Env) (fl : CFlags) (op : Op) (h : wfOp op = true) : WM op (optimize env fl op) :=
  optimize_rel wm_optRel env fl op h

theorem wm_optimizeL (env : Env) (fl : CFlags) : ∀ (l : List Op), wfOps l = true →
    wfOps (optimizeL env fl l) = true ∧
    ∀ x, x < usizeMax → matchLenAllEq (some x) l = true → matchLenAllEq (some x) (optimizeL env fl l) = true :=
  fun l h => let r := optimizeL_rel wm_optRel env fl l h; ⟨r.1, r.2.2.1⟩

theorem wm_optimizeSeq (env : Env) (fl : CFlags) : ∀ (l : List Op), wfOps l = true →
    wfOps (optimizeSeq env fl l) = true ∧
    ∀ x, x < usizeMax → matchLenSeq l = some x → matchLenSeq (optimizeSeq env fl l) = some x :=
  fun l h => let r := optimizeSeq_rel wm_optRel env fl l h; ⟨r.1, r.2.2.2⟩

/-- the unrestricted `optimize_matchLen` fails: `.seq [o] ↦ o` un-saturates a saturated length -/
theorem optimize_matchLen_cex (env : Env) (fl : CFlags) :
    let op : Op := .seq [.atom (List.replicate (usizeMax + 1) 0)]
    wfOp op = true ∧ matchLen op = some usizeMax ∧
      matchLen (optimize env fl op) = some (usizeMax + 1) := by
  refine ⟨by simp [wfOp, wfOps], ?_, ?_⟩
  · simp only [matchLen, matchLenSeq, List.length_replicate, satAdd, Nat.min_def, Option.some.injEq]
    split <;> omega
  · simp only [optimize, matchLen, List.length_replicate]

theorem capsPosL_optimizeL (env : Env) (fl : CFlags) : ∀ (l : List Op), capsPosL l = true →
    capsPosL (optimizeL env fl l) = true :=
  capsPos_hered.optimizeL env fl

theorem capsPosL_optimizeSeq (env : Env) (fl : CFlags) : ∀ (l : List Op), capsPosL l = true →
    capsPosL (optimizeSeq env fl l) = true :=
  capsPos_hered.optimizeSeq env fl

theorem noBackref_hered : Hered (fun o => !hasBackref o) (fun l => !hasBackrefL l) (fun _ => true) :=
  ⟨rfl, fun _ _ => rfl, fun _ => rfl, fun _ => rfl, fun _ _ _ _ _ => rfl, fun _ _ _ _ => rfl,
    fun _ _ _ _ => rfl, fun _ _ _ => rfl, rfl, fun _ _ => Bool.not_or _ _⟩

theorem introduces_none {a b : Bool} (h : (!a) = true → (!b) = true) (hb : b = true) : a = true := by
  cases a with
  | true => rfl
  | false => rw [hb] at h; exact h rfl

theorem hasBackrefL_optimizeL (env : Env) (fl : CFlags) : ∀ (l : List Op),
    hasBackrefL (optimizeL env fl l) = true → hasBackrefL l = true :=
  fun l => introduces_none (noBackref_hered.optimizeL env fl l)

theorem hasBackrefL_optimizeSeq (env : Env) (fl : CFlags) : ∀ (l : List Op),
    hasBackrefL (optimizeSeq env fl l) = true → hasBackrefL l = true :=
  fun l => introduces_none (noBackref_hered.optimizeSeq env fl l)

/-- what `pieceQuant` keeps of `G`, the invariant of a parsed tree defined after the quantifier cases:
    of its result `op`, relative to its terminal `ret` -/
def QG (ret op : Op) : Prop :=
  (noSat op = true → wfOp op = true) ∧ capsPos op = true ∧ (hasBackref op = true → hasBackref ret = true)

theorem QG.nothing (ret : Op) : QG ret .nothing := ⟨fun _ => rfl, rfl, fun h => by cases h⟩

/-- the two fixed-length repeats have the same side conditions -/
theorem QG.fixed {ret p op : Op} {mn mx l : Nat} (hp : QG ret p) (hm : matchLen p = some l) (hl : 0 < l)
    (h1 : mn ≤ mx) (h2 : ¬ (mx == 0) = true) (hop : op = .gfixed p mn mx l ∨ op = .rfixed p mn mx l) :
    QG ret op := by
  obtain ⟨p1, p2, p3⟩ := hp
  simp only [beq_iff_eq] at h2
  rcases hop with rfl | rfl
  all_goals
    refine ⟨fun hn => ?_, by simpa only [capsPos] using p2, by simpa only [hasBackref] using p3⟩
    simp only [noSat, Bool.and_eq_true, decide_eq_true_eq] at hn
    simp only [wfOp, Bool.and_eq_true, decide_eq_true_eq, beq_iff_eq]
    exact ⟨⟨⟨⟨⟨p1 hn.1, hm⟩, hl⟩, hn.2⟩, h1⟩, by omega⟩

theorem QG.gfixed {ret p : Op} {mn mx l : Nat} (hp : QG ret p) (hm : matchLen p = some l) (hl : 0 < l)
    (h1 : mn ≤ mx) (h2 : ¬ (mx == 0) = true) : QG ret (.gfixed p mn mx l) :=
  hp.fixed hm hl h1 h2 (.inl rfl)

theorem QG.rfixed {ret p : Op} {mn mx l : Nat} (hp : QG ret p) (hm : matchLen p = some l) (hl : 0 < l)
    (h1 : mn ≤ mx) (h2 : ¬ (mx == 0) = true) : QG ret (.rfixed p mn mx l) :=
  hp.fixed hm hl h1 h2 (.inr rfl)

theorem QG.rep {ret p : Op} {mn mx : Nat} {g : Bool} (hp : QG ret p)
    (h1 : mn ≤ mx) (h2 : ¬ (mx == 0) = true) : QG ret (.rep 0 p mn mx g) := by
  obtain ⟨p1, p2, p3⟩ := hp
  refine ⟨?_, by simpa only [capsPos] using p2, by simpa only [hasBackref] using p3⟩
  intro hn
  simp only [noSat] at hn
  simp only [beq_iff_eq] at h2
  simp only [wfOp, Bool.and_eq_true, decide_eq_true_eq]
  exact ⟨⟨p1 hn, h1⟩, by omega⟩

theorem wfOps_append (l1 l2 : List Op) : wfOps (l1 ++ l2) = (wfOps l1 && wfOps l2) :=
  foldHom_append (f := wfOp) rfl (fun _ _ => rfl) Bool.and_assoc Bool.true_and l1 l2

theorem noSat_makeSequence (a b : Op) : noSat (makeSequence a b) = (noSat a && noSat b) :=
  makeSequence_hom (fL := noSatL) (fun _ => rfl) rfl (fun _ _ => rfl) Bool.and_assoc Bool.true_and Bool.and_true a b

theorem capsPos_makeSequence (a b : Op) : capsPos (makeSequence a b) = (capsPos a && capsPos b) :=
  capsPos_hered.makeSequence a b

theorem hasBackref_makeSequence (a b : Op) :
    hasBackref (makeSequence a b) = (hasBackref a || hasBackref b) :=
  makeSequence_hom (fL := hasBackrefL) (fun _ => rfl) rfl (fun _ _ => rfl) Bool.or_assoc Bool.false_or
    Bool.or_false a b

theorem seqList_wf (o : Op) (h : wfOp o = true) : wfOps o.seqList = true ∧ o.seqList ≠ [] := by
  by_cases hs : ∃ l, o = .seq l
  · obtain ⟨l, rfl⟩ := hs
    simp only [wfOp, Bool.and_eq_true, Bool.not_eq_true', List.isEmpty_eq_false_iff] at h
    exact ⟨h.2, h.1⟩
  · rw [Op.seqList_of_not_seq (fun l e => hs ⟨l, e⟩)]
    exact ⟨by simp only [wfOps, h, Bool.and_self], List.cons_ne_nil _ _⟩

theorem wfOp_makeSequence (a b : Op) (ha : wfOp a = true) (hb : wfOp b = true) :
    wfOp (makeSequence a b) = true := by
  obtain ⟨a1, a2⟩ := seqList_wf a ha
  obtain ⟨b1, _⟩ := seqList_wf b hb
  rw [makeSequence_eq]
  simp only [wfOp, wfOps_append, a1, b1, Bool.and_self, Bool.and_true, Bool.not_eq_true',
    List.isEmpty_eq_false_iff]
  exact fun h => a2 (List.append_eq_nil_iff.1 h).1

/-- `G op s` (good): the invariant of a parsed tree, relative to the state reached — well-formed unless
    a recorded length is saturated, group numbers positive, a back-reference only with the flag raised -/
def G (op : Op) (s : PS) : Prop :=
  (noSat op = true → wfOp op = true) ∧ capsPos op = true ∧
    (hasBackref op = true → s.hasBackrefs = true)

def GL (l : List Op) (s : PS) : Prop :=
  (noSatL l = true → wfOps l = true) ∧ capsPosL l = true ∧
    (hasBackrefL l = true → s.hasBackrefs = true)

theorem G.makeSequence {a b : Op} {s : PS} (ha : G a s) (hb : G b s) : G (makeSequence a b) s := by
  refine ⟨?_, ?_, ?_⟩
  · intro hn
    rw [noSat_makeSequence, Bool.and_eq_true] at hn
    exact wfOp_makeSequence a b (ha.1 hn.1) (hb.1 hn.2)
  · rw [capsPos_makeSequence, ha.2.1, hb.2.1]; rfl
  · intro h
    rw [hasBackref_makeSequence, Bool.or_eq_true] at h
    rcases h with h | h
    · exact ha.2.2 h
    · exact hb.2.2 h

theorem G.leaf {op : Op} (s : PS) (h1 : wfOp op = true) (h2 : capsPos op = true)
    (h3 : hasBackref op = false) : G op s :=
  ⟨fun _ => h1, h2, fun h => by rw [h3] at h; cases h⟩

theorem GL.cons {b : Op} {t : List Op} {s : PS} (hb : G b s) (ht : GL t s) : GL (b :: t) s := by
  refine ⟨?_, ?_, ?_⟩
  · intro hn
    rw [noSatL, Bool.and_eq_true] at hn
    rw [wfOps, hb.1 hn.1, ht.1 hn.2]; rfl
  · rw [capsPosL, hb.2.1, ht.2.1]; rfl
  · intro h
    rw [hasBackrefL, Bool.or_eq_true] at h
    exact h.elim hb.2.2 ht.2.2

theorem GL.of_forall {s : PS} : ∀ (l : List Op), (∀ b ∈ l, G b s) → GL l s :=
  list_of_forall ⟨fun _ => rfl, rfl, fun h => by cases h⟩ fun _ _ => GL.cons

theorem GL.single {b : Op} {s : PS} (h : G b s) : GL [b] s :=
  GL.of_forall [b] fun x hx => by rw [List.mem_singleton] at hx; rw [hx]; exact h

theorem G.choice {l : List Op} {s : PS} (h : GL l s) (hne : l ≠ []) : G (.choice l) s := by
  obtain ⟨h1, h2, h3⟩ := h
  refine ⟨?_, by simpa only [capsPos] using h2, by simpa only [hasBackref] using h3⟩
  intro hn
  simp only [noSat] at hn
  simp only [wfOp, Bool.and_eq_true]
  refine ⟨?_, h1 hn⟩
  cases l with
  | nil => exact absurd rfl hne
  | cons _ _ => rfl

theorem G.capture {op : Op} {s : PS} (n : Nat) (hn : 1 ≤ n) (h : G op s) : G (.capture n op) s := by
  obtain ⟨h1, h2, h3⟩ := h
  refine ⟨by simpa only [noSat, wfOp] using h1, ?_, by simpa only [hasBackref] using h3⟩
  simp only [capsPos, Bool.and_eq_true, decide_eq_true_eq]
  exact ⟨hn, h2⟩

theorem G.of_QG {p op : Op} {s : PS} (h : G p s) (q : QG p p → QG p op) : G op s :=
  have q' := q ⟨h.1, h.2.1, id⟩
  ⟨q'.1, q'.2.1, fun hb => h.2.2 (q'.2.2 hb)⟩

theorem G.inv {xsd : Bool} : ParserInv xsd 1 G where
  mono h hs := ⟨h.1, h.2.1, fun hb => hs.2 (h.2.2 hb)⟩
  bol _ s := G.leaf s rfl rfl rfl
  eol _ s := G.leaf s rfl rfl rfl
  nothing s := G.leaf s rfl rfl rfl
  cls _ s := G.leaf s rfl rfl rfl
  atom _ s _ := G.leaf s rfl rfl rfl
  backref _ _ _ _ hb := ⟨fun _ => rfl, rfl, fun _ => hb⟩
  capture g _ _ hg _ h := G.capture g hg h
  choice l _ h hl := G.choice (GL.of_forall l h) (fun e => by rw [e] at hl; cases hl)
  seq _ _ _ := G.makeSequence
  gfixed _ _ _ _ _ h hm hl hle hmx := h.of_QG fun q => q.gfixed hm hl hle (by simpa using hmx)
  rfixed _ _ _ _ _ _ h hm hl hle hmx := h.of_QG fun q => q.rfixed hm hl hle (by simpa using hmx)
  rep _ _ _ _ _ _ h _ hle hmx := h.of_QG fun q => q.rep hle (by simpa using hmx)

theorem parse_G (c : PC) (f : Nat) (s : PS) (top : Bool) (hs : 1 ≤ s.parens) :
    POk G (parseExpr c f s top) :=
  fun _ _ h => parseExpr_inv G.inv (fun s => G.leaf s rfl rfl rfl) hs h

theorem mkProgram_hb (pat : List Nat) (op : Op) (mp : Nat) (fl : CFlags) (hb : Bool) :
    mkProgram pat op mp fl hb = { mkProgram pat op mp fl false with hasBackrefs := hb } := by
  unfold mkProgram
  simp only
  split
  · split <;> rfl
  · rfl

theorem mkProgram_factsOK_any (pat : List Nat) (op : Op) (mp : Nat) (fl : CFlags) (hb : Bool)
    (hop : hasBackref op = false) : C05.FactsOK (mkProgram pat op mp fl hb) := by
  rw [mkProgram_hb]
  exact C05.mkProgram_factsOK pat op mp fl hop

end Rx.WF
