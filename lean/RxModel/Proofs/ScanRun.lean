/-
  Proofs/ScanRun — the three scan loops, each walked once, over one contract for a call of `find` (`FindAt`):
  a loop returns the failure of a call made under the contract, or is a function of the span list `spansOf`
  (`replaceLoop_run`; `tokenIt_run`, `analyzeIt_run`: the two iterators as `Run`s of Proofs/PullLoop).  Under
  `FindSpec` no call fails and the span list is a state-free list, element by element (`FindSpec.spansOf_rel`).
-/
import RxModel.Proofs.ScanLemmas
namespace Rx.C04
open Rx Rx.Spec
variable {σ δ : Type}

/-- the contract for a call of `find`.  The invariant is indexed by the position, so that a memo invariant "every
    entry reachable from a start ≥ pos is dead" fits; `GoodFind` (Props/C04Defs) is the case of an invariant that
    does not depend on it -/
structure FindAt (M : MatcherI σ) (len : Nat) (I : Nat → σ → Prop) : Prop where
  step : ∀ pos st, pos ≤ len → I pos st →
    (∃ c, M.failed (M.find st pos).2 = some c) ∨
    (∃ st', M.find st pos = (false, st') ∧ M.failed st' = none) ∨
    (∃ st' a b, M.find st pos = (true, st') ∧ M.failed st' = none ∧ M.start0 st' = some a ∧ M.end0 st' = some b ∧
      pos ≤ a ∧ a < b ∧ b ≤ len ∧ I b st')

theorem GoodFind.findAt {M : MatcherI σ} {len : Nat} {Inv : σ → Prop} (hM : GoodFind M len Inv) :
    FindAt M len (fun _ => Inv) :=
  ⟨fun pos st hp hI => by
    rcases hfind : M.find st pos with ⟨m, st'⟩
    cases hfl : M.failed st' with
    | some c => exact .inl ⟨c, rfl⟩
    | none =>
      obtain ⟨hI', hm⟩ := hM.step st pos st' m hI hp hfind hfl
      cases m with
      | false => exact .inr (.inl ⟨st', rfl, hfl⟩)
      | true =>
        obtain ⟨a, b, ha, hb, hpa, hab, hbl⟩ := hm rfl
        exact .inr (.inr ⟨st', a, b, rfl, hfl, ha, hb, hpa, hab, hbl, hI'⟩)⟩

def FailedAt (M : MatcherI σ) (len : Nat) (I : Nat → σ → Prop) (c : Nat) : Prop :=
  ∃ pos st, pos ≤ len ∧ I pos st ∧ M.failed (M.find st pos).2 = some c

/-- the texts the substitution yields for the spans in turn, `simple_replacement` threaded through; `none` as
    soon as the substitution rejects the replacement string -/
def substAll (subst : Subst σ) : Bool → List (Nat × Nat × σ) → Option (List (Nat × Nat × List Nat))
  | _, [] => some []
  | s, (a, b, st) :: rest =>
    match subst st s with
    | none => none
    | some (t, s') => (substAll subst s' rest).map ((a, b, t) :: ·)

/-- the trees the builder yields for the spans in turn; the first answer that is not `.ok` ends it -/
def entryAll (entry : σ → List Nat → Out (List MEntry)) (input : List Nat) :
    List (Nat × Nat × σ) → Out (List (Nat × Nat × List MEntry))
  | [] => .ok []
  | (a, b, st) :: rest =>
    (entry st (slice input a b)).bind fun es => (entryAll entry input rest).map ((a, b, es) :: ·)

theorem entryAll_ok {entry : σ → List Nat → Out (List MEntry)} {input : List Nat} :
    ∀ {l : List (Nat × Nat × σ)} {L : List (Nat × Nat × List MEntry)}, entryAll entry input l = .ok L →
      L = espans entry input l ∧ EntriesOk entry input l
  | [], _, h => by cases h; exact ⟨rfl, fun _ hx => nomatch hx⟩
  | (a, b, st) :: rest, L, h => by
    obtain ⟨es, he, h⟩ := Out.bind_eq_ok h
    obtain ⟨L', hr, rfl⟩ := Out.map_eq_ok h
    obtain ⟨h1, h2⟩ := entryAll_ok hr
    rw [espans_cons, entryD_ok he, h1]
    exact ⟨rfl, h2.cons he⟩

/-- a span list of the matcher and a list of spans with data, element by element: the same span, and `Post` of
    the state of the match and the data -/
def SpansRel (Post : σ → Nat → Nat → δ → Prop) : List (Nat × Nat × σ) → List (Nat × Nat × δ) → Prop
  | [], [] => True
  | (a, b, st) :: l, (j, n, d) :: l' => a = j ∧ b = n ∧ Post st j n d ∧ SpansRel Post l l'
  | _, _ => False

section spansRel
variable {Post : σ → Nat → Nat → δ → Prop}

theorem SpansRel.map_eq {α : Type} (f : σ → Nat → Nat → α) (g : Nat × Nat × δ → α)
    (hfg : ∀ st j n d, Post st j n d → f st j n = g (j, n, d)) :
    ∀ {l : List (Nat × Nat × σ)} {l' : List (Nat × Nat × δ)}, SpansRel Post l l' →
      l.map (fun x => (x.1, x.2.1, f x.2.2 x.1 x.2.1)) = l'.map (fun y => (y.1, y.2.1, g y))
  | [], [], _ => rfl
  | (_, _, st) :: _, (j, n, d) :: _, ⟨rfl, rfl, hP, h⟩ => by
    simp only [List.map_cons, hfg st j n d hP, SpansRel.map_eq f g hfg h]
  | [], _ :: _, h => h.elim
  | _ :: _, [], h => h.elim

theorem SpansRel.spanPairs_eq {l : List (Nat × Nat × σ)} {l' : List (Nat × Nat × δ)} (h : SpansRel Post l l') :
    spanPairs l = l'.map (fun y => (y.1, y.2.1)) := by
  have := h.map_eq (fun _ _ _ => ()) (fun _ => ()) (fun _ _ _ _ _ => rfl)
  have h2 := congrArg (List.map (fun x : Nat × Nat × Unit => (x.1, x.2.1))) this
  simpa only [spanPairs, List.map_map, Function.comp_def] using h2

/-- `Q` holds of every value of `simple_replacement` the substitution is called with -/
theorem SpansRel.substAll {subst : Subst σ} (txt : Nat × Nat × δ → List Nat) (Q : Bool → Prop)
    (hsub : ∀ st j n d simple, Post st j n d → Q simple → ∃ s', subst st simple = some (txt (j, n, d), s') ∧ Q s') :
    ∀ {l : List (Nat × Nat × σ)} {l' : List (Nat × Nat × δ)} {s : Bool}, SpansRel Post l l' → Q s →
      C04.substAll subst s l = some (l'.map (fun y => (y.1, y.2.1, txt y)))
  | [], [], _, _, _ => rfl
  | (_, _, st) :: _, (j, n, d) :: _, s, ⟨rfl, rfl, hP, h⟩, hQ => by
    obtain ⟨s', hs, hQ'⟩ := hsub st j n d s hP hQ
    rw [C04.substAll, hs]
    simp only [SpansRel.substAll txt Q hsub h hQ', Option.map_some, List.map_cons]
  | [], _ :: _, _, h, _ => h.elim
  | _ :: _, [], _, h, _ => h.elim

theorem SpansRel.entryAll_cases {entry : σ → List Nat → Out (List MEntry)} {input : List Nat} (P : Nat → Prop)
    (hentry : ∀ st j n d, Post st j n d →
      (∃ es, entry st (slice input j n) = .ok es) ∨ (∃ c, entry st (slice input j n) = .panic c ∧ P c)) :
    ∀ {l : List (Nat × Nat × σ)} {l' : List (Nat × Nat × δ)}, SpansRel Post l l' →
      (∃ L, entryAll entry input l = .ok L) ∨ (∃ c, entryAll entry input l = .panic c ∧ P c)
  | [], [], _ => .inl ⟨[], rfl⟩
  | (_, _, st) :: _, (j, n, d) :: _, ⟨rfl, rfl, hP, h⟩ => by
    rw [entryAll]
    rcases hentry st j n d hP with ⟨es, he⟩ | ⟨c, he, hc⟩
    · rw [he, Out.bind_ok]
      rcases SpansRel.entryAll_cases P hentry h with ⟨L, hL⟩ | ⟨c, hL, hc⟩
      · exact .inl ⟨_, by rw [hL, Out.map_ok]⟩
      · exact .inr ⟨c, by rw [hL]; rfl, hc⟩
    · exact .inr ⟨c, by rw [he]; rfl, hc⟩
  | [], _ :: _, h => h.elim
  | _ :: _, [], h => h.elim
end spansRel

/-- a span list produced by consecutive calls under the contract from `pos` on: ordered, and every state related
    to its own span -/
def SpansAt (M : MatcherI σ) (len : Nat) (I : Nat → σ → Prop) (pos : Nat) (l : List (Nat × Nat × σ)) : Prop :=
  Ordered len pos (spanPairs l) ∧
    SpansRel (fun st j n d => d = st ∧ I n st ∧ M.start0 st = some j ∧ M.end0 st = some n) l l

theorem FindAt.spansAt {M : MatcherI σ} {len : Nat} {I : Nat → σ → Prop} (hM : FindAt M len I)
    (hnf : ∀ c, ¬ FailedAt M len I c) :
    ∀ (fuel pos : Nat) (st : σ), pos ≤ len → I pos st → SpansAt M len I pos (spansOf M len fuel pos st)
  | 0, _, _, _, _ => ⟨trivial, trivial⟩
  | fuel + 1, pos, st, hp, hI => by
    by_cases hlt : pos < len
    · rcases hM.step pos st hp hI with ⟨c, hfl⟩ | ⟨st', hfind, -⟩ | ⟨st', a, b, hfind, hfl, ha, hb, hpa, hab, hbl, hI'⟩
      · exact absurd ⟨pos, st, hp, hI, hfl⟩ (hnf c)
      · rw [spansOf_false M _ _ _ _ _ hfind]; exact ⟨trivial, trivial⟩
      · have ih := hM.spansAt hnf fuel b st' hbl hI'
        rw [spansOf_true M _ fuel _ a b _ _ hlt hfind ha hb]
        exact ⟨⟨hpa, hab, hbl, ih.1⟩, rfl, rfl, ⟨rfl, hI', ha, hb⟩, ih.2⟩
    · rw [spansOf_ge M _ _ _ _ hlt]; exact ⟨trivial, trivial⟩

section run
variable {M : MatcherI σ} {I : Nat → σ → Prop}

theorem tokenIt_run (input : List Nat) (hM : FindAt M input.length I) :
    ∀ (g pe : Nat) (st : σ), I pe st → pe ≤ input.length → input.length < g + pe →
      ∃ items fin, Run (tokenIt M input) (some pe, st) items fin ∧ items.length + pe ≤ input.length + 1 ∧
        ((∃ c, FailedAt M input.length I c ∧ fin = Out.ofFailed c) ∨
         (fin = .ok () ∧ items = pieces input pe (spanPairs (spansOf M input.length g pe st)) ∧
          SpansAt M input.length I pe (spansOf M input.length g pe st)))
  | 0, pe, _, _, hp, hg => absurd hg (fuel_zero hp)
  | g + 1, pe, st, hI, hp, hg => by
    rcases hM.step pe st hp hI with ⟨c, hfl⟩ | ⟨st', hfind, hfl⟩ | ⟨st', a, b, hfind, hfl, ha, hb, hpa, hab, hbl, hI'⟩
    · exact ⟨[], _, (congrArg Prod.fst (tokenNext_failed hfl)).trans (ofFailed_bind c _).symm,
        by rw [List.length_nil, Nat.zero_add]; exact Nat.le_succ_of_le hp, .inl ⟨c, ⟨pe, st, hp, hI, hfl⟩, rfl⟩⟩
    · have hn : tokenIt M input (some pe, st) = _ := tokenNext_nomatch (input := input) hfind hfl
      rw [spansOf_false M _ _ _ _ _ hfind]
      exact ⟨[input.drop pe], .ok (), ⟨congrArg Prod.fst hn, by rw [hn]; rfl⟩,
        by rw [List.length_singleton, Nat.add_comm]; exact Nat.succ_le_succ hp, .inr ⟨rfl, rfl, trivial, trivial⟩⟩
    · have hpb : pe < b := Nat.lt_of_le_of_lt hpa hab
      have hn : tokenIt M input (some pe, st) = _ := tokenNext_match (input := input) hfind hfl ha hpa
      obtain ⟨items, fin, hrun, hlen, h⟩ := tokenIt_run input hM g b st' hI' hbl (fuel_step hg hpb)
      refine ⟨slice input pe a :: items, fin, ⟨congrArg Prod.fst hn, by rw [hn, hb]; exact hrun⟩, ?_, ?_⟩
      · rw [List.length_cons, Nat.add_right_comm]
        exact Nat.le_trans (Nat.add_le_add_left (Nat.succ_le_of_lt hpb) _) hlen
      · rw [spansOf_true M _ g _ a b _ _ (Nat.lt_of_lt_of_le hpb hbl) hfind ha hb, spanPairs_cons, pieces]
        exact h.imp id fun ⟨h1, h2, hs⟩ => ⟨h1, by rw [h2], ⟨hpa, hab, hbl, hs.1⟩, rfl, rfl, ⟨rfl, hI', ha, hb⟩, hs.2⟩

def replacedOut (input : List Nat) (pos : Nat) (acc : List Nat) :
    Option (List (Nat × Nat × List Nat)) → Out (List Nat)
  | none => .err .invalidReplacement
  | some T => .ok (acc ++ replaced input pos T)

theorem replaceLoop_run (input : List Nat) (hM : FindAt M input.length I) (subst : Subst σ) (lit : Bool)
    (g : Nat) :
    ∀ (f pos : Nat) (st : σ) (first simple : Bool) (acc : List Nat), I pos st → pos ≤ input.length →
      input.length < f + pos → input.length < g + pos → (first = true → acc = [] ∧ pos = 0) →
      (∃ c, FailedAt M input.length I c ∧
        replaceLoop M subst input lit f pos st first simple acc = Out.ofFailed c) ∨
      (replaceLoop M subst input lit f pos st first simple acc =
          replacedOut input pos acc
            (substAll subst (if first then lit else simple) (spansOf M input.length g pos st)) ∧
        ((substAll subst (if first then lit else simple) (spansOf M input.length g pos st)).isSome = true →
          SpansAt M input.length I pos (spansOf M input.length g pos st))) := by
  induction g with
  | zero => intro f pos st first simple acc _ hp _ hg; exact absurd hg (fuel_zero hp)
  | succ g ih =>
    intro f pos st first simple acc hI hp hf hg hfirst
    cases f with
    | zero => exact absurd hf (fuel_zero hp)
    | succ f =>
    by_cases hlt : pos < input.length
    · rcases hM.step pos st hp hI with ⟨c, hfl⟩ | ⟨st', hfind, hfl⟩ |
        ⟨st', a, b, hfind, hfl, ha, hb, hpa, hab, hbl, hI'⟩
      · exact .inl ⟨c, ⟨pos, st, hp, hI, hfl⟩, replaceLoop_failed hlt hfl⟩
      · refine .inr ?_
        rw [replaceLoop_nomatch hlt hfind hfl, first_end input acc pos first hfirst,
          spansOf_false M _ _ _ _ _ hfind]
        exact ⟨by rw [substAll, replacedOut, replaced], fun _ => ⟨trivial, trivial⟩⟩
      · have hpb : pos < b := Nat.lt_of_le_of_lt hpa hab
        rw [spansOf_true M _ g _ a b _ _ hlt hfind ha hb, substAll]
        cases hs : subst st' (if first then lit else simple) with
        | none =>
          exact .inr ⟨by rw [replaceLoop_match_err hlt hfind hfl ha hpa hs]; rfl, fun h => nomatch h⟩
        | some ts =>
          obtain ⟨t, s'⟩ := ts
          rw [replaceLoop_match hlt hfind hfl ha hb hpa hpb hs]
          rcases ih f b st' false s' (acc ++ slice input pos a ++ t) hI' hbl (fuel_step hf hpb)
              (fuel_step hg hpb) (fun h => nomatch h) with ⟨c, hc, h⟩ | ⟨h, hsp⟩
          · exact .inl ⟨c, hc, h⟩
          · refine .inr ?_
            rw [h]
            simp only [Bool.false_eq_true, if_false] at hsp ⊢
            cases hr : substAll subst s' (spansOf M input.length g b st') with
            | none => exact ⟨rfl, fun h => nomatch h⟩
            | some T =>
              rw [hr] at hsp
              refine ⟨?_, fun _ => ⟨⟨hpa, hab, hbl, (hsp rfl).1⟩, rfl, rfl, ⟨rfl, hI', ha, hb⟩, (hsp rfl).2⟩⟩
              simp only [Option.map_some, replacedOut, replaced, List.append_assoc]
    · refine .inr ?_
      rw [replaceLoop_end hlt, first_end input acc pos first hfirst, spansOf_ge M _ _ _ _ hlt]
      exact ⟨by rw [substAll, replacedOut, replaced], fun _ => ⟨trivial, trivial⟩⟩

theorem run_wrap {entry : σ → List Nat → Out (List MEntry)} {input : List Nat} {A A' : AState σ}
    {o : Out (List MEntry)} (hA : analyzeNext M entry input A = (wrapEntry o, A')) {items : List AEntry}
    {fin : Out Unit} (hrun : Run (analyzeNext M entry input) A' items fin) :
    ∃ items₁, Run (analyzeNext M entry input) A items₁ (o.bind fun _ => fin) ∧
      items₁.length ≤ items.length + 1 ∧ ∀ es, o = .ok es → items₁ = .isMatch es :: items := by
  cases o with
  | ok es =>
    exact ⟨.isMatch es :: items, ⟨congrArg Prod.fst hA, by rw [hA]; exact hrun⟩, Nat.le_refl _,
      fun _ h => by cases h; rfl⟩
  | err e => exact ⟨[], congrArg Prod.fst hA, Nat.zero_le _, nofun⟩
  | panic c => exact ⟨[], congrArg Prod.fst hA, Nat.zero_le _, nofun⟩
  | diverge => exact ⟨[], congrArg Prod.fst hA, Nat.zero_le _, nofun⟩

theorem analyzeIt_run (input : List Nat) (hM : FindAt M input.length I) (entry : σ → List Nat → Out (List MEntry)) :
    ∀ (g pe : Nat) (st : σ), I pe st → pe ≤ input.length → input.length < g + pe →
      ∃ items fin, Run (analyzeNext M entry input) { st := st, nextSub := none, prevEnd := some pe, skip := false }
          items fin ∧ items.length + 2 * pe ≤ 2 * input.length + 1 ∧
        ((∃ c, FailedAt M input.length I c ∧ fin = Out.ofFailed c) ∨
         (fin = (entryAll entry input (spansOf M input.length g pe st)).bind (fun _ => .ok ()) ∧
          ∀ L, entryAll entry input (spansOf M input.length g pe st) = .ok L →
            items = entries input pe L ∧ SpansAt M input.length I pe (spansOf M input.length g pe st)))
  | 0, pe, _, _, hp, hg => absurd hg (fuel_zero hp)
  | g + 1, pe, st, hI, hp, hg => by
    rcases hM.step pe st hp hI with ⟨c, hfl⟩ | ⟨st', hfind, hfl⟩ | ⟨st', a, b, hfind, hfl, ha, hb, hpa, hab, hbl, hI'⟩
    · exact ⟨[], _, (congrArg Prod.fst (analyzeNext_failed hfl)).trans (ofFailed_bind c _).symm,
        by rw [List.length_nil, Nat.zero_add]; exact Nat.le_succ_of_le (Nat.mul_le_mul_left 2 hp),
        .inl ⟨c, ⟨pe, st, hp, hI, hfl⟩, rfl⟩⟩
    · have hn := analyzeNext_nomatch (entry := entry) (input := input) hfind hfl
      rw [spansOf_false M _ _ _ _ _ hfind]
      refine ⟨entries input pe [], .ok (), ?_, ?_, .inr ⟨rfl, fun L hL => ?_⟩⟩
      · rw [entries]
        by_cases hlt : pe < input.length
        · rw [if_pos hlt] at hn ⊢
          exact ⟨congrArg Prod.fst hn, by rw [hn]; rfl⟩
        · rw [if_neg hlt] at hn ⊢
          exact congrArg Prod.fst hn
      · rw [entries]; split <;> simp only [List.length_cons, List.length_nil] <;> omega
      · cases hL; exact ⟨rfl, trivial, trivial⟩
    · have hpb : pe < b := Nat.lt_of_le_of_lt hpa hab
      -- a pull is paid for by the step from `pe` to `b`, two by a step over `a > pe`
      have e1 : ∀ {n m : Nat}, m ≤ n + 1 → m + 2 * pe ≤ n + 2 * b := fun h => by omega
      have e2 : pe < a → ∀ {n m : Nat}, m ≤ n + 1 → m + 1 + 2 * pe ≤ n + 2 * b := fun _ _ _ h => by omega
      have hn := analyzeNext_search_match (entry := entry) (input := input) (skip := false) rfl hfind hfl ha hb hpa
      rw [beq_false_of_ne (Nat.ne_of_lt hab)] at hn
      obtain ⟨items, fin, hrun, hlen, h⟩ := analyzeIt_run input hM entry g b st' hI' hbl (fuel_step hg hpb)
      -- one pull or two: the text before the match, if there is any, then the builder's answer for the match
      have hw : ∃ items₁, Run (analyzeNext M entry input)
            { st := st, nextSub := none, prevEnd := some pe, skip := false } items₁
            ((entry st' (slice input a b)).bind fun _ => fin) ∧ items₁.length + 2 * pe ≤ items.length + 2 * b ∧
          ∀ es, entry st' (slice input a b) = .ok es →
            items₁ = (if pe < a then [.nonMatch (slice input pe a)] else []) ++ .isMatch es :: items := by
        rcases Nat.eq_or_lt_of_le hpa with rfl | hpa'
        · rw [if_pos (beq_self_eq_true pe)] at hn
          obtain ⟨items₁, h1, h2, h3⟩ := run_wrap hn hrun
          exact ⟨items₁, h1, e1 h2, by rw [if_neg (Nat.lt_irrefl _)]; exact h3⟩
        · rw [if_neg (by rw [beq_false_of_ne (Nat.ne_of_lt hpa')]; exact Bool.false_ne_true)] at hn
          obtain ⟨items₁, h1, h2, h3⟩ := run_wrap (analyzeNext_pending hb) hrun
          exact ⟨_ :: items₁, ⟨congrArg Prod.fst hn, by rw [hn]; exact h1⟩, e2 hpa' h2,
            fun es he => by rw [if_pos hpa', h3 es he]; rfl⟩
      obtain ⟨items₁, hrun₁, hlen₁, hit⟩ := hw
      rw [spansOf_true M _ g _ a b _ _ (Nat.lt_of_lt_of_le hpb hbl) hfind ha hb, entryAll]
      refine ⟨items₁, _, hrun₁, Nat.le_trans hlen₁ hlen, ?_⟩
      rcases h with ⟨c, hc, rfl⟩ | ⟨rfl, h2⟩
      · cases he : entry st' (slice input a b) with
        | ok es => exact .inl ⟨c, hc, rfl⟩
        | _ => exact .inr ⟨rfl, nofun⟩
      · refine .inr ⟨?_, fun L hL => ?_⟩
        · cases entry st' (slice input a b) with
          | ok es => cases entryAll entry input (spansOf M input.length g b st') <;> rfl
          | _ => rfl
        · obtain ⟨es, he, hL⟩ := Out.bind_eq_ok hL
          obtain ⟨L', hL', rfl⟩ := Out.map_eq_ok hL
          rw [hit es he, (h2 L' hL').1, entries, List.append_assoc, List.singleton_append]
          exact ⟨rfl, ⟨hpa, hab, hbl, (h2 L' hL').2.1⟩, rfl, rfl, ⟨rfl, hI', ha, hb⟩, (h2 L' hL').2.2⟩

end run

section ok
variable {M : MatcherI σ} {I : Nat → σ → Prop} (input : List Nat) (hM : FindAt M input.length I)
include hM

theorem replaceWith_ok (lit : Bool) (subst : Subst σ) (txt : σ → List Nat) (Q : Bool → Prop)
    (hsub : ∀ st simple a b, Q simple → I b st → M.start0 st = some a → M.end0 st = some b →
              ∃ s', subst st simple = some (txt st, s') ∧ Q s')
    (hQ : Q lit) (st0 : σ) (h0 : I 0 st0) (r : List Nat)
    (hr : replaceWith M subst input lit st0 = .ok r) :
    r = replaced input 0
          ((spansOf M input.length (input.length + 2) 0 st0).map (fun x => (x.1, x.2.1, txt x.2.2)))
    ∧ Ordered input.length 0 (spanPairs (spansOf M input.length (input.length + 2) 0 st0)) := by
  rcases replaceLoop_run input hM subst lit (input.length + 2) (input.length + 2) 0 st0 true false [] h0
      (Nat.zero_le _) (Nat.lt_add_of_pos_right (Nat.succ_pos 1)) (Nat.lt_add_of_pos_right (Nat.succ_pos 1))
      (fun _ => ⟨rfl, rfl⟩) with ⟨c, -, hc⟩ | ⟨h, hs⟩
  · exact absurd (hc.symm.trans hr) (ofFailed_ne_ok c r)
  · rw [replaceWith] at hr
    rw [hr, if_pos rfl] at h
    rw [if_pos rfl] at hs
    cases hT : substAll subst lit (spansOf M input.length (input.length + 2) 0 st0) with
    | none => rw [hT] at h; cases h
    | some T =>
      rw [hT] at h hs
      have hsp := hs rfl
      rw [hsp.2.substAll (fun y => txt y.2.2) Q
        (fun st a b d s hd hq => by obtain ⟨rfl, hI, ha, hb⟩ := hd; exact hsub d s a b hq hI ha hb) hQ] at hT
      cases hT
      exact ⟨Out.ok.inj h, hsp.1⟩

theorem tokenLoop_ok (st0 : σ) (h0 : I 0 st0) (l : Nat) (hl : input.length + 1 ≤ l) (toks : List (List Nat))
    (more : Bool) (h : tokenLoop M input l (some 0) st0 [] = .ok (toks, more)) :
    toks = pieces input 0 (spanPairs (spansOf M input.length (input.length + 2) 0 st0)) ∧ more = false := by
  obtain ⟨items, fin, hrun, hlen, hf⟩ := tokenIt_run input hM (input.length + 2) 0 st0 h0 (Nat.zero_le _)
    (Nat.lt_add_of_pos_right (Nat.succ_pos 1))
  rw [tokenLoop_eq_pull] at h
  obtain ⟨rfl, rfl, rfl⟩ := (pullLoop_run_ok hrun h).2 (Nat.le_trans hlen hl)
  rcases hf with ⟨c, -, hc⟩ | ⟨-, rfl, -⟩
  · exact absurd hc.symm (ofFailed_ne_ok c _)
  · exact ⟨rfl, rfl⟩

theorem tokenLoop_bound (st0 : σ) (h0 : I 0 st0) (limit : Nat) (toks : List (List Nat)) (more : Bool)
    (h : tokenLoop M input limit (some 0) st0 [] = .ok (toks, more)) : toks.length ≤ input.length + 1 := by
  obtain ⟨items, fin, hrun, hlen, -⟩ := tokenIt_run input hM (input.length + 1) 0 st0 h0 (Nat.zero_le _)
    (Nat.lt_succ_self _)
  rw [tokenLoop_eq_pull] at h
  have := (pullLoop_run_ok hrun h).1
  rw [List.length_nil, Nat.zero_add] at this
  exact Nat.le_trans this hlen

theorem analyzeLoop_ok (entry : σ → List Nat → Out (List MEntry)) (st0 : σ) (h0 : I 0 st0) (l : Nat)
    (hl : 2 * input.length + 1 ≤ l) (es : List AEntry) (more : Bool)
    (h : analyzeLoop M entry input l { st := st0 } [] = .ok (es, more)) :
    es = entries input 0 (espans entry input (spansOf M input.length (input.length + 2) 0 st0))
    ∧ more = false
    ∧ Ordered input.length 0 (spanPairs (spansOf M input.length (input.length + 2) 0 st0))
    ∧ EntriesOk entry input (spansOf M input.length (input.length + 2) 0 st0) := by
  obtain ⟨items, fin, hrun, hlen, hf⟩ := analyzeIt_run input hM entry (input.length + 2) 0 st0 h0 (Nat.zero_le _)
    (Nat.lt_add_of_pos_right (Nat.succ_pos 1))
  rw [analyzeLoop_eq_pull] at h
  obtain ⟨rfl, rfl, rfl⟩ := (pullLoop_run_ok hrun h).2 (Nat.le_trans hlen hl)
  rcases hf with ⟨c, -, hc⟩ | ⟨hL, hs⟩
  · exact absurd hc.symm (ofFailed_ne_ok c _)
  · obtain ⟨L, hL, -⟩ := Out.bind_eq_ok hL.symm
    obtain ⟨h1, h2⟩ := entryAll_ok hL
    exact ⟨by rw [(hs L hL).1, h1], rfl, (hs L hL).2.1, h2⟩

theorem analyzeLoop_bound (entry : σ → List Nat → Out (List MEntry)) (st0 : σ) (h0 : I 0 st0) (limit : Nat)
    (es : List AEntry) (more : Bool) (h : analyzeLoop M entry input limit { st := st0 } [] = .ok (es, more)) :
    es.length ≤ 2 * input.length + 1 := by
  obtain ⟨items, fin, hrun, hlen, -⟩ := analyzeIt_run input hM entry (input.length + 1) 0 st0 h0 (Nat.zero_le _)
    (Nat.lt_succ_self _)
  rw [analyzeLoop_eq_pull] at h
  have := (pullLoop_run_ok hrun h).1
  rw [List.length_nil, Nat.zero_add] at this
  exact Nat.le_trans this hlen
end ok

/-- search from `pos`, then from the end of each span: the shape of `spansOf`, without states -/
def nextSpans (next : Nat → Option (Nat × Nat × δ)) (len : Nat) : (fuel pos : Nat) → List (Nat × Nat × δ)
  | 0, _ => []
  | f+1, pos =>
    if pos < len then
      match next pos with
      | some (j, n, d) => (j, n, d) :: nextSpans next len f n
      | none => []
    else []

section nextSpans
variable {next : Nat → Option (Nat × Nat × δ)} {len pos : Nat}

theorem nextSpans_hit {f j n : Nat} {d : δ} (hlt : pos < len) (h : next pos = some (j, n, d)) :
    nextSpans next len (f + 1) pos = (j, n, d) :: nextSpans next len f n := by
  rw [nextSpans, if_pos hlt, h]

theorem nextSpans_miss (f : Nat) (h : next pos = none) : nextSpans next len f pos = [] := by
  cases f with
  | zero => rfl
  | succ f =>
    rw [nextSpans, h]
    exact ite_self _

theorem nextSpans_end (f : Nat) (h : ¬ pos < len) : nextSpans next len f pos = [] := by
  cases f with
  | zero => rfl
  | succ f => rw [nextSpans, if_neg h]
end nextSpans

/-- no call fails, and what a call finds is given by a state-free function `next : Nat → Option (start × end ×
    data)`; `Post` relates the state of a match to the data (nothing for the capture-free fragments, the capture
    environment of the first path for captures) -/
structure FindSpec (M : MatcherI σ) (len : Nat) (I : Nat → σ → Prop) (next : Nat → Option (Nat × Nat × δ))
    (Post : σ → Nat → Nat → δ → Prop) : Prop where
  step : ∀ pos st, pos ≤ len → I pos st →
    (∃ st', M.find st pos = (false, st') ∧ M.failed st' = none ∧ next pos = none) ∨
    (∃ st' j n d, M.find st pos = (true, st') ∧ M.failed st' = none ∧ M.start0 st' = some j ∧
      M.end0 st' = some n ∧ pos ≤ j ∧ j < n ∧ n ≤ len ∧ I n st' ∧ next pos = some (j, n, d) ∧ Post st' j n d)

namespace FindSpec
variable {M : MatcherI σ} {len : Nat} {input : List Nat} {I : Nat → σ → Prop} {next : Nat → Option (Nat × Nat × δ)}
  {Post : σ → Nat → Nat → δ → Prop}

theorem findAt (F : FindSpec M len I next Post) : FindAt M len I :=
  ⟨fun pos st hp hI => by
    rcases F.step pos st hp hI with ⟨st', h1, h2, -⟩ | ⟨st', j, n, d, h1, h2, h3, h4, h5, h6, h7, h8, -, -⟩
    · exact .inr (.inl ⟨st', h1, h2⟩)
    · exact .inr (.inr ⟨st', j, n, h1, h2, h3, h4, h5, h6, h7, h8⟩)⟩

theorem not_failed (F : FindSpec M len I next Post) (c : Nat) : ¬ FailedAt M len I c := by
  rintro ⟨pos, st, hp, hI, hfl⟩
  rcases F.step pos st hp hI with ⟨st', h1, h2, -⟩ | ⟨st', j, n, d, h1, h2, -⟩
  · rw [h1, h2] at hfl; cases hfl
  · rw [h1, h2] at hfl; cases hfl

theorem spansOf_rel (F : FindSpec M len I next Post) :
    ∀ (k pos : Nat) (st : σ), pos ≤ len → I pos st → SpansRel Post (spansOf M len k pos st) (nextSpans next len k pos)
  | 0, _, _, _, _ => trivial
  | k + 1, pos, st, hp, hI => by
    by_cases hlt : pos < len
    · rcases F.step pos st hp hI with ⟨st', hfind, -, hn⟩ | ⟨st', j, n, d, hfind, -, hs, he, -, -, hnl, hI', hn, hP⟩
      · rw [spansOf_false M _ _ _ _ _ hfind, nextSpans_miss _ hn]; exact trivial
      · rw [spansOf_true M _ k _ j n _ _ hlt hfind hs he, nextSpans_hit hlt hn]
        exact ⟨rfl, rfl, hP, F.spansOf_rel k n st' hnl hI'⟩
    · rw [spansOf_ge M _ _ _ _ hlt, nextSpans_end _ hlt]; exact trivial

theorem goodFind {J : σ → Prop} (F : FindSpec M len I next Post) (hJ : ∀ pos st, J st → I pos st)
    (hJ' : ∀ st, M.failed st = none → J st) : GoodFind M len J := by
  constructor
  intro st pos st' m hinv hpos hfind hfailed
  refine ⟨hJ' st' hfailed, fun hm => ?_⟩
  subst hm
  rcases F.step pos st hpos (hJ pos st hinv) with ⟨st2, he, -⟩ | ⟨st2, j, n, d, he, -, hs, hen, a6, hjn, hnl, -⟩
  · cases he.symm.trans hfind
  · cases he.symm.trans hfind
    exact ⟨j, n, hs, hen, a6, hjn, hnl⟩

theorem nextSpans_ordered (F : FindSpec M len I next Post) (k pos : Nat) (st : σ) (hp : pos ≤ len) (hI : I pos st) :
    Ordered len pos ((nextSpans next len k pos).map (fun y => (y.1, y.2.1))) := by
  rw [← (F.spansOf_rel k pos st hp hI).spanPairs_eq]
  exact (F.findAt.spansAt F.not_failed k pos st hp hI).1

theorem tokenIt_spec (F : FindSpec M input.length I next Post) (g pe : Nat) (st : σ) (hI : I pe st)
    (hp : pe ≤ input.length) (hg : input.length < g + pe) :
    Run (tokenIt M input) (some pe, st)
      (pieces input pe ((nextSpans next input.length g pe).map (fun y => (y.1, y.2.1)))) (.ok ()) := by
  obtain ⟨items, fin, hrun, -, ⟨c, hc, -⟩ | ⟨rfl, rfl, -⟩⟩ := tokenIt_run input F.findAt g pe st hI hp hg
  · exact absurd hc (F.not_failed c)
  · rwa [(F.spansOf_rel g pe st hp hI).spanPairs_eq] at hrun

theorem tokenLoop_spec (F : FindSpec M input.length I next Post) (st0 : σ) (h0 : I 0 st0) (l : Nat)
    (hl : input.length + 1 ≤ l) :
    tokenLoop M input l (some 0) st0 [] =
      .ok (pieces input 0 ((nextSpans next input.length (input.length + 2) 0).map (fun y => (y.1, y.2.1))), false) := by
  have := ordered_length _ _ 0 (Nat.zero_le _) (F.nextSpans_ordered (input.length + 2) 0 st0 (Nat.zero_le _) h0)
  rw [tokenLoop_eq_pull, pullLoop_run _ _ l [] (F.tokenIt_spec (input.length + 2) 0 st0 h0 (Nat.zero_le _)
    (Nat.lt_add_of_pos_right (Nat.succ_pos 1))), if_neg]
  · rfl
  · rw [pieces_length]; omega

theorem tokenLoop_total (F : FindSpec M input.length I next Post) (st0 : σ) (h0 : I 0 st0) (l : Nat) :
    ∃ toks more, tokenLoop M input l (some 0) st0 [] = .ok (toks, more) := by
  rw [tokenLoop_eq_pull, pullLoop_run _ _ l [] (F.tokenIt_spec (input.length + 1) 0 st0 h0 (Nat.zero_le _)
    (Nat.lt_succ_self _))]
  split <;> exact ⟨_, _, rfl⟩

theorem replaceLoop_spec (F : FindSpec M input.length I next Post) (subst : Subst σ) (lit : Bool)
    (txt : Nat × Nat × δ → List Nat) (Q : Bool → Prop)
    (hsub : ∀ st j n d simple, Post st j n d → Q simple → ∃ s', subst st simple = some (txt (j, n, d), s') ∧ Q s')
    (st0 : σ) (h0 : I 0 st0) (hQ : Q lit) :
    replaceLoop M subst input lit (input.length + 2) 0 st0 true false [] =
      .ok (replaced input 0
        ((nextSpans next input.length (input.length + 2) 0).map (fun y => (y.1, y.2.1, txt y)))) := by
  rcases replaceLoop_run input F.findAt subst lit (input.length + 2) (input.length + 2) 0 st0 true false [] h0
      (Nat.zero_le _) (Nat.lt_add_of_pos_right (Nat.succ_pos 1)) (Nat.lt_add_of_pos_right (Nat.succ_pos 1))
      (fun _ => ⟨rfl, rfl⟩) with ⟨c, hc, -⟩ | ⟨h, -⟩
  · exact absurd hc (F.not_failed c)
  · rw [h, if_pos rfl, (F.spansOf_rel _ 0 st0 (Nat.zero_le _) h0).substAll txt Q hsub hQ]
    rfl

theorem replaceWith_total (F : FindSpec M input.length I next Post) (subst : Subst σ) (lit : Bool) (st0 : σ)
    (h0 : I 0 st0) :
    (∃ r, replaceWith M subst input lit st0 = .ok r) ∨ replaceWith M subst input lit st0 = .err .invalidReplacement := by
  rcases replaceLoop_run input F.findAt subst lit (input.length + 2) (input.length + 2) 0 st0 true false [] h0
      (Nat.zero_le _) (Nat.lt_add_of_pos_right (Nat.succ_pos 1)) (Nat.lt_add_of_pos_right (Nat.succ_pos 1))
      (fun _ => ⟨rfl, rfl⟩) with ⟨c, hc, -⟩ | ⟨h, -⟩
  · exact absurd hc (F.not_failed c)
  · rw [replaceWith, h]
    cases substAll subst (if true = true then lit else false) (spansOf M input.length (input.length + 2) 0 st0) with
    | none => exact .inr rfl
    | some T => exact .inl ⟨_, rfl⟩

theorem analyzeLoop_total (F : FindSpec M input.length I next Post) (entry : σ → List Nat → Out (List MEntry))
    (P : Nat → Prop)
    (hentry : ∀ st j n d, Post st j n d →
      (∃ es, entry st (slice input j n) = .ok es) ∨ (∃ c, entry st (slice input j n) = .panic c ∧ P c))
    (st0 : σ) (h0 : I 0 st0) (l : Nat) :
    (∃ es more, analyzeLoop M entry input l { st := st0 } [] = .ok (es, more)) ∨
    (∃ c, analyzeLoop M entry input l { st := st0 } [] = .panic c ∧ P c) := by
  obtain ⟨items, fin, hrun, -, ⟨c, hc, -⟩ | ⟨rfl, -⟩⟩ :=
    analyzeIt_run input F.findAt entry (input.length + 1) 0 st0 h0 (Nat.zero_le _) (Nat.lt_succ_self _)
  · exact absurd hc (F.not_failed c)
  · rw [analyzeLoop_eq_pull, pullLoop_run items _ l [] hrun]
    split
    · exact .inl ⟨_, _, rfl⟩
    · rcases (F.spansOf_rel (input.length + 1) 0 st0 (Nat.zero_le _) h0).entryAll_cases P hentry with
        ⟨L, hL⟩ | ⟨c, hL, hc⟩
      · exact .inl ⟨_, _, by rw [hL]; rfl⟩
      · exact .inr ⟨c, by rw [hL]; rfl, hc⟩
end FindSpec
end Rx.C04
