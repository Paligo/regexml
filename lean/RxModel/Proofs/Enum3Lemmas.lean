/-
  Proofs/Enum3Lemmas — the nodes of the general repeats: the greedy one (`GreedyRepeatIterator`: a post-order DFS,
  more iterations first) over a body with at most one end per start that makes progress (`DetBody`), the reluctant
  one (`ReluctantRepeatIterator`) over a body that makes progress.  The force-progress wrapper is the identity on
  both: the ends are distinct.  At the end `nonNull` is sound: a tree it accepts has no empty member in its language.
-/
import RxModel.Spec.Enum3
import RxModel.Proofs.IterLemmas
import RxModel.Proofs.OpRCalc
import RxModel.Proofs.OpRLemmas
import RxModel.Spec.Preds
namespace Rx
open Rx.C08 (noEmptyAtoms noEmptyAtomsL clsCanon clsCanonL)
open Rx.Clean2End (Progress)

/-- what the greedy loop needs of a body: `ProgBody`, and at most one end per start -/
structure DetBody (child : Gen) (e : Nat → List Nat) (L : Nat) : Prop where
  ex : ∀ q, q ≤ L → ∀ st, Step.Ex (child q st) (e q)
  det : ∀ q, q ≤ L → (e q).length ≤ 1
  prog : Progress e L

theorem DetBody.nil_of_end {child : Gen} {e : Nat → List Nat} {L : Nat} (hb : DetBody child e L)
    {q : Nat} (hq : q ≤ L) (h : L ≤ q) : e q = [] := by
  cases hl : e q with
  | nil => rfl
  | cons n t =>
    have := hb.prog q hq n (by rw [hl]; exact List.mem_cons_self)
    omega

theorem DetBody.headDet {child : Gen} {e : Nat → List Nat} {L : Nat} {R : Nat → Nat → Prop}
    (hb : DetBody child e L) (hcomp : ∀ a b, a ≤ L → R a b → b ∈ e a) : HeadDet R e L where
  det := by
    intro a ha b hr
    have hmem := hcomp a b ha hr
    have hbL := (hb.prog a ha b hmem).2
    have hl := hb.det a ha
    cases hle : e a with
    | nil => rw [hle] at hmem; cases hmem
    | cons x t =>
      have ht : t = [] := tail_nil_of_length_le_one hle hl
      subst ht
      rw [hle] at hmem
      have hbx : b = x := List.mem_singleton.1 hmem
      subst hbx
      exact ⟨⟨[], rfl⟩, hbL⟩

/-- `bindFR` over a stream with at most one element: the "later results" continuation is never used -/
theorem Step.Ex.bindFR_det {s : Step} {f g : Nat → St → Step} {l : List Nat} {G : Nat → List Nat}
    (hs : Step.Ex s l) (hl : l.length ≤ 1) (hf : ∀ n, n ∈ l → ∀ st, Step.Ex (f n st) (G n)) :
    Step.Ex (s.bindFR f g) (l.flatMap G) := by
  cases hs with
  | nil st => exact .nil st
  | cons n st r t hr =>
    have ht : t = [] := tail_nil_of_length_le_one rfl hl
    subst ht
    simp only [Step.bindFR, List.flatMap_cons, List.flatMap_nil]
    refine Step.Ex.append (hf n List.mem_cons_self st) (fun st' => ?_)
    have := hr st' trivial
    generalize r st' = s' at this
    cases this with
    | nil st'' => exact .nil _

theorem greedyIter_succ_det {e : Nat → List Nat} {p : Nat} (hd : (e p).length ≤ 1) (mn b k : Nat) :
    greedyIter e mn (b + 1) k p =
      (e p).flatMap (fun q => greedyIter e mn b (k + 1) q) ++ if mn ≤ k then [p] else [] := by
  simp only [greedyIter]
  cases hl : e p with
  | nil => rfl
  | cons q t =>
    obtain rfl := tail_nil_of_length_le_one hl hd
    simp only [List.flatMap_cons, List.flatMap_nil, List.append_nil]

/-- how many more iterations the node may push: the primed counter, or `bound - len` on a
    re-extension path -/
def budgetOf (bound len : Nat) : Option Nat → Nat
  | some k => k
  | none => bound - len

theorem greedyNode_succ (child : Gen) (mn bound f len : Nat) (pl : Option Nat) (n : Nat) (st : St) :
    greedyNode child mn bound (f + 1) len pl n st =
      (if 0 < budgetOf bound len pl then
        (child n st).bindFR (fun n2 st2 => greedyNode child mn bound f (len + 1) (pl.map (· - 1)) n2 st2)
          (fun n2 st2 => greedyNode child mn bound f (len + 1) none n2 st2)
       else .nil st).append (fun st' => if len ≥ mn then .once n st' else .nil st') := by
  cases pl with
  | some k => simp only [greedyNode, budgetOf, gt_iff_lt, decide_eq_true_eq]; rfl
  | none => simp only [greedyNode, budgetOf, decide_eq_true_eq, Nat.sub_pos_iff_lt]

theorem budgetOf_push (bound len : Nat) (pl : Option Nat) :
    budgetOf bound (len + 1) (pl.map (· - 1)) = budgetOf bound len pl - 1 := by
  cases pl with
  | some k => rfl
  | none => simp only [Option.map_none, budgetOf]; omega

theorem greedyNode_ex {child : Gen} {e : Nat → List Nat} {L : Nat} (hb : DetBody child e L)
    (mn bound : Nat) :
    ∀ fuel len pl n st, n ≤ L → L < fuel + n →
      Step.Ex (greedyNode child mn bound fuel len pl n st) (greedyIter e mn (budgetOf bound len pl) len n) := by
  intro fuel
  induction fuel with
  | zero => intro len pl n st hn hf; omega
  | succ f ih =>
    intro len pl n st hn hf
    have tailEx : ∀ st', Step.Ex (if len ≥ mn then Step.once n st' else Step.nil st')
        (if mn ≤ len then [n] else []) := by
      intro st'
      by_cases h : mn ≤ len
      · rw [if_pos h, if_pos h]; exact .once _ _
      · rw [if_neg h, if_neg h]; exact .nil _
    rw [greedyNode_succ]
    cases hB : budgetOf bound len pl with
    | zero =>
      rw [if_neg (Nat.lt_irrefl _)]
      exact Step.Ex.append (.nil st) tailEx
    | succ b =>
      rw [if_pos (Nat.succ_pos _), greedyIter_succ_det (hb.det n hn)]
      refine Step.Ex.append (Step.Ex.bindFR_det (hb.ex n hn st) (hb.det n hn) (fun q hq st2 => ?_)) tailEx
      have := ih (len + 1) (pl.map (· - 1)) q st2 (hb.prog n hn q hq).2 (by have := (hb.prog n hn q hq).1; omega)
      rwa [budgetOf_push, hB, Nat.add_sub_cancel] at this

theorem greedyIter_budget {e : Nat → List Nat} {L : Nat} (hp : Progress e L) (mn : Nat) :
    ∀ b p, p ≤ L → L ≤ p + b → ∀ k c, greedyIter e mn (b + c) k p = greedyIter e mn b k p := by
  intro b
  induction b with
  | zero =>
    intro p hpL hb k c
    cases c with
    | zero => rfl
    | succ c =>
      cases hl : e p with
      | nil => simp only [greedyIter, hl, List.nil_append]
      | cons q t =>
        have := hp p hpL q (by rw [hl]; exact List.mem_cons_self)
        omega
  | succ b ih =>
    intro p hpL hb k c
    rw [Nat.add_right_comm]
    simp only [greedyIter]
    cases hl : e p with
    | nil => rfl
    | cons q t =>
      obtain ⟨h1, h2⟩ := hp p hpL q (by rw [hl]; exact List.mem_cons_self)
      simp only
      rw [ih q h2 (by omega) (k + 1) c]

theorem greedyIter_budget2 {e : Nat → List Nat} {L : Nat} (hp : Progress e L) (mn : Nat) (p : Nat) (hpL : p ≤ L)
    (k b b' : Nat) (hb : L - p ≤ b) (hb' : L - p ≤ b') : greedyIter e mn b k p = greedyIter e mn b' k p := by
  rw [← greedyIter_budget hp mn b p hpL (by omega) k b', Nat.add_comm,
    greedyIter_budget hp mn b' p hpL (by omega) k b]

/-- the counter of `ForceProgressIterator` never exceeds 3 along `l`, started at `(cnt, cur)`: no five equal ends in
    a row -/
def runsOK : Nat → Option Nat → List Nat → Prop
  | _, _, [] => True
  | cnt, cur, n :: t =>
    (if some n == cur then cnt + 1 else 0) ≤ 3 ∧ runsOK (if some n == cur then cnt + 1 else 0) (some n) t

theorem Step.Ex.force {s : Step} {l : List Nat} (hs : Step.Ex s l) :
    ∀ cnt cur, runsOK cnt cur l → Step.Ex (s.force cnt cur) l := by
  induction hs with
  | nil st => intro _ _ _; exact .nil _
  | cons n st r l _ ih =>
    intro cnt cur h
    obtain ⟨h1, h2⟩ := h
    simp only [Step.force]
    refine Step.Ex.cons (fun st' => ?_)
    rw [if_neg (by omega)]
    exact ih st' trivial _ _ h2

theorem runsOK_tail (B : Nat) (rest : List Nat) (H : ∀ c' cur', c' ≤ B → runsOK c' cur' rest) :
    ∀ (t : List Nat) (prev c0 : Nat), t.Nodup → prev ∉ t → c0 ≤ B → runsOK c0 (some prev) (t ++ rest) := by
  intro t
  induction t with
  | nil => intro prev c0 _ _ hc; exact H c0 _ hc
  | cons m t ih =>
    intro prev c0 hnd hp hc
    rw [List.nodup_cons] at hnd
    have hne : m ≠ prev := fun h => hp (h ▸ List.mem_cons_self)
    have hb : (some m == some prev) = false := by simp [hne]
    show (if some m == some prev then c0 + 1 else 0) ≤ 3 ∧ _
    rw [hb]
    exact ⟨Nat.zero_le _, ih m 0 hnd.2 hnd.1 (Nat.zero_le _)⟩

/-- a list without repetition raises the counter by at most one -/
theorem runsOK_nodup (A rest : List Nat) (c : Nat) (cur : Option Nat) (hnd : A.Nodup) (hc : c + 1 ≤ 3)
    (H : ∀ c' cur', c' ≤ c + 1 → runsOK c' cur' rest) : runsOK c cur (A ++ rest) := by
  cases A with
  | nil => exact H c cur (Nat.le_succ c)
  | cons n t =>
    rw [List.nodup_cons] at hnd
    show (if some n == cur then c + 1 else 0) ≤ 3 ∧ _
    have hle : (if some n == cur then c + 1 else 0) ≤ c + 1 := by split <;> omega
    exact ⟨by omega, runsOK_tail (c + 1) rest H t n _ hnd.2 hnd.1 hle⟩

/-- two lists without repetition, one after the other: the counter reaches 2 at most -/
theorem Step.Ex.force_nodup {s : Step} {A B : List Nat} (hs : Step.Ex s (A ++ B)) (hA : A.Nodup) (hB : B.Nodup) :
    Step.Ex (s.force 0 none) (A ++ B) := by
  refine hs.force 0 none (runsOK_nodup A B 0 none hA (by omega) (fun c' cur' hc' => ?_))
  have := runsOK_nodup B [] c' cur' hB (by omega) (fun _ _ _ => trivial)
  rwa [List.append_nil] at this

theorem Step.Ex.force_nodup1 {s : Step} {A : List Nat} (hs : Step.Ex s A) (hA : A.Nodup) :
    Step.Ex (s.force 0 none) A := by
  rw [← List.append_nil A] at hs ⊢
  exact hs.force_nodup hA List.nodup_nil

theorem repBound_ne_zero {mx L p : Nat} (hmx : 0 < mx) (hp : p ≤ L) : (Nat.min mx (L + 1 - p) == 0) = false := by
  have : Nat.min mx (L + 1 - p) ≠ 0 := by
    show min mx (L + 1 - p) ≠ 0
    rw [Nat.min_def]; split <;> omega
  simpa using this

/-- the stack that starts with one iteration of the body; `G`: what the DFS from an end of the body lists, in the
    caller's terms -/
theorem repFirst_ex {child : Gen} {e : Nat → List Nat} {L : Nat} (hb : DetBody child e L) (mn bound b fuel : Nat)
    {p : Nat} (hp : p ≤ L) (hf : L < fuel + p) (st : St) {G : Nat → List Nat}
    (hG : ∀ q, q ∈ e p → G q = greedyIter e mn b 1 q) :
    Step.Ex (((child p st).bindFR (fun n st2 => greedyNode child mn bound fuel 1 (some b) n st2)
      (fun n st2 => greedyNode child mn bound fuel 1 none n st2)).force 0 none) ((e p).flatMap G) := by
  refine (Step.Ex.bindFR_det (hb.ex p hp st) (hb.det p hp) (fun q hq st2 => ?_)).force_nodup1 ?_
  · rw [hG q hq]
    exact greedyNode_ex hb mn bound fuel 1 (some b) q st2 (hb.prog p hp q hq).2
      (by have := (hb.prog p hp q hq).1; omega)
  · have hd := hb.det p hp
    cases hl : e p with
    | nil => exact List.nodup_nil
    | cons q t =>
      obtain rfl := tail_nil_of_length_le_one hl hd
      have hq : q ∈ e p := by rw [hl]; exact List.mem_cons_self
      rw [List.flatMap_cons, List.flatMap_nil, List.append_nil, hG q hq]
      exact (greedyIter_nodup hb.prog mn b 1 q (hb.prog p hp q hq).2).2

/-- `min ≥ 1`: no zero-iteration entry, no memo -/
theorem repGreedy_ex {child : Gen} {e : Nat → List Nat} (ctx : Ctx) (hb : DetBody child e ctx.len)
    (id mn mx : Nat) (hmn : 1 ≤ mn) (hmx : 0 < mx) (p : Nat) (hp : p ≤ ctx.len) (st : St) :
    Step.Ex (repGreedyGen ctx id child mn mx p st) (greedyIter e mn mx 0 p) := by
  unfold repGreedyGen
  have hm0 : (mn == 0) = false := by simp; omega
  simp only [hm0, repBound_ne_zero hmx hp, Bool.false_eq_true, if_false]
  obtain ⟨b, rfl⟩ : ∃ b, mx = b + 1 := ⟨mx - 1, by omega⟩
  rw [greedyIter_succ_det (hb.det p hp), if_neg (by omega), List.append_nil]
  refine repFirst_ex hb mn _ _ _ hp (by omega) st (fun q hq => ?_)
  -- `b = mx - 1`: either `mx` is the bound, or the bound is the end of the input
  obtain ⟨h1, h2⟩ := hb.prog p hp q hq
  by_cases hle : b + 1 ≤ ctx.len + 1 - p
  · rw [show Nat.min (b + 1) (ctx.len + 1 - p) = b + 1 from Nat.min_eq_left hle, Nat.add_sub_cancel]
  · rw [show Nat.min (b + 1) (ctx.len + 1 - p) = ctx.len + 1 - p from Nat.min_eq_right (by omega)]
    exact greedyIter_budget2 hb.prog mn q h2 1 _ _ (by omega) (by omega)

theorem greedyIter_k0 (e : Nat → List Nat) : ∀ b k k' p, greedyIter e 0 b k p = greedyIter e 0 b k' p := by
  intro b
  induction b with
  | zero => intro k k' p; simp [greedyIter]
  | succ b ih =>
    intro k k' p
    simp only [greedyIter, Nat.zero_le, if_true]
    cases e p with
    | nil => rfl
    | cons q t => simp only; rw [ih (k + 1) (k' + 1) q]

/-- `min = 0`, the memo has NO entry `(id, position)`: the zero-iteration entry is written to the memo,
    the ends are yielded longest-first down to `position` itself — and then the entry is re-extended and
    everything (up to one iteration less than the bound) is yielded a second time -/
theorem repGreedy0_fresh_ex {child : Gen} {e : Nat → List Nat} (ctx : Ctx) (hb : DetBody child e ctx.len)
    (id mx : Nat) (p : Nat) (hp : p ≤ ctx.len) (st : St) (hm : memPair st.hist id p = false) :
    Step.Ex (repGreedyGen ctx id child 0 mx p st)
      (greedyIter e 0 (Nat.min mx (ctx.len + 1 - p)) 0 p ++
       greedyIter e 0 (Nat.min mx (ctx.len + 1 - p) - 1) 0 p) := by
  unfold repGreedyGen
  simp only [beq_self_eq_true, if_true, hm, Bool.false_eq_true, if_false]
  refine Step.Ex.force_nodup (Step.Ex.append ?_ (fun st2 => ?_)) (greedyIter_nodup hb.prog 0 _ 0 p hp).2
    (greedyIter_nodup hb.prog 0 _ 0 p hp).2
  · rw [greedyIter_k0 e _ 0 1]
    exact greedyNode_ex hb 0 _ (ctx.len + 3) 1 (some _) p _ hp (by omega)
  · have := greedyNode_ex hb 0 (Nat.min mx (ctx.len + 1 - p)) (ctx.len + 3) 1 none p st2 hp (by omega)
    rwa [greedyIter_k0 e _ 1 0] at this

/-- `min = 0`, the memo HAS the entry `(id, position)`: no zero-iteration entry — the ends for one or
    more iterations only; `position` itself is NOT yielded -/
theorem repGreedy0_hit_ex {child : Gen} {e : Nat → List Nat} (ctx : Ctx) (hb : DetBody child e ctx.len)
    (id mx : Nat) (hmx : 0 < mx) (p : Nat) (hp : p ≤ ctx.len) (st : St) (hm : memPair st.hist id p = true) :
    Step.Ex (repGreedyGen ctx id child 0 mx p st)
      ((e p).flatMap (fun q => greedyIter e 0 (Nat.min mx (ctx.len + 1 - p) - 1) 0 q)) := by
  unfold repGreedyGen
  simp only [beq_self_eq_true, if_true, hm, repBound_ne_zero hmx hp, Bool.false_eq_true, if_false]
  exact repFirst_ex hb 0 _ _ _ hp (by omega) st (fun q _ => greedyIter_k0 e _ 0 1 q)

theorem DetBody.progBody {child : Gen} {e : Nat → List Nat} {L : Nat} (h : DetBody child e L) :
    ProgBody child e L := ⟨h.ex, h.prog⟩

/-- over a body that makes progress the zero-width rule of `iterMinZ` never fires: it is `iterMin` -/
theorem iterMinZ_eq {child : Gen} {e : Nat → List Nat} {L : Nat} (hb : ProgBody child e L) (mn : Nat) :
    ∀ fuel count pos st, pos ≤ L → iterMinZ child mn fuel count pos st = iterMin child mn fuel count pos st := by
  intro fuel
  induction fuel with
  | zero => intro _ _ _ _; rfl
  | succ f ih =>
    intro count pos st hpL
    unfold iterMinZ iterMin
    by_cases hlt : count < mn
    · rw [if_pos hlt, if_pos hlt]
      cases hl : e pos with
      | nil =>
        obtain ⟨st', hf⟩ := hb.first_nil hpL st hl
        rw [hf]
      | cons q t =>
        obtain ⟨⟨st1, hf⟩, hq1, hq2⟩ := hb.first_cons hpL st hl
        rw [hf]
        simp only
        rw [if_neg (by simp; omega)]
        exact ih (count + 1) q st1 hq2
    · rw [if_neg hlt, if_neg hlt]

theorem repReluct_ex {child : Gen} {e : Nat → List Nat} (ctx : Ctx) (hb : ProgBody child e ctx.len)
    (mn mx : Nat) (hmm : mn ≤ mx) (p : Nat) (hp : p ≤ ctx.len) (st : St) :
    Step.Ex (repReluctantGen ctx child mn mx p st) (reluctIter e mn mx 0 p) := by
  unfold repReluctantGen
  have hnd := (reluctIter_nodup hb.prog mn mx 0 p hp).2
  rw [iterMinZ_eq hb mn _ 0 p st hp]
  have h := iterMin_enum hb (loopFuel ctx mn) mn 0 p st mx hp hmm (loopFuel_covers ctx mn p)
  rw [Nat.zero_add] at h
  generalize iterMin child mn (loopFuel ctx mn) 0 p st = r at h
  obtain ⟨o, st'⟩ := r
  rcases h with ⟨rfl, h2⟩ | ⟨pos', rfl, h2, h3⟩
  · rw [h2]
    exact .nil _
  · rw [h3] at hnd ⊢
    exact (moreLoop_enum hb mn mx (relMore child mx) id (fun _ _ _ _ => rfl)
      _ (mx - mn) mn pos' _ (Nat.le_refl _) (by omega) h2 (by omega)).force_nodup1 hnd

theorem nonNull_rpt {o c : Op} {mn mx : Nat} {g : Bool} (h : repeatParts o = some (c, mn, mx, g)) :
    nonNull o = (decide (1 ≤ mn) && nonNull c) := by
  rcases repeatParts_cases h with ⟨_, rfl⟩ | ⟨_, rfl, _⟩ | ⟨_, rfl, _⟩ | ⟨rfl, _⟩ <;> simp only [nonNull]

/-- for a sequence, one element that passes is enough: the others do not move backwards -/
theorem nonNull_sound_aux (ctx : Ctx) :
    (∀ op, True → ∀ p q, OpR ctx op p q → nonNull op = true → p < q) ∧
    ∀ l, True → (∀ p q, OpRAny ctx l p q → nonNullAll l = true → p < q) ∧
      (∀ p q, OpRSeq ctx l p q → nonNullAny l = true → p < q) :=
  OpR.ind Down.triv (Q := fun o p q => nonNull o = true → p < q)
    (QA := fun l p q => nonNullAll l = true → p < q) (QS := fun l p q => nonNullAny l = true → p < q)
    (bol := fun _ _ _ _ h => by simp [nonNull] at h) (eol := fun _ _ _ _ h => by simp [nonNull] at h)
    (nothing := fun _ _ h => by simp [nonNull] at h) (endProgram := fun _ _ h => by simp [nonNull] at h)
    (atom := fun cs _ p q hr h => by
      simp only [nonNull] at h
      simp only [OpR] at hr
      cases cs with
      | nil => simp at h
      | cons a t => simp only [List.length_cons] at hr; omega)
    (cls := fun _ _ p q hr _ => by simp only [OpR] at hr; omega)
    (backref := fun _ _ _ _ _ h => by simp [nonNull] at h)
    (capture := fun _ _ _ _ _ _ ih h => ih (by simpa only [nonNull] using h))
    (choice := fun _ _ _ _ _ ih h => ih (by simpa only [nonNull] using h))
    (seq := fun _ _ _ _ _ ih h => ih (by simpa only [nonNull] using h))
    (rpt := fun o c mn mx g e _ k hk _ p q hi h => by
      rw [nonNull_rpt e, Bool.and_eq_true, decide_eq_true_eq] at h
      obtain ⟨k', rfl⟩ : ∃ k', k = k' + 1 := ⟨k - 1, by omega⟩
      obtain ⟨a, ⟨_, ha⟩, hrest⟩ := IterR.uncons hi
      have := ha h.2
      have := IterR_le (fun a b hab => OpR_mono ctx c a b hab.1) hrest
      omega)
    (anyHead := fun _ _ _ _ _ _ ih h => by
      simp only [nonNullAll, Bool.and_eq_true] at h
      exact ih h.1)
    (anyTail := fun _ _ _ _ _ _ ih h => by
      simp only [nonNullAll, Bool.and_eq_true] at h
      exact ih h.2)
    (seqNil := fun _ _ h => by simp [nonNullAny] at h)
    (seqCons := fun o l _ p m q h1 ih h2 ihl h => by
      simp only [nonNullAny, Bool.or_eq_true] at h
      have m1 := OpR_mono ctx o p m h1
      have m2 := OpRSeq_mono ctx l m q h2
      rcases h with h | h
      · have := ih h; omega
      · have := ihl h; omega)

theorem nonNull_sound (ctx : Ctx) : (op : Op) → nonNull op = true → ∀ p q, OpR ctx op p q → p < q :=
  fun op h p q hr => (nonNull_sound_aux ctx).1 op trivial p q hr h

theorem nonNullAll_sound (ctx : Ctx) : (bs : List Op) → nonNullAll bs = true → ∀ p q, OpRAny ctx bs p q → p < q :=
  fun bs h p q hr => ((nonNull_sound_aux ctx).2 bs trivial).1 p q hr h

theorem nonNullAny_sound (ctx : Ctx) : (ops : List Op) → nonNullAny ops = true → ∀ p q, OpRSeq ctx ops p q → p < q :=
  fun ops h p q hr => ((nonNull_sound_aux ctx).2 ops trivial).2 p q hr h

end Rx
