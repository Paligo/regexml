/-
  Proofs/SeqElem — what `optimizeSeq` (Model/Optimize) does to one element of a sequence of ≥ 2 elements: it
  puts the optimised element itself, or the `.unamb` form of a repeat over one literal / class — when the two
  bounds are equal or `no_ambiguity` holds against the UN-optimised follower.
-/
import RxModel.Model.Optimize
namespace Rx.OptL
open Rx

def seqElem (env : Env) (fl : CFlags) (opt nxt : Op) : Op :=
  match repeatParts opt with
  | some (child, mn, mx, greedy) =>
    if isAtomOrClass child then
      if mn == mx then .unamb child mn mx
      else if noAmbiguity env child nxt fl.caseBlind (!greedy) fl.multiLine then .unamb child mn mx
      else opt
    else opt
  | none => opt

theorem optimizeSeq_cons2 (env : Env) (fl : CFlags) (o nxt : Op) (os : List Op) :
    optimizeSeq env fl (o :: nxt :: os) =
      seqElem env fl (optimize env fl o) nxt :: optimizeSeq env fl (nxt :: os) := by
  simp only [optimizeSeq, seqElem]
  rfl

theorem seqElem_spec (env : Env) (fl : CFlags) (opt nxt : Op) :
    seqElem env fl opt nxt = opt ∨
      ∃ child mn mx g, repeatParts opt = some (child, mn, mx, g) ∧ isAtomOrClass child = true ∧
        (mn = mx ∨ noAmbiguity env child nxt fl.caseBlind (!g) fl.multiLine = true) ∧
        seqElem env fl opt nxt = .unamb child mn mx := by
  unfold seqElem
  cases hrp : repeatParts opt with
  | none => exact .inl rfl
  | some r =>
    obtain ⟨child, mn, mx, g⟩ := r
    dsimp only
    by_cases hac : isAtomOrClass child = true
    · rw [if_pos hac]
      by_cases heq : (mn == mx) = true
      · rw [if_pos heq]
        exact .inr ⟨child, mn, mx, g, rfl, hac, .inl (beq_iff_eq.1 heq), rfl⟩
      · rw [if_neg heq]
        by_cases hna : noAmbiguity env child nxt fl.caseBlind (!g) fl.multiLine = true
        · rw [if_pos hna]
          exact .inr ⟨child, mn, mx, g, rfl, hac, .inr hna, rfl⟩
        · rw [if_neg hna]
          exact .inl rfl
    · rw [if_neg hac]
      exact .inl rfl

end Rx.OptL
