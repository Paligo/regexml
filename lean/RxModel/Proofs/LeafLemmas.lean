/-
  Proofs/LeafLemmas — leaf operations (back-references, literals under flag i) and their compilation.
-/
import RxModel.Proofs.ParserSpec
namespace Rx.Leaf
open Rx

theorem escape_backref (c : PC) (s s' : PS) (inBr : Bool) (n : Nat)
    (h : escape c s inBr = .ok (.backref n) s') :
    inBr = false ∧ c.fl.xsd = false ∧ n ∈ s.captures ∧ s'.hasBackrefs = true ∧ 1 ≤ n := by
  obtain ⟨_, _, _, hs, hbr⟩ := escape_ok h
  obtain ⟨h1, h2, h3, h4⟩ := hbr n rfl
  exact ⟨h1, h2, h3, by rw [hs]; simp [Esc.isBackref], h4⟩

theorem sameText_iff (ctx : Ctx) (l p s : Nat) :
    sameText ctx l p s = true ↔
      ∀ k, k < l → ∃ a b, ctx.input[p + k]? = some a ∧ ctx.input[s + k]? = some b ∧ ctx.eqAt a b = true := by
  induction l generalizing p s with
  | zero => simp [sameText]
  | succ l ih =>
    constructor
    · intro h k hk
      simp only [sameText] at h
      cases hp : ctx.input[p]? with
      | none => simp [hp] at h
      | some a =>
        cases hs : ctx.input[s]? with
        | none => simp [hp, hs] at h
        | some b =>
          simp only [hp, hs, Bool.and_eq_true] at h
          cases k with
          | zero => exact ⟨a, b, by simpa using hp, by simpa using hs, h.1⟩
          | succ k =>
            have := (ih (p+1) (s+1)).1 h.2 k (by omega)
            rwa [show p + 1 + k = p + (k + 1) by omega, show s + 1 + k = s + (k + 1) by omega] at this
    · intro h
      obtain ⟨a, b, hp, hs, hab⟩ := h 0 (by omega)
      simp only [Nat.add_zero] at hp hs
      simp only [sameText, hp, hs, hab, Bool.true_and]
      apply (ih (p+1) (s+1)).2
      intro k hk
      have := h (k+1) (by omega)
      rwa [show p + 1 + k = p + (k + 1) by omega, show s + 1 + k = s + (k + 1) by omega]

theorem prefixMatch_ci (ctx : Ctx) (hcb : ctx.caseBlind = true) (cs xs : List Nat) :
    prefixMatch ctx cs xs = true ↔
      cs.length ≤ xs.length ∧ ∀ k (hk : k < cs.length) (hx : k < xs.length), eqCB ctx.lower xs[k] cs[k] = true := by
  induction cs generalizing xs with
  | nil => simp [prefixMatch]
  | cons c cs ih =>
    cases xs with
    | nil => simp [prefixMatch]
    | cons x xs =>
      simp only [prefixMatch, Bool.and_eq_true, ih, Ctx.eqAt, hcb, if_true, List.length_cons]
      constructor
      · rintro ⟨h0, hl, hk⟩
        refine ⟨by omega, ?_⟩
        intro k hk1 hk2
        cases k with
        | zero => simpa using h0
        | succ k =>
          simp only [List.getElem_cons_succ]
          exact hk k (by omega) (by omega)
      · rintro ⟨hl, hk⟩
        refine ⟨by simpa using hk 0 (by omega) (by omega), by omega, ?_⟩
        intro k hk1 hk2
        have h' := hk (k+1) (by omega) (by omega)
        simp only [List.getElem_cons_succ] at h'
        exact h'

theorem PC.at_fl (c : PC) (fl : CFlags) (i : Nat) : PC.at { c with fl := fl } i = PC.at c i := rfl
theorem PC.len_fl (c : PC) (fl : CFlags) : PC.len { c with fl := fl } = PC.len c := rfl

theorem escape_fl (c : PC) (fl : CFlags) (hx : fl.xsd = c.fl.xsd) (s : PS) (inBr : Bool) :
    escape { c with fl := fl } s inBr = escape c s inBr :=
  escape_congr (c' := { c with fl := fl }) (c := c) rfl rfl hx s inBr

end Rx.Leaf
