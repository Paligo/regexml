/-
  Proofs/StreamCalc — predicates on resumption streams, closed under the combinators of Model/Stream.

    `s.Sat dv I P`   : every position `s` yields satisfies `P`; every state it exposes (at a yield or at exhaustion)
                       satisfies `I`, provided the consumer hands back states satisfying `I`; `.diverge` is reached
                       only if `dv` holds

  `All`, `Inv`, `NoDiv` (and `Step.Term` of Proofs/TermCalc) are its corners,

      All P   = Sat True  (fun _ => True) P                 Inv I  = Sat True  I (fun _ => True)
      NoDiv   = Sat False (fun _ => True) (fun _ => True)   Term I = Sat False I (fun _ => True)

  and the closure of each corner is read off the closure of `Sat` (`h.sat` into `Sat`, `.all` / `.inv` / `.noDiv` /
  `.term` out of it).
-/
import RxModel.Model.Stream
namespace Rx

inductive Step.All (P : Nat → Prop) : Step → Prop
  | nil (st) : All P (.nil st)
  | cons (n st r) : P n → (∀ st', All P (r st')) → All P (.cons n st r)
  | diverge : All P .diverge

inductive Step.Inv (I : St → Prop) : Step → Prop
  | nil (st) : I st → Inv I (.nil st)
  | cons (n st r) : I st → (∀ st', I st' → Inv I (r st')) → Inv I (.cons n st r)
  | diverge : Inv I .diverge

inductive Step.NoDiv : Step → Prop
  | nil (st) : NoDiv (.nil st)
  | cons (n st r) : (∀ st', NoDiv (r st')) → NoDiv (.cons n st r)

inductive Step.Sat (dv : Prop) (I : St → Prop) (P : Nat → Prop) : Step → Prop
  | nil (st) : I st → Sat dv I P (.nil st)
  | cons (n st r) : P n → I st → (∀ st', I st' → Sat dv I P (r st')) → Sat dv I P (.cons n st r)
  | diverge : dv → Sat dv I P .diverge

theorem Step.All.trivial (s : Step) : s.All (fun _ => True) := by
  induction s with
  | nil st => exact .nil st
  | cons n st r ih => exact .cons _ _ _ True.intro ih
  | diverge => exact .diverge

namespace Step.Sat
variable {dv : Prop} {I : St → Prop} {P Q : Nat → Prop}

theorem mono (hpq : ∀ n, P n → Q n) {s : Step} (h : s.Sat dv I P) : s.Sat dv I Q := by
  induction h with
  | nil st hi => exact .nil st hi
  | cons n st r hn hi _ ih => exact .cons _ _ _ (hpq n hn) hi ih
  | diverge hd => exact .diverge hd

theorem andAll {s : Step} (h : s.Sat dv I P) (hq : s.All Q) : s.Sat dv I (fun n => P n ∧ Q n) := by
  induction h with
  | nil st hi => exact .nil st hi
  | cons n st r hn hi _ ih =>
    cases hq with
    | cons _ _ _ hn' hr' => exact .cons _ _ _ ⟨hn, hn'⟩ hi (fun st' h' => ih st' h' (hr' st'))
  | diverge hd => exact .diverge hd

theorem once {n : Nat} {st : St} (hn : P n) (h : I st) : (Step.once n st).Sat dv I P :=
  .cons _ _ _ hn h (fun _ h' => .nil _ h')

theorem guard {c : Bool} {r s : Step} (hr : c = true → r.Sat dv I P) (hs : c = false → s.Sat dv I P) :
    (if c = true then r else s).Sat dv I P := by
  cases c
  · exact hs rfl
  · exact hr rfl

theorem append {s : Step} {f : St → Step} (hs : s.Sat dv I P) (hf : ∀ st, I st → (f st).Sat dv I P) :
    (s.append f).Sat dv I P := by
  induction hs with
  | nil st hi => exact hf st hi
  | cons n st r hn hi _ ih => exact .cons _ _ _ hn hi ih
  | diverge hd => exact .diverge hd

theorem bind {s : Step} {f : Nat → St → Step} (hs : s.Sat dv I P)
    (hf : ∀ n st, P n → I st → (f n st).Sat dv I Q) : (s.bind f).Sat dv I Q := by
  induction hs with
  | nil st hi => exact .nil st hi
  | cons n st r hn hi _ ih => exact (hf n st hn hi).append ih
  | diverge hd => exact .diverge hd

theorem bindFR {s : Step} {f g : Nat → St → Step} (hs : s.Sat dv I P)
    (hf : ∀ n st, P n → I st → (f n st).Sat dv I Q) (hg : ∀ n st, P n → I st → (g n st).Sat dv I Q) :
    (s.bindFR f g).Sat dv I Q := by
  cases hs with
  | nil st hi => exact .nil st hi
  | cons n st r hn hi hr => exact (hf n st hn hi).append (fun st' h' => (hr st' h').bind hg)
  | diverge hd => exact .diverge hd

theorem mapSt {s : Step} {f : Nat → St → St} (hs : s.Sat dv I P) (hf : ∀ n st, P n → I st → I (f n st)) :
    (s.mapSt f).Sat dv I P := by
  induction hs with
  | nil st hi => exact .nil st hi
  | cons n st r hn hi _ ih => exact .cons _ _ _ hn (hf n st hn hi) ih
  | diverge hd => exact .diverge hd

theorem onNil {s : Step} {f : St → St} (hs : s.Sat dv I P) (hf : ∀ st, I st → I (f st)) :
    (s.onNil f).Sat dv I P := by
  induction hs with
  | nil st hi => exact .nil _ (hf st hi)
  | cons n st r hn hi _ ih => exact .cons _ _ _ hn hi ih
  | diverge hd => exact .diverge hd

theorem force {s : Step} (hs : s.Sat dv I P) : ∀ cnt cur, (s.force cnt cur).Sat dv I P := by
  induction hs with
  | nil st hi => intro _ _; exact .nil _ hi
  | cons n st r hn hi _ ih =>
    intro cnt cur
    refine .cons _ _ _ hn hi (fun st' h' => ?_)
    generalize (if (some n == cur) = true then cnt + 1 else 0) = c
    by_cases hc : c > 3
    · simp only [hc, if_true]; exact .nil _ h'
    · simp only [hc, if_false]; exact ih st' h' _ _
  | diverge hd => intro _ _; exact .diverge hd

theorem all {s : Step} (h : s.Sat dv (fun _ => True) P) : s.All P := by
  induction h with
  | nil st _ => exact .nil st
  | cons n st r hn _ _ ih => exact .cons _ _ _ hn (fun st' => ih st' True.intro)
  | diverge _ => exact .diverge

theorem inv {s : Step} (h : s.Sat dv I P) : s.Inv I := by
  induction h with
  | nil st hi => exact .nil st hi
  | cons n st r _ hi _ ih => exact .cons _ _ _ hi ih
  | diverge _ => exact .diverge

theorem noDiv {s : Step} (h : s.Sat False I P) (hI : ∀ st, I st) : s.NoDiv := by
  induction h with
  | nil st _ => exact .nil st
  | cons n st r _ _ _ ih => exact .cons _ _ _ (fun st' => ih st' (hI st'))
  | diverge hd => exact hd.elim

end Step.Sat

theorem Step.All.sat {P : Nat → Prop} {s : Step} (h : s.All P) : s.Sat True (fun _ => True) P := by
  induction h with
  | nil st => exact .nil st True.intro
  | cons n st r hn _ ih => exact .cons _ _ _ hn True.intro (fun st' _ => ih st')
  | diverge => exact .diverge True.intro

theorem Step.Inv.sat {I : St → Prop} {P : Nat → Prop} {s : Step} (hi : s.Inv I) (hp : s.All P) : s.Sat True I P := by
  induction hi with
  | nil st h => exact .nil st h
  | cons n st r h _ ih =>
    cases hp with
    | cons _ _ _ hn hr => exact .cons _ _ _ hn h (fun st' h' => ih st' h' (hr st'))
  | diverge => exact .diverge True.intro

theorem Step.NoDiv.sat {P : Nat → Prop} {s : Step} (hd : s.NoDiv) (hp : s.All P) :
    s.Sat False (fun _ => True) P := by
  induction hd with
  | nil st => exact .nil st True.intro
  | cons n st r _ ih =>
    cases hp with
    | cons _ _ _ hn hr => exact .cons _ _ _ hn True.intro (fun st' _ => ih st' (hr st'))

namespace Step.All
variable {P Q : Nat → Prop}

theorem mono (h : ∀ n, P n → Q n) {s : Step} (hs : s.All P) : s.All Q :=
  (hs.sat.mono h).all

theorem and {s : Step} (hp : s.All P) (hq : s.All Q) : s.All (fun n => P n ∧ Q n) :=
  (hp.sat.andAll hq).all

theorem append {s : Step} {f : St → Step}
    (hs : s.All P) (hf : ∀ st, (f st).All P) : (s.append f).All P :=
  (hs.sat.append fun st _ => (hf st).sat).all

theorem bind {s : Step} {f : Nat → St → Step}
    (hs : s.All P) (hf : ∀ n st, P n → (f n st).All Q) : (s.bind f).All Q :=
  (hs.sat.bind fun n st hn _ => (hf n st hn).sat).all

theorem bindFR {s : Step} {f g : Nat → St → Step}
    (hs : s.All P) (hf : ∀ n st, P n → (f n st).All Q)
    (hg : ∀ n st, P n → (g n st).All Q) : (s.bindFR f g).All Q :=
  (hs.sat.bindFR (fun n st hn _ => (hf n st hn).sat) fun n st hn _ => (hg n st hn).sat).all

theorem mapSt {s : Step} {f : Nat → St → St} (hs : s.All P) : (s.mapSt f).All P :=
  (hs.sat.mapSt fun _ _ _ _ => True.intro).all

theorem onNil {s : Step} {f : St → St} (hs : s.All P) : (s.onNil f).All P :=
  (hs.sat.onNil fun _ _ => True.intro).all

theorem force {s : Step} (hs : s.All P) (cnt : Nat) (cur : Option Nat) : (s.force cnt cur).All P :=
  (hs.sat.force cnt cur).all

theorem once {n : Nat} {st : St} (h : P n) : (Step.once n st).All P :=
  .cons _ _ _ h (fun _ => .nil _)

end Step.All

def GenSound (g : Gen) (R : Nat → Nat → Prop) : Prop := ∀ p st, (g p st).All (R p)

theorem bind_once (s : Step) : s.bind Step.once = s := by
  induction s with
  | nil st => rfl
  | cons n st r ih =>
    simp only [Step.bind, Step.once, Step.append]
    exact congrArg _ (funext ih)
  | diverge => rfl

end Rx
