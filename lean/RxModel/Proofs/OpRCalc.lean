/-
  Proofs/OpRCalc — the language `OpR` (Spec/OpLang) used as a rule system instead of being unfolded.

    * the four repetition operators are ONE case, `repeatParts o = some (c, mn, mx, g)`, with one lemma per function
      saying what it does there (`OpR_rpt`, `wfOp_rpt`, …);
    * `Down N NL`: a property of trees that passes to the children — the side conditions of a statement, carried by
      the induction instead of being taken apart in every case (`Op.ind_down`);
    * `Cong R RL`: a relation between trees that every constructor respects ("the two trees mean the same" for some
      meaning); equality of languages, between two contexts, is one (`OpR.cong`);
    * `OpR.ind`: rule induction.  To show `Q o p q` of every member `OpR ctx o p q` of the language of every tree
      with `N o`, treat the seven leaves and the five ways a member of a compound tree arises from members of
      its children (capture, alternative, sequence = nil / cons, repeat = a `k`-fold iteration with
      `mn ≤ k ≤ mx`); each rule hands over the members of the children WITH `Q` of them.
-/
import RxModel.Spec.OpLang
import RxModel.Proofs.OpInd
import RxModel.Proofs.IterRLemmas
namespace Rx

theorem repeatParts_cases {o c : Op} {mn mx : Nat} {g : Bool} (h : repeatParts o = some (c, mn, mx, g)) :
    (∃ id, o = .rep id c mn mx g) ∨ (∃ len, o = .gfixed c mn mx len ∧ g = true) ∨
    (∃ len, o = .rfixed c mn mx len ∧ g = false) ∨ (o = .unamb c mn mx ∧ g = true) := by
  cases o <;> simp only [repeatParts, Option.some.injEq, Prod.mk.injEq, reduceCtorEq] at h
  · obtain ⟨rfl, rfl, rfl, rfl⟩ := h; exact .inl ⟨_, rfl⟩
  · obtain ⟨rfl, rfl, rfl, rfl⟩ := h; exact .inr (.inl ⟨_, rfl, rfl⟩)
  · obtain ⟨rfl, rfl, rfl, rfl⟩ := h; exact .inr (.inr (.inl ⟨_, rfl, rfl⟩))
  · obtain ⟨rfl, rfl, rfl, rfl⟩ := h; exact .inr (.inr (.inr ⟨rfl, rfl⟩))

theorem OpR_rpt (ctx : Ctx) {o c : Op} {mn mx : Nat} {g : Bool} (h : repeatParts o = some (c, mn, mx, g))
    (p q : Nat) : OpR ctx o p q ↔ ∃ k, mn ≤ k ∧ k ≤ mx ∧ IterR (fun a b => OpR ctx c a b) k p q := by
  rcases repeatParts_cases h with ⟨_, rfl⟩ | ⟨_, rfl, _⟩ | ⟨_, rfl, _⟩ | ⟨rfl, _⟩ <;> simp only [OpR]

theorem wfOp_rpt {o c : Op} {mn mx : Nat} {g : Bool} (h : repeatParts o = some (c, mn, mx, g))
    (hwf : wfOp o = true) : wfOp c = true ∧ mn ≤ mx ∧ 0 < mx := by
  rcases repeatParts_cases h with ⟨_, rfl⟩ | ⟨_, rfl, _⟩ | ⟨_, rfl, _⟩ | ⟨rfl, _⟩ <;>
    simp only [wfOp, Bool.and_eq_true, decide_eq_true_eq] at hwf
  · exact ⟨hwf.1.1, hwf.1.2, hwf.2⟩
  · exact ⟨hwf.1.1.1.1.1, hwf.1.2, hwf.2⟩
  · exact ⟨hwf.1.1.1.1.1, hwf.1.2, hwf.2⟩
  · exact ⟨hwf.1.1, hwf.1.2, hwf.2⟩

structure Down (N : Op → Prop) (NL : List Op → Prop) : Prop where
  capture : ∀ {g c}, N (.capture g c) → N c
  choice : ∀ {l}, N (.choice l) → NL l
  seq : ∀ {l}, N (.seq l) → NL l
  rpt : ∀ {o c mn mx g}, repeatParts o = some (c, mn, mx, g) → N o → N c
  head : ∀ {o l}, NL (o :: l) → N o
  tail : ∀ {o l}, NL (o :: l) → NL l

theorem Down.triv : Down (fun _ => True) (fun _ => True) :=
  ⟨fun _ => trivial, fun _ => trivial, fun _ => trivial, fun _ _ => trivial, fun _ => trivial, fun _ => trivial⟩

theorem Down.and {N N' : Op → Prop} {NL NL' : List Op → Prop} (h : Down N NL) (h' : Down N' NL') :
    Down (fun o => N o ∧ N' o) (fun l => NL l ∧ NL' l) :=
  ⟨fun a => ⟨h.capture a.1, h'.capture a.2⟩, fun a => ⟨h.choice a.1, h'.choice a.2⟩,
    fun a => ⟨h.seq a.1, h'.seq a.2⟩, fun e a => ⟨h.rpt e a.1, h'.rpt e a.2⟩,
    fun a => ⟨h.head a.1, h'.head a.2⟩, fun a => ⟨h.tail a.1, h'.tail a.2⟩⟩

theorem Down.imp {N : Op → Prop} {NL : List Op → Prop} (c : Prop) (h : Down N NL) :
    Down (fun o => c → N o) (fun l => c → NL l) :=
  ⟨fun a hc => h.capture (a hc), fun a hc => h.choice (a hc), fun a hc => h.seq (a hc),
    fun e a hc => h.rpt e (a hc), fun a hc => h.head (a hc), fun a hc => h.tail (a hc)⟩

theorem Down.orConst {N : Op → Prop} {NL : List Op → Prop} (c : Prop) (h : Down N NL) :
    Down (fun o => N o ∨ c) (fun l => NL l ∨ c) :=
  ⟨fun a => a.imp h.capture id, fun a => a.imp h.choice id, fun a => a.imp h.seq id,
    fun e a => a.imp (h.rpt e) id, fun a => a.imp h.head id, fun a => a.imp h.tail id⟩

theorem Down.mem {N : Op → Prop} {NL : List Op → Prop} (h : Down N NL) : ∀ {l : List Op} {o : Op}, NL l → o ∈ l → N o
  | _ :: _, _, hl, .head _ => h.head hl
  | _ :: _, _, hl, .tail _ hm => h.mem (h.tail hl) hm

theorem Down.ofBool {P : Op → Bool} {PL : List Op → Bool}
    (capture : ∀ g c, P (.capture g c) = true → P c = true)
    (choice : ∀ l, P (.choice l) = true → PL l = true) (seq : ∀ l, P (.seq l) = true → PL l = true)
    (rep : ∀ id c mn mx g, P (.rep id c mn mx g) = true → P c = true)
    (gfixed : ∀ c mn mx len, P (.gfixed c mn mx len) = true → P c = true)
    (rfixed : ∀ c mn mx len, P (.rfixed c mn mx len) = true → P c = true)
    (unamb : ∀ c mn mx, P (.unamb c mn mx) = true → P c = true)
    (cons : ∀ o l, PL (o :: l) = true → P o = true ∧ PL l = true) :
    Down (fun o => P o = true) (fun l => PL l = true) where
  capture := capture _ _
  choice := choice _
  seq := seq _
  rpt e a := by
    rcases repeatParts_cases e with ⟨_, rfl⟩ | ⟨_, rfl, _⟩ | ⟨_, rfl, _⟩ | ⟨rfl, _⟩
    · exact rep _ _ _ _ _ a
    · exact gfixed _ _ _ _ a
    · exact rfixed _ _ _ _ a
    · exact unamb _ _ _ a
  head a := (cons _ _ a).1
  tail a := (cons _ _ a).2

theorem down_wfOp : Down (fun o => wfOp o = true) (fun l => wfOps l = true) :=
  .ofBool (fun _ _ h => by simpa only [wfOp] using h)
    (fun _ h => by simp only [wfOp, Bool.and_eq_true] at h; exact h.2)
    (fun _ h => by simp only [wfOp, Bool.and_eq_true] at h; exact h.2)
    (fun _ _ _ _ _ h => (wfOp_rpt (o := .rep _ _ _ _ _) rfl h).1)
    (fun _ _ _ _ h => (wfOp_rpt (o := .gfixed _ _ _ _) rfl h).1)
    (fun _ _ _ _ h => (wfOp_rpt (o := .rfixed _ _ _ _) rfl h).1)
    (fun _ _ _ h => (wfOp_rpt (o := .unamb _ _ _) rfl h).1)
    (fun _ _ h => by simpa only [wfOps, Bool.and_eq_true] using h)

theorem down_noBackref : Down (fun o => hasBackref o = false) (fun os => hasBackrefL os = false) where
  capture := fun h => by simpa only [hasBackref] using h
  choice := fun h => by simpa only [hasBackref] using h
  seq := fun h => by simpa only [hasBackref] using h
  rpt := fun e h => by
    rcases repeatParts_cases e with ⟨_, rfl⟩ | ⟨_, rfl, _⟩ | ⟨_, rfl, _⟩ | ⟨rfl, _⟩ <;>
      simpa only [hasBackref] using h
  head := fun h => by simp only [hasBackrefL, Bool.or_eq_false_iff] at h; exact h.1
  tail := fun h => by simp only [hasBackrefL, Bool.or_eq_false_iff] at h; exact h.2

theorem Op.ind_down {N M : Op → Prop} {NL ML : List Op → Prop} (D : Down N NL)
    (bol : N .bol → M .bol) (eol : N .eol → M .eol) (nothing : N .nothing → M .nothing)
    (endProgram : N .endProgram → M .endProgram) (atom : ∀ cs, N (.atom cs) → M (.atom cs))
    (cls : ∀ rs, N (.cls rs) → M (.cls rs)) (backref : ∀ g, N (.backref g) → M (.backref g))
    (capture : ∀ g c, N (.capture g c) → M c → M (.capture g c))
    (choice : ∀ l, N (.choice l) → ML l → M (.choice l)) (seq : ∀ l, N (.seq l) → ML l → M (.seq l))
    (rpt : ∀ o c mn mx g, repeatParts o = some (c, mn, mx, g) → N o → M c → M o)
    (nil : NL [] → ML []) (cons : ∀ o l, NL (o :: l) → M o → ML l → ML (o :: l)) :
    (∀ o, N o → M o) ∧ (∀ l, NL l → ML l) := by
  apply Op.ind_both
  case bol => exact bol
  case eol => exact eol
  case nothing => exact nothing
  case endProgram => exact endProgram
  case atom => exact atom
  case cls => exact cls
  case backref => exact backref
  case capture => exact fun g c ih hn => capture g c hn (ih (D.capture hn))
  case choice => exact fun l ih hn => choice l hn (ih (D.choice hn))
  case seq => exact fun l ih hn => seq l hn (ih (D.seq hn))
  case rep => exact fun id c mn mx g ih hn => rpt _ c mn mx g rfl hn (ih (D.rpt (o := .rep id c mn mx g) rfl hn))
  case gfixed => exact fun c mn mx len ih hn => rpt _ c mn mx true rfl hn (ih (D.rpt (o := .gfixed c mn mx len) rfl hn))
  case rfixed => exact fun c mn mx len ih hn => rpt _ c mn mx false rfl hn (ih (D.rpt (o := .rfixed c mn mx len) rfl hn))
  case unamb => exact fun c mn mx ih hn => rpt _ c mn mx true rfl hn (ih (D.rpt (o := .unamb c mn mx) rfl hn))
  case nil => exact nil
  case cons => exact fun o l ih ihl hn => cons o l hn (ih (D.head hn)) (ihl (D.tail hn))

theorem Op.ind_rpt {M : Op → Prop} {ML : List Op → Prop}
    (bol : M .bol) (eol : M .eol) (nothing : M .nothing) (endProgram : M .endProgram)
    (atom : ∀ cs, M (.atom cs)) (cls : ∀ rs, M (.cls rs)) (backref : ∀ g, M (.backref g))
    (capture : ∀ g c, M c → M (.capture g c)) (choice : ∀ l, ML l → M (.choice l)) (seq : ∀ l, ML l → M (.seq l))
    (rpt : ∀ o c mn mx g, repeatParts o = some (c, mn, mx, g) → M c → M o)
    (nil : ML []) (cons : ∀ o l, M o → ML l → ML (o :: l)) : (∀ o, M o) ∧ (∀ l, ML l) :=
  Op.ind_both bol eol nothing endProgram atom cls backref capture choice seq
    (fun _ c mn mx g => rpt _ c mn mx g rfl) (fun c mn mx _ => rpt _ c mn mx true rfl)
    (fun c mn mx _ => rpt _ c mn mx false rfl) (fun c mn mx => rpt _ c mn mx true rfl) nil cons

inductive TreePred.Leaf : Op → Prop
  | bol : Leaf .bol
  | eol : Leaf .eol
  | nothing : Leaf .nothing
  | endProgram : Leaf .endProgram
  | atom (cs) : Leaf (.atom cs)
  | cls (rs) : Leaf (.cls rs)
  | backref (g) : Leaf (.backref g)

/-- `R` relates trees built by the same constructor from related children (whatever the ids of `.rep` nodes) -/
structure Cong (R : Op → Op → Prop) (RL : List Op → List Op → Prop) : Prop where
  capture : ∀ {c c'} g, R c c' → R (.capture g c) (.capture g c')
  choice : ∀ {l l'}, RL l l' → R (.choice l) (.choice l')
  seq : ∀ {l l'}, RL l l' → R (.seq l) (.seq l')
  rep : ∀ {c c'} id id' mn mx g, R c c' → R (.rep id c mn mx g) (.rep id' c' mn mx g)
  gfixed : ∀ {c c'} mn mx len, R c c' → R (.gfixed c mn mx len) (.gfixed c' mn mx len)
  rfixed : ∀ {c c'} mn mx len, R c c' → R (.rfixed c mn mx len) (.rfixed c' mn mx len)
  unamb : ∀ {c c'} mn mx, R c c' → R (.unamb c mn mx) (.unamb c' mn mx)
  nil : RL [] []
  cons : ∀ {o o' l l'}, R o o' → RL l l' → RL (o :: l) (o' :: l')

theorem Cong.diag {R : Op → Op → Prop} {RL : List Op → List Op → Prop} (h : Cong R RL)
    {N : Op → Prop} {NL : List Op → Prop} (D : Down N NL) (leaf : ∀ o, TreePred.Leaf o → N o → R o o) :
    (∀ o, N o → R o o) ∧ (∀ l, NL l → RL l l) := by
  apply Op.ind_both
  case bol => exact leaf _ .bol
  case eol => exact leaf _ .eol
  case nothing => exact leaf _ .nothing
  case endProgram => exact leaf _ .endProgram
  case atom => exact fun cs => leaf _ (.atom cs)
  case cls => exact fun rs => leaf _ (.cls rs)
  case backref => exact fun g => leaf _ (.backref g)
  case capture => exact fun g c ih hn => h.capture g (ih (D.capture hn))
  case choice => exact fun l ih hn => h.choice (ih (D.choice hn))
  case seq => exact fun l ih hn => h.seq (ih (D.seq hn))
  case rep => exact fun id c mn mx g ih hn => h.rep id id mn mx g (ih (D.rpt (o := .rep id c mn mx g) rfl hn))
  case gfixed => exact fun c mn mx len ih hn => h.gfixed mn mx len (ih (D.rpt (o := .gfixed c mn mx len) rfl hn))
  case rfixed => exact fun c mn mx len ih hn => h.rfixed mn mx len (ih (D.rpt (o := .rfixed c mn mx len) rfl hn))
  case unamb => exact fun c mn mx ih hn => h.unamb mn mx (ih (D.rpt (o := .unamb c mn mx) rfl hn))
  case nil => exact fun _ => h.nil
  case cons => exact fun o l ih ihl hn => h.cons (ih (D.head hn)) (ihl (D.tail hn))

theorem OpR.cong (ctx ctx' : Ctx) :
    Cong (fun o o' => ∀ p q, OpR ctx o p q ↔ OpR ctx' o' p q)
      (fun l l' => (∀ p q, OpRAny ctx l p q ↔ OpRAny ctx' l' p q) ∧ (∀ p q, OpRSeq ctx l p q ↔ OpRSeq ctx' l' p q)) where
  capture _ h p q := by simp only [OpR]; exact h p q
  choice h p q := by simp only [OpR]; exact h.1 p q
  seq h p q := by simp only [OpR]; exact h.2 p q
  rep _ _ mn mx _ h p q := by simp only [OpR]; exact rep_congr h mn mx p q
  gfixed mn mx _ h p q := by simp only [OpR]; exact rep_congr h mn mx p q
  rfixed mn mx _ h p q := by simp only [OpR]; exact rep_congr h mn mx p q
  unamb mn mx h p q := by simp only [OpR]; exact rep_congr h mn mx p q
  nil := ⟨fun _ _ => Iff.rfl, fun _ _ => by simp only [OpRSeq]⟩
  cons h hl :=
    ⟨fun p q => by simp only [OpRAny]; exact or_congr (h p q) (hl.1 p q),
      fun p q => by simp only [OpRSeq]; exact exists_congr (fun m => and_congr (h p m) (hl.2 m q))⟩

section
variable {ctx : Ctx} {N : Op → Prop} {NL : List Op → Prop}
  {Q : Op → Nat → Nat → Prop} {QA QS : List Op → Nat → Nat → Prop}

theorem OpR.ind (D : Down N NL)
    (bol : N .bol → ∀ p q, OpR ctx .bol p q → Q .bol p q)
    (eol : N .eol → ∀ p q, OpR ctx .eol p q → Q .eol p q)
    (nothing : N .nothing → ∀ p, Q .nothing p p)
    (endProgram : N .endProgram → ∀ p, Q .endProgram p p)
    (atom : ∀ cs, N (.atom cs) → ∀ p q, OpR ctx (.atom cs) p q → Q (.atom cs) p q)
    (cls : ∀ rs, N (.cls rs) → ∀ p q, OpR ctx (.cls rs) p q → Q (.cls rs) p q)
    (backref : ∀ g, N (.backref g) → ∀ p q, OpR ctx (.backref g) p q → Q (.backref g) p q)
    (capture : ∀ g c, N (.capture g c) → ∀ p q, OpR ctx c p q → Q c p q → Q (.capture g c) p q)
    (choice : ∀ l, N (.choice l) → ∀ p q, OpRAny ctx l p q → QA l p q → Q (.choice l) p q)
    (seq : ∀ l, N (.seq l) → ∀ p q, OpRSeq ctx l p q → QS l p q → Q (.seq l) p q)
    (rpt : ∀ o c mn mx g, repeatParts o = some (c, mn, mx, g) → N o → ∀ k, mn ≤ k → k ≤ mx → ∀ p q,
      IterR (fun a b => OpR ctx c a b ∧ Q c a b) k p q → Q o p q)
    (anyHead : ∀ o l, NL (o :: l) → ∀ p q, OpR ctx o p q → Q o p q → QA (o :: l) p q)
    (anyTail : ∀ o l, NL (o :: l) → ∀ p q, OpRAny ctx l p q → QA l p q → QA (o :: l) p q)
    (seqNil : NL [] → ∀ p, QS [] p p)
    (seqCons : ∀ o l, NL (o :: l) → ∀ p m q, OpR ctx o p m → Q o p m → OpRSeq ctx l m q → QS l m q →
      QS (o :: l) p q) :
    (∀ o, N o → ∀ p q, OpR ctx o p q → Q o p q) ∧
    (∀ l, NL l → (∀ p q, OpRAny ctx l p q → QA l p q) ∧ (∀ p q, OpRSeq ctx l p q → QS l p q)) := by
  have rp : ∀ o c mn mx g, repeatParts o = some (c, mn, mx, g) → (N c → ∀ p q, OpR ctx c p q → Q c p q) →
      N o → ∀ p q, OpR ctx o p q → Q o p q := by
    intro o c mn mx g e ih hn p q h
    obtain ⟨k, h1, h2, hi⟩ := (OpR_rpt ctx e p q).1 h
    exact rpt o c mn mx g e hn k h1 h2 p q (hi.attach (ih (D.rpt e hn)))
  apply Op.ind_both
  case bol => exact bol
  case eol => exact eol
  case nothing => intro hn p q h; simp only [OpR] at h; subst h; exact nothing hn _
  case endProgram => intro hn p q h; simp only [OpR] at h; subst h; exact endProgram hn _
  case atom => exact atom
  case cls => exact cls
  case backref => exact backref
  case capture =>
    intro g c ih hn p q h; simp only [OpR] at h; exact capture g c hn p q h (ih (D.capture hn) p q h)
  case choice =>
    intro l ih hn p q h; simp only [OpR] at h; exact choice l hn p q h ((ih (D.choice hn)).1 p q h)
  case seq =>
    intro l ih hn p q h; simp only [OpR] at h; exact seq l hn p q h ((ih (D.seq hn)).2 p q h)
  case rep => intro id c mn mx g ih; exact rp _ c mn mx g rfl ih
  case gfixed => intro c mn mx len ih; exact rp _ c mn mx true rfl ih
  case rfixed => intro c mn mx len ih; exact rp _ c mn mx false rfl ih
  case unamb => intro c mn mx ih; exact rp _ c mn mx true rfl ih
  case nil =>
    intro hn
    exact ⟨fun p q h => by simp only [OpRAny] at h, fun p q h => by simp only [OpRSeq] at h; subst h; exact seqNil hn _⟩
  case cons =>
    intro o l ih ihl hn
    refine ⟨fun p q h => ?_, fun p q h => ?_⟩
    · simp only [OpRAny] at h
      rcases h with h | h
      · exact anyHead o l hn p q h (ih (D.head hn) p q h)
      · exact anyTail o l hn p q h ((ihl (D.tail hn)).1 p q h)
    · simp only [OpRSeq] at h
      obtain ⟨m, h1, h2⟩ := h
      exact seqCons o l hn p m q h1 (ih (D.head hn) p m h1) h2 ((ihl (D.tail hn)).2 m q h2)

theorem OpR.ind_all
    (bol : ∀ p q, OpR ctx .bol p q → Q .bol p q) (eol : ∀ p q, OpR ctx .eol p q → Q .eol p q)
    (nothing : ∀ p, Q .nothing p p) (endProgram : ∀ p, Q .endProgram p p)
    (atom : ∀ cs p q, OpR ctx (.atom cs) p q → Q (.atom cs) p q)
    (cls : ∀ rs p q, OpR ctx (.cls rs) p q → Q (.cls rs) p q)
    (backref : ∀ g p q, OpR ctx (.backref g) p q → Q (.backref g) p q)
    (capture : ∀ g c p q, OpR ctx c p q → Q c p q → Q (.capture g c) p q)
    (choice : ∀ l p q, OpRAny ctx l p q → QA l p q → Q (.choice l) p q)
    (seq : ∀ l p q, OpRSeq ctx l p q → QS l p q → Q (.seq l) p q)
    (rpt : ∀ o c mn mx g, repeatParts o = some (c, mn, mx, g) → ∀ k, mn ≤ k → k ≤ mx → ∀ p q,
      IterR (fun a b => OpR ctx c a b ∧ Q c a b) k p q → Q o p q)
    (anyHead : ∀ o l p q, OpR ctx o p q → Q o p q → QA (o :: l) p q)
    (anyTail : ∀ o l p q, OpRAny ctx l p q → QA l p q → QA (o :: l) p q)
    (seqNil : ∀ p, QS [] p p)
    (seqCons : ∀ o l p m q, OpR ctx o p m → Q o p m → OpRSeq ctx l m q → QS l m q → QS (o :: l) p q) :
    (∀ o p q, OpR ctx o p q → Q o p q) ∧
    (∀ l, (∀ p q, OpRAny ctx l p q → QA l p q) ∧ (∀ p q, OpRSeq ctx l p q → QS l p q)) :=
  have h := OpR.ind (ctx := ctx) (Q := Q) (QA := QA) (QS := QS) Down.triv (fun _ => bol) (fun _ => eol)
    (fun _ => nothing) (fun _ => endProgram) (fun cs _ => atom cs) (fun rs _ => cls rs) (fun g _ => backref g)
    (fun g c _ => capture g c) (fun l _ => choice l) (fun l _ => seq l) (fun o c mn mx g e _ => rpt o c mn mx g e)
    (fun o l _ => anyHead o l) (fun o l _ => anyTail o l) (fun _ => seqNil) (fun o l _ => seqCons o l)
  ⟨fun o => h.1 o trivial, fun l => h.2 l trivial⟩

end

end Rx
