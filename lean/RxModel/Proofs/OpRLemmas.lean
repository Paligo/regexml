/-
  Proofs/OpRLemmas — three facts about the reference semantics `OpR`: `get_minimum_match_length` is a lower bound
  of the length of every member (`OptL.minLen_op`, a rule induction; saturation only lowers the bound, so no
  hypothesis on the input length); hence positions only move forward; and a zero-length member at any position is
  a member of the empty input.
-/
import RxModel.Proofs.OpRCalc
namespace Rx.OptL
open Rx

theorem satAdd_le (a b : Nat) : satAdd a b ≤ a + b := Nat.min_le_left _ _
theorem satMul_le (a b : Nat) : satMul a b ≤ a * b := Nat.min_le_left _ _

theorem rep_minlen {mn k d p q : Nat} (hk : mn ≤ k) (h : p + k * d ≤ q) : p + satMul mn d ≤ q := by
  have h1 := satMul_le mn d
  have h2 : mn * d ≤ k * d := Nat.mul_le_mul_right d hk
  omega

theorem minLenOp_rpt {o c : Op} {mn mx : Nat} {g : Bool} (e : repeatParts o = some (c, mn, mx, g)) :
    minLenOp o = satMul mn (minLenOp c) := by
  rcases repeatParts_cases e with ⟨_, rfl⟩ | ⟨_, rfl, _⟩ | ⟨_, rfl, _⟩ | ⟨rfl, _⟩ <;> rfl

theorem minLen_both (ctx : Ctx) :
    (∀ op p q, OpR ctx op p q → p + minLenOp op ≤ q) ∧
    (∀ l, (∀ p q, OpRAny ctx l p q → p + minLenChoice l ≤ q) ∧ (∀ p q, OpRSeq ctx l p q → p + minLenSeq l ≤ q)) := by
  apply OpR.ind_all
  case bol | eol => intro p q h; simp only [OpR] at h; simp only [minLenOp]; omega
  case nothing | endProgram | seqNil => exact fun _ => Nat.le_refl _
  case atom | cls | backref => intro _ p q h; simp only [OpR] at h; simp only [minLenOp]; omega
  case capture => intro _ _ p q _ h; simpa only [minLenOp] using h
  case choice | seq => intro _ p q _ h; simpa only [minLenOp] using h
  case rpt =>
    intro o c mn mx g e k hk _ p q hi
    rw [minLenOp_rpt e]
    exact rep_minlen hk (IterR_minlen (fun a b h => h.2) hi)
  case anyHead =>
    intro o l p q _ h
    cases l with
    | nil => exact h
    | cons b2 bs =>
      have := Nat.min_le_left (minLenOp o) (minLenChoice (b2 :: bs))
      show p + min (minLenOp o) (minLenChoice (b2 :: bs)) ≤ q
      omega
  case anyTail =>
    intro o l p q hl h
    cases l with
    | nil => simp only [OpRAny] at hl
    | cons b2 bs =>
      have := Nat.min_le_right (minLenOp o) (minLenChoice (b2 :: bs))
      show p + min (minLenOp o) (minLenChoice (b2 :: bs)) ≤ q
      omega
  case seqCons =>
    intro o l p m q _ a1 _ a2
    have a3 := satAdd_le (minLenOp o) (minLenSeq l)
    simp only [minLenSeq]
    omega

theorem minLen_op (ctx : Ctx) : ∀ (op : Op) (p q : Nat), OpR ctx op p q → p + minLenOp op ≤ q :=
  (minLen_both ctx).1

theorem minLen_any (ctx : Ctx) : ∀ (bs : List Op) (p q : Nat), OpRAny ctx bs p q → p + minLenChoice bs ≤ q :=
  fun bs => ((minLen_both ctx).2 bs).1

theorem minLen_seq (ctx : Ctx) : ∀ (ops : List Op) (p q : Nat), OpRSeq ctx ops p q → p + minLenSeq ops ≤ q :=
  fun ops => ((minLen_both ctx).2 ops).2

end Rx.OptL

namespace Rx

theorem OpR_mono (ctx : Ctx) : ∀ (op : Op) (p q : Nat), OpR ctx op p q → p ≤ q :=
  fun op p q h => Nat.le_of_add_right_le (OptL.minLen_op ctx op p q h)

theorem OpRAny_mono (ctx : Ctx) : ∀ (l : List Op) (p q : Nat), OpRAny ctx l p q → p ≤ q :=
  fun l p q h => Nat.le_of_add_right_le (OptL.minLen_any ctx l p q h)

theorem OpRSeq_mono (ctx : Ctx) : ∀ (l : List Op) (p q : Nat), OpRSeq ctx l p q → p ≤ q :=
  fun l p q h => Nat.le_of_add_right_le (OptL.minLen_seq ctx l p q h)

abbrev Ctx.onEmpty (ctx : Ctx) : Ctx := { ctx with input := [] }

theorem OpR_zero_both (ctx : Ctx) :
    (∀ o p q, OpR ctx o p q → p = q → OpR ctx.onEmpty o 0 0) ∧
    (∀ l, (∀ p q, OpRAny ctx l p q → p = q → OpRAny ctx.onEmpty l 0 0) ∧
      (∀ p q, OpRSeq ctx l p q → p = q → OpRSeq ctx.onEmpty l 0 0)) := by
  apply OpR.ind_all
  case bol => intro _ _ _ _; simp [OpR]
  case eol => intro _ _ _ _; simp [OpR, Ctx.len]
  case nothing | endProgram => intro _ _; simp only [OpR]
  case atom =>
    intro cs p q h hpq
    simp only [OpR] at h
    obtain rfl : cs = [] := List.eq_nil_of_length_eq_zero (by omega)
    simp [OpR, prefixMatch]
  case cls => intro _ p q h hpq; simp only [OpR] at h; omega
  case backref => intro _ _ _ _ _; simp [OpR]
  case capture => intro _ _ _ _ _ ih hpq; simp only [OpR]; exact ih hpq
  case choice | seq => intro _ _ _ _ ih hpq; simp only [OpR]; exact ih hpq
  case rpt =>
    intro o c mn mx g e k h1 h2 p q hi hpq
    exact (OpR_rpt ctx.onEmpty e 0 0).2
      ⟨k, h1, h2, IterR_zero (fun a b h => OpR_mono ctx c a b h.1) (fun _ h => h.2 rfl) hi hpq⟩
  case anyHead => intro _ _ _ _ _ ih hpq; simp only [OpRAny]; exact .inl (ih hpq)
  case anyTail => intro _ _ _ _ _ ih hpq; simp only [OpRAny]; exact .inr (ih hpq)
  case seqNil => intro _ _; simp only [OpRSeq]
  case seqCons =>
    intro o l p m q h1 ih1 h2 ih2 hpq
    have a1 := OpR_mono ctx o p m h1
    have a2 := OpRSeq_mono ctx l m q h2
    simp only [OpRSeq]
    exact ⟨0, ih1 (by omega), ih2 (by omega)⟩

theorem OpR_zero (ctx : Ctx) : ∀ (op : Op) (i : Nat), OpR ctx op i i → OpR ctx.onEmpty op 0 0 :=
  fun op i h => (OpR_zero_both ctx).1 op i i h rfl

theorem OpRAny_zero (ctx : Ctx) : ∀ (l : List Op) (i : Nat), OpRAny ctx l i i → OpRAny ctx.onEmpty l 0 0 :=
  fun l i h => ((OpR_zero_both ctx).2 l).1 i i h rfl

theorem OpRSeq_zero (ctx : Ctx) : ∀ (l : List Op) (i : Nat), OpRSeq ctx l i i → OpRSeq ctx.onEmpty l 0 0 :=
  fun l i h => ((OpR_zero_both ctx).2 l).2 i i h rfl

end Rx
