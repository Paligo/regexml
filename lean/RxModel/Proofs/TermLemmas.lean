/-
  Proofs/TermLemmas — the fuels of Model/Engine are sufficient: `sem_termG`, the instance of `sem_sat` for well-formed
  trees entered inside the input, with divergence excluded.

  `MarkOk b` is the state invariant: for `b = true` "the divergence marker is clear", for `b = false`
  nothing — so that `Step.Term (MarkOk false)` is `Step.NoDiv` and `Step.Term (MarkOk true)` gives
  `Step.Inv` of the marker invariant.  The marker does not survive a loop that runs out of fuel, so for `b = true`
  the counting loop of a non-backtracking repeat must be shown to end: its body is a single character (`unambLeaf`).
-/
import RxModel.Proofs.TermCalc
import RxModel.Proofs.EngineSound
import RxModel.Proofs.SearchNF
namespace Rx

def MarkOk (b : Bool) (st : St) : Prop := b = true → st.panic ≠ some panicDiverge

theorem MarkOk.of_panic_eq {b : Bool} {st st' : St} (h : st'.panic = st.panic) (hm : MarkOk b st) : MarkOk b st' := by
  intro hb; rw [h]; exact hm hb

theorem MarkOk.setPanic {b : Bool} {st : St} {c : Nat} (hc : c ≠ panicDiverge) (hm : MarkOk b st) :
    MarkOk b (st.setPanic c) := by
  intro hb
  have := hm hb
  unfold St.setPanic
  split
  · exact this
  · simp only [ne_eq, Option.some.injEq]; exact hc

theorem MarkOk.clearBeyond {b : Bool} {st : St} (p : Nat) (hm : MarkOk b st) : MarkOk b (clearBeyond st p) :=
  hm.of_panic_eq rfl

theorem captureWrite_panic (ctx : Ctx) (g p n : Nat) (st : St) :
    (captureWrite ctx g p n st).panic = st.panic := by
  unfold captureWrite
  simp only
  split <;> rfl

theorem MarkOk.false (st : St) : MarkOk false st := by intro h; cases h

theorem PureLeaf.term {g : Gen} (h : PureLeaf g) {I : St → Prop} (p : Nat) {st : St} (hI : I st) :
    (g p st).Term I :=
  (h.sat (dv := False) (Step.All.trivial _) hI).term

theorem term_pack {s : Step} (h : ∀ b, s.Term (MarkOk b)) :
    s.NoDiv ∧ s.Inv (fun st => st.panic ≠ some panicDiverge) :=
  ⟨(h false).toNoDiv MarkOk.false, (h true).toInv.mono (fun _ => ⟨fun hi => hi rfl, fun h' _ => h'⟩)⟩

namespace C06b
mutual
/-- a non-backtracking repeat is over a single non-empty character (what `Sequence::optimize` builds) -/
def unambLeaf : Op → Bool
  | .capture _ c => unambLeaf c
  | .choice bs => unambLeafL bs
  | .seq ops => unambLeafL ops
  | .rep _ c _ _ _ => unambLeaf c
  | .gfixed c _ _ _ => unambLeaf c
  | .rfixed c _ _ _ => unambLeaf c
  | .unamb c _ _ => (match c with | .atom cs => !cs.isEmpty | .cls _ => true | _ => false)
  | _ => true
termination_by structural o => o
def unambLeafL : List Op → Bool
  | [] => true
  | o :: os => unambLeaf o && unambLeafL os
termination_by structural l => l
end
end C06b

theorem down_unambLeaf : Down (fun o => C06b.unambLeaf o = true) (fun l => C06b.unambLeafL l = true) :=
  .ofBool (fun _ _ h => by simpa only [C06b.unambLeaf] using h) (fun _ h => by simpa only [C06b.unambLeaf] using h)
    (fun _ h => by simpa only [C06b.unambLeaf] using h) (fun _ _ _ _ _ h => by simpa only [C06b.unambLeaf] using h)
    (fun _ _ _ _ h => by simpa only [C06b.unambLeaf] using h) (fun _ _ _ _ h => by simpa only [C06b.unambLeaf] using h)
    (fun c _ _ h => by cases c <;> first | rfl | (simp [C06b.unambLeaf] at h))
    (fun _ _ h => by simpa only [C06b.unambLeafL, Bool.and_eq_true] using h)

theorem satEnv_term (ctx : Ctx) (b : Bool) :
    SatEnv ctx False (fun p => p ≤ ctx.len) (MarkOk b)
      (fun o => wfOp o = true ∧ (b = true → C06b.unambLeaf o = true))
      (fun l => wfOps l = true ∧ (b = true → C06b.unambLeafL l = true)) where
  down := down_wfOp.and (down_unambLeaf.imp _)
  clear := fun _ p _ h => h.clearBeyond p
  restore := fun _ _ _ h => h.of_panic_eq rfl
  setEnd0 := fun _ _ h => h.of_panic_eq rfl
  up := fun _ _ _ _ h => h
  pos := fun ho p st hp => (sem_bounds_op ctx _ ho.1 p hp st).mono (fun _ h => h.2)
  pull := fun _ C => C.pullOK (fun h => h.elim)
  mode := .inr ⟨fun _ h => h.1, fun _ h => h⟩
  capture := fun {g c} _ => by
    refine ⟨fun p st h => ?_, fun p n st h => h.of_panic_eq (captureWrite_panic ctx g p n st)⟩
    unfold captureEntry
    split
    · split
      · exact h.setPanic (by decide)
      · exact h.of_panic_eq rfl
    · exact h
  hist := fun _ _ _ _ h => h.of_panic_eq rfl
  unamb := fun {c mn mx} ⟨_, hs⟩ => by
    cases b with
    | false => exact .inl (fun _ _ => MarkOk.false _)
    | true =>
      have hs' := hs rfl
      simp only [C06b.unambLeaf] at hs'
      exact .inr (by cases c <;> first | exact hs' | (simp at hs'))
  bref := fun _ _ h _ => h.setPanic (by decide)

theorem sem_termG (ctx : Ctx) (b : Bool) : (op : Op) → wfOp op = true → (b = true → C06b.unambLeaf op = true) →
    ∀ p, p ≤ ctx.len → ∀ st, MarkOk b st → (sem ctx op p st).Term (MarkOk b) :=
  fun op hwf hs p hp st h => (sem_sat (satEnv_term ctx b) op ⟨hwf, hs⟩ p st hp h).term

theorem sem_termG_choice (ctx : Ctx) (b : Bool) : (bs : List Op) → wfOps bs = true →
    (b = true → C06b.unambLeafL bs = true) →
    ∀ p, p ≤ ctx.len → ∀ st, MarkOk b st → (choiceGen (semL ctx bs) p st).Term (MarkOk b) :=
  fun bs hwf hs p hp st h => (sem_sat_choice (satEnv_term ctx b) bs ⟨hwf, hs⟩ p st hp h).term

theorem sem_termG_seq (ctx : Ctx) (b : Bool) : (ops : List Op) → wfOps ops = true →
    (b = true → C06b.unambLeafL ops = true) →
    ∀ p, p ≤ ctx.len → ∀ st, MarkOk b st → (seqGo (semL ctx ops) p st).Term (MarkOk b) :=
  fun ops hwf hs p hp st h => (sem_sat_seq (satEnv_term ctx b) ops ⟨hwf, hs⟩ p st hp h).term

section search

theorem matchAt_mk (ctx : Ctx) (op : Op) (j : Nat)
    (hT : ∀ st, MarkOk true st → (sem ctx op j st).Term (MarkOk true)) (st : St) (hm : MarkOk true st) :
    MarkOk true (matchAt ctx op j st).2 :=
  have h := hT _ (hm.of_panic_eq (matchStart_panic ctx j st))
  matchAt_keeps h.toInv (fun _ _ hs => hs.of_panic_eq rfl) (fun _ hs => hs.of_panic_eq rfl)
    (fun hd => (Step.Term.not_diverge (hd ▸ h)).elim)

theorem preHolds_mk (ctx : Ctx) (op : Op) (p : Nat)
    (hT : ∀ st, MarkOk true st → (sem ctx op p st).Term (MarkOk true)) (st : St) (hm : MarkOk true st) :
    MarkOk true (preHolds ctx op p st).2 :=
  preHolds_keeps (hT st hm).toInv (fun hd => (Step.Term.not_diverge (hd ▸ hT st hm)).elim)

theorem matchesFrom_mk (ctx : Ctx) (pr : Prog)
    (hT : ∀ j st, j ≤ ctx.len → MarkOk true st → (sem ctx pr.op j st).Term (MarkOk true))
    (hP : ∀ q ∈ pr.pres, ∀ p st, MarkOk true st → (sem ctx q.op p st).Term (MarkOk true))
    (i : Nat) (hi : i ≤ ctx.len) (st0 : St) (hm : MarkOk true st0) :
    MarkOk true (matchesFrom ctx pr i st0).2 :=
  matchesFrom_keeps hi (fun _ hs => hs.of_panic_eq rfl)
    (fun c hc st hs => hs.setPanic (by
      rcases planOf_stop_code hc with rfl | rfl
      · decide
      · decide))
    (fun j _ hj st hs => matchAt_mk ctx pr.op j (fun st h => hT j st hj h) st hs)
    (fun q hq p st hs => preHolds_mk ctx q.op p (hP q hq p) st hs) st0 hm

end search

end Rx
