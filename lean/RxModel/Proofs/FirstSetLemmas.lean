/-
  Proofs/FirstSetLemmas — the first-set analysis behind the non-backtracking rewrite: canonicity of `initialClass`,
  over-approximation for non-empty members, universality for nullable terms, and the maximal-munch consequence.
  Over-approximation and maximal munch are proved relative to an alphabet (`CaseOKOn A`, inputs over `A`, trees
  whose literals are over `A`): the real case tables satisfy `CaseOK` only off U+0130 (Props/EnvStd); the statements
  for `CaseOK` are the instances `A := fun _ => true`.
  The two soundness statements are rule inductions over `OpR`; what they use of the inversion lists is `ic_atom`
  (the first set of a literal, read off the builder operations by `Den`) and `ic_cons` (one more branch / one more
  element in front: a union, under canonicity).
-/
import RxModel.Spec.OpLang
import RxModel.Model.Optimize
import RxModel.Props.C08
import RxModel.Props.C09
import RxModel.Proofs.DenLemmas
import RxModel.Proofs.PreLemmas
import RxModel.Proofs.OpRLemmas
import RxModel.Spec.InputPreds
namespace Rx.C08
open Rx

theorem down_clsCanon : Down clsCanon clsCanonL where
  capture h := by simpa only [clsCanon] using h
  choice h := by simpa only [clsCanon] using h
  seq h := by simpa only [clsCanon] using h
  rpt e h := by
    rcases repeatParts_cases e with ⟨_, rfl⟩ | ⟨_, rfl, _⟩ | ⟨_, rfl, _⟩ | ⟨rfl, _⟩ <;> simpa only [clsCanon] using h
  head h := h.1
  tail h := h.2

theorem CaseOK.on {env : Env} {lower : Nat → Nat} (h : CaseOK env lower) (A : Nat → Bool) : CaseOKOn A env lower :=
  ⟨fun a x _ _ he => h.1 a x he, h.2⟩

theorem caseOKOn_all (env : Env) (lower : Nat → Nat) : CaseOKOn (fun _ => true) env lower ↔ CaseOK env lower :=
  ⟨fun h => ⟨fun a x he => h.1 a x rfl rfl he, h.2⟩, fun h => h.on _⟩

mutual
def atomsOverB (A : Nat → Bool) : Op → Bool
  | .atom cs => cs.all A
  | .capture _ c => atomsOverB A c
  | .choice bs => atomsOverBL A bs
  | .seq ops => atomsOverBL A ops
  | .rep _ c _ _ _ => atomsOverB A c
  | .gfixed c _ _ _ => atomsOverB A c
  | .rfixed c _ _ _ => atomsOverB A c
  | .unamb c _ _ => atomsOverB A c
  | _ => true
termination_by structural o => o
def atomsOverBL (A : Nat → Bool) : List Op → Bool
  | [] => true
  | o :: os => atomsOverB A o && atomsOverBL A os
termination_by structural l => l
end

theorem down_atomsOverB (A : Nat → Bool) : Down (fun o => atomsOverB A o = true) (fun l => atomsOverBL A l = true) :=
  .ofBool (fun _ _ h => h) (fun _ h => h) (fun _ h => h) (fun _ _ _ _ _ h => h) (fun _ _ _ _ h => h)
    (fun _ _ _ _ h => h) (fun _ _ _ h => h) (fun _ _ h => by simpa only [atomsOverBL, Bool.and_eq_true] using h)

mutual
/-- no empty sequence anywhere in the tree (`wfOp` demands this; the compiler never builds one).
    The empty sequence matches the empty string but its first set is empty. -/
def noEmptySeq : Op → Bool
  | .capture _ c => noEmptySeq c
  | .choice bs => noEmptySeqL bs
  | .seq ops => !ops.isEmpty && noEmptySeqL ops
  | .rep _ c _ _ _ => noEmptySeq c
  | .gfixed c _ _ _ => noEmptySeq c
  | .rfixed c _ _ _ => noEmptySeq c
  | .unamb c _ _ => noEmptySeq c
  | _ => true
termination_by structural o => o
def noEmptySeqL : List Op → Bool
  | [] => true
  | o :: os => noEmptySeq o && noEmptySeqL os
termination_by structural l => l
end

theorem down_noEmptySeq : Down (fun o => noEmptySeq o = true) (fun l => noEmptySeqL l = true) :=
  .ofBool (fun _ _ h => h) (fun _ h => h)
    (fun _ h => by simp only [noEmptySeq, Bool.and_eq_true] at h; exact h.2)
    (fun _ _ _ _ _ h => h) (fun _ _ _ _ h => h)
    (fun _ _ _ _ h => h) (fun _ _ _ h => h) (fun _ _ h => by simpa only [noEmptySeqL, Bool.and_eq_true] using h)

end Rx.C08

namespace Rx.FirstL
open Rx Rx.C08 Rx.C09

theorem nes_of_wf_both : (∀ op, wfOp op = true → noEmptySeq op = true) ∧
    ∀ ops, wfOps ops = true → noEmptySeqL ops = true := by
  apply Op.ind_down down_wfOp
  case bol | eol | nothing | endProgram => exact fun _ => rfl
  case atom | cls | backref => exact fun _ _ => rfl
  case capture => intro _ _ _ ih; simpa only [noEmptySeq] using ih
  case choice => intro _ _ ih; simpa only [noEmptySeq] using ih
  case seq =>
    intro ops h ih
    simp only [wfOp, Bool.and_eq_true] at h
    simp only [noEmptySeq, Bool.and_eq_true]
    exact ⟨h.1, ih⟩
  case rpt =>
    intro o c mn mx g e _ ih
    rcases repeatParts_cases e with ⟨_, rfl⟩ | ⟨_, rfl, _⟩ | ⟨_, rfl, _⟩ | ⟨rfl, _⟩ <;> simpa only [noEmptySeq] using ih
  case nil => exact fun _ => rfl
  case cons => intro _ _ _ ih ihl; simp only [noEmptySeqL, ih, ihl, Bool.and_self]


theorem nes_of_wfs : ∀ (ops : List Op), wfOps ops = true → noEmptySeqL ops = true := nes_of_wf_both.2

theorem canon_allR : Canon allR := by
  simp only [allR, Canon]
  exact ⟨by decide, Nat.le_refl _⟩

theorem ic_atom (env : Env) (cb : Bool) (hce : ∀ a x, x ∈ env.closure a → x < cpLimit) (a : Nat) (t : List Nat)
    (ha : a < cpLimit) :
    Den (initialClass env cb (.atom (a :: t))) (fun x => (cb = true ∧ x ∈ env.closure a) ∨ x = a) := by
  cases cb
  · exact (Den.nil.addChar a ha).congr fun x _ => by simp
  · exact ((Den.nil.addChar a ha).addChars _ (hce a)).congr fun x _ => by simp

theorem initialClass_rpt (env : Env) (cb : Bool) {o c : Op} {mn mx : Nat} {g : Bool}
    (e : repeatParts o = some (c, mn, mx, g)) :
    initialClass env cb o = allR ∨ (mn ≠ 0 ∧ initialClass env cb o = initialClass env cb c) := by
  rcases repeatParts_cases e with ⟨_, rfl⟩ | ⟨_, rfl, _⟩ | ⟨_, rfl, _⟩ | ⟨rfl, _⟩
  · simp only [initialClass]
    split
    · exact .inl rfl
    · rename_i h; exact .inr ⟨by simpa using h, rfl⟩
  all_goals exact .inl rfl

theorem ic_canon_both (env : Env) (cb : Bool) (hce : ∀ a x, x ∈ env.closure a → x < cpLimit) :
    (∀ op, clsCanon op → Canon (initialClass env cb op)) ∧
    ∀ l, clsCanonL l → Canon (initialClassChoice env cb l) ∧ Canon (initialClassSeq env cb l) := by
  apply Op.ind_down down_clsCanon
  case bol | eol | nothing | endProgram => exact fun _ => canon_allR
  case backref => exact fun _ _ => canon_allR
  case capture => exact fun _ _ _ _ => canon_allR
  case atom =>
    intro cs h
    cases cs with
    | nil => exact Den.nil.canon
    | cons c cs => exact (ic_atom env cb hce c cs (h c List.mem_cons_self)).canon
  case cls => exact fun rs h => h
  case choice => exact fun _ _ ih => ih.1
  case seq => exact fun _ _ ih => ih.2
  case rpt =>
    intro o c mn mx g e _ ih
    rcases initialClass_rpt env cb e with hd | ⟨_, hd⟩ <;> rw [hd]
    · exact canon_allR
    · exact ih
  case nil => exact fun _ => ⟨Den.nil.canon, Den.nil.canon⟩
  case cons =>
    intro o os _ iho ihl
    refine ⟨canon_unionR _ _ iho ihl.1, ?_⟩
    simp only [initialClassSeq]
    split
    · exact iho
    · exact canon_unionR _ _ iho ihl.2

theorem ic_canon (env : Env) (cb : Bool) (hce : ∀ a x, x ∈ env.closure a → x < cpLimit) :
    ∀ (op : Op), clsCanon op → Canon (initialClass env cb op) :=
  (ic_canon_both env cb hce).1

theorem ic_canon_choice (env : Env) (cb : Bool) (hce : ∀ a x, x ∈ env.closure a → x < cpLimit) :
    ∀ (bs : List Op), clsCanonL bs → Canon (initialClassChoice env cb bs) :=
  fun bs h => ((ic_canon_both env cb hce).2 bs h).1

theorem ic_canon_seq (env : Env) (cb : Bool) (hce : ∀ a x, x ∈ env.closure a → x < cpLimit) :
    ∀ (ops : List Op), clsCanonL ops → Canon (initialClassSeq env cb ops) :=
  fun ops h => ((ic_canon_both env cb hce).2 ops h).2

theorem ic_cons (env : Env) (cb : Bool) (hce : ∀ a x, x ∈ env.closure a → x < cpLimit) {o : Op} {l : List Op}
    (h : clsCanonL (o :: l)) (c : Nat) :
    clsContains (initialClassChoice env cb (o :: l)) c =
        (clsContains (initialClass env cb o) c || clsContains (initialClassChoice env cb l) c) ∧
      clsContains (initialClassSeq env cb (o :: l)) c =
        (clsContains (initialClass env cb o) c || (mzs o != ZLS_NEVER && clsContains (initialClassSeq env cb l) c)) := by
  have ho := ic_canon env cb hce o h.1
  refine ⟨contains_unionR _ _ ho (ic_canon_choice env cb hce l h.2) c, ?_⟩
  simp only [initialClassSeq]
  split
  · rename_i hz; rw [bne, hz, Bool.not_true, Bool.false_and, Bool.or_false]
  · rename_i hz
    rw [contains_unionR _ _ ho (ic_canon_seq env cb hce l h.2) c, bne, Bool.eq_false_iff.2 hz, Bool.not_false,
      Bool.true_and]

theorem first_allR (ctx : Ctx) (hin : ∀ c ∈ ctx.input, c < cpLimit) (p q : Nat)
    (hq : q ≤ ctx.len) (hpq : p < q) :
    ∃ c, ctx.input[p]? = some c ∧ clsContains allR c = true := by
  have hlt : p < ctx.input.length := by unfold Ctx.len at hq; omega
  exact ⟨ctx.input[p], List.getElem?_eq_getElem hlt, dot_all _ (hin _ (List.getElem_mem hlt))⟩

theorem sound_default (env : Env) (ctx : Ctx) (hin : ∀ c ∈ ctx.input, c < cpLimit) (op : Op)
    (hdef : initialClass env ctx.caseBlind op = allR) (p q : Nat) (hp : p ≤ ctx.len)
    (h : OpR ctx op p q) (hpq : p < q) :
    ∃ c, ctx.input[p]? = some c ∧ clsContains (initialClass env ctx.caseBlind op) c = true := by
  rw [hdef]
  exact first_allR ctx hin p q (OpR_bounds_op ctx op p q hp h).2 hpq

theorem atom_first (ctx : Ctx) (a : Nat) (t : List Nat) (p : Nat)
    (hq : p + (a :: t).length ≤ ctx.len)
    (hm : prefixMatch ctx (a :: t) (ctx.input.drop p) = true) :
    ∃ x, ctx.input[p]? = some x ∧ ctx.eqAt x a = true := by
  have hlt : p < ctx.input.length := by
    simp only [List.length_cons, Ctx.len] at hq; omega
  rw [List.drop_eq_getElem_cons hlt] at hm
  simp only [prefixMatch, Bool.and_eq_true] at hm
  exact ⟨_, List.getElem?_eq_getElem hlt, hm.1⟩

theorem iter_bounds (ctx : Ctx) (x : Op) {k p m : Nat}
    (h : IterR (fun a b => OpR ctx x a b) k p m) (hp : p ≤ ctx.len) : m ≤ ctx.len :=
  (IterR.bounds (OpR_bounds_op ctx x) h hp).2

theorem null_both (env : Env) (ctx : Ctx) (hce : ∀ a x, x ∈ env.closure a → x < cpLimit) :
    (∀ (op : Op), (clsCanon op ∧ noEmptyAtoms op = true) ∧ noEmptySeq op = true →
      ∀ (p q : Nat), OpR ctx op p q → p = q → ∀ (c : Nat), c < cpLimit →
      clsContains (initialClass env ctx.caseBlind op) c = true) ∧
    ∀ (l : List Op), (clsCanonL l ∧ noEmptyAtomsL l = true) ∧ noEmptySeqL l = true →
      (∀ (p q : Nat), OpRAny ctx l p q → p = q → ∀ (c : Nat), c < cpLimit →
        clsContains (initialClassChoice env ctx.caseBlind l) c = true) ∧
      (∀ (p q : Nat), OpRSeq ctx l p q → p = q → l ≠ [] → ∀ (c : Nat), c < cpLimit →
        clsContains (initialClassSeq env ctx.caseBlind l) c = true) := by
  have dflt : ∀ {op : Op}, initialClass env ctx.caseBlind op = allR → ∀ (c : Nat), c < cpLimit →
      clsContains (initialClass env ctx.caseBlind op) c = true :=
    fun h c hcl => h ▸ dot_all c hcl
  apply OpR.ind ((down_clsCanon.and down_noEmptyAtoms).and down_noEmptySeq)
  case bol | eol => exact fun _ _ _ _ _ => dflt rfl
  case nothing | endProgram => exact fun _ _ _ => dflt rfl
  case backref => exact fun _ _ _ _ _ _ => dflt rfl
  case capture => exact fun _ _ _ _ _ _ _ _ => dflt rfl
  case atom =>
    intro cs hn p q h hpq
    cases cs with
    | nil => simp [noEmptyAtoms] at hn
    | cons a t => simp only [OpR, List.length_cons] at h; omega
  case cls => intro rs _ p q h hpq; simp only [OpR] at h; omega
  case choice => intro _ _ p q _ ih hpq; simpa only [initialClass] using ih hpq
  case seq =>
    intro ops hn p q _ ih hpq
    have hne := hn.2
    simp only [noEmptySeq, Bool.and_eq_true] at hne
    simpa only [initialClass] using ih hpq (by simpa using hne.1)
  case rpt =>
    -- a positive minimum: the first iteration is empty, too
    intro o x mn mx g e _ k hk _ p q hi hpq
    rcases initialClass_rpt env ctx.caseBlind e with hd | ⟨hmn, hd⟩
    · exact dflt hd
    · obtain ⟨k', rfl⟩ : ∃ k', k = k' + 1 := ⟨k - 1, by omega⟩
      obtain ⟨m, hm, hrest⟩ := IterR.uncons hi
      have h1 := OpR_mono ctx x p m hm.1
      have h2 := IterR_le (fun a b h => OpR_mono ctx x a b h.1) hrest
      rw [hd]
      exact hm.2 (by omega)
  case anyHead =>
    intro o os hn p q _ ih hpq c hcl
    rw [(ic_cons env _ hce hn.1.1 c).1, ih hpq c hcl, Bool.true_or]
  case anyTail =>
    intro o os hn p q _ ih hpq c hcl
    rw [(ic_cons env _ hce hn.1.1 c).1, ih hpq c hcl, Bool.or_true]
  case seqNil => exact fun _ _ _ h => absurd rfl h
  case seqCons =>
    -- the first element matches the empty string, so its first set is everything already
    intro o os hn p m q h1 iho h2 _ hpq _ c hcl
    have a1 := OpR_mono ctx o p m h1
    have a2 := OpRSeq_mono ctx os m q h2
    rw [(ic_cons env _ hce hn.1.1 c).2, iho (by omega) c hcl, Bool.true_or]

theorem null_op (env : Env) (ctx : Ctx) (hce : ∀ a x, x ∈ env.closure a → x < cpLimit) :
    ∀ (op : Op), clsCanon op → noEmptyAtoms op = true → noEmptySeq op = true →
      ∀ (p : Nat), p ≤ ctx.len → OpR ctx op p p → ∀ (c : Nat), c < cpLimit →
      clsContains (initialClass env ctx.caseBlind op) c = true :=
  fun op hc hne hns p _ h => (null_both env ctx hce).1 op ⟨⟨hc, hne⟩, hns⟩ p p h rfl

theorem null_choice (env : Env) (ctx : Ctx) (hce : ∀ a x, x ∈ env.closure a → x < cpLimit) :
    ∀ (bs : List Op), clsCanonL bs → noEmptyAtomsL bs = true → noEmptySeqL bs = true →
      ∀ (p : Nat), p ≤ ctx.len → OpRAny ctx bs p p → ∀ (c : Nat), c < cpLimit →
      clsContains (initialClassChoice env ctx.caseBlind bs) c = true :=
  fun bs hc hne hns p _ h => ((null_both env ctx hce).2 bs ⟨⟨hc, hne⟩, hns⟩).1 p p h rfl

theorem null_seq (env : Env) (ctx : Ctx) (hce : ∀ a x, x ∈ env.closure a → x < cpLimit) :
    ∀ (ops : List Op), clsCanonL ops → noEmptyAtomsL ops = true → noEmptySeqL ops = true →
      ops ≠ [] →
      ∀ (p : Nat), p ≤ ctx.len → OpRSeq ctx ops p p → ∀ (c : Nat), c < cpLimit →
      clsContains (initialClassSeq env ctx.caseBlind ops) c = true :=
  fun ops hc hne hns hnil p _ h => ((null_both env ctx hce).2 ops ⟨⟨hc, hne⟩, hns⟩).2 p p h rfl hnil

end Rx.FirstL

namespace Rx.EnvStdL
open Rx Rx.C08 Rx.C09 Rx.FirstL

theorem atom_class_mem_on (A : Nat → Bool) (env : Env) (ctx : Ctx)
    (hcase : ctx.caseBlind = true → CaseOKOn A env ctx.lower)
    (hce : ∀ a x, x ∈ env.closure a → x < cpLimit)
    (a : Nat) (t : List Nat) (ha : a < cpLimit) (hAa : A a = true) (x : Nat) (hx : x < cpLimit) (hAx : A x = true)
    (he : ctx.eqAt x a = true) :
    clsContains (initialClass env ctx.caseBlind (.atom (a :: t))) x = true := by
  refine ((ic_atom env _ hce a t ha).mem x).2 ⟨hx, ?_⟩
  unfold Ctx.eqAt at he
  split at he
  · rename_i hcb
    exact ((hcase hcb).1 a x hAa hAx he).symm.imp (fun hm => ⟨hcb, hm⟩) id
  · exact .inr (by simpa using he)

theorem sound_both_on (A : Nat → Bool) (env : Env) (ctx : Ctx) (hcase : ctx.caseBlind = true → CaseOKOn A env ctx.lower)
    (hce : ∀ a x, x ∈ env.closure a → x < cpLimit) (hin : ∀ c ∈ ctx.input, c < cpLimit)
    (hA : ∀ c ∈ ctx.input, A c = true) :
    (∀ (op : Op), clsCanon op ∧ atomsOverB A op = true → ∀ (p q : Nat), OpR ctx op p q → p ≤ ctx.len → p < q →
      ∃ c, ctx.input[p]? = some c ∧ clsContains (initialClass env ctx.caseBlind op) c = true) ∧
    ∀ (l : List Op), clsCanonL l ∧ atomsOverBL A l = true →
      (∀ (p q : Nat), OpRAny ctx l p q → p ≤ ctx.len → p < q →
        ∃ c, ctx.input[p]? = some c ∧ clsContains (initialClassChoice env ctx.caseBlind l) c = true) ∧
      (∀ (p q : Nat), OpRSeq ctx l p q → p ≤ ctx.len → p < q →
        ∃ c, ctx.input[p]? = some c ∧ clsContains (initialClassSeq env ctx.caseBlind l) c = true) := by
  have dflt : ∀ {o : Op}, initialClass env ctx.caseBlind o = allR → ∀ p q, OpR ctx o p q → p ≤ ctx.len → p < q →
      ∃ c, ctx.input[p]? = some c ∧ clsContains (initialClass env ctx.caseBlind o) c = true :=
    fun hd p q h hp hpq => sound_default env ctx hin _ hd p q hp h hpq
  apply OpR.ind (down_clsCanon.and (down_atomsOverB A))
  case bol | eol => exact fun _ => dflt rfl
  case nothing | endProgram | seqNil => exact fun _ p _ hpp => absurd hpp (Nat.lt_irrefl p)
  case backref => exact fun _ _ => dflt rfl
  case atom =>
    intro cs hn p q h _ hpq
    cases cs with
    | nil => simp only [OpR, List.length_nil] at h; omega
    | cons a t =>
      have hc := hn.1; have ho := hn.2
      simp only [clsCanon] at hc
      simp only [atomsOverB, List.all_cons, Bool.and_eq_true] at ho
      simp only [OpR] at h
      obtain ⟨x, hx, he⟩ := atom_first ctx a t p (by omega) h.2.2
      have hm := List.mem_of_getElem? hx
      exact ⟨x, hx, atom_class_mem_on A env ctx hcase hce a t (hc a List.mem_cons_self) ho.1 x (hin x hm) (hA x hm) he⟩
  case cls =>
    intro rs _ p q h _ _
    simp only [OpR] at h
    obtain ⟨_, c, h1, h2⟩ := h
    exact ⟨c, h1, by simpa only [initialClass] using h2⟩
  case capture => exact fun _ _ _ p q h _ => dflt rfl p q (by simpa only [OpR] using h)
  case choice | seq => intro _ _ p q _ ih hp hpq; simpa only [initialClass] using ih hp hpq
  case rpt =>
    intro o c mn mx g e _ k h1 h2 p q hi hp hpq
    rcases initialClass_rpt env ctx.caseBlind e with hd | ⟨_, hd⟩
    · exact dflt hd p q ((OpR_rpt ctx e p q).2 ⟨k, h1, h2, hi.mono (fun _ _ h => h.1)⟩) hp hpq
    · obtain ⟨m, hm, hpm⟩ := iter_first_nonempty (fun a b h => OpR_mono ctx c a b h.1) hi hpq
      rw [hd]
      exact hm.2 hp hpm
  case anyHead =>
    intro o os hn p q _ ih hp hpq
    obtain ⟨c, h1, h2⟩ := ih hp hpq
    exact ⟨c, h1, by rw [(ic_cons env _ hce hn.1 c).1, h2, Bool.true_or]⟩
  case anyTail =>
    intro o os hn p q _ ih hp hpq
    obtain ⟨c, h1, h2⟩ := ih hp hpq
    exact ⟨c, h1, by rw [(ic_cons env _ hce hn.1 c).1, h2, Bool.or_true]⟩
  case seqCons =>
    intro o os hn p m q h1 iho h2 ihs hp hpq
    have hpm := OpR_mono ctx o p m h1
    by_cases hlt : p < m
    · obtain ⟨c, hc1, hc2⟩ := iho hp hlt
      exact ⟨c, hc1, by rw [(ic_cons env _ hce hn.1 c).2, hc2, Bool.true_or]⟩
    · -- an empty first element is not one that never matches the empty string
      obtain rfl : m = p := by omega
      obtain ⟨c, hc1, hc2⟩ := ihs hp hpq
      have hz : (mzs o != ZLS_NEVER) = true := by simpa using fun hn => mzs_never_sound ctx o hn m h1
      exact ⟨c, hc1, by rw [(ic_cons env _ hce hn.1 c).2, hc2, hz, Bool.and_self, Bool.or_true]⟩

theorem sound_op_on (A : Nat → Bool) (env : Env) (ctx : Ctx) (hcase : ctx.caseBlind = true → CaseOKOn A env ctx.lower)
    (hce : ∀ a x, x ∈ env.closure a → x < cpLimit) (hin : ∀ c ∈ ctx.input, c < cpLimit)
    (hA : ∀ c ∈ ctx.input, A c = true) :
    ∀ (op : Op), clsCanon op → atomsOverB A op = true → ∀ (p q : Nat), p ≤ ctx.len → OpR ctx op p q → p < q →
      ∃ c, ctx.input[p]? = some c ∧ clsContains (initialClass env ctx.caseBlind op) c = true :=
  fun op hc ho p q hp h => (sound_both_on A env ctx hcase hce hin hA).1 op ⟨hc, ho⟩ p q h hp

theorem sound_choice_on (A : Nat → Bool) (env : Env) (ctx : Ctx) (hcase : ctx.caseBlind = true → CaseOKOn A env ctx.lower)
    (hce : ∀ a x, x ∈ env.closure a → x < cpLimit) (hin : ∀ c ∈ ctx.input, c < cpLimit)
    (hA : ∀ c ∈ ctx.input, A c = true) :
    ∀ (bs : List Op), clsCanonL bs → atomsOverBL A bs = true → ∀ (p q : Nat), p ≤ ctx.len → OpRAny ctx bs p q → p < q →
      ∃ c, ctx.input[p]? = some c ∧
        clsContains (initialClassChoice env ctx.caseBlind bs) c = true :=
  fun bs hc ho p q hp h => ((sound_both_on A env ctx hcase hce hin hA).2 bs ⟨hc, ho⟩).1 p q h hp

theorem sound_seq_on (A : Nat → Bool) (env : Env) (ctx : Ctx) (hcase : ctx.caseBlind = true → CaseOKOn A env ctx.lower)
    (hce : ∀ a x, x ∈ env.closure a → x < cpLimit) (hin : ∀ c ∈ ctx.input, c < cpLimit)
    (hA : ∀ c ∈ ctx.input, A c = true) :
    ∀ (ops : List Op), clsCanonL ops → atomsOverBL A ops = true → ∀ (p q : Nat), p ≤ ctx.len → OpRSeq ctx ops p q → p < q →
      ∃ c, ctx.input[p]? = some c ∧
        clsContains (initialClassSeq env ctx.caseBlind ops) c = true :=
  fun ops hc ho p q hp h => ((sound_both_on A env ctx hcase hce hin hA).2 ops ⟨hc, ho⟩).2 p q h hp

theorem maxmunch_on (A : Nat → Bool) (env : Env) (ctx : Ctx) (hcase : ctx.caseBlind = true → CaseOKOn A env ctx.lower)
    (hce : ∀ a x, x ∈ env.closure a → x < cpLimit) (hin : ∀ c ∈ ctx.input, c < cpLimit)
    (hA : ∀ c ∈ ctx.input, A c = true)
    (hsc : ∀ c ∈ ctx.input, isSurrogate c = false)
    (x next : Op) (hx : isAtomOrClass x = true) (hcx : clsCanon x) (hcn : clsCanon next)
    (hox : atomsOverB A x = true) (hon : atomsOverB A next = true)
    (hnx : noEmptyAtoms x = true) (hnn : noEmptyAtoms next = true) (hns : noEmptySeq next = true)
    (hdis : isDisjoint (initialClass env ctx.caseBlind x) (initialClass env ctx.caseBlind next) = true)
    (k p m q : Nat) (hp : p ≤ ctx.len)
    (hiter : IterR (fun a b => OpR ctx x a b) k p m) (hnext : OpR ctx next m q) :
    ¬ ∃ m', OpR ctx x m m' := by
  intro ⟨m', hx'⟩
  have hm : m ≤ ctx.len := iter_bounds ctx x hiter hp
  have hlt := PreL.atomcls_nonempty ctx x hx hnx m m' hx'
  obtain ⟨c, hc1, hc2⟩ := sound_op_on A env ctx hcase hce hin hA x hcx hox m m' hm hx' hlt
  have hmem : c ∈ ctx.input := List.mem_of_getElem? hc1
  have hq := OpR_mono ctx next m q hnext
  have hc3 : clsContains (initialClass env ctx.caseBlind next) c = true := by
    by_cases hmq : m < q
    · obtain ⟨c', h1, h2⟩ := sound_op_on A env ctx hcase hce hin hA next hcn hon m q hm hnext hmq
      rw [hc1] at h1
      cases h1
      exact h2
    · have hqm : q = m := by omega
      subst hqm
      exact null_op env ctx hce next hcn hnn hns q hm hnext c (hin c hmem)
  have := isDisjoint_sound _ _ (ic_canon env ctx.caseBlind hce next hcn) hdis c (hsc c hmem) hc3
  rw [hc2] at this
  cases this

end Rx.EnvStdL

namespace Rx.C08
open Rx

theorem atomsOverB_all_both :
    (∀ (op : Op), atomsOverB (fun _ => true) op = true) ∧ ∀ (ops : List Op), atomsOverBL (fun _ => true) ops = true := by
  apply Op.ind_rpt
  case bol | eol | nothing | endProgram => rfl
  case cls | backref => exact fun _ => rfl
  case atom => intro cs; simp only [atomsOverB, List.all_eq_true, implies_true]
  case capture => exact fun _ _ ih => ih
  case choice | seq => exact fun _ ih => ih
  case rpt =>
    intro o c mn mx g e ih
    rcases repeatParts_cases e with ⟨_, rfl⟩ | ⟨_, rfl, _⟩ | ⟨_, rfl, _⟩ | ⟨rfl, _⟩ <;> exact ih
  case nil => rfl
  case cons => intro o os ih ihl; simp only [atomsOverBL, ih, ihl, Bool.and_self]

theorem atomsOverB_all : ∀ (op : Op), atomsOverB (fun _ => true) op = true := atomsOverB_all_both.1

theorem atomsOverBL_all : ∀ (ops : List Op), atomsOverBL (fun _ => true) ops = true := atomsOverB_all_both.2

end Rx.C08

namespace Rx.FirstL
open Rx Rx.C08 Rx.C09 Rx.EnvStdL

theorem sound_op (env : Env) (ctx : Ctx) (hcase : ctx.caseBlind = true → CaseOK env ctx.lower)
    (hce : ∀ a x, x ∈ env.closure a → x < cpLimit) (hin : ∀ c ∈ ctx.input, c < cpLimit) (op : Op)
    (hc : clsCanon op) (p q : Nat) (hp : p ≤ ctx.len) (h : OpR ctx op p q) (hpq : p < q) :
    ∃ c, ctx.input[p]? = some c ∧ clsContains (initialClass env ctx.caseBlind op) c = true :=
  sound_op_on (fun _ => true) env ctx (fun hb => (hcase hb).on _) hce hin (fun _ _ => rfl) op hc
    (atomsOverB_all op) p q hp h hpq

theorem sound_choice (env : Env) (ctx : Ctx) (hcase : ctx.caseBlind = true → CaseOK env ctx.lower)
    (hce : ∀ a x, x ∈ env.closure a → x < cpLimit) (hin : ∀ c ∈ ctx.input, c < cpLimit) :
    ∀ (bs : List Op), clsCanonL bs → ∀ (p q : Nat), p ≤ ctx.len → OpRAny ctx bs p q → p < q →
      ∃ c, ctx.input[p]? = some c ∧
        clsContains (initialClassChoice env ctx.caseBlind bs) c = true :=
  fun bs hc => sound_choice_on (fun _ => true) env ctx (fun hb => (hcase hb).on _) hce hin (fun _ _ => rfl) bs hc
    (atomsOverBL_all bs)

theorem sound_seq (env : Env) (ctx : Ctx) (hcase : ctx.caseBlind = true → CaseOK env ctx.lower)
    (hce : ∀ a x, x ∈ env.closure a → x < cpLimit) (hin : ∀ c ∈ ctx.input, c < cpLimit) :
    ∀ (ops : List Op), clsCanonL ops → ∀ (p q : Nat), p ≤ ctx.len → OpRSeq ctx ops p q → p < q →
      ∃ c, ctx.input[p]? = some c ∧
        clsContains (initialClassSeq env ctx.caseBlind ops) c = true :=
  fun ops hc => sound_seq_on (fun _ => true) env ctx (fun hb => (hcase hb).on _) hce hin (fun _ _ => rfl) ops hc
    (atomsOverBL_all ops)

theorem maxmunch (env : Env) (ctx : Ctx) (hcase : ctx.caseBlind = true → CaseOK env ctx.lower)
    (hce : ∀ a x, x ∈ env.closure a → x < cpLimit) (hin : ∀ c ∈ ctx.input, c < cpLimit)
    (hsc : ∀ c ∈ ctx.input, isSurrogate c = false)
    (x next : Op) (hx : isAtomOrClass x = true) (hcx : clsCanon x) (hcn : clsCanon next)
    (hnx : noEmptyAtoms x = true) (hnn : noEmptyAtoms next = true) (hns : noEmptySeq next = true)
    (hdis : isDisjoint (initialClass env ctx.caseBlind x) (initialClass env ctx.caseBlind next) = true)
    (k p m q : Nat) (hp : p ≤ ctx.len)
    (hiter : IterR (fun a b => OpR ctx x a b) k p m) (hnext : OpR ctx next m q) :
    ¬ ∃ m', OpR ctx x m m' :=
  maxmunch_on (fun _ => true) env ctx (fun hb => (hcase hb).on _) hce hin (fun _ _ => rfl) hsc x next hx hcx hcn
    (atomsOverB_all x) (atomsOverB_all next) hnx hnn hns hdis k p m q hp hiter hnext

end Rx.FirstL
