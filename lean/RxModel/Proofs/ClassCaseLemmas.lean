/-
  Proofs/ClassCaseLemmas — what the lists built by the class parser contain.  The set-algebra readings
  `Item.Mem` / `CExpr.Member` (case-sensitive) and `Item.MemI` / `CExpr.MemberI` (flag i) are the two
  instances of `Item.MemG env ci` / `CExpr.MemberG env ci`; `e.denoteG env ci` is the canonical list (`Den`)
  of `e.MemberG env ci`: each member is a homomorphism on the parser's state (`KDen.step`), the last lines
  of the parser are a composition of three (`Den.finish`).
-/
import RxModel.Model.Parser
import RxModel.Proofs.ClassFullLemmas
import RxModel.Proofs.DenLemmas
namespace Rx.C09
open Rx

/-- `x` is matched by one member.  The class escapes are read through the environment's tables:
    the lower-case letter is the table, the upper-case letter its complement. -/
def Item.Mem (env : Env) (x : Nat) : Item → Prop
  | .one a => x = a.val
  | .range a b => a.val ≤ x ∧ x ≤ b.val
  | .hyphen => x = 45
  | .cls e => clsContains (clsBase env e) x = clsPos e
  | .prop pos name => ∃ rs, propLookup env name = some rs ∧ clsContains rs x = pos

/-- (member of some item) XOR negated, and not a member of the subtrahend -/
def CExpr.Member (env : Env) (x : Nat) : CExpr → Prop
  | .leaf neg items => ((∃ i ∈ items, i.Mem env x) ↔ neg = false)
  | .minus neg items sub => ((∃ i ∈ items, i.Mem env x) ↔ neg = false) ∧ ¬ sub.Member env x

def ClosureOK (env : Env) : Prop := ∀ a x, x ∈ env.closure a → x < cpLimit

/-- `x` is matched by one member under flag i: a single character `a` matches `a` and the members
    of its closure; a range `a-b` matches `[a, b]` (surrogates included, as in the case-sensitive
    parser) and the closures of the NON-surrogate characters of `[a, b]`; a literal hyphen matches
    `-` and its closure; the class escapes are not closed. -/
def Item.MemI (env : Env) (x : Nat) : Item → Prop
  | .one a => x = a.val ∨ x ∈ env.closure a.val
  | .range a b => (a.val ≤ x ∧ x ≤ b.val) ∨
      ∃ y, a.val ≤ y ∧ y ≤ b.val ∧ isSurrogate y = false ∧ x ∈ env.closure y
  | .hyphen => x = 45 ∨ x ∈ env.closure 45
  | .cls e => Item.Mem env x (.cls e)
  | .prop pos name => Item.Mem env x (.prop pos name)

def CExpr.MemberI (env : Env) (x : Nat) : CExpr → Prop
  | .leaf neg items => ((∃ i ∈ items, i.MemI env x) ↔ neg = false)
  | .minus neg items sub => ((∃ i ∈ items, i.MemI env x) ↔ neg = false) ∧ ¬ sub.MemberI env x

/-- the members flag i adds to an item: the case variants of its characters -/
def Item.Clo (env : Env) (x : Nat) : Item → Prop
  | .one a => x ∈ env.closure a.val
  | .range a b => ∃ y, a.val ≤ y ∧ y ≤ b.val ∧ isSurrogate y = false ∧ x ∈ env.closure y
  | .hyphen => x ∈ env.closure 45
  | _ => False

def Item.MemG (env : Env) (ci : Bool) (x : Nat) (i : Item) : Prop :=
  i.Mem env x ∨ (ci = true ∧ i.Clo env x)

def CExpr.MemberG (env : Env) (ci : Bool) (x : Nat) : CExpr → Prop
  | .leaf neg items => ((∃ i ∈ items, i.MemG env ci x) ↔ neg = false)
  | .minus neg items sub => ((∃ i ∈ items, i.MemG env ci x) ↔ neg = false) ∧ ¬ sub.MemberG env ci x

theorem Item.memG_false (env : Env) (x : Nat) (i : Item) : i.MemG env false x ↔ i.Mem env x := by
  simp [Item.MemG]

theorem Item.memG_true (env : Env) (x : Nat) (i : Item) : i.MemG env true x ↔ i.MemI env x := by
  cases i <;> simp [Item.MemG, Item.MemI, Item.Mem, Item.Clo]

theorem CExpr.memberG_false (env : Env) (x : Nat) : ∀ e : CExpr, e.MemberG env false x ↔ e.Member env x
  | .leaf neg items => by simp only [CExpr.MemberG, CExpr.Member, Item.memG_false]
  | .minus neg items sub => by
    simp only [CExpr.MemberG, CExpr.Member, Item.memG_false, CExpr.memberG_false env x sub]

theorem CExpr.memberG_true (env : Env) (x : Nat) : ∀ e : CExpr, e.MemberG env true x ↔ e.MemberI env x
  | .leaf neg items => by simp only [CExpr.MemberG, CExpr.MemberI, Item.memG_true]
  | .minus neg items sub => by
    simp only [CExpr.MemberG, CExpr.MemberI, Item.memG_true, CExpr.memberG_true env x sub]

structure EnvCanon (env : Env) : Prop where
  digit : Canon env.digit
  word : Canon env.word
  nameStart : Canon env.nameStart
  nameChar : Canon env.nameChar
  category : ∀ n rs, env.category n = some rs → Canon rs
  block : ∀ n rs, env.block n = some rs → Canon rs

theorem canon_escapeS : Canon escapeS := by
  have : escapeS = [(9, 11), (13, 14), (32, 33)] := by decide
  rw [this]
  simp [Canon, cpLimit]

theorem canon_clsBase {env : Env} (henv : EnvCanon env) (e : Nat) : Canon (clsBase env e) := by
  unfold clsBase
  split
  · exact canon_escapeS
  · split
    · exact henv.nameStart
    · split
      · exact henv.nameChar
      · split
        · exact henv.digit
        · exact henv.word

theorem canon_propLookup {env : Env} (henv : EnvCanon env) {name : List Nat} {rs : Ranges}
    (h : propLookup env name = some rs) : Canon rs := by
  unfold propLookup at h
  split at h
  · exact henv.category _ _ h
  · split at h
    · exact henv.block _ _ h
    · cases h

theorem Den.closRange {env : Env} (hc : ClosureOK env) : ∀ (f a b : Nat) {rs : Ranges} {S : Nat → Prop},
    Den rs S → Den (closRange env f a b rs)
      (fun x => S x ∨ ∃ y, a ≤ y ∧ y ≤ b ∧ y < a + f ∧ isSurrogate y = false ∧ x ∈ env.closure y) := by
  intro f
  induction f with
  | zero =>
    intro a b rs S h
    exact h.congr fun x _ => ⟨.inl, fun h => h.elim id fun ⟨y, h1, _, h3, _⟩ => by omega⟩
  | succ f ih =>
    intro a b rs S h
    by_cases hab : a > b
    · simp only [C09.closRange, if_pos hab]
      exact h.congr fun x _ => ⟨.inl, fun h => h.elim id fun ⟨y, h1, h2, _⟩ => by omega⟩
    simp only [C09.closRange, if_neg hab]
    -- the closure of `a` (unless a surrogate), then the rest of the interval
    have h' : Den (if isSurrogate a then rs else Rx.addChars (env.closure a) rs)
        (fun x => (isSurrogate a = false ∧ x ∈ env.closure a) ∨ S x) := by
      cases hs : isSurrogate a with
      | true => exact h.congr fun x _ => by simp
      | false => exact (h.addChars _ (fun y hy => hc a y hy)).congr fun x _ => by simp
    refine (ih (a + 1) b h').congr fun x _ => ⟨?_, ?_⟩
    · rintro ((⟨hs, hx⟩ | h) | ⟨y, h1, h2, h3, h4, h5⟩)
      · exact .inr ⟨a, Nat.le_refl _, by omega, by omega, hs, hx⟩
      · exact .inl h
      · exact .inr ⟨y, by omega, h2, by omega, h4, h5⟩
    · rintro (h | ⟨y, h1, h2, h3, h4, h5⟩)
      · exact .inl (.inr h)
      · by_cases hy : y = a
        · subst hy; exact .inl (.inl ⟨h4, h5⟩)
        · exact .inr ⟨y, by omega, h2, by omega, h4, h5⟩

theorem Den.addCharG {env : Env} {ci : Bool} (hc : ci = true → ClosureOK env) {rs : Ranges} {S : Nat → Prop}
    (h : Den rs S) (ch : Nat) (hch : ch < cpLimit) :
    Den (addCharG env ci ch rs) (fun x => (x = ch ∨ (ci = true ∧ x ∈ env.closure ch)) ∨ S x) := by
  cases ci with
  | false => exact (h.addChar ch hch).congr fun x _ => by simp
  | true =>
    exact ((h.addChar ch hch).addChars _ (fun y hy => hc rfl ch y hy)).congr fun x _ => by
      simp only [true_and]; exact or_left_comm.trans or_assoc.symm

theorem Den.addRangeG {env : Env} {ci : Bool} (hc : ci = true → ClosureOK env) {rs : Ranges} {S : Nat → Prop}
    (h : Den rs S) (a b : Nat) (hb : b < cpLimit) :
    Den (addRangeG env ci a b rs) (fun x => ((a ≤ x ∧ x ≤ b) ∨ (ci = true ∧
      ∃ y, a ≤ y ∧ y ≤ b ∧ isSurrogate y = false ∧ x ∈ env.closure y)) ∨ S x) := by
  have hr := (h.addRange a (b + 1) hb).congr (T := fun x => (a ≤ x ∧ x ≤ b) ∨ S x)
    fun x _ => or_congr_left ⟨fun h => ⟨h.1, by omega⟩, fun h => ⟨h.1, by omega⟩⟩
  cases ci with
  | false => exact hr.congr fun x _ => by simp
  | true =>
    refine (hr.closRange (hc rfl) (b - a + 2) a b).congr fun x _ => ?_
    simp only [true_and]
    constructor
    · rintro ((h | h) | ⟨y, h1, h2, _, h4, h5⟩)
      · exact .inl (.inl h)
      · exact .inr h
      · exact .inl (.inr ⟨y, h1, h2, h4, h5⟩)
    · rintro ((h | ⟨y, h1, h2, h4, h5⟩) | h)
      · exact .inl (.inl h)
      · exact .inr ⟨y, h1, h2, by omega, h4, h5⟩
      · exact .inl (.inr h)

def DenO (o : Option Ranges) (S : Nat → Prop) : Prop :=
  match o with
  | some a => Den a S
  | none => ∀ x, ¬ S x

theorem Den.of_false {rs : Ranges} {S T : Nat → Prop} (h : Den rs S) (hT : ∀ x, ¬ T x) :
    Den rs (fun x => S x ∨ T x) := h.congr fun x _ => ⟨.inl, fun h => h.elim id (absurd · (hT x))⟩

theorem den_clsSet {env : Env} (henv : EnvCanon env) (e : Nat) :
    Den (clsSet env e) (fun x => (Item.cls e).Mem env x) := by
  have hb := Den.of_canon (canon_clsBase henv e)
  simp only [clsSet, Item.Mem]
  cases clsPos e with
  | true => exact hb
  | false => exact hb.compl.congr fun x _ => by simp

theorem den_propSet {env : Env} (henv : EnvCanon env) (pos : Bool) (name : List Nat) :
    Den (propSet env pos name) (fun x => (Item.prop pos name).Mem env x) := by
  simp only [propSet, Item.Mem]
  cases h : propLookup env name with
  | none => exact Den.nil.congr fun x _ => by simp
  | some rs =>
    have hb := Den.of_canon (canon_propLookup henv h)
    simp only [Option.some.injEq, exists_eq_left']
    cases pos with
    | true => exact hb
    | false => exact hb.compl.congr fun x _ => by simp

theorem DenO.addU {ad : Option Ranges} {A S : Nat → Prop} {rs : Ranges} (ha : DenO ad A) (hs : Den rs S) :
    Den (addU ad rs) (fun x => S x ∨ A x) := by
  cases ad with
  | none => exact hs.of_false ha
  | some a => exact (Den.union ha hs).congr fun x _ => Or.comm

theorem Den.orO {b : Ranges} {ad : Option Ranges} {B A : Nat → Prop} (hb : Den b B) (ha : DenO ad A) :
    Den (match (generalizing := false) ad with | some a => unionR b a | none => b) (fun x => B x ∨ A x) := by
  cases ad with
  | none => exact hb.of_false ha
  | some a => exact Den.union hb ha

theorem Den.polar {u : Ranges} {U : Nat → Prop} (h : Den u U) (p : Bool) :
    Den (if p then u else complR u) (fun x => U x ↔ p = true) := by
  cases p with
  | true => exact h.congr fun x _ => by simp
  | false => exact h.compl.congr fun x _ => by simp

theorem Den.minusO {r : Ranges} {o : Option Ranges} {R S : Nat → Prop} (h : Den r R) (hs : DenO o S) :
    Den (match (generalizing := false) o with | some s => diffR r s | none => r) (fun x => R x ∧ ¬ S x) := by
  cases o with
  | none => exact h.congr fun x _ => ⟨fun h => ⟨h, hs x⟩, fun h => h.1⟩
  | some s => exact Den.diff h hs

theorem Den.finish {k : ClsSt} {B A S : Nat → Prop} (hb : Den k.builder B) (ha : DenO k.addend A)
    (hs : DenO k.subtrahend S) :
    Den k.finish (fun x => ((B x ∨ A x) ↔ k.positive = true) ∧ ¬ S x) :=
  ((hb.orO ha).polar k.positive).minusO hs

/-- the characters and the class escapes collected so far make up the set `U` -/
def KDen (k : ClsSt) (U : Nat → Prop) : Prop :=
  ∃ B A, Den k.builder B ∧ DenO k.addend A ∧ ∀ x, U x ↔ B x ∨ A x

theorem KDen.congr {k : ClsSt} {U V : Nat → Prop} (h : KDen k U) (hUV : ∀ x, V x ↔ U x) : KDen k V := by
  obtain ⟨B, A, hb, ha, hU⟩ := h
  exact ⟨B, A, hb, ha, fun x => (hUV x).trans (hU x)⟩

theorem KDen.init (neg : Bool) : KDen { positive := !neg } (fun _ => False) :=
  ⟨_, _, Den.nil, fun _ => id, fun _ => by simp⟩

theorem KDen.finish {k : ClsSt} {U S : Nat → Prop} (h : KDen k U) (hs : DenO k.subtrahend S) :
    Den k.finish (fun x => (U x ↔ k.positive = true) ∧ ¬ S x) := by
  obtain ⟨B, A, hb, ha, hU⟩ := h
  exact (Den.finish hb ha hs).congr fun x _ => by rw [hU]

theorem KDen.step {env : Env} (henv : EnvCanon env) {ci : Bool} (hc : ci = true → ClosureOK env)
    {xsd : Bool} {i : Item} (hi : i.ok xsd env = true) {k : ClsSt} {U : Nat → Prop} (h : KDen k U) :
    KDen (Item.stepG env ci k i) (fun x => i.MemG env ci x ∨ U x) := by
  obtain ⟨B, A, hb, ha, hU⟩ := h
  -- a character member goes to the builder, a class escape to the addend
  have chars : ∀ {b' : Ranges} {M : Nat → Prop}, Den b' (fun x => M x ∨ B x) →
      KDen { k with builder := b' } (fun x => M x ∨ U x) := fun hb' =>
    ⟨_, A, hb', ha, fun x => by show _ ∨ U x ↔ _; rw [hU, or_assoc]⟩
  have sets : ∀ {S : Ranges} {M : Nat → Prop}, Den S M →
      KDen { k with addend := some (addU k.addend S) } (fun x => M x ∨ U x) := fun hS =>
    ⟨B, _, hb, DenO.addU ha hS, fun x => by show _ ∨ U x ↔ _; rw [hU]; exact or_left_comm⟩
  cases i with
  | one a =>
    simp only [Item.ok, Bool.and_eq_true, decide_eq_true_eq] at hi
    exact chars (hb.addCharG hc a.val hi.2)
  | range a b =>
    simp only [Item.ok, Bool.and_eq_true, decide_eq_true_eq] at hi
    exact chars (hb.addRangeG hc a.val b.val hi.2)
  | hyphen => exact chars (hb.addCharG hc 45 (by decide))
  | cls e => exact (sets (den_clsSet henv e)).congr fun x => by simp [Item.MemG, Item.Clo]
  | prop pos name => exact (sets (den_propSet henv pos name)).congr fun x => by simp [Item.MemG, Item.Clo]

theorem KDen.foldl {env : Env} (henv : EnvCanon env) {ci : Bool} (hc : ci = true → ClosureOK env)
    {xsd : Bool} : ∀ (items : List Item) {k : ClsSt} {U : Nat → Prop}, itemsOk xsd env items = true →
      KDen k U → KDen (items.foldl (Item.stepG env ci) k) (fun x => (∃ i ∈ items, i.MemG env ci x) ∨ U x)
  | [], _, _, _, h => h.congr fun x => by simp
  | i :: more, _, _, hok, h => by
    simp only [itemsOk, Bool.and_eq_true] at hok
    exact (KDen.foldl henv hc more hok.2 (h.step henv hc hok.1.1)).congr fun x => by
      simp only [List.mem_cons, exists_eq_or_imp, or_assoc, or_left_comm]

theorem denoteG_den {env : Env} (henv : EnvCanon env) {ci : Bool} (hc : ci = true → ClosureOK env)
    {xsd : Bool} : ∀ (e : CExpr), e.ok xsd env = true → Den (e.denoteG env ci) (fun x => e.MemberG env ci x)
  | .leaf neg items, hok => by
    simp only [CExpr.ok, headOk, Bool.and_eq_true] at hok
    have hk := (KDen.init neg).foldl henv hc (ci := ci) items hok.1.2
    have hs : DenO (items.foldl (Item.stepG env ci) { positive := !neg }).subtrahend (fun _ => False) := by
      rw [(foldl_stepG_fields env ci items _).2.2.2]; exact fun _ => id
    refine (hk.finish hs).congr fun x _ => ?_
    rw [(foldl_stepG_fields env ci items _).2.2.1]
    simp [CExpr.MemberG]
  | .minus neg items sub, hok => by
    simp only [CExpr.ok, headOk, Bool.and_eq_true] at hok
    have hk := (KDen.init neg).foldl henv hc (ci := ci) items hok.1.1.2
    have hsub := denoteG_den henv hc (ci := ci) sub hok.2
    refine (KDen.finish (k := { items.foldl (Item.stepG env ci) { positive := !neg } with
      subtrahend := some (sub.denoteG env ci) }) hk hsub).congr fun x _ => ?_
    show ((_ ↔ (items.foldl (Item.stepG env ci) { positive := !neg }).positive = true) ∧ _) ↔ _
    rw [(foldl_stepG_fields env ci items _).2.2.1]
    simp [CExpr.MemberG]

def Item.isChars : Item → Bool
  | .one _ => true
  | .range _ _ => true
  | .hyphen => true
  | _ => false

theorem Item.memI_of_mem {env : Env} {x : Nat} {i : Item} (h : i.Mem env x) : i.MemI env x := by
  cases i with
  | one a => exact Or.inl h
  | range a b => exact Or.inl h
  | hyphen => exact Or.inl h
  | cls e => exact h
  | prop pos name => exact h

theorem single_closed {env : Env}
    (htr : ∀ x y z, y ∈ env.closure x → z ∈ env.closure y → z = x ∨ z ∈ env.closure x)
    {a x y : Nat} (hm : x = a ∨ x ∈ env.closure a) (hy : y ∈ env.closure x) :
    y = a ∨ y ∈ env.closure a := by
  rcases hm with rfl | h
  · exact Or.inr hy
  · exact htr a x y h hy

theorem Item.memI_closed {env : Env}
    (htr : ∀ x y z, y ∈ env.closure x → z ∈ env.closure y → z = x ∨ z ∈ env.closure x)
    (hsur : ∀ s, isSurrogate s = true → env.closure s = []) {i : Item} (hi : i.isChars = true)
    {x y : Nat} (hm : i.MemI env x) (hy : y ∈ env.closure x) : i.MemI env y := by
  cases i with
  | one a => exact single_closed htr hm hy
  | hyphen => exact single_closed htr hm hy
  | range a b =>
    rcases hm with ⟨h1, h2⟩ | ⟨y0, h1, h2, h3, h4⟩
    · cases hs : isSurrogate x with
      | false => exact Or.inr ⟨x, h1, h2, hs, hy⟩
      | true => rw [hsur x hs] at hy; cases hy
    · rcases htr y0 x y h4 hy with rfl | h
      · exact Or.inl ⟨h1, h2⟩
      · exact Or.inr ⟨y0, h1, h2, h3, h⟩
  | cls e => cases hi
  | prop pos name => cases hi

end Rx.C09
