/-
  Proofs/FirstHit — what a search from position `i` reports, as a function of `i` (`firstSpanOf`).  A search over
  a tree with exact enumeration `e` finds `firstSpanOf e len i` (`Outcome.finds`, Proofs/CleanSearchLemmas); two
  searches then agree as soon as the heads of their enumerations do (`firstSpanOf_congr`, `Finds.agree`).
  Underneath: `C04.firstHit`, the least index of a window at which a partial function is defined, with its value
  (`ApiComplete.firstFrom` is the same function for values that are positions).
-/
import RxModel.Model.Search
namespace Rx.C04
/-- the least `k` in `[j, j + fuel)` with `e k` defined, and that value -/
def firstHit {α : Type} (e : Nat → Option α) : (fuel j : Nat) → Option (Nat × α)
  | 0, _ => none
  | f+1, j =>
    match e j with
    | some v => some (j, v)
    | none => firstHit e f (j + 1)

section firstHit
variable {α : Type} (e : Nat → Option α)

theorem firstHit_some : ∀ (f j a : Nat) (v : α), firstHit e f j = some (a, v) →
    j ≤ a ∧ a < j + f ∧ e a = some v ∧ ∀ k, j ≤ k → k < a → e k = none
  | 0, _, _, _, h => nomatch h
  | f + 1, j, a, v, h => by
    rw [firstHit] at h
    cases he : e j with
    | some m =>
      rw [he] at h
      cases h
      exact ⟨Nat.le_refl _, Nat.lt_add_of_pos_right (Nat.succ_pos f), he, fun k h1 h2 => absurd h2 (Nat.not_lt.2 h1)⟩
    | none =>
      rw [he] at h
      obtain ⟨h1, h2, h3, h4⟩ := firstHit_some f (j + 1) a v h
      refine ⟨Nat.le_of_succ_le h1, Nat.lt_of_lt_of_eq h2 (Nat.add_right_comm j 1 f), h3, fun k hk1 hk2 => ?_⟩
      rcases Nat.eq_or_lt_of_le hk1 with rfl | hlt
      · exact he
      · exact h4 k hlt hk2

theorem firstHit_none : ∀ (f j : Nat), firstHit e f j = none → ∀ k, j ≤ k → k < j + f → e k = none
  | 0, _, _, _, h1, h2 => absurd h2 (Nat.not_lt.2 h1)
  | f + 1, j, h, k, h1, h2 => by
    rw [firstHit] at h
    cases he : e j with
    | some m => rw [he] at h; cases h
    | none =>
      rw [he] at h
      rcases Nat.eq_or_lt_of_le h1 with rfl | hlt
      · exact he
      · exact firstHit_none f (j + 1) h k hlt (Nat.lt_of_lt_of_eq h2 (Nat.add_right_comm j 1 f).symm)

theorem firstHit_eq_some : ∀ (f j a : Nat) (v : α), j ≤ a → a < j + f → e a = some v →
    (∀ k, j ≤ k → k < a → e k = none) → firstHit e f j = some (a, v)
  | 0, _, _, _, h1, h2, _, _ => absurd h2 (Nat.not_lt.2 h1)
  | f + 1, j, a, v, h1, h2, h3, h4 => by
    rw [firstHit]
    rcases Nat.eq_or_lt_of_le h1 with rfl | hlt
    · rw [h3]
    · rw [h4 j (Nat.le_refl _) hlt]
      exact firstHit_eq_some f (j + 1) a v hlt (Nat.lt_of_lt_of_eq h2 (Nat.add_right_comm j 1 f).symm) h3
        (fun k hk1 hk2 => h4 k (Nat.le_of_succ_le hk1) hk2)

theorem firstHit_eq_none : ∀ (f j : Nat), (∀ k, j ≤ k → k < j + f → e k = none) → firstHit e f j = none
  | 0, _, _ => rfl
  | f + 1, j, h => by
    rw [firstHit, h j (Nat.le_refl _) (Nat.lt_add_of_pos_right (Nat.succ_pos f))]
    exact firstHit_eq_none f (j + 1)
      (fun k hk1 hk2 => h k (Nat.le_of_succ_le hk1) (Nat.lt_of_lt_of_eq hk2 (Nat.add_right_comm j 1 f)))
end firstHit
end Rx.C04

namespace Rx.ApiComplete
open Rx

/-- `C04.firstHit` for values that are positions (`firstFrom_eq`) -/
def firstFrom (e : Nat → Option Nat) : (fuel : Nat) → (j : Nat) → Option (Nat × Nat)
  | 0, _ => none
  | f+1, j =>
    match e j with
    | some n => some (j, n)
    | none => firstFrom e f (j + 1)

theorem firstFrom_eq (e : Nat → Option Nat) : ∀ (f j : Nat), firstFrom e f j = C04.firstHit e f j
  | 0, _ => rfl
  | f + 1, j => by
    rw [firstFrom, C04.firstHit, firstFrom_eq e f]
    cases e j <;> rfl

theorem firstFrom_some (e : Nat → Option Nat) (f j a n : Nat) (h : firstFrom e f j = some (a, n)) :
    j ≤ a ∧ a < j + f ∧ e a = some n ∧ ∀ k, j ≤ k → k < a → e k = none :=
  C04.firstHit_some e f j a n (firstFrom_eq e f j ▸ h)

theorem firstFrom_none (e : Nat → Option Nat) (f j : Nat) (h : firstFrom e f j = none) :
    ∀ k, j ≤ k → k < j + f → e k = none :=
  C04.firstHit_none e f j (firstFrom_eq e f j ▸ h)

theorem firstFrom_eq_some (e : Nat → Option Nat) (f j a n : Nat) (h1 : j ≤ a) (h2 : a < j + f) (h3 : e a = some n)
    (h4 : ∀ k, j ≤ k → k < a → e k = none) : firstFrom e f j = some (a, n) :=
  (firstFrom_eq e f j).trans (C04.firstHit_eq_some e f j a n h1 h2 h3 h4)

theorem firstFrom_eq_none (e : Nat → Option Nat) (f j : Nat) (h : ∀ k, j ≤ k → k < j + f → e k = none) :
    firstFrom e f j = none :=
  (firstFrom_eq e f j).trans (C04.firstHit_eq_none e f j h)

/-- the window `firstSpan` searches from `pos` is `[pos, len]` -/
theorem le_of_lt_window {len pos j : Nat} (h1 : pos ≤ j) (h2 : j < pos + (len + 1 - pos)) : j ≤ len := by
  rcases Nat.le_total pos (len + 1) with h | h
  · rw [Nat.add_sub_of_le h] at h2; exact Nat.le_of_lt_succ h2
  · rw [Nat.sub_eq_zero_of_le h] at h2; exact (Nat.not_le_of_lt h2 h1).elim

theorem lt_window {len pos j : Nat} (h1 : pos ≤ j) (hj : j ≤ len) : j < pos + (len + 1 - pos) := by
  rw [Nat.add_sub_of_le (Nat.le_trans h1 (Nat.le_succ_of_le hj))]; exact Nat.lt_succ_of_le hj

theorem firstFrom_congr (e e' : Nat → Option Nat) : ∀ (f j : Nat),
    (∀ k, j ≤ k → k < j + f → e k = e' k) → firstFrom e f j = firstFrom e' f j := by
  intro f
  induction f with
  | zero => intro j _; rfl
  | succ f ih =>
    intro j h
    unfold firstFrom
    rw [← h j (Nat.le_refl _) (Nat.lt_add_of_pos_right (Nat.succ_pos f))]
    cases e j with
    | some n => rfl
    | none => exact ih (j + 1) (fun k hk1 hk2 =>
        h k (Nat.le_of_succ_le hk1) (Nat.lt_of_lt_of_eq hk2 (Nat.add_right_comm j 1 f)))

/-- the START found depends only on where `e` is defined -/
theorem firstFrom_start_congr (e e' : Nat → Option Nat) : ∀ (f j : Nat),
    (∀ k, j ≤ k → k < j + f → (e k).isSome = (e' k).isSome) →
    (firstFrom e f j).map (·.1) = (firstFrom e' f j).map (·.1)
  | 0, _, _ => rfl
  | f + 1, j, h => by
    have hj := h j (Nat.le_refl _) (Nat.lt_add_of_pos_right (Nat.succ_pos f))
    rw [firstFrom, firstFrom]
    cases h1 : e j with
    | none =>
      cases h2 : e' j with
      | none => exact firstFrom_start_congr e e' f (j + 1) (fun k hk1 hk2 =>
          h k (Nat.le_of_succ_le hk1) (Nat.lt_of_lt_of_eq hk2 (Nat.add_right_comm j 1 f)))
      | some _ => rw [h1, h2] at hj; cases hj
    | some _ =>
      cases h2 : e' j with
      | none => rw [h1, h2] at hj; cases hj
      | some _ => rfl

end Rx.ApiComplete

namespace Rx.C04
open Rx.ApiComplete (le_of_lt_window lt_window)
variable {α : Type} (e : Nat → Option α)

theorem firstHit_window_some_iff (len i j : Nat) (v : α) :
    firstHit e (len + 1 - i) i = some (j, v) ↔ i ≤ j ∧ j ≤ len ∧ e j = some v ∧ ∀ k, i ≤ k → k < j → e k = none :=
  ⟨fun h => let ⟨h1, h2, h3, h4⟩ := firstHit_some e _ _ _ _ h; ⟨h1, le_of_lt_window h1 h2, h3, h4⟩,
    fun ⟨h1, h2, h3, h4⟩ => firstHit_eq_some e _ _ _ _ h1 (lt_window h1 h2) h3 h4⟩

theorem firstHit_window_none_iff (len i : Nat) :
    firstHit e (len + 1 - i) i = none ↔ ∀ k, i ≤ k → k ≤ len → e k = none :=
  ⟨fun h k h1 h2 => firstHit_none e _ _ h k h1 (lt_window h1 h2),
    fun h => firstHit_eq_none e _ _ (fun k h1 h2 => h k h1 (le_of_lt_window h1 h2))⟩

end Rx.C04

namespace Rx.SearchComplete
open Rx Rx.ApiComplete

/-- the span a search from `i` has to report: the least start in `[i, len]` with a non-empty enumeration, and
    the head of that enumeration -/
def firstSpanOf (e : Nat → List Nat) (len i : Nat) : Option (Nat × Nat) :=
  firstFrom (fun j => (e j).head?) (len + 1 - i) i

theorem firstSpanOf_some_iff {e : Nat → List Nat} {len i j n : Nat} :
    firstSpanOf e len i = some (j, n) ↔
      i ≤ j ∧ j ≤ len ∧ (e j).head? = some n ∧ ∀ k, i ≤ k → k < j → (e k).head? = none := by
  rw [firstSpanOf, firstFrom_eq]
  exact C04.firstHit_window_some_iff _ len i j n

theorem firstSpanOf_none_iff {e : Nat → List Nat} {len i : Nat} :
    firstSpanOf e len i = none ↔ ∀ k, i ≤ k → k ≤ len → (e k).head? = none := by
  rw [firstSpanOf, firstFrom_eq]
  exact C04.firstHit_window_none_iff _ len i

theorem firstSpanOf_congr {e e' : Nat → List Nat} {len i : Nat}
    (h : ∀ k, i ≤ k → k ≤ len → (e k).head? = (e' k).head?) : firstSpanOf e len i = firstSpanOf e' len i :=
  firstFrom_congr _ _ _ _ (fun k hk1 hk2 => h k hk1 (le_of_lt_window hk1 hk2))

/-- the result `r` of a search reports `x`: the span in group 0, or none -/
def Finds (r : Bool × St) : Option (Nat × Nat) → Prop
  | some (j, n) => r.1 = true ∧ getParenStart r.2 0 = some j ∧ getParenEnd r.2 0 = some n
  | none => r.1 = false

theorem Finds.agree {r1 r2 : Bool × St} {x : Option (Nat × Nat)} (h1 : Finds r1 x) (h2 : Finds r2 x) :
    r1.1 = r2.1 ∧ (r1.1 = true →
      getParenStart r1.2 0 = getParenStart r2.2 0 ∧ getParenEnd r1.2 0 = getParenEnd r2.2 0) := by
  cases x with
  | none => exact ⟨h1.trans h2.symm, fun ht => by rw [h1] at ht; cases ht⟩
  | some x => exact ⟨h1.1.trans h2.1.symm, fun _ => ⟨h1.2.1.trans h2.2.1.symm, h1.2.2.trans h2.2.2.symm⟩⟩

theorem least_start_eq {L1 L2 : Nat → Nat → Prop} {i j1 j2 n1 n2 : Nat}
    (a1 : i ≤ j1) (a2 : i ≤ j2) (hm1 : L1 j1 n1) (hm2 : L2 j2 n2)
    (hl1 : ∀ k q, i ≤ k → k < j1 → ¬ L1 k q) (hl2 : ∀ k q, i ≤ k → k < j2 → ¬ L2 k q)
    (t12 : L1 j1 n1 → L2 j1 n1) (t21 : L2 j2 n2 → L1 j2 n2) : j1 = j2 := by
  rcases Nat.lt_trichotomy j1 j2 with h | h | h
  · exact absurd (t12 hm1) (hl2 j1 n1 a1 h)
  · exact h
  · exact absurd (t21 hm2) (hl1 j2 n2 a2 h)

end Rx.SearchComplete
