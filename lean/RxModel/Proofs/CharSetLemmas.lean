/-
  Proofs/CharSetLemmas — canonical range lists (`Canon`) in the lower-bounded formulation `Chain lo`, and
  `Sorted lo`, the same without the `cpLimit` bound: `addChars` adds arbitrary numbers (a case closure) and
  keeps `Sorted` only.  The builder operations on both, and the enumeration used by `isDisjoint`.
-/
import RxModel.Spec.Class
namespace Rx.C09
open Rx

/-- `Canon` with a lower bound for the first range start -/
def Chain (lo : Nat) : Ranges → Prop
  | [] => True
  | (a, b) :: rs => lo ≤ a ∧ a < b ∧ b ≤ cpLimit ∧ Chain (b + 1) rs

theorem Chain.mono {lo lo' : Nat} {rs : Ranges} (h : Chain lo rs) (hl : lo' ≤ lo) :
    Chain lo' rs := by
  cases rs with
  | nil => trivial
  | cons r rs =>
    obtain ⟨a, b⟩ := r
    simp only [Chain] at h ⊢
    exact ⟨by omega, h.2.1, h.2.2.1, h.2.2.2⟩

theorem chain_of_canon : ∀ rs : Ranges, Canon rs → Chain 0 rs
  | [], _ => trivial
  | [(a, b)], h => by
    simp only [Canon] at h
    simp only [Chain]
    exact ⟨Nat.zero_le _, h.1, h.2, trivial⟩
  | (a, b) :: (c, d) :: rs, h => by
    simp only [Canon] at h
    have ih := chain_of_canon ((c, d) :: rs) h.2.2
    simp only [Chain] at ih ⊢
    exact ⟨Nat.zero_le _, h.1, by omega, by omega, ih.2.1, ih.2.2.1, ih.2.2.2⟩

theorem canon_of_chain : ∀ (rs : Ranges) (lo : Nat), Chain lo rs → Canon rs
  | [], _, _ => trivial
  | [(a, b)], _, h => by
    simp only [Chain] at h
    simp only [Canon]
    exact ⟨h.2.1, h.2.2.1⟩
  | (a, b) :: (c, d) :: rs, _, h => by
    simp only [Chain] at h
    have ih := canon_of_chain ((c, d) :: rs) (b + 1) (by simp only [Chain]; exact h.2.2.2)
    simp only [Canon]
    exact ⟨h.2.1, by omega, ih⟩

theorem canon_iff_chain (rs : Ranges) : Canon rs ↔ Chain 0 rs :=
  ⟨chain_of_canon rs, canon_of_chain rs 0⟩

theorem clsContains_nil (c : Nat) : clsContains [] c = false := rfl

theorem clsContains_cons (a b : Nat) (rs : Ranges) (c : Nat) :
    clsContains ((a, b) :: rs) c = true ↔ (a ≤ c ∧ c < b) ∨ clsContains rs c = true := by
  simp only [clsContains, Bool.or_eq_true, Bool.and_eq_true, decide_eq_true_eq]

theorem clsContains_cons_false (a b : Nat) (rs : Ranges) (c : Nat) :
    clsContains ((a, b) :: rs) c = false ↔ ¬ (a ≤ c ∧ c < b) ∧ clsContains rs c = false := by
  rw [← Bool.not_eq_true, clsContains_cons, not_or, Bool.not_eq_true]

theorem chain_contains_lt {lo : Nat} {rs : Ranges} (h : Chain lo rs) {c : Nat} (hc : c < lo) :
    clsContains rs c = false := by
  induction rs generalizing lo with
  | nil => rfl
  | cons r rs ih =>
    obtain ⟨a, b⟩ := r
    simp only [Chain] at h
    have := ih h.2.2.2 (by omega)
    simp only [clsContains, this, Bool.or_false, Bool.and_eq_false_imp, decide_eq_true_eq,
      decide_eq_false_iff_not]
    omega

/-- `Chain` without the `cpLimit` bound -/
def Sorted (lo : Nat) : Ranges → Prop
  | [] => True
  | (a, b) :: rs => lo ≤ a ∧ a < b ∧ Sorted (b + 1) rs

theorem Sorted.mono {lo lo' : Nat} {rs : Ranges} (h : Sorted lo rs) (hl : lo' ≤ lo) :
    Sorted lo' rs := by
  cases rs with
  | nil => trivial
  | cons r rs =>
    obtain ⟨a, b⟩ := r
    simp only [Sorted] at h ⊢
    exact ⟨by omega, h.2.1, h.2.2⟩

/-- the ranges are non-empty, so the bound on their ends is a bound on their members -/
theorem chain_iff_sorted {lo : Nat} {rs : Ranges} :
    Chain lo rs ↔ Sorted lo rs ∧ ∀ c, clsContains rs c = true → c < cpLimit := by
  induction rs generalizing lo with
  | nil => exact ⟨fun _ => ⟨trivial, fun c hc => by cases hc⟩, fun _ => trivial⟩
  | cons r rs ih =>
    obtain ⟨a, b⟩ := r
    simp only [Chain, Sorted, clsContains_cons]
    constructor
    · rintro ⟨h1, h2, h3, h4⟩
      exact ⟨⟨h1, h2, (ih.1 h4).1⟩, fun c hc => hc.elim (fun h => by omega) ((ih.1 h4).2 c)⟩
    · rintro ⟨⟨h1, h2, h3⟩, h4⟩
      have := h4 (b - 1) (.inl (by omega))
      exact ⟨h1, h2, by omega, ih.2 ⟨h3, fun c hc => h4 c (.inr hc)⟩⟩

theorem sorted_of_chain {lo : Nat} {rs : Ranges} (h : Chain lo rs) : Sorted lo rs :=
  (chain_iff_sorted.1 h).1

theorem chain_contains_limit {lo : Nat} {rs : Ranges} (h : Chain lo rs) {c : Nat}
    (hc : clsContains rs c = true) : c < cpLimit :=
  (chain_iff_sorted.1 h).2 c hc

theorem sorted_contains_addRange {lo : Nat} (rs : Ranges) (h : Sorted lo rs) (a b c : Nat) :
    clsContains (addRange a b rs) c = ((decide (a ≤ c) && decide (c < b)) || clsContains rs c) := by
  induction rs generalizing lo a b with
  | nil =>
    simp only [addRange]
    split
    · simp [clsContains]
    · rw [Bool.eq_iff_iff]
      simp only [clsContains_nil, Bool.or_false, Bool.and_eq_true, decide_eq_true_eq, Bool.false_eq_true,
        false_iff]
      omega
  | cons r rs ih =>
    obtain ⟨x, y⟩ := r
    simp only [Sorted] at h
    simp only [addRange]
    split
    · rw [Bool.eq_iff_iff]
      simp only [clsContains_cons, Bool.or_eq_true, Bool.and_eq_true, decide_eq_true_eq]
      cases clsContains rs c
      · simp only [Bool.false_eq_true, or_false]; omega
      · simp only [or_true]
    · split
      · simp only [clsContains]
      · split
        · rw [Bool.eq_iff_iff]
          simp only [clsContains_cons, ih h.2.2, Bool.or_eq_true, Bool.and_eq_true, decide_eq_true_eq]
          cases clsContains rs c
          · simp only [Bool.false_eq_true, or_false]; omega
          · simp only [or_true]
        · rw [ih h.2.2, Bool.eq_iff_iff]
          simp only [clsContains_cons, Bool.or_eq_true, Bool.and_eq_true, decide_eq_true_eq]
          cases clsContains rs c
          · simp only [Bool.false_eq_true, or_false, Nat.min_def, Nat.max_def]
            split <;> split <;> omega
          · simp only [or_true]

theorem chain_contains_addRange {lo : Nat} (rs : Ranges) (h : Chain lo rs) (a b c : Nat) :
    clsContains (addRange a b rs) c = ((decide (a ≤ c) && decide (c < b)) || clsContains rs c) :=
  sorted_contains_addRange rs (sorted_of_chain h) a b c

theorem sorted_addRange {lo : Nat} (rs : Ranges) (h : Sorted lo rs) (a b : Nat) (ha : lo ≤ a) :
    Sorted lo (addRange a b rs) := by
  induction rs generalizing lo a b with
  | nil =>
    simp only [addRange]
    split
    · simp only [Sorted]; exact ⟨ha, by assumption, trivial⟩
    · trivial
  | cons r rs ih =>
    obtain ⟨x, y⟩ := r
    have h' := h
    simp only [Sorted] at h'
    simp only [addRange]
    -- `split` on the chain of `if`s is slow to check
    by_cases hab : a ≥ b
    · rw [if_pos hab]; exact h
    · rw [if_neg hab]
      by_cases hbx : b < x
      · rw [if_pos hbx]
        simp only [Sorted]
        exact ⟨ha, by omega, by omega, h'.2.1, h'.2.2⟩
      · rw [if_neg hbx]
        split
        · simp only [Sorted]
          exact ⟨h'.1, h'.2.1, ih h'.2.2 a b (by omega)⟩
        · apply ih (h'.2.2.mono (by omega))
          simp only [Nat.min_def]; split <;> omega

theorem chain_addRange {lo : Nat} (rs : Ranges) (h : Chain lo rs) (a b : Nat) (ha : lo ≤ a)
    (hb : b ≤ cpLimit) : Chain lo (addRange a b rs) := by
  obtain ⟨hs, hl⟩ := chain_iff_sorted.1 h
  refine chain_iff_sorted.2 ⟨sorted_addRange rs hs a b ha, fun c hc => ?_⟩
  rw [sorted_contains_addRange rs hs, Bool.or_eq_true, Bool.and_eq_true, decide_eq_true_eq,
    decide_eq_true_eq] at hc
  exact hc.elim (fun h => by omega) (hl c)

theorem sorted_of_canon {rs : Ranges} (h : Canon rs) : Sorted 0 rs :=
  sorted_of_chain (chain_of_canon rs h)

theorem sorted_contains_addChar (rs : Ranges) (h : Sorted 0 rs) (ch x : Nat) :
    clsContains (addChar ch rs) x = (decide (x = ch) || clsContains rs x) := by
  unfold addChar
  rw [sorted_contains_addRange rs h]
  congr 1
  rw [Bool.eq_iff_iff]
  simp only [Bool.and_eq_true, decide_eq_true_eq]
  omega

theorem sorted_addChar (rs : Ranges) (h : Sorted 0 rs) (ch : Nat) : Sorted 0 (addChar ch rs) :=
  sorted_addRange rs h _ _ (Nat.zero_le _)

theorem addChars_spec (l : List Nat) (rs : Ranges) (h : Sorted 0 rs) (x : Nat) :
    clsContains (addChars l rs) x = (l.contains x || clsContains rs x) ∧ Sorted 0 (addChars l rs) := by
  induction l generalizing rs with
  | nil => simp [addChars, h]
  | cons ch l ih =>
    obtain ⟨h1, h2⟩ := ih (addChar ch rs) (sorted_addChar rs h ch)
    refine ⟨?_, h2⟩
    rw [addChars, h1, sorted_contains_addChar rs h ch x, List.contains_cons, ← Bool.or_assoc,
      Bool.or_comm (l.contains x), show decide (x = ch) = (x == ch) by rw [Bool.eq_iff_iff, decide_eq_true_eq, beq_iff_eq]]

theorem chain_unionR_both (a b : Ranges) (ha : Chain 0 a) {lo : Nat} (hb : Chain lo b) :
    Chain 0 (unionR a b) ∧
      ∀ c, clsContains (unionR a b) c = (clsContains a c || clsContains b c) := by
  induction b generalizing a lo with
  | nil => exact ⟨ha, fun c => by simp [unionR, clsContains]⟩
  | cons r rs ih =>
    obtain ⟨x, y⟩ := r
    simp only [Chain] at hb
    have h1 := chain_addRange a ha x y (Nat.zero_le _) hb.2.2.1
    obtain ⟨i1, i2⟩ := ih (addRange x y a) h1 hb.2.2.2
    refine ⟨i1, fun c => ?_⟩
    simp only [unionR]
    rw [i2 c, chain_contains_addRange a ha x y c]
    simp only [clsContains]
    cases clsContains a c <;> cases clsContains rs c <;> simp

theorem chain_contains_complFrom {lo : Nat} (rs : Ranges) (h : Chain lo rs) (c : Nat) :
    clsContains (complFrom lo rs) c =
      (decide (lo ≤ c) && decide (c < cpLimit) && !clsContains rs c) := by
  induction rs generalizing lo with
  | nil =>
    simp only [complFrom]
    rw [Bool.eq_iff_iff]
    split
    · simp only [clsContains_cons, clsContains_nil, Bool.false_eq_true, or_false, Bool.not_false,
        Bool.and_true, Bool.and_eq_true, decide_eq_true_eq]
    · simp only [clsContains_nil, Bool.false_eq_true, Bool.not_false, Bool.and_true, Bool.and_eq_true,
        decide_eq_true_eq, false_iff]
      omega
  | cons r rs ih =>
    obtain ⟨x, y⟩ := r
    simp only [Chain] at h
    have ih' := ih (h.2.2.2.mono (Nat.le_succ y))
    -- a member of `rs` lies above `y` and below `cpLimit`
    have hrs : clsContains rs c = true → y < c ∧ c < cpLimit := by
      intro hc
      refine ⟨?_, chain_contains_limit h.2.2.2 hc⟩
      apply Nat.lt_of_not_le
      intro hcy
      rw [chain_contains_lt h.2.2.2 (Nat.lt_succ_of_le hcy)] at hc
      cases hc
    simp only [complFrom]
    rw [Bool.eq_iff_iff]
    cases hc : clsContains rs c with
    | true =>
      have := hrs hc
      split
      · simp only [clsContains_cons, ih', hc, Bool.not_true, Bool.and_false, Bool.false_eq_true, or_false,
          Bool.and_eq_true, decide_eq_true_eq, Bool.not_eq_true', clsContains_cons_false,
          Bool.true_eq_false, and_false, iff_false]
        omega
      · simp only [ih', hc, Bool.not_true, Bool.and_false, Bool.false_eq_true,
          Bool.and_eq_true, decide_eq_true_eq, Bool.not_eq_true', clsContains_cons_false,
          Bool.true_eq_false, and_false]
    | false =>
      split
      · simp only [clsContains_cons, ih', hc, Bool.not_false, Bool.and_true, Bool.and_eq_true,
          decide_eq_true_eq, Bool.not_eq_true', clsContains_cons_false, and_true]
        omega
      · simp only [ih', hc, Bool.not_false, Bool.and_true, Bool.and_eq_true,
          decide_eq_true_eq, Bool.not_eq_true', clsContains_cons_false, and_true]
        omega
theorem chain_complFrom {lo : Nat} (rs : Ranges) (h : Chain lo rs) :
    Chain lo (complFrom lo rs) := by
  induction rs generalizing lo with
  | nil =>
    simp only [complFrom]
    split
    · simp only [Chain]; exact ⟨Nat.le_refl _, by assumption, Nat.le_refl _, trivial⟩
    · trivial
  | cons r rs ih =>
    obtain ⟨x, y⟩ := r
    simp only [Chain] at h
    have ih' := ih (h.2.2.2.mono (Nat.le_succ y))
    simp only [complFrom]
    split
    · simp only [Chain]
      exact ⟨Nat.le_refl _, by assumption, by omega, ih'.mono (by omega)⟩
    · exact ih'.mono (by omega)

/-- how many non-emitting steps `takeChars` may still spend on a range: dropping it once it is
    empty, and before that at most one jump over the surrogate gap -/
def cost (r : Nat × Nat) : Nat := if r.1 < r.2 ∧ r.1 < 0xE000 then 2 else 1

def costs : Ranges → Nat
  | [] => 0
  | r :: rs => cost r + costs rs

theorem costs_le (rs : Ranges) : costs rs ≤ 2 * rs.length := by
  induction rs with
  | nil => simp [costs]
  | cons r rs ih =>
    simp only [costs, cost, List.length_cons]
    split <;> omega

/-- if the enumeration was cut off neither by the count nor by the fuel, it is complete -/
theorem takeChars_complete (fuel : Nat) : ∀ (n : Nat) (rs : Ranges), n + costs rs ≤ fuel →
    (takeChars n fuel rs).length < n → ∀ c, isSurrogate c = false → clsContains rs c = true →
    c ∈ takeChars n fuel rs := by
  induction fuel with
  | zero =>
    intro n rs hf hl
    have : n = 0 := by omega
    subst this
    omega
  | succ f ih =>
    intro n rs hf hl c hs hc
    cases n with
    | zero => omega
    | succ n =>
      cases rs with
      | nil => simp [clsContains] at hc
      | cons r rs =>
        obtain ⟨a, b⟩ := r
        simp only [takeChars] at hl ⊢
        simp only [costs, cost] at hf
        simp only [clsContains, Bool.or_eq_true, Bool.and_eq_true, decide_eq_true_eq] at hc
        simp only [isSurrogate, Bool.and_eq_false_imp, decide_eq_true_eq,
          decide_eq_false_iff_not] at hs
        split
        · rename_i hab
          rw [if_pos hab] at hl
          apply ih (n + 1) rs (by split at hf <;> omega) hl c
          · simpa [isSurrogate] using hs
          · rcases hc with hc | hc
            · omega
            · exact hc
        · rename_i hab
          rw [if_neg hab] at hl
          split
          · rename_i hsa
            rw [if_pos hsa] at hl
            simp only [isSurrogate, Bool.and_eq_true, decide_eq_true_eq] at hsa
            apply ih (n + 1) _ _ hl c
            · simpa [isSurrogate] using hs
            · simp only [clsContains, Bool.or_eq_true, Bool.and_eq_true, decide_eq_true_eq,
                Nat.min_def]
              rcases hc with hc | hc
              · left; split <;> omega
              · right; exact hc
            · simp only [costs, cost, Nat.min_def]
              rw [if_pos (by omega)] at hf
              split <;> split <;> omega
          · rename_i hsa
            rw [if_neg hsa] at hl
            simp only [List.length_cons] at hl
            by_cases hca : c = a
            · subst hca; exact List.mem_cons_self
            · apply List.mem_cons_of_mem
              apply ih n _ _ (by omega) c
              · simpa [isSurrogate] using hs
              · simp only [clsContains, Bool.or_eq_true, Bool.and_eq_true, decide_eq_true_eq]
                rcases hc with hc | hc
                · left; omega
                · right; exact hc
              · simp only [costs, cost]
                split at hf <;> split <;> omega

theorem isDisjointGo_true (self : Ranges) (l : List Nat) (count : Nat) (hcount : count ≤ 100)
    (h : isDisjointGo self l count = true) :
    l.length + count ≤ 100 ∧ ∀ c ∈ l, clsContains self c = false := by
  induction l generalizing count with
  | nil => exact ⟨by simpa using hcount, fun c hc => by cases hc⟩
  | cons x xs ih =>
    simp only [isDisjointGo] at h
    split at h
    · cases h
    · rename_i hx
      split at h
      · cases h
      · rename_i hcnt
        obtain ⟨i1, i2⟩ := ih (count + 1) (by omega) h
        refine ⟨by simp only [List.length_cons]; omega, fun c hc => ?_⟩
        rcases List.mem_cons.1 hc with hc | hc
        · subst hc; simpa using hx
        · exact i2 c hc

end Rx.C09
