/-
  Proofs/RejectLemmas — texts the compiler rejects.  `Bad c l n cl` lists the ways the piece at the
  head of the text `l` can be malformed (`BadQ`: the ways its quantifier can be); `Bad.fails` is the
  walk of `parse_branch`, standing before `l` (`At`), down to the point of failure, and `Bad.compile` /
  `Bad.compile_bar` carry the error up to `compileCore` from the start of the pattern and from behind
  `b|`.
-/
import RxModel.Proofs.GrammarLemmas
namespace Rx.Grammar
open Rx

theorem exprBody_err_branch {c : PC} {f cp paren : Nat} {s : PS} {e : Err}
    (h : parseBranch c f s none = .err e) : exprBody c f cp paren s = .err e := by
  simp only [exprBody, h]

theorem parseBranch_err_terminal {c : PC} {f : Nat} {s : PS} {cur : Option Op} {e : Err} {y : Nat}
    {tl : List Nat} (htext : c.pat.drop s.idx = y :: tl) (hy1 : y ≠ 124) (hy2 : y ≠ 41)
    (h : parseTerminal c f s = .err e) : parseBranch c (f + 1) s cur = .err e := by
  rw [parseBranch_at htext hy1 hy2, h]

theorem parseTerminal_quant {c : PC} {f : Nat} {s : PS} (h : isQuantChar (c.at s.idx) = true) :
    parseTerminal c (f + 1) s = .err .syntax := by
  rw [isQuantChar_iff] at h
  rw [parseTerminal]
  rcases h with h | h | h | h <;> simp [h]

inductive BadQ (c : PC) : List Nat → Prop
  | reversed {n m tl : List Nat} : numeral n = true → numeral m = true →
      Spec.digitsVal n ≤ usizeMax → Spec.digitsVal m ≤ usizeMax → Spec.digitsVal m < Spec.digitsVal n →
      BadQ c (123 :: (n ++ 44 :: (m ++ 125 :: tl)))
  | overflow {n tl : List Nat} : numeral n = true → Spec.digitsVal n > usizeMax →
      BadQ c (123 :: (n ++ 125 :: tl))
  | reluctant {y : Nat} {tl : List Nat} : c.fl.xsd = true → y = 63 ∨ y = 42 ∨ y = 43 →
      BadQ c (y :: 63 :: tl)

theorem BadQ.head {c : PC} {l : List Nat} (h : BadQ c l) :
    ∃ y tl, l = y :: tl ∧ isQuantChar y = true := by
  cases h with
  | reversed => exact ⟨_, _, rfl, rfl⟩
  | overflow => exact ⟨_, _, rfl, rfl⟩
  | reluctant _ hy => exact ⟨_, _, rfl, by rcases hy with rfl | rfl | rfl <;> rfl⟩

theorem BadQ.fails {c : PC} {l : List Nat} (h : BadQ c l) (ret : Op) {s : PS}
    (ht : c.pat.drop s.idx = l) : pieceQuant c ret s = .err .syntax := by
  obtain ⟨y, tl, rfl, _⟩ := h.head
  obtain ⟨hlt, hat, ht1⟩ := PC.drop_cons ht
  rw [pieceQuant_eq, if_neg (by omega)]
  cases h with
  | reversed hn hm hnl hml hgt =>
    have hb := bracket_range' c s _ _ _ (numeral_iff.1 hn).1 (numeral_iff.1 hn).2 (numeral_iff.1 hm).1
      (numeral_iff.1 hm).2 hnl hml ht
    rw [if_neg (by omega)] at hb
    simp [quantHead, hat, hb]
  | overflow hn hbig =>
    have hb := bracket_overflow' c s _ (125 :: _) (numeral_iff.1 hn).1 (numeral_iff.1 hn).2 hbig
      (by intro z hz; simp at hz; subst hz; decide) ht
    simp [quantHead, hat, hb]
  | reluctant hx hy =>
    obtain ⟨hlt1, hat1, _⟩ := PC.drop_cons ht1
    rw [quantHead_char (by rw [hat]; exact hy)]
    simp [relAt, hlt1, hat1, hx]

/-- `n` groups opened, the groups `cl` closed, as in `At` -/
inductive Bad (c : PC) : List Nat → Nat → List Nat → Prop
  | quant {q : Nat} {tl : List Nat} {n : Nat} {cl : List Nat} : isQuantChar q = true →
      Bad c (q :: tl) n cl
  | dangling {n : Nat} {cl : List Nat} : Bad c [92] n cl
  | backref {d : Nat} {tl : List Nat} {n : Nat} : 49 ≤ d ∧ d ≤ 57 → Bad c (92 :: d :: tl) n []
  | ncXsd {tl : List Nat} {n : Nat} {cl : List Nat} : c.fl.xsd = true →
      Bad c (40 :: 63 :: 58 :: tl) n cl
  | quantifier {x : Nat} {l : List Nat} {n : Nat} {cl : List Nat} : normalChar c.fl.xsd x = true →
      BadQ c l → Bad c (x :: l) n cl
  | unclosed {r : RegExp} {n : Nat} {cl : List Nat} : r.ok c.fl.xsd c.env (n + 1) cl = true →
      r.inLimit = true → Bad c (40 :: r.render) n cl
  | unclosedNc {r : RegExp} {n : Nat} {cl : List Nat} : c.fl.xsd = false →
      r.ok c.fl.xsd c.env n cl = true → r.inLimit = true → Bad c (40 :: 63 :: 58 :: r.render) n cl
  | inGroup {l : List Nat} {n : Nat} {cl : List Nat} : Bad c l (n + 1) cl →
      (∀ tl, l ≠ 63 :: 58 :: tl) → Bad c (40 :: l) n cl

theorem escape_dangling {c : PC} {s : PS} {b : Bool} (h : c.pat.drop s.idx = [92]) :
    escape c s b = .err .syntax := by
  obtain ⟨hlt, hat, h1⟩ := PC.drop_cons h
  have := PC.drop_nil h1
  rw [escape_eq, if_neg (by simp [hat]), if_pos (by omega)]

theorem escape_backref_none {c : PC} {s : PS} {d : Nat} {tl : List Nat}
    (h : c.pat.drop s.idx = 92 :: d :: tl) (hd : 49 ≤ d ∧ d ≤ 57) (hc : s.captures = []) :
    escape c s false = .err .syntax := by
  rw [escape_digit h hd]
  cases c.fl.xsd with
  | true => rfl
  | false => simp [escapeBackref, hc]

theorem parseTerminal_char_quant {c : PC} {f : Nat} {s : PS} {x y : Nat} {tl : List Nat}
    (h : c.pat.drop s.idx = x :: y :: tl) (hx : normalChar c.fl.xsd x = true)
    (hy : isQuantChar y = true) :
    parseTerminal c (f + 1) s = .ok (.atom [x]) { s with idx := s.idx + 1 } := by
  obtain ⟨hlt, hat, h1⟩ := PC.drop_cons h
  obtain ⟨hlt1, hat1, _⟩ := PC.drop_cons h1
  have h92 : c.at s.idx ≠ 92 := by
    rw [hat]; intro hh; subst hh; revert hx; cases c.fl.xsd <;> decide
  obtain ⟨bq, hla, _, hq0⟩ := lookAhead_plain (ub := []) (.inl h92)
  rw [Bool.eq_false_iff.2 fun hb => hq0 hb rfl] at hla
  rw [parseTerminal_normalChar (by rw [hat]; exact hx), parseAtom,
    show c.len + 2 = (c.len + 1) + 1 from rfl, parseAtomGo_succ, if_pos hlt, hla]
  simp only []
  rw [dispatch_normal (by rw [hat]; exact hx), hat,
    atomGo_at_quant (s := { s with idx := s.idx + 1 }) hlt1 (by simp only []; rw [hat1]; exact hy)
      (by simp)]
  rfl

theorem exprBody_unclosed {c : PC} {f cp paren : Nat} {r : RegExp} {s : PS} {n : Nat} {cl : List Nat}
    (hok : r.ok c.fl.xsd c.env n cl = true) (hlim : r.inLimit = true) (hat : At c s r.render n cl)
    (hf : 2 * r.render.length + 1 ≤ f) (hp : paren ≠ 0) : exprBody c f cp paren s = .err .syntax := by
  obtain ⟨_, hPBs, hPB, _⟩ := parse_all c f
  obtain ⟨b1, s1, e1, bs, s2, e2, hat2⟩ :=
    regexp_body hPB hPBs (rest := []) hok hlim (by simpa using hat) (.inl rfl) hf []
  have e2 : parseBranches c f s1 [b1] = .ok bs s2 := e2
  have hlt : ¬ s2.idx < c.len := PC.drop_nil hat2.text
  have hp' : (paren != 0) = true := by simpa using hp
  simp only [exprBody, e1, e2, hp', if_true, hlt, decide_false, Bool.false_and, Bool.false_eq_true,
    if_false]

/-- three units of fuel per character are enough to reach the failure: a group costs three calls
    (`parse_terminal`, `parse_expr`, `parse_branch`) and one character -/
theorem Bad.fails {c : PC} {l : List Nat} {n : Nat} {cl : List Nat} (h : Bad c l n cl) :
    ∀ {f : Nat} {s : PS} {cur : Option Op}, 3 * l.length ≤ f → At c s l n cl →
      parseBranch c (f + 2) s cur = .err .syntax := by
  induction h with
  | quant hq =>
    intro f s cur _ hat
    exact parseBranch_err_terminal hat.text (by rintro rfl; cases hq) (by rintro rfl; cases hq)
      (parseTerminal_quant (by rw [hat.head.2]; exact hq))
  | dangling =>
    intro f s cur _ hat
    refine parseBranch_err_terminal hat.text (by decide) (by decide) ?_
    rw [parseTerminal_esc hat.head.2, escape_dangling hat.text]
  | backref hd =>
    intro f s cur _ hat
    refine parseBranch_err_terminal hat.text (by decide) (by decide) ?_
    rw [parseTerminal_esc hat.head.2, escape_backref_none hat.text hd hat.caps]
  | ncXsd hx =>
    intro f s cur hf hat
    obtain ⟨f, rfl⟩ : ∃ f', f = f' + 1 := ⟨f - 1, by simp only [List.length_cons] at hf; omega⟩
    refine parseBranch_err_terminal hat.text (by decide) (by decide) ?_
    rw [parseTerminal_paren hat.head.2, parseExpr_succ,
      exprOpen_of.2.2 rfl hat.head.2 ((ncAt_iff hat.text).2 ⟨_, rfl⟩), hx]
    rfl
  | quantifier hx hq =>
    intro f s cur _ hat
    obtain ⟨y, tl, rfl, hy⟩ := hq.head
    obtain ⟨_, _, _, _, _, _, _, _, h41, h124, _⟩ := normalChar_ne hx
    rw [parseBranch_at hat.text (by simpa using h124) (by simpa using h41),
      parseTerminal_char_quant hat.text hx hy]
    simp only [hq.fails _ (s := { s with idx := s.idx + 1 }) (PC.drop_cons hat.text).2.2]
  | @unclosed r n cl hok hlim =>
    intro f s cur hf hat
    simp only [List.length_cons] at hf
    obtain ⟨f, rfl⟩ : ∃ f', f = f' + 1 := ⟨f - 1, by omega⟩
    refine parseBranch_err_terminal hat.text (by decide) (by decide) ?_
    rw [parseTerminal_paren hat.head.2, parseExpr_succ, exprOpen_of.2.1 rfl hat.head.2
      (not_ncAt_head hat.text (by simpa using RegExp.head_ne hok (rest := []) (.inl rfl)))]
    exact exprBody_unclosed hok hlim (hat.next _ rfl (by simp only []; rw [hat.parens]) hat.caps)
      (by omega) (by decide)
  | @unclosedNc r n cl hx hok hlim =>
    intro f s cur hf hat
    simp only [List.length_cons] at hf
    obtain ⟨f, rfl⟩ : ∃ f', f = f' + 1 := ⟨f - 1, by omega⟩
    refine parseBranch_err_terminal hat.text (by decide) (by decide) ?_
    rw [parseTerminal_paren hat.head.2, parseExpr_succ,
      exprOpen_of.2.2 rfl hat.head.2 ((ncAt_iff hat.text).2 ⟨_, rfl⟩), hx, if_neg Bool.false_ne_true]
    exact exprBody_unclosed hok hlim
      (At.adv (T := [40, 63, 58]) hat (s' := { s with idx := s.idx + 3 }) rfl hat.parens hat.caps)
      (by omega) (by decide)
  | @inGroup l n cl _ hnc ih =>
    intro f s cur hf hat
    simp only [List.length_cons] at hf
    obtain ⟨f, rfl⟩ : ∃ f', f = f' + 3 := ⟨f - 3, by omega⟩
    refine parseBranch_err_terminal hat.text (by decide) (by decide) ?_
    rw [parseTerminal_paren hat.head.2, parseExpr_succ,
      exprOpen_of.2.1 rfl hat.head.2 (not_ncAt hat.text hnc)]
    exact exprBody_err_branch
      (ih (by omega) (hat.next _ rfl (by simp only []; rw [hat.parens]) hat.caps))

theorem compileCore_err_of_body {env : Env} {fl : CFlags} {pat : List Nat} {opt : Bool} {e : Err}
    (hlit : fl.literal = false)
    (h : exprBody { pat := pat, fl := fl, env := env } (4 * pat.length + 15) 1 0 {} = .err e) :
    compileCore env fl pat opt = .err e := by
  rw [compileCore_eq env fl pat opt hlit,
    show 4 * pat.length + 16 = (4 * pat.length + 15) + 1 from rfl, parseExpr_succ, exprOpen_of.1 (.inl rfl)]
  simp only []
  rw [h]

theorem Bad.compile {env : Env} {fl : CFlags} {pat : List Nat} (hlit : fl.literal = false)
    (h : Bad { pat := pat, fl := fl, env := env } pat 0 []) (opt : Bool) :
    compileCore env fl pat opt = .err .syntax :=
  compileCore_err_of_body hlit (exprBody_err_branch
    (h.fails (f := 4 * pat.length + 13) (by omega) ⟨rfl, Nat.zero_le _, rfl, rfl⟩))

theorem Bad.compile_bar {env : Env} {fl : CFlags} {b : Branch} {l : List Nat}
    (hlit : fl.literal = false) (hok : b.ok fl.xsd env 0 [] = true) (hlim : b.inLimit = true)
    (h : Bad { pat := b.render ++ 124 :: l, fl := fl, env := env } l b.groups (b.closed 0 []))
    (opt : Bool) : compileCore env fl (b.render ++ 124 :: l) opt = .err .syntax := by
  have hlen : (b.render ++ 124 :: l).length = b.render.length + (l.length + 1) := by simp
  obtain ⟨b1, s1, e1, hat1⟩ :=
    (parse_all { pat := b.render ++ 124 :: l, fl := fl, env := env }
      (4 * (b.render ++ 124 :: l).length + 15)).2.2.1 b {} none (124 :: l) 0 [] hok hlim
      ⟨rfl, Nat.zero_le _, rfl, rfl⟩ (.inr ⟨_, .inr rfl⟩) (by omega)
  have hb : parseBranch _ (4 * (b.render ++ 124 :: l).length + 14) { s1 with idx := s1.idx + 1 } none =
      .err .syntax :=
    h.fails (f := 4 * (b.render ++ 124 :: l).length + 12) (by omega)
      (hat1.next _ rfl (by simpa using hat1.parens) hat1.caps)
  apply compileCore_err_of_body hlit
  rw [exprBody, e1]
  simp only []
  rw [show 4 * (b.render ++ 124 :: l).length + 15 = (4 * (b.render ++ 124 :: l).length + 14) + 1
    from rfl, parseBranches, if_pos (by simp [hat1.head.1, hat1.head.2]), hb]

end Rx.Grammar
