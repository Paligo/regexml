/-
  Proofs/ApiRegexLemmas — the four API functions of a regex whose matcher satisfies `FindOKI` (Proofs/ApiContract),
  once for every fragment.  For one input and `r.nullable = false` the three scan functions are total and equal to
  their specification over the state-free span list `spansFrom (r.prog.ctx lower input) r.prog.op (input.length + 2) 0`.
  `RegexOK env fl r` is what the proofs use of a regex returned by `Regex::new`: the gate bit is `is_match ""`,
  `is_match` decides the language on good inputs, and past the gate the matcher satisfies `FindOK` on every good input.
-/
import RxModel.Proofs.ApiGenericLemmas
import RxModel.Props.C16
import RxModel.Props.C01
import RxModel.Props.C03
namespace Rx.ApiGeneric
open Rx Rx.SearchComplete Rx.Spec
open Rx.ApiComplete (GoodInput firstFrom_some firstFrom_none firstFrom_congr OpR_ctx_congr hasCapNode ordered_mem
  le_of_lt_window lt_window)

variable [HeadFn]

theorem firstSpan_hd (ctx : Ctx) (op : Op) (pos j n : Nat) (h : firstSpan ctx op pos = some (j, n)) :
    pos ≤ j ∧ j ≤ ctx.len ∧ HeadFn.hd ctx op j = some n ∧
    ∀ k, pos ≤ k → k < j → HeadFn.hd ctx op k = none := by
  obtain ⟨h1, h2, h3, h4⟩ := firstFrom_some _ _ _ _ _ h
  exact ⟨h1, le_of_lt_window h1 h2, h3, h4⟩

section scan
variable {I : Nat → St → Prop} {J : St → Prop} {r : Regex} {lower : Nat → Nat} {input : List Nat}

theorem FindOKI.head_iff {ctx : Ctx} {pr : Prog} (F : FindOKI I ctx pr) (j : Nat) (hj : j ≤ ctx.len) :
    (HeadFn.hd ctx pr.op j).isSome = true ↔ ∃ q, OpR ctx pr.op j q := by
  obtain ⟨s, t⟩ := F.sem j hj
  cases h : HeadFn.hd ctx pr.op j with
  | none => exact ⟨nofun, fun ⟨q, hq⟩ => absurd hq (t h q)⟩
  | some n => exact ⟨fun _ => ⟨n, s n h⟩, fun _ => rfl⟩

theorem FindOKI.span_sem (F : FindOKI I (r.prog.ctx lower input) r.prog)
    (pos j n : Nat) (hpos : pos ≤ input.length)
    (h : firstSpan (r.prog.ctx lower input) r.prog.op pos = some (j, n)) :
    OpR (r.prog.ctx lower input) r.prog.op j n ∧ j < n ∧
    ∀ k q, pos ≤ k → k < j → ¬ OpR (r.prog.ctx lower input) r.prog.op k q := by
  obtain ⟨_, c2, c3, c4⟩ := firstSpan_hd _ _ _ _ _ h
  refine ⟨(F.sem j c2).1 n c3, ?_, fun k q hk1 hk2 =>
    (F.sem k (Nat.le_trans (Nat.le_of_lt hk2) c2)).2 (c4 k hk1 hk2) q⟩
  rcases F.step pos {} hpos rfl (F.fresh pos) with ⟨_, j', n', _, a3, _, PM, _⟩ | ⟨_, _, _, a3⟩
  · rw [h] at a3
    simp only [Option.some.injEq, Prod.mk.injEq] at a3
    obtain ⟨rfl, rfl⟩ := a3
    exact PM.lt
  · rw [h] at a3; cases a3

theorem FindOKI.spans_ordered (F : FindOKI I (r.prog.ctx lower input) r.prog) :
    C04.Ordered input.length 0 (spansFrom (r.prog.ctx lower input) r.prog.op (input.length + 2) 0) :=
  nextSpans_eq (r.prog.ctx lower input) r.prog.op _ 0 ▸
    F.findSpec.nextSpans_ordered _ 0 {} (Nat.zero_le _) ⟨rfl, F.fresh 0⟩

theorem FindOKI.no_empty_span (F : FindOKI I (r.prog.ctx lower input) r.prog) :
    (∀ x ∈ spansFrom (r.prog.ctx lower input) r.prog.op (input.length + 2) 0, x.1 < x.2 ∧ x.2 ≤ input.length) ∧
    (∀ pos st st', pos ≤ input.length → st.panic = none → I pos st →
      matchesFrom (r.prog.ctx lower input) r.prog pos st = (true, st') →
      ∃ j n, getParenStart st' 0 = some j ∧ getParenEnd st' 0 = some n ∧ pos ≤ j ∧ j < n ∧ n ≤ input.length) := by
  refine ⟨fun x hx => ?_, fun pos st st' hpos hst hI hm => ?_⟩
  · have := ordered_mem _ _ 0 F.spans_ordered x hx
    exact ⟨this.2.1, this.2.2⟩
  · rcases F.step pos st hpos hst hI with ⟨st2, j, n, he, _, a6, PM, _⟩ | ⟨st2, he, _⟩
    · rw [hm] at he
      simp only [Prod.mk.injEq, true_and] at he
      subst he
      exact ⟨j, n, PM.start0, PM.end0, a6, PM.lt, PM.le⟩
    · rw [hm] at he; cases he

theorem FindOKI.scan_spans (F : FindOKI I (r.prog.ctx lower input) r.prog) :
    C04.spanPairs (C04.spansOf (r.prog.matcher lower input) input.length (input.length + 2) 0 {}) =
      spansFrom (r.prog.ctx lower input) r.prog.op (input.length + 2) 0 :=
  (F.findSpec.spansOf_rel _ 0 {} (Nat.zero_le _) ⟨rfl, F.fresh 0⟩).spanPairs_eq.trans (nextSpans_eq _ _ _ 0)

theorem FindOKI.replaceAll_spec (F : FindOKI I (r.prog.ctx lower input) r.prog) (hnull : r.nullable = false)
    (hmp : r.prog.maxParens ≠ 0) (repl : List Nat) (hd : Dep0 (r.prog.maxParens - 1) repl) :
    r.replaceAll lower input repl =
      .ok (replaced input 0 ((spansFrom (r.prog.ctx lower input) r.prog.op (input.length + 2) 0).map
        (fun x => (x.1, x.2, replText r.prog input repl x.1 x.2)))) := by
  -- `simple_replacement` is set only where the replacement is used verbatim
  rw [Regex.replaceAll_run hnull, F.findSpec.replaceLoop_spec (r.prog.subst input repl) r.prog.literal
    (fun y => replText r.prog input repl y.1 y.2.1)
    (fun s => (r.prog.literal = true → s = true) ∧ (s = true → r.prog.literal = true ∨ plainRepl repl = true))
    (fun st' j n _ s PM hQ => subst_post repl hmp hd PM s hQ.1 hQ.2)
    {} ⟨rfl, F.fresh 0⟩ ⟨fun h => h, fun h => .inl h⟩, ← nextSpans_eq, List.map_map]
  rfl

theorem FindOKI.replaceAll_plain (F : FindOKI I (r.prog.ctx lower input) r.prog) (hnull : r.nullable = false)
    (hmp : r.prog.maxParens ≠ 0) (repl : List Nat) (hp : plainRepl repl = true) :
    r.replaceAll lower input repl =
      .ok (joinWith repl (pieces input 0 (spansFrom (r.prog.ctx lower input) r.prog.op (input.length + 2) 0))) := by
  rw [F.replaceAll_spec hnull hmp repl (dep0_of_plain _ repl hp)]
  have ht : ∀ j n, replText r.prog input repl j n = repl := by
    intro j n
    unfold replText
    split
    · rfl
    · rw [C15.expandSpec_plain _ _ _ hp]; rfl
  rw [C04.replaced_const input repl _ 0 (fun x hx => by obtain ⟨y, _, rfl⟩ := List.mem_map.1 hx; exact ht y.1 y.2),
    C04.spanPairs_map_pairs]

/-- `$0`, without flag q -/
theorem FindOKI.replaceAll_dollar0 (F : FindOKI I (r.prog.ctx lower input) r.prog) (hnull : r.nullable = false)
    (hmp : r.prog.maxParens ≠ 0) (hlit : r.prog.literal = false) :
    r.replaceAll lower input [36, 48] = .ok input := by
  rw [F.replaceAll_spec hnull hmp _ (dep0_dollar0 _)]
  have ht : ∀ j n, replText r.prog input [36, 48] j n = slice input j n := by
    intro j n
    unfold replText
    rw [hlit]
    simp only [Bool.false_eq_true, if_false]
    rw [expandSpec_dollar0]; rfl
  rw [C04.replaced_self input input.length _ 0 (by rw [C04.spanPairs_map_pairs]; exact F.spans_ordered)
    (fun x hx => by obtain ⟨y, _, rfl⟩ := List.mem_map.1 hx; exact ht y.1 y.2)]
  rfl

theorem FindOKI.replaceAll_total (F : FindOKI I (r.prog.ctx lower input) r.prog) (hnull : r.nullable = false)
    (repl : List Nat) :
    (∃ out, r.replaceAll lower input repl = .ok out) ∨
    r.replaceAll lower input repl = .err .invalidReplacement := by
  rw [Regex.replaceAll_run hnull]
  exact F.findSpec.replaceWith_total (r.prog.subst input repl) r.prog.literal {} ⟨rfl, F.fresh 0⟩

/-- `hl`: pulled to exhaustion (`tokenize_bound`) -/
theorem FindOKI.tokenize_spec (F : FindOKI I (r.prog.ctx lower input) r.prog) (hnull : r.nullable = false)
    (hne : input ≠ []) (limit : Nat) (hl : input.length + 1 ≤ limit) :
    r.tokenize lower input limit =
      .ok (pieces input 0 (spansFrom (r.prog.ctx lower input) r.prog.op (input.length + 2) 0), false) := by
  rw [Regex.tokenize_run hnull lower input hne, F.findSpec.tokenLoop_spec {} ⟨rfl, F.fresh 0⟩ limit hl]
  exact congrArg (fun L => Out.ok (pieces input 0 L, false)) (nextSpans_eq (r.prog.ctx lower input) r.prog.op _ 0)

theorem FindOKI.tokenize_count (F : FindOKI I (r.prog.ctx lower input) r.prog) :
    (pieces input 0 (spansFrom (r.prog.ctx lower input) r.prog.op (input.length + 2) 0)).length =
      (spansFrom (r.prog.ctx lower input) r.prog.op (input.length + 2) 0).length + 1 ∧
    (spansFrom (r.prog.ctx lower input) r.prog.op (input.length + 2) 0).length ≤ input.length := by
  refine ⟨C04.pieces_length _ _ _, ?_⟩
  exact C04.ordered_length input.length _ 0 (Nat.zero_le _) F.spans_ordered

theorem FindOKI.tokenize_total (F : FindOKI I (r.prog.ctx lower input) r.prog) (hnull : r.nullable = false)
    (limit : Nat) : ∃ toks more, r.tokenize lower input limit = .ok (toks, more) := by
  cases input with
  | nil => exact ⟨_, _, C16.tokenize_empty r lower limit⟩
  | cons a t =>
    rw [Regex.tokenize_run hnull lower _ (List.cons_ne_nil a t)]
    exact F.findSpec.tokenLoop_total {} ⟨rfl, F.fresh 0⟩ limit

theorem FindOKI.tokenize_bound (F : FindOKI I (r.prog.ctx lower input) r.prog) (hnull : r.nullable = false)
    (limit : Nat) (toks : List (List Nat)) (more : Bool) (h : r.tokenize lower input limit = .ok (toks, more)) :
    toks.length ≤ input.length + 1 := by
  cases input with
  | nil =>
    cases (C16.tokenize_empty r lower limit).symm.trans h
    exact Nat.zero_le _
  | cons a t =>
    rw [Regex.tokenize_run hnull lower _ (List.cons_ne_nil a t)] at h
    exact C04.tokenLoop_bound _ F.findSpec.findAt {} ⟨rfl, F.fresh 0⟩ limit toks more h

omit [HeadFn] in
theorem analyze_ok_loop (hnull : r.nullable = false) {limit : Nat} {es : List AEntry} {more : Bool}
    (h : r.analyze lower input limit = .ok (es, more)) :
    ∃ tbl, analyzeLoop (r.prog.matcher lower input) (processMatch tbl) input limit { st := {} } [] =
      .ok (es, more) := by
  rcases Regex.analyze_run hnull lower input limit with ⟨_, _, e⟩ | ⟨tbl, e⟩
  · cases e.symm.trans h
  · exact ⟨tbl, e ▸ h⟩

/-- `hl`: pulled to exhaustion (`analyze_bound`) -/
theorem FindOKI.analyze_loop (F : FindOKI I (r.prog.ctx lower input) r.prog) (hnull : r.nullable = false)
    (limit : Nat) (hl : 2 * input.length + 1 ≤ limit) (es : List AEntry) (more : Bool)
    (h : r.analyze lower input limit = .ok (es, more)) :
    ∃ tbl, es = entries input 0 (C04.espans (processMatch tbl) input
      (C04.spansOf (r.prog.matcher lower input) input.length (input.length + 2) 0 {})) ∧ more = false := by
  obtain ⟨tbl, h⟩ := analyze_ok_loop hnull h
  obtain ⟨h1, h2, -⟩ := C04.analyzeLoop_ok input F.findSpec.findAt (processMatch tbl) {} ⟨rfl, F.fresh 0⟩ limit hl
    es more h
  exact ⟨tbl, h1, h2⟩

theorem FindOKI.analyze_spec (F : FindOKI I (r.prog.ctx lower input) r.prog) (hnull : r.nullable = false)
    (limit : Nat) (hl : 2 * input.length + 1 ≤ limit) (es : List AEntry) (more : Bool)
    (h : r.analyze lower input limit = .ok (es, more)) :
    ∃ L : List (Nat × Nat × List MEntry),
      L.map (fun x => (x.1, x.2.1)) = spansFrom (r.prog.ctx lower input) r.prog.op (input.length + 2) 0 ∧
      es = entries input 0 L ∧ more = false := by
  obtain ⟨tbl, h1, h2⟩ := F.analyze_loop hnull limit hl es more h
  exact ⟨_, (C04.spanPairs_map_spans _ _).trans F.scan_spans, h1, h2⟩

theorem FindOKI.analyze_plain (F : FindOKI I (r.prog.ctx lower input) r.prog) (hnull : r.nullable = false)
    (hnc : hasCapNode r.prog.op = false)
    (limit : Nat) (hl : 2 * input.length + 1 ≤ limit) (es : List AEntry) (more : Bool)
    (h : r.analyze lower input limit = .ok (es, more)) :
    es = entries input 0 ((spansFrom (r.prog.ctx lower input) r.prog.op (input.length + 2) 0).map
      (fun x => (x.1, x.2, [MEntry.str (slice input x.1 x.2)]))) ∧ more = false := by
  obtain ⟨tbl, h1, h2⟩ := F.analyze_loop hnull limit hl es more h
  refine ⟨h1.trans (congrArg (entries input 0) ?_), h2⟩
  rw [C04.espans, (F.findSpec.spansOf_rel _ 0 {} (Nat.zero_le _) ⟨rfl, F.fresh 0⟩).map_eq
    (fun st j n => C04.entryD (processMatch tbl) st (slice input j n))
    (fun y => [MEntry.str (slice input y.1 y.2.1)])
    (fun st j n _ PM => by rw [C04.entryD, C03.processMatch_plain tbl st _ (PM.pc1 hnc)]),
    ← nextSpans_eq, List.map_map]
  rfl

theorem FindOKI.analyze_concat (F : FindOKI I (r.prog.ctx lower input) r.prog) (hnull : r.nullable = false)
    (hnc : hasCapNode r.prog.op = false)
    (limit : Nat) (hl : 2 * input.length + 1 ≤ limit) (es : List AEntry) (more : Bool)
    (h : r.analyze lower input limit = .ok (es, more)) : aTextL es = input := by
  rw [(F.analyze_plain hnull hnc limit hl es more h).1]
  exact C04.entries_text input _ 0 (by rw [C04.spanPairs_map_pairs]; exact F.spans_ordered)
    (fun x hx => by
      obtain ⟨y, _, rfl⟩ := List.mem_map.1 hx
      exact List.append_nil _)

theorem FindOKI.analyze_bound (F : FindOKI I (r.prog.ctx lower input) r.prog) (hnull : r.nullable = false)
    (limit : Nat) (es : List AEntry) (more : Bool) (h : r.analyze lower input limit = .ok (es, more)) :
    es.length ≤ 2 * input.length + 1 := by
  obtain ⟨tbl, h⟩ := analyze_ok_loop hnull h
  exact C04.analyzeLoop_bound input F.findSpec.findAt (processMatch tbl) {} ⟨rfl, F.fresh 0⟩ limit es more h

/-- the two panics are the sites of the group-tree builder (`process_matching_substring`,
    `compute_nesting_table`) -/
theorem FindOKI.analyze_total (F : FindOKI I (r.prog.ctx lower input) r.prog) (hnull : r.nullable = false)
    (limit : Nat) :
    (∃ es more, r.analyze lower input limit = .ok (es, more)) ∨
    r.analyze lower input limit = .panic panicAnalyze ∨
    r.analyze lower input limit = .panic panicNesting := by
  rcases Regex.analyze_run hnull lower input limit with ⟨_, _, e⟩ | ⟨tbl, e⟩
  · exact .inr (.inr e)
  · rw [e]
    rcases F.findSpec.analyzeLoop_total (processMatch tbl) (fun c => c = panicAnalyze)
        (fun st j n _ _ => by
          rcases processMatch_cases tbl st (slice input j n) with h | h
          · exact .inl h
          · exact .inr ⟨_, h, rfl⟩)
        {} ⟨rfl, F.fresh 0⟩ limit with h | ⟨c, h, hc⟩
    · exact .inl h
    · subst hc; exact .inr (.inl h)

theorem FindOKI.analyze_total_plain (F : FindOKI I (r.prog.ctx lower input) r.prog) (hnull : r.nullable = false)
    (hnc : hasCapNode r.prog.op = false)
    (htbl : r.prog.literal = true ∨ (nestingTable r.prog.pattern).isSome = true) (limit : Nat) :
    ∃ es more, r.analyze lower input limit = .ok (es, more) := by
  rcases Regex.analyze_run hnull lower input limit with ⟨hl, hn, _⟩ | ⟨tbl, e⟩
  · rcases htbl with h | h
    · rw [hl] at h; cases h
    · rw [hn] at h; cases h
  · rw [e]
    rcases F.findSpec.analyzeLoop_total (processMatch tbl) (fun _ => False)
        (fun st j n _ PM => .inl ⟨_, C03.processMatch_plain tbl st _ (PM.pc1 hnc)⟩)
        {} ⟨rfl, F.fresh 0⟩ limit with h | ⟨c, _, hc⟩
    · exact h
    · exact hc.elim

end scan

/-- what the API theorems use of a regex of a fragment -/
structure RegexOK (env : Env) (fl : Flags) (r : Regex) : Prop where
  gate : r.prog.isMatch env.lower [] = .ok r.nullable
  maxParens : r.prog.maxParens ≠ 0
  literal : r.prog.literal = fl.literal
  ctx_flags : ∀ (lower : Nat → Nat) (input : List Nat),
    (r.prog.ctx lower input).caseBlind = fl.caseBlind ∧ (r.prog.ctx lower input).multiLine = fl.multiLine
  isMatch_iff : ∀ {input : List Nat}, GoodInput env fl input →
    (r.prog.isMatch env.lower input = .ok true ↔
      ∃ j q, j ≤ input.length ∧ OpR (r.prog.ctx env.lower input) r.prog.op j q) ∧
    ((¬ ∃ j q, j ≤ input.length ∧ OpR (r.prog.ctx env.lower input) r.prog.op j q) →
      r.prog.isMatch env.lower input = .ok false)
  findOK : r.nullable = false → ∀ {input : List Nat}, GoodInput env fl input →
    FindOK (r.prog.ctx env.lower input) r.prog

section regex
variable {env : Env} {fl : Flags} {r : Regex}

/-! ### C16 — regexes that match the empty string are rejected up front, and only those -/

theorem RegexOK.gate_iff (R : RegexOK env fl r) (G0 : GoodInput env fl []) :
    r.nullable = true ↔ ∃ q, OpR (r.prog.ctx env.lower []) r.prog.op 0 q := by
  have hn := R.gate
  obtain ⟨h1, h2⟩ := R.isMatch_iff G0
  constructor
  · intro hnull
    rw [hnull] at hn
    obtain ⟨j, q, hj, hq⟩ := h1.1 hn
    have : j = 0 := by simpa using hj
    subst this
    exact ⟨q, hq⟩
  · rintro ⟨q, hq⟩
    have := h1.2 ⟨0, q, Nat.le_refl _, hq⟩
    rw [hn] at this
    simpa using this

theorem RegexOK.gate_iff_empty (R : RegexOK env fl r) (G0 : GoodInput env fl []) :
    r.nullable = true ↔ OpR (r.prog.ctx env.lower []) r.prog.op 0 0 := by
  rw [R.gate_iff G0]
  constructor
  · rintro ⟨q, hq⟩
    have := (C01.OpR_bounds _ _ 0 q (Nat.zero_le _) hq).2
    have hq0 : q = 0 := by simpa [Ctx.len, Prog.ctx] using this
    subst hq0
    exact hq
  · intro h; exact ⟨0, h⟩

theorem RegexOK.rejected (R : RegexOK env fl r) (G0 : GoodInput env fl [])
    (hempty : ∃ q, OpR (r.prog.ctx env.lower []) r.prog.op 0 q)
    (lower : Nat → Nat) (input repl : List Nat) (limit : Nat) :
    r.replaceAll lower input repl = .err .matchesEmptyString ∧
    r.analyze lower input limit = .err .matchesEmptyString ∧
    (input ≠ [] → r.tokenize lower input limit = .err .matchesEmptyString) ∧
    r.tokenize lower [] limit = .ok ([], false) := by
  have hn := (R.gate_iff G0).2 hempty
  exact ⟨C16.replace_nullable r lower input repl hn, C16.analyze_nullable r lower input limit hn,
    fun hne => C16.tokenize_nullable r lower input limit hn hne, C16.tokenize_empty r lower limit⟩

omit [HeadFn] in
theorem gate_iff_of {α : Type} {x : Out α} {n : Bool} (h1 : n = true → x = .err .matchesEmptyString)
    (h0 : n = false → x ≠ .err .matchesEmptyString) : x = .err .matchesEmptyString ↔ n = true :=
  ⟨fun h => by
    cases hn : n with
    | true => rfl
    | false => exact absurd h (h0 hn), h1⟩

theorem RegexOK.replaceAll_gate_iff (R : RegexOK env fl r) (G0 : GoodInput env fl [])
    (lower : Nat → Nat) (input repl : List Nat) :
    r.replaceAll lower input repl = .err .matchesEmptyString ↔
      ∃ q, OpR (r.prog.ctx env.lower []) r.prog.op 0 q :=
  (gate_iff_of (C16.replace_nullable r lower input repl) (C16.replace_not_nullable r lower input repl)).trans
    (R.gate_iff G0)

theorem RegexOK.analyze_gate_iff (R : RegexOK env fl r) (G0 : GoodInput env fl [])
    (lower : Nat → Nat) (input : List Nat) (limit : Nat) :
    r.analyze lower input limit = .err .matchesEmptyString ↔
      ∃ q, OpR (r.prog.ctx env.lower []) r.prog.op 0 q :=
  (gate_iff_of (C16.analyze_nullable r lower input limit) (C16.analyze_not_nullable r lower input limit)).trans
    (R.gate_iff G0)

theorem RegexOK.tokenize_gate_iff (R : RegexOK env fl r) (G0 : GoodInput env fl [])
    (lower : Nat → Nat) (input : List Nat) (limit : Nat) (hne : input ≠ []) :
    r.tokenize lower input limit = .err .matchesEmptyString ↔
      ∃ q, OpR (r.prog.ctx env.lower []) r.prog.op 0 q :=
  (gate_iff_of (fun hn => C16.tokenize_nullable r lower input limit hn hne)
    (C16.tokenize_not_nullable r lower input limit)).trans (R.gate_iff G0)

theorem RegexOK.only_those (R : RegexOK env fl r) (G0 : GoodInput env fl [])
    (hnot : ¬ ∃ q, OpR (r.prog.ctx env.lower []) r.prog.op 0 q)
    (lower : Nat → Nat) (input repl : List Nat) (limit : Nat) :
    r.replaceAll lower input repl ≠ .err .matchesEmptyString ∧
    r.analyze lower input limit ≠ .err .matchesEmptyString ∧
    r.tokenize lower input limit ≠ .err .matchesEmptyString := by
  have hn : r.nullable = false := by
    cases h : r.nullable with
    | false => rfl
    | true => exact absurd ((R.gate_iff G0).1 h) hnot
  exact ⟨C16.replace_not_nullable r lower input repl hn, C16.analyze_not_nullable r lower input limit hn,
    C16.tokenize_not_nullable r lower input limit hn⟩

/-! ### C20 — two regexes with the same language -/

section spellings
variable {r1 r2 : Regex}

/-- language equality of the two trees (in every context, as the laws of Props/C20 provide it), moved
    to the two programs' own contexts (which may differ in the number of groups) -/
theorem RegexOK.lang_transfer (R1 : RegexOK env fl r1) (R2 : RegexOK env fl r2)
    (hlang : ∀ ctx p q, OpR ctx r1.prog.op p q ↔ OpR ctx r2.prog.op p q)
    (lower : Nat → Nat) (input : List Nat) (p q : Nat) :
    OpR (r1.prog.ctx lower input) r1.prog.op p q ↔ OpR (r2.prog.ctx lower input) r2.prog.op p q := by
  obtain ⟨a1, a2⟩ := R1.ctx_flags lower input
  obtain ⟨b1, b2⟩ := R2.ctx_flags lower input
  exact (hlang _ p q).trans
    (OpR_ctx_congr (r1.prog.ctx lower input) (r2.prog.ctx lower input) rfl (a1.trans b1.symm)
      (a2.trans b2.symm) rfl r2.prog.op p q)

theorem RegexOK.same_language (R1 : RegexOK env fl r1) (R2 : RegexOK env fl r2)
    (hlang : ∀ ctx p q, OpR ctx r1.prog.op p q ↔ OpR ctx r2.prog.op p q)
    {input : List Nat} (G : GoodInput env fl input) :
    r1.nullable = r2.nullable ∧
    r1.prog.isMatch env.lower input = r2.prog.isMatch env.lower input ∧
    (r1.nullable = false → ∀ pos, pos ≤ input.length →
      (firstSpan (r1.prog.ctx env.lower input) r1.prog.op pos).map (·.1) =
      (firstSpan (r2.prog.ctx env.lower input) r2.prog.op pos).map (·.1)) := by
  have hn : r1.nullable = r2.nullable := by
    rw [Bool.eq_iff_iff, R1.gate_iff G.nil, R2.gate_iff G.nil]
    constructor
    · rintro ⟨q, hq⟩; exact ⟨q, (R1.lang_transfer R2 hlang _ _ 0 q).1 hq⟩
    · rintro ⟨q, hq⟩; exact ⟨q, (R1.lang_transfer R2 hlang _ _ 0 q).2 hq⟩
  refine ⟨hn, ?_, ?_⟩
  · obtain ⟨a1, a2⟩ := R1.isMatch_iff G
    obtain ⟨b1, b2⟩ := R2.isMatch_iff G
    by_cases h : ∃ j q, j ≤ input.length ∧ OpR (r1.prog.ctx env.lower input) r1.prog.op j q
    · rw [a1.2 h]
      obtain ⟨j, q, hj, hq⟩ := h
      rw [b1.2 ⟨j, q, hj, (R1.lang_transfer R2 hlang _ _ j q).1 hq⟩]
    · rw [a2 h]
      rw [b2 (fun ⟨j, q, hj, hq⟩ => h ⟨j, q, hj, (R1.lang_transfer R2 hlang _ _ j q).2 hq⟩)]
  · intro hn1 pos hpos
    -- the two heads are defined at the same starts
    exact ApiComplete.firstFrom_start_congr _ _ _ _ (fun k hk1 hk2 => by
      have hk : k ≤ input.length := le_of_lt_window hk1 hk2
      rw [Bool.eq_iff_iff, (R1.findOK hn1 G).head_iff k hk, (R2.findOK (hn ▸ hn1) G).head_iff k hk]
      exact exists_congr (fun q => R1.lang_transfer R2 hlang _ _ k q))

theorem spansFrom_congr (ctx ctx' : Ctx) (o o' : Op) (hlen : ctx.len = ctx'.len)
    (h : ∀ pos, firstSpan ctx o pos = firstSpan ctx' o' pos) :
    ∀ (f pos : Nat), spansFrom ctx o f pos = spansFrom ctx' o' f pos := by
  intro f
  induction f with
  | zero => intro pos; rfl
  | succ f ih =>
    intro pos
    rw [spansFrom, spansFrom, hlen, h pos]
    split
    · split
      · rw [ih]
      · rfl
    · rfl

theorem same_spans_of_heads (lower : Nat → Nat) (input : List Nat)
    (hheads : ∀ j, j ≤ input.length →
      HeadFn.hd (r1.prog.ctx lower input) r1.prog.op j = HeadFn.hd (r2.prog.ctx lower input) r2.prog.op j) :
    spansFrom (r1.prog.ctx lower input) r1.prog.op (input.length + 2) 0 =
      spansFrom (r2.prog.ctx lower input) r2.prog.op (input.length + 2) 0 := by
  refine spansFrom_congr (r1.prog.ctx lower input) (r2.prog.ctx lower input) r1.prog.op r2.prog.op rfl
    (fun pos => ?_) _ _
  unfold firstSpan
  have hl1 : (r1.prog.ctx lower input).len = input.length := rfl
  have hl2 : (r2.prog.ctx lower input).len = input.length := rfl
  rw [hl1, hl2]
  exact firstFrom_congr _ _ _ _ (fun k hk1 hk2 => hheads k (le_of_lt_window hk1 hk2))

/-- with at most one end from every start there is nothing for ordered choice to prefer -/
theorem RegexOK.heads_of_unique (R1 : RegexOK env fl r1) (R2 : RegexOK env fl r2) (hn1 : r1.nullable = false)
    (hlang : ∀ ctx p q, OpR ctx r1.prog.op p q ↔ OpR ctx r2.prog.op p q)
    {input : List Nat} (G : GoodInput env fl input)
    (huniq : ∀ j q q', OpR (r1.prog.ctx env.lower input) r1.prog.op j q →
      OpR (r1.prog.ctx env.lower input) r1.prog.op j q' → q = q') :
    ∀ j, j ≤ input.length →
      HeadFn.hd (r1.prog.ctx env.lower input) r1.prog.op j =
      HeadFn.hd (r2.prog.ctx env.lower input) r2.prog.op j := by
  have hn := (R1.same_language R2 hlang G).1
  intro j hj
  obtain ⟨s1, t1⟩ := (R1.findOK hn1 G).sem j hj
  obtain ⟨s2, t2⟩ := (R2.findOK (hn ▸ hn1) G).sem j hj
  cases e1 : HeadFn.hd (r1.prog.ctx env.lower input) r1.prog.op j with
  | none =>
    cases e2 : HeadFn.hd (r2.prog.ctx env.lower input) r2.prog.op j with
    | none => rfl
    | some n2 => exact absurd ((R1.lang_transfer R2 hlang _ _ j n2).2 (s2 n2 e2)) (t1 e1 n2)
  | some n1 =>
    cases e2 : HeadFn.hd (r2.prog.ctx env.lower input) r2.prog.op j with
    | none => exact absurd ((R1.lang_transfer R2 hlang _ _ j n1).1 (s1 n1 e1)) (t2 e2 n1)
    | some n2 => rw [huniq j n1 n2 (s1 n1 e1) ((R1.lang_transfer R2 hlang _ _ j n2).2 (s2 n2 e2))]

end spellings

/-! ### C06 — the four API functions are total -/

theorem RegexOK.isMatch_total (R : RegexOK env fl r) {input : List Nat} (G : GoodInput env fl input) :
    ∃ b, r.prog.isMatch env.lower input = .ok b := by
  obtain ⟨h1, h2⟩ := R.isMatch_iff G
  by_cases h : ∃ j q, j ≤ input.length ∧ OpR (r.prog.ctx env.lower input) r.prog.op j q
  · exact ⟨true, h1.2 h⟩
  · exact ⟨false, h2 h⟩

theorem RegexOK.replaceAll_total (R : RegexOK env fl r) {input : List Nat} (G : GoodInput env fl input)
    (repl : List Nat) :
    (∃ out, r.replaceAll env.lower input repl = .ok out) ∨
    r.replaceAll env.lower input repl = .err .invalidReplacement ∨
    r.replaceAll env.lower input repl = .err .matchesEmptyString := by
  cases hnull : r.nullable with
  | true => exact .inr (.inr (C16.replace_nullable r _ _ _ hnull))
  | false =>
    rcases (R.findOK hnull G).replaceAll_total hnull repl with h | h
    · exact .inl h
    · exact .inr (.inl h)

theorem RegexOK.tokenize_total (R : RegexOK env fl r) {input : List Nat} (G : GoodInput env fl input)
    (limit : Nat) :
    (∃ toks more, r.tokenize env.lower input limit = .ok (toks, more)) ∨
    r.tokenize env.lower input limit = .err .matchesEmptyString := by
  cases hnull : r.nullable with
  | true =>
    cases input with
    | nil => exact .inl ⟨_, _, C16.tokenize_empty r _ limit⟩
    | cons a t => exact .inr (C16.tokenize_nullable r _ _ limit hnull (List.cons_ne_nil a t))
  | false => exact .inl ((R.findOK hnull G).tokenize_total hnull limit)

theorem RegexOK.analyze_total (R : RegexOK env fl r) {input : List Nat} (G : GoodInput env fl input)
    (limit : Nat) :
    (∃ es more, r.analyze env.lower input limit = .ok (es, more)) ∨
    r.analyze env.lower input limit = .err .matchesEmptyString ∨
    r.analyze env.lower input limit = .panic panicAnalyze ∨
    r.analyze env.lower input limit = .panic panicNesting := by
  cases hnull : r.nullable with
  | true => exact .inr (.inl (C16.analyze_nullable r _ _ _ hnull))
  | false =>
    rcases (R.findOK hnull G).analyze_total hnull limit with h | h | h
    · exact .inl h
    · exact .inr (.inr (.inl h))
    · exact .inr (.inr (.inr h))

end regex

end Rx.ApiGeneric
