/-
  Proofs/GrammarInvLemmas — inversion of the parser: whatever `parseExpr` / `parseBranches` /
  `parseBranch` / `parseTerminal` accept is the rendering of a well-formed tree of Spec/Grammar, and
  the operation tree returned nests its capture nodes as the syntactic nesting table (`Atom.tbl` …)
  of that tree says (`tblD`).  One induction on the fuel (`parse_inv_all`, any fuel).  The class parser
  enters through the hypothesis `ClassInv`.
-/
import RxModel.Spec.Grammar
import RxModel.Proofs.GrammarLemmas
import RxModel.Proofs.ParserWalk
import RxModel.Proofs.TreeInv
namespace Rx.Grammar
open Rx

/-- the parser went from `s` to `s'` over the text `txt`, opening `g` groups, ending with the closed
    groups `cl'`: the form for inversion, where the text is found and not given.  `At` before
    `txt ++ rest` in `s` and before `rest` in `s'` say the same (`At.idx`); the
    `(c.pat.drop s.idx).take (s'.idx - s.idx) = txt` of Props/C07c and C09d is `text` cut off at `idx`
    (`C07c.span_iff_take`) -/
structure Span (c : PC) (s s' : PS) (txt : List Nat) (g : Nat) (cl' : List Nat) : Prop where
  text : c.pat.drop s.idx = txt ++ c.pat.drop s'.idx
  idx : s'.idx = s.idx + txt.length
  parens : s'.parens = s.parens + g
  caps : s'.captures = cl'

theorem Span.le_len {c : PC} {s s' : PS} {txt : List Nat} {g : Nat} {cl' : List Nat}
    (h : Span c s s' txt g cl') (hs : s.idx ≤ c.len) : s'.idx ≤ c.len := by
  have h1 := congrArg List.length h.text
  simp only [List.length_drop, List.length_append] at h1
  have := h.idx
  simp only [PC.len] at *
  omega

theorem Span.refl (c : PC) (s : PS) : Span c s s [] 0 s.captures :=
  ⟨by simp, by simp, rfl, rfl⟩

theorem Span.trans {c : PC} {s s1 s2 : PS} {t1 t2 : List Nat} {g1 g2 : Nat} {cl1 cl2 : List Nat}
    (h1 : Span c s s1 t1 g1 cl1) (h2 : Span c s1 s2 t2 g2 cl2) :
    Span c s s2 (t1 ++ t2) (g1 + g2) cl2 :=
  ⟨by rw [h1.text, h2.text, List.append_assoc],
   by rw [h2.idx, h1.idx, List.length_append]; omega,
   by rw [h2.parens, h1.parens]; omega, h2.caps⟩

theorem Span.char {c : PC} {s : PS} {x : Nat} (hlt : s.idx < c.len) (hx : c.at s.idx = x) (k : Nat)
    (cl : List Nat) :
    Span c s { s with idx := s.idx + 1, parens := s.parens + k, captures := cl } [x] k cl :=
  ⟨by rw [PC.drop_at hlt, hx]; rfl, rfl, rfl, rfl⟩

theorem Span.congr {c : PC} {s s' : PS} {t t' : List Nat} {g g' : Nat} {cl cl' : List Nat}
    (h : Span c s s' t g cl) (ht : t = t') (hg : g = g') (hcl : cl = cl') : Span c s s' t' g' cl' := by
  subst ht hg hcl; exact h

theorem quantHead_inv (c : PC) (s : PS) (hasQ : Bool) (s1 : PS) (hlt : s.idx < c.len)
    (h : quantHead c s = .ok hasQ s1) :
    (hasQ = false ∧ s1 = s ∧ isQuantChar (c.at s.idx) = false) ∨
    (hasQ = true ∧ ∃ k : QKind, k.ok = true ∧ k.inLimit = true ∧
      c.pat.drop s.idx = k.render ++ c.pat.drop s1.idx ∧ s1.idx = s.idx + k.render.length ∧
      s1.parens = s.parens ∧ s1.captures = s.captures) := by
  rcases quantHead_ok h with h0 | ⟨hq, h1, rfl⟩ | ⟨hq, _, hb⟩
  · exact .inl h0
  · refine .inr ⟨hq, ?_⟩
    rcases h1 with h1 | h1 | h1
    · exact ⟨.opt, rfl, rfl, by rw [PC.drop_at hlt, h1]; rfl, rfl, rfl, rfl⟩
    · exact ⟨.star, rfl, rfl, by rw [PC.drop_at hlt, h1]; rfl, rfl, rfl, rfl⟩
    · exact ⟨.plus, rfl, rfl, by rw [PC.drop_at hlt, h1]; rfl, rfl, rfl, rfl⟩
  · obtain ⟨k, k1, k2, _, k3, rfl⟩ := bracket_ok hb
    exact .inr ⟨hq, k, k1, k2, k3, rfl, rfl, rfl⟩

theorem pieceQuant_inv (c : PC) (ret : Op) (s : PS) (op : Op) (s' : PS) (hs : s.idx ≤ c.len)
    (h : pieceQuant c ret s = .ok op s') :
    ∃ q : Option Quant, qOk c.fl.xsd q = true ∧ qInLimit q = true ∧
      Span c s s' (qRender q) 0 s.captures := by
  rcases pieceQuant_res h with ⟨_, _, rfl⟩ | ⟨hlt, hasQ, s1, hq, hx, _, rfl⟩
  · exact ⟨none, rfl, rfl, Span.refl c s'⟩
  rcases quantHead_inv c s hasQ s1 hlt hq with ⟨rfl, rfl, hnq⟩ | ⟨rfl, k, k1, k2, k3, k4, k5, k6⟩
  · have hrel : relAt c s1 = false := by
      rw [isQuantChar_false] at hnq
      simp [relAt, hnq.2.1]
    rw [hrel]
    exact ⟨none, rfl, rfl, Span.refl c s1⟩
  · cases hrel : relAt c s1 with
    | false =>
      refine ⟨some ⟨k, false⟩, ?_, k2, ?_⟩
      · simp [qOk, Quant.ok, k1]
      · simp only [Bool.false_eq_true, if_false]
        exact ⟨by simpa [qRender, Quant.render] using k3,
          by simpa [qRender, Quant.render] using k4, by simpa using k5, k6⟩
    | true =>
      have hxsd : c.fl.xsd = false := by rw [hrel] at hx; simpa using hx
      simp only [relAt, Bool.and_eq_true, decide_eq_true_eq, beq_iff_eq] at hrel
      refine ⟨some ⟨k, true⟩, ?_, k2, ?_⟩
      · simp [qOk, Quant.ok, k1, hxsd]
      · simp only [if_true]
        refine ⟨?_, ?_, by simpa using k5, k6⟩
        · simp only [qRender, Quant.render, if_true, List.append_assoc]
          rw [k3, PC.drop_at hrel.1, hrel.2]; rfl
        · simp only [qRender, Quant.render, if_true, List.length_append, List.length_cons,
            List.length_nil]
          omega

def renderAtoms : List Atom → List Nat
  | [] => []
  | a :: as => a.render ++ renderAtoms as

def CharAtoms (xsd : Bool) (env : Env) (L : List Atom) : Prop :=
  ∀ a ∈ L, a.isChar = true ∧ a.ok xsd env 0 [] = true

def consChars (L : List Atom) (b : Branch) : Branch := L.foldr (fun a b => .cons a none b) b

theorem isChar_ok_any {xsd : Bool} {env : Env} {a : Atom} (h : a.isChar = true) (n : Nat)
    (cl : List Nat) : a.ok xsd env n cl = a.ok xsd env 0 [] := by
  cases a <;> first | rfl | cases h

theorem consChars_render (L : List Atom) (b : Branch) :
    (consChars L b).render = renderAtoms L ++ b.render := by
  induction L with
  | nil => rfl
  | cons a as ih =>
    simp only [consChars, List.foldr_cons] at ih ⊢
    simp only [Branch.render, qRender, List.nil_append, renderAtoms, ih, List.append_assoc]

theorem consChars_facts {xsd : Bool} {env : Env} (L : List Atom) (hL : CharAtoms xsd env L)
    (b : Branch) (n : Nat) (cl : List Nat) :
    (consChars L b).ok xsd env n cl = b.ok xsd env n cl ∧ (consChars L b).groups = b.groups ∧
      (consChars L b).closed n cl = b.closed n cl ∧ (consChars L b).inLimit = b.inLimit := by
  induction L with
  | nil => exact ⟨rfl, rfl, rfl, rfl⟩
  | cons a as ih =>
    have ha := hL a (List.mem_cons_self ..)
    obtain ⟨i1, i2, i3, i4⟩ := ih (fun x hx => hL x (List.mem_cons_of_mem _ hx))
    obtain ⟨hg, hcl⟩ := isChar_facts ha.1 n cl
    have hch := ha.1
    have hlim : a.inLimit = true := by cases a <;> first | rfl | cases hch
    have hfol : ∀ X, a.followOk n X = true := by
      intro X; cases a <;> first | rfl | cases hch
    simp only [consChars, List.foldr_cons] at i1 i2 i3 i4 ⊢
    refine ⟨?_, ?_, ?_, ?_⟩
    · simp only [Branch.ok, isChar_ok_any ha.1, ha.2, qOk, hfol, hg, hcl, Nat.add_zero, i1,
        Bool.true_and]
    · simp only [Branch.groups, hg, i2, Nat.zero_add]
    · simp only [Branch.closed, hg, hcl, Nat.add_zero, i3]
    · simp only [Branch.inLimit, hlim, qInLimit, i4, Bool.true_and]

theorem Span.afterLook {c : PC} {s s0 : PS} (h : AfterLook c s s0) : Span c s s0 [] 0 s.captures := by
  rcases h with rfl | ⟨_, rfl⟩
  · exact Span.refl c _
  · exact ⟨by simp, by simp, rfl, rfl⟩

theorem CharAtoms.nil {xsd : Bool} {env : Env} : CharAtoms xsd env [] := fun _ h => by cases h

theorem CharAtoms.cons {xsd : Bool} {env : Env} {a : Atom} {L : List Atom} (h1 : a.isChar = true)
    (h2 : a.ok xsd env 0 [] = true) (hL : CharAtoms xsd env L) : CharAtoms xsd env (a :: L) := by
  intro x hx
  rcases List.mem_cons.1 hx with rfl | hx
  · exact ⟨h1, h2⟩
  · exact hL x hx

theorem parseAtomGo_inv (c : PC) : ∀ (f : Nat) (s : PS) (ub ub' : List Nat) (s' : PS),
    parseAtomGo c f s ub = .ok ub' s' →
    ∃ L, CharAtoms c.fl.xsd c.env L ∧ Span c s s' (renderAtoms L) 0 s.captures ∧
      ub'.length = ub.length + L.length := by
  intro f
  induction f with
  | zero =>
    intro s ub ub' s' h
    rw [parseAtomGo] at h
    simp only [PRes.ok.injEq] at h
    obtain ⟨rfl, rfl⟩ := h
    exact ⟨[], CharAtoms.nil, Span.refl c s, rfl⟩
  | succ f ih =>
    intro s ub ub' s' h
    have hit := parseAtomGo_iter c f s ub
    rw [h] at hit
    generalize hr : PRes.ok ub' s' = r at hit
    -- one more atom `a` from `s` to `s1`, then the rest of the run
    have step : ∀ (a : Atom) (s1 : PS) (x : Nat), a.isChar = true → a.ok c.fl.xsd c.env 0 [] = true →
        Span c s s1 a.render 0 s.captures → PRes.ok ub' s' = parseAtomGo c f s1 (ub ++ [x]) →
        ∃ L, CharAtoms c.fl.xsd c.env L ∧ Span c s s' (renderAtoms L) 0 s.captures ∧
          ub'.length = ub.length + L.length := by
      intro a s1 x a1 a2 a3 a4
      obtain ⟨L, l1, l2, l3⟩ := ih s1 _ _ _ a4.symm
      refine ⟨a :: L, CharAtoms.cons a1 a2 l1, ?_, by rw [l3]; simp; omega⟩
      have := Span.trans a3 (a3.caps ▸ l2)
      simpa [renderAtoms] using this
    cases hit with
    | stop h0 =>
      injection hr with h1 h2
      subst h1 h2
      exact ⟨[], CharAtoms.nil, Span.afterLook h0, rfl⟩
    | syn => cases hr
    | char hlt hch =>
      have hok : (Atom.chr (c.at s.idx)).ok c.fl.xsd c.env 0 [] = true := by
        rw [Atom.ok]; exact hch
      exact step (.chr (c.at s.idx)) { s with idx := s.idx + 1 } _ rfl hok
        ⟨PC.drop_at hlt, rfl, rfl, rfl⟩ hr
    | @esc s0 s1 x h0 he =>
      have h1 := Span.afterLook h0
      cases escape_inv he with
      | single e ht hok =>
        have h2 : Span c s0 { s0 with idx := s0.idx + 2 } (Atom.esc e).render 0 s.captures :=
          ⟨ht, rfl, rfl, h1.caps⟩
        exact step (.esc e) _ _ rfl hok (by simpa using Span.trans h1 h2) hr

theorem renderAtoms_append (L1 L2 : List Atom) :
    renderAtoms (L1 ++ L2) = renderAtoms L1 ++ renderAtoms L2 := by
  induction L1 with
  | nil => rfl
  | cons a as ih => simp only [List.cons_append, renderAtoms, ih, List.append_assoc]

theorem exists_snoc {α : Type} : ∀ (L : List α), L ≠ [] → ∃ front a, L = front ++ [a]
  | [], h => absurd rfl h
  | [a], _ => ⟨[], a, rfl⟩
  | a :: b :: t, _ => by
    obtain ⟨front, x, hx⟩ := exists_snoc (b :: t) (by simp)
    exact ⟨a :: front, x, by rw [hx]; rfl⟩

theorem parseAtom_inv {c : PC} {s : PS} {op : Op} {s' : PS} (h : parseAtom c s = .ok op s') :
    ∃ (front : List Atom) (a : Atom), CharAtoms c.fl.xsd c.env front ∧ a.isChar = true ∧
      a.ok c.fl.xsd c.env 0 [] = true ∧ Span c s s' (renderAtoms front ++ a.render) 0 s.captures := by
  unfold parseAtom at h
  cases hg : parseAtomGo c (c.len + 2) s [] with
  | err e => rw [hg] at h; cases h
  | ok ub s1 =>
    rw [hg] at h
    simp only [] at h
    by_cases he : ub.isEmpty = true
    · rw [if_pos he] at h; cases h
    rw [if_neg he] at h
    simp only [PRes.ok.injEq] at h
    obtain ⟨_, rfl⟩ := h
    obtain ⟨L, l1, l2, l3⟩ := parseAtomGo_inv c _ _ _ _ _ hg
    have hne : L ≠ [] := by
      intro hL; subst hL
      simp only [List.length_nil, Nat.add_zero] at l3
      have : ub = [] := List.length_eq_zero_iff.1 l3
      subst this; exact he rfl
    obtain ⟨front, a, rfl⟩ := exists_snoc L hne
    refine ⟨front, a, fun x hx => l1 x (List.mem_append_left _ hx), (l1 a (by simp)).1,
      (l1 a (by simp)).2, ?_⟩
    simpa [renderAtoms_append, renderAtoms] using l2

/-- INVERSION OF THE CLASS PARSER (a hypothesis here; proved for patterns of scalar values in
    Props/C07d, `classInv_of_scalar`): whatever `parse_character_class` accepts is the rendering of a
    well-formed class expression -/
def ClassInv (c : PC) : Prop :=
  ∀ fuel s R s', parseClass c fuel s = .ok R s' →
    ∃ e : C09.CExpr, e.ok c.fl.xsd c.env = true ∧
      (c.pat.drop s.idx).take (s'.idx - s.idx) = e.render ∧ s.idx < s'.idx ∧ s'.idx ≤ c.len

theorem ClassInv.span {c : PC} (hcls : ClassInv c) {fuel : Nat} {s : PS} {R : Ranges} {s' : PS}
    (h : parseClass c fuel s = .ok R s') :
    ∃ e : C09.CExpr, e.ok c.fl.xsd c.env = true ∧ Span c s s' e.render 0 s.captures := by
  obtain ⟨e, e1, e2, e3, e4⟩ := hcls fuel s R s' h
  have hfr := (parseClass_ok h).1
  refine ⟨e, e1, ?_, ?_, by rw [hfr]; rfl, by rw [hfr]⟩
  · have := (List.take_append_drop (s'.idx - s.idx) (c.pat.drop s.idx)).symm
    rw [e2, List.drop_drop] at this
    rw [this]
    congr 2
    omega
  · have := congrArg List.length e2
    simp only [PC.len] at e4
    rw [List.length_take, List.length_drop, Nat.min_eq_left (Nat.sub_le_sub_right e4 _)] at this
    omega

theorem classInv_of_no_bracket (c : PC) (h : 91 ∉ c.pat) : ClassInv c := by
  intro fuel s R s' hp
  have hat := parseClass_at hp
  exact absurd (hat ▸ PC.at_mem (PC.lt_of_at_ne_zero (by rw [hat]; decide))) h

/- the table after the tree: `par` = innermost enclosing capturing group (0 at top level),
   `n` = capturing groups opened to the left, `t` = the table so far (latest group first) -/
mutual
def Atom.tbl (par n : Nat) (t : List (Nat × Nat)) : Atom → List (Nat × Nat)
  | .group r => r.tbl (n + 1) (n + 1) ((n + 1, par) :: t)
  | .ncgroup r => r.tbl par n t
  | _ => t
def Branch.tbl (par n : Nat) (t : List (Nat × Nat)) : Branch → List (Nat × Nat)
  | .nil => t
  | .cons a _ b => b.tbl par (n + a.groups) (a.tbl par n t)
def RegExp.tbl (par n : Nat) (t : List (Nat × Nat)) : RegExp → List (Nat × Nat)
  | .one b => b.tbl par n t
  | .alt b r => r.tbl par (n + b.groups) (b.tbl par n t)
end

mutual
theorem Atom.tbl_append (par n : Nat) (t : List (Nat × Nat)) : (a : Atom) →
    a.tbl par n t = a.tbl par n [] ++ t
  | .group r => by
    simp only [Atom.tbl]
    rw [RegExp.tbl_append (n + 1) (n + 1) ((n + 1, par) :: t) r,
      RegExp.tbl_append (n + 1) (n + 1) [(n + 1, par)] r]
    simp
  | .ncgroup r => by simp only [Atom.tbl]; exact RegExp.tbl_append par n t r
  | .chr _ | .dot | .bol | .eol | .esc _ | .clsEsc _ | .prop _ _ | .backref _ | .cls _ => by
    simp only [Atom.tbl, List.nil_append]
termination_by structural a => a
theorem Branch.tbl_append (par n : Nat) (t : List (Nat × Nat)) : (b : Branch) →
    b.tbl par n t = b.tbl par n [] ++ t
  | .nil => by simp only [Branch.tbl, List.nil_append]
  | .cons a q b => by
    simp only [Branch.tbl]
    rw [Branch.tbl_append par (n + a.groups) (a.tbl par n t) b,
      Branch.tbl_append par (n + a.groups) (a.tbl par n []) b, Atom.tbl_append par n t a]
    simp
termination_by structural b => b
theorem RegExp.tbl_append (par n : Nat) (t : List (Nat × Nat)) : (r : RegExp) →
    r.tbl par n t = r.tbl par n [] ++ t
  | .one b => by simp only [RegExp.tbl]; exact Branch.tbl_append par n t b
  | .alt b r => by
    simp only [RegExp.tbl]
    rw [RegExp.tbl_append par (n + b.groups) (b.tbl par n t) r,
      RegExp.tbl_append par (n + b.groups) (b.tbl par n []) r, Branch.tbl_append par n t b]
    simp
termination_by structural r => r
end

def Agree (T : List (Nat × Nat)) (L : List (Nat × Nat)) : Prop :=
  ∀ p ∈ L, lookupNat T p.1 = some p.2

theorem Agree.append {T L1 L2 : List (Nat × Nat)} (h : Agree T (L1 ++ L2)) : Agree T L1 ∧ Agree T L2 :=
  ⟨fun p hp => h p (List.mem_append_left _ hp), fun p hp => h p (List.mem_append_right _ hp)⟩

theorem consChars_tbl {xsd : Bool} {env : Env} (L : List Atom) (hL : CharAtoms xsd env L) (b : Branch)
    (par n : Nat) (t : List (Nat × Nat)) : (consChars L b).tbl par n t = b.tbl par n t := by
  induction L generalizing t with
  | nil => rfl
  | cons a as ih =>
    have ha := hL a (List.mem_cons_self ..)
    have hch := ha.1
    have hg : a.groups = 0 ∧ ∀ t, a.tbl par n t = t := by
      cases a <;> first | exact ⟨rfl, fun _ => rfl⟩ | cases hch
    have := ih (fun x hx => hL x (List.mem_cons_of_mem _ hx)) t
    simp only [consChars, List.foldr_cons] at this ⊢
    simp only [Branch.tbl, hg.1, hg.2, Nat.add_zero, this]

mutual
/-- `tblD T op par`: the table `T` answers, for EVERY capture node of `op` — D for "deep": also below
    alternations and repeats, which do not change the enclosing group, where `tblOK` (Proofs/C03cTree)
    does not look — the group that encloses it; `par` is the group enclosing `op` itself -/
def tblD (T : List (Nat × Nat)) : Op → Nat → Bool
  | .capture g c, par => (lookupNat T g == some par) && tblD T c g
  | .seq ops, par => tblDL T ops par
  | .choice bs, par => tblDL T bs par
  | .rep _ c _ _ _, par => tblD T c par
  | .gfixed c _ _ _, par => tblD T c par
  | .rfixed c _ _ _, par => tblD T c par
  | .unamb c _ _, par => tblD T c par
  | _, _ => true
termination_by structural o => o
def tblDL (T : List (Nat × Nat)) : List Op → Nat → Bool
  | [], _ => true
  | o :: os, par => tblD T o par && tblDL T os par
termination_by structural l => l
end

/-- table-preserving: `op` has no capture node that `ret` has not, under the same parent -/
def TP (ret op : Op) : Prop := ∀ (T : List (Nat × Nat)) (par : Nat), tblD T ret par = true → tblD T op par = true

theorem TP.refl (ret : Op) : TP ret ret := fun _ _ h => h
theorem TP.nothing (ret : Op) : TP ret .nothing := fun _ _ _ => rfl
theorem TP.gfixed {ret p : Op} (mn mx l : Nat) (hp : TP ret p) : TP ret (.gfixed p mn mx l) :=
  fun T par h => by simp only [tblD]; exact hp T par h
theorem TP.rfixed {ret p : Op} (mn mx l : Nat) (hp : TP ret p) : TP ret (.rfixed p mn mx l) :=
  fun T par h => by simp only [tblD]; exact hp T par h
theorem TP.rep {ret p : Op} (id mn mx : Nat) (g : Bool) (hp : TP ret p) : TP ret (.rep id p mn mx g) :=
  fun T par h => by simp only [tblD]; exact hp T par h

theorem pieceQuant_TP {c : PC} {ret op : Op} {s s' : PS} (h : pieceQuant c ret s = .ok op s') :
    TP ret op :=
  RepTransparent.pieceQuant (f := TP ret)
    ⟨TP.nothing ret, fun mn mx l => TP.gfixed mn mx l, fun mn mx l => TP.rfixed mn mx l,
      fun mn mx g => TP.rep 0 mn mx g⟩ h (TP.refl ret)

theorem tblD_makeSequence (T : List (Nat × Nat)) (o1 o2 : Op) (par : Nat) (h1 : tblD T o1 par = true)
    (h2 : tblD T o2 par = true) : tblD T (makeSequence o1 o2) par = true := by
  have : tblD T (makeSequence o1 o2) par = (tblD T o1 par && tblD T o2 par) :=
    makeSequence_hom (f := fun o => tblD T o par) (fL := fun l => tblDL T l par) (fun _ => by rw [tblD])
      (by rw [tblDL]) (fun _ _ => by rw [tblDL]) Bool.and_assoc Bool.true_and Bool.and_true o1 o2
  rw [this, h1, h2]; rfl

theorem followOk_prefix {n : Nat} {a : Atom} {X Y : List Nat} (h : a.followOk n (X ++ Y) = true) :
    a.followOk n X = true := by
  cases a with
  | backref ds =>
    cases X with
    | nil => rfl
    | cons x tl => simpa [Atom.followOk, backrefFollowOk] using h
  | _ => rfl

/-- what `parseTerminal` has read between `s` and `s'` when `n` groups were open or closed before: a
    (possibly merged) run of character atoms `front` ending in the atom `a`, or a single atom `a` of any
    other kind; the tree `ret` nests its captures as `a`'s table says -/
abbrev TerminalInv (c : PC) (s s' : PS) (n : Nat) (ret : Op) : Prop :=
    ∃ (front : List Atom) (a : Atom), CharAtoms c.fl.xsd c.env front ∧
      a.ok c.fl.xsd c.env n s.captures = true ∧ a.inLimit = true ∧
      a.followOk n (c.pat.drop s'.idx) = true ∧
      Span c s s' (renderAtoms front ++ a.render) a.groups (a.closed n s.captures) ∧
      ∀ T par, Agree T (a.tbl par n []) → tblD T ret par = true

/-- the inversion statements of the induction, one per parser function (Terminal, Branch, Branches,
    Expr): the text read is the rendering of a well-formed atom / branch / `| regExp` / group, and the
    tree returned agrees with every table `T` that agrees with its syntactic one (`par`: the enclosing
    group) -/
def IT (c : PC) (f : Nat) : Prop :=
  ∀ (s : PS) (ret : Op) (s' : PS) (n : Nat), parseTerminal c f s = .ok ret s' → s.parens = n + 1 →
    s.idx ≤ c.len → TerminalInv c s s' n ret

def IB (c : PC) (f : Nat) : Prop :=
  ∀ (s : PS) (cur : Option Op) (op : Op) (s' : PS) (n : Nat), parseBranch c f s cur = .ok op s' →
    s.parens = n + 1 → s.idx ≤ c.len →
    ∃ b : Branch, b.ok c.fl.xsd c.env n s.captures = true ∧ b.inLimit = true ∧
      Span c s s' b.render b.groups (b.closed n s.captures) ∧
      ∀ T par, (∀ o, cur = some o → tblD T o par = true) → Agree T (b.tbl par n []) →
        tblD T op par = true

def IBs (c : PC) (f : Nat) : Prop :=
  ∀ (s : PS) (acc l : List Op) (s' : PS) (n : Nat), parseBranches c f s acc = .ok l s' →
    s.parens = n + 1 → s.idx ≤ c.len →
    (Span c s s' [] 0 s.captures ∧ l = acc) ∨
    ∃ (r : RegExp) (more : List Op), r.ok c.fl.xsd c.env n s.captures = true ∧ r.inLimit = true ∧
      Span c s s' (124 :: r.render) r.groups (r.closed n s.captures) ∧ l = acc ++ more ∧ more ≠ [] ∧
      ∀ T par, Agree T (r.tbl par n []) → tblDL T more par = true

def IE (c : PC) (f : Nat) : Prop :=
  ∀ (s : PS) (op : Op) (s' : PS) (n : Nat), parseExpr c f s false = .ok op s' → c.at s.idx = 40 →
    s.parens = n + 1 →
    ∃ a : Atom, a.ok c.fl.xsd c.env n s.captures = true ∧ a.inLimit = true ∧
      (∀ X, a.followOk n X = true) ∧ Span c s s' a.render a.groups (a.closed n s.captures) ∧
      ∀ T par, Agree T (a.tbl par n []) → tblD T op par = true

theorem branch_more {c : PC} {f : Nat} (hB : IB c f) (hBs : IBs c f) {s sA sB : PS} {b1 : Op}
    {acc bs : List Op} {n : Nat} (h1 : parseBranch c f s none = .ok b1 sA)
    (h2 : parseBranches c f sA (acc ++ [b1]) = .ok bs sB) (hp : s.parens = n + 1) (hs : s.idx ≤ c.len) :
    ∃ (r : RegExp) (more : List Op), r.ok c.fl.xsd c.env n s.captures = true ∧ r.inLimit = true ∧
      Span c s sB r.render r.groups (r.closed n s.captures) ∧ bs = acc ++ b1 :: more ∧
      ∀ T par, Agree T (r.tbl par n []) → tblDL T (b1 :: more) par = true := by
  obtain ⟨b, b1', b2, b3, b4⟩ := hB s none b1 sA n h1 hp hs
  have hpA : sA.parens = (n + b.groups) + 1 := by rw [b3.parens, hp]; omega
  rcases hBs sA (acc ++ [b1]) bs sB (n + b.groups) h2 hpA (b3.le_len hs) with
    ⟨hsp, rfl⟩ | ⟨r, more, r1, r2, r3, r4, _, r6⟩
  · refine ⟨.one b, [], b1', b2, ?_, by simp, ?_⟩
    · have := Span.trans b3 hsp
      rw [b3.caps] at this
      simpa [RegExp.render, RegExp.groups, RegExp.closed] using this
    · intro T par hag
      simp only [tblDL, Bool.and_true]
      exact b4 T par (fun o ho => by cases ho) (by simpa [RegExp.tbl] using hag)
  · rw [b3.caps] at r1 r3
    refine ⟨.alt b r, more, by simp [RegExp.ok, b1', r1], by simp [RegExp.inLimit, b2, r2], ?_,
      by rw [r4]; simp, ?_⟩
    · have := Span.trans b3 r3
      simpa [RegExp.render, RegExp.groups, RegExp.closed] using this
    · intro T par hag
      simp only [RegExp.tbl] at hag
      rw [RegExp.tbl_append] at hag
      obtain ⟨hr, hb⟩ := hag.append
      simp only [tblDL, Bool.and_eq_true]
      exact ⟨b4 T par (fun o ho => by cases ho) hb, r6 T par hr⟩

theorem tblD_altOf (T : List (Nat × Nat)) (b : Op) (more : List Op) (par : Nat) :
    tblD T (altOf (b :: more)) par = tblDL T (b :: more) par := by
  cases more with
  | nil => simp only [altOf, tblDL, Bool.and_true]
  | cons m ms => simp only [altOf, tblD]

theorem body_inv {c : PC} {f : Nat} (hB : IB c f) (hBs : IBs c f) {s sA sB : PS} {b1 : Op}
    {bs : List Op} {n : Nat} (h1 : parseBranch c f s none = .ok b1 sA)
    (h2 : parseBranches c f sA [b1] = .ok bs sB) (hp : s.parens = n + 1) (hs : s.idx ≤ c.len) :
    ∃ r : RegExp, r.ok c.fl.xsd c.env n s.captures = true ∧ r.inLimit = true ∧
      Span c s sB r.render r.groups (r.closed n s.captures) ∧
      ∀ T par, Agree T (r.tbl par n []) →
        tblD T (altOf bs) par = true := by
  obtain ⟨r, more, r1, r2, r3, rfl, r5⟩ := branch_more (acc := []) hB hBs h1 h2 hp hs
  exact ⟨r, r1, r2, r3, fun T par hag => by rw [List.nil_append, tblD_altOf]; exact r5 T par hag⟩

theorem IBs_step {c : PC} {f : Nat} (hB : IB c f) (hBs : IBs c f) : IBs c (f + 1) := by
  intro s acc l s' n h hp hs
  cases parseBranches_res h with
  | stop => exact .inl ⟨Span.refl c _, rfl⟩
  | @more b1 sA _ _ hlt h124 hb h =>
    obtain ⟨r, more, r1, r2, r3, r4, r5⟩ := branch_more (s := { s with idx := s.idx + 1 }) hB hBs hb h hp
      (by simp only []; omega)
    exact .inr ⟨r, b1 :: more, r1, r2, by simpa using (Span.char hlt h124 0 s.captures).trans r3, r4,
      by simp, r5⟩

theorem IE_step {c : PC} {f : Nat} (hB : IB c f) (hBs : IBs c f) : IE c (f + 1) := by
  intro s op s' n h h40 hp
  have hlt : s.idx < c.len := PC.lt_of_at_ne_zero (by rw [h40]; decide)
  cases parseExpr_res h with
  | plain h0 =>
    rcases h0 with h0 | h0
    · cases h0
    · exact absurd h40 h0
  | group _ _ _ e1 e2 hl h41 =>
    obtain ⟨r, r1, r2, r3, r4⟩ := body_inv hB hBs (n := n + 1) e1 e2 (by simp only []; omega)
      (by simp only []; omega)
    refine ⟨.group r, by simpa [Atom.ok] using r1, by simpa [Atom.inLimit] using r2, fun _ => rfl, ?_, ?_⟩
    · -- `(`, the body, `)`
      refine ((Span.char hlt h40 1 s.captures).trans
        (r3.trans (Span.char hl h41 0 (s.parens :: _)))).congr rfl (by simp only [Atom.groups]; omega) ?_
      rw [Atom.closed, r3.caps, hp]
    · intro T par hag
      simp only [Atom.tbl] at hag
      rw [RegExp.tbl_append] at hag
      obtain ⟨hr, hself⟩ := hag.append
      rw [hp]
      simp only [tblD, Bool.and_eq_true, beq_iff_eq]
      exact ⟨hself (n + 1, par) (by simp), r4 T (n + 1) hr⟩
  | cluster _ hx _ hq e1 e2 hl h41 =>
    obtain ⟨hl2, h63, h58⟩ := hq
    obtain ⟨r, r1, r2, r3, r4⟩ := body_inv hB hBs (n := n) e1 e2 hp (by simp only []; omega)
    refine ⟨.ncgroup r, by simpa [Atom.ok, hx] using r1, by simpa [Atom.inLimit] using r2,
      fun _ => rfl, ?_, ?_⟩
    · -- `(?:`, the body, `)`
      have hpre := (Span.char hlt h40 0 s.captures).trans
        ((Span.char (s := { s with idx := s.idx + 1 }) (by simp only; omega) h63 0 s.captures).trans
          (Span.char (s := { s with idx := s.idx + 2 }) hl2 h58 0 s.captures))
      refine (hpre.trans (r3.trans (Span.char hl h41 0 _))).congr rfl
        (by simp only [Atom.groups]; omega) ?_
      rw [Atom.closed, r3.caps]
    · intro T par hag
      exact r4 T par (by simpa [Atom.tbl] using hag)

theorem IT_of_chars {c : PC} {s s' : PS} {n : Nat} {front : List Atom} {a : Atom} {ret : Op}
    (hf : CharAtoms c.fl.xsd c.env front) (hch : a.isChar = true)
    (hok : a.ok c.fl.xsd c.env 0 [] = true)
    (hsp : Span c s s' (renderAtoms front ++ a.render) 0 s.captures)
    (hret : ∀ T par, tblD T ret par = true) :
    TerminalInv c s s' n ret := by
  obtain ⟨hg, hcl⟩ := isChar_facts hch n s.captures
  refine ⟨front, a, hf, by rw [isChar_ok_any hch]; exact hok, ?_, ?_, by rw [hg, hcl]; exact hsp,
    fun T par _ => hret T par⟩
  · cases a <;> first | rfl | cases hch
  · cases a <;> first | rfl | cases hch

theorem IT_of_leaf {c : PC} {s s' : PS} {n : Nat} {ret : Op} (a : Atom) (hg : a.groups = 0)
    (hcl : a.closed n s.captures = s.captures) (hok : a.ok c.fl.xsd c.env n s.captures = true)
    (hlim : a.inLimit = true) (hfol : a.followOk n (c.pat.drop s'.idx) = true)
    (hsp : Span c s s' a.render 0 s.captures) (hret : ∀ T par, tblD T ret par = true) :
    TerminalInv c s s' n ret :=
  ⟨[], a, CharAtoms.nil, hok, hlim, hfol, by rw [hg, hcl]; simpa [renderAtoms] using hsp,
    fun T par _ => hret T par⟩

theorem parseAtom_atom {c : PC} {s : PS} {op : Op} {s' : PS} (h : parseAtom c s = .ok op s') :
    ∀ T par, tblD T op par = true := by
  obtain ⟨_, ub, _, rfl⟩ := parseAtom_res h
  exact fun _ _ => rfl

theorem IT_step {c : PC} (hcls : ClassInv c) {f : Nat} (hE : IE c f) : IT c (f + 1) := by
  intro s ret s' n h hp hs
  have one : ∀ x, c.at s.idx = x → x ≠ 0 →
      Span c s { s with idx := s.idx + 1 } [x] 0 s.captures :=
    fun x hx h0 => Span.char (PC.lt_of_at_ne_zero (by rw [hx]; exact h0)) hx 0 s.captures
  cases parseTerminal_res h with
  | eol hx h36 =>
    exact IT_of_leaf .eol rfl rfl (by simp [Atom.ok, hx]) rfl rfl (one 36 h36 (by decide)) (fun _ _ => rfl)
  | bol hx h94 =>
    exact IT_of_leaf .bol rfl rfl (by simp [Atom.ok, hx]) rfl rfl (one 94 h94 (by decide)) (fun _ _ => rfl)
  | dot h46 => exact IT_of_leaf .dot rfl rfl rfl rfl rfl (one 46 h46 (by decide)) (fun _ _ => rfl)
  | cls hc =>
    obtain ⟨e, e1, e2⟩ := hcls.span hc
    exact IT_of_leaf (.cls e) rfl rfl (by simpa [Atom.ok] using e1) rfl rfl
      e2 (fun _ _ => rfl)
  | group h40 he =>
    obtain ⟨a, a1, a2, a3, a4, a5⟩ := hE s ret s' n he h40 hp
    exact ⟨[], a, CharAtoms.nil, a1, a2, a3 _, by simpa [renderAtoms] using a4, a5⟩
  | backref he hn =>
    cases escape_inv he with
    | backref ds ht hnum _ hx hmem hfol =>
      refine IT_of_leaf (.backref ds) rfl rfl ?_ rfl ?_
        ⟨ht, by simp [Atom.render]; omega, rfl, rfl⟩ (fun _ _ => rfl)
      · simp only [Atom.ok, hx, hnum, Bool.not_false, Bool.true_and, Bool.and_eq_true,
          decide_eq_true_eq]
        exact ⟨by simp only at hn; omega, hmem⟩
      · simp only [Atom.followOk]
        rw [hp] at hfol
        simpa using hfol
  | escSet he =>
    cases escape_inv he with
    | cls e ht hok =>
      exact IT_of_leaf (.clsEsc e) rfl rfl (by simpa [Atom.ok] using hok) rfl rfl
        ⟨ht, rfl, rfl, rfl⟩ (fun _ _ => rfl)
    | prop pos name rs ht hall hl _ =>
      exact IT_of_leaf (.prop pos name) rfl rfl (by simp [Atom.ok, hall, hl]) rfl rfl
        ⟨by simpa [Atom.render] using ht, by simp [Atom.render]; omega, rfl, rfl⟩ (fun _ _ => rfl)
  | escChr he ha =>
    cases escape_inv he with
    | single e ht hok =>
      obtain ⟨front, a, f1, f2, f3, f4⟩ := parseAtom_inv ha
      exact IT_of_chars f1 f2 f3 f4 (parseAtom_atom ha)
  | atom _ ha =>
    obtain ⟨front, a, f1, f2, f3, f4⟩ := parseAtom_inv ha
    exact IT_of_chars f1 f2 f3 f4 (parseAtom_atom ha)

theorem IB_step {c : PC} {f : Nat} (hT : IT c f) (hB : IB c f) : IB c (f + 1) := by
  intro s cur op s' n h hp hs
  cases parseBranch_res h with
  | stop =>
    refine ⟨.nil, rfl, rfl, Span.refl c _, ?_⟩
    intro T par hcur _
    cases cur with
    | none => rfl
    | some cu => exact hcur cu rfl
  | @piece ret op1 _ s1 s2 _ _ _ _ ht hq h =>
    obtain ⟨front, a, t1, t2, t3, t4, t5, t6⟩ := hT s ret s1 n ht hp hs
    have hs1 : s1.idx ≤ c.len := t5.le_len hs
    obtain ⟨q, q1, q2, q3⟩ := pieceQuant_inv c ret s1 op1 s2 hs1 hq
    have htp : TP ret op1 := pieceQuant_TP hq
    have hs2 : s2.idx ≤ c.len := q3.le_len hs1
    have hp2 : s2.parens = (n + a.groups) + 1 := by rw [q3.parens, t5.parens, hp]; omega
    obtain ⟨b2, b21, b22, b23, b24⟩ := hB s2 _ op s' (n + a.groups) h hp2 hs2
    have hc2 : s2.captures = a.closed n s.captures := by rw [q3.caps, t5.caps]
    rw [hc2] at b21 b23
    obtain ⟨k1, k2, k3, k4⟩ := consChars_facts front t1 (.cons a q b2) n s.captures
    refine ⟨consChars front (.cons a q b2), ?_, ?_, ?_, ?_⟩
    · rw [k1]
      have hfol : a.followOk n (qRender q ++ b2.render) = true := by
        apply followOk_prefix (Y := c.pat.drop s'.idx)
        rw [List.append_assoc, ← b23.text, ← q3.text]
        exact t4
      simp only [Branch.ok, t2, q1, hfol, b21, Bool.and_self]
    · rw [k4]; simp only [Branch.inLimit, t3, q2, b22, Bool.and_self]
    · rw [consChars_render, k2, k3]
      have := Span.trans t5 (Span.trans q3 b23)
      simpa [Branch.render, Branch.groups, Branch.closed, List.append_assoc] using this
    · intro T par hcur hag
      rw [consChars_tbl front t1] at hag
      simp only [Branch.tbl] at hag
      rw [Branch.tbl_append] at hag
      obtain ⟨hb2, ha⟩ := hag.append
      have hop1 : tblD T op1 par = true := htp T par (t6 T par ha)
      refine b24 T par ?_ hb2
      intro o ho
      simp only [Option.some.injEq] at ho
      subst ho
      cases cur with
      | none => exact hop1
      | some cu => exact tblD_makeSequence T cu op1 par (hcur cu rfl) hop1

theorem parse_inv_all (c : PC) (hcls : ClassInv c) : ∀ f, IE c f ∧ IBs c f ∧ IB c f ∧ IT c f := by
  intro f
  induction f with
  | zero =>
    exact ⟨fun _ _ _ _ h => (parseExpr_zero h).elim, fun _ _ _ _ _ h => (parseBranches_zero h).elim,
      fun _ _ _ _ _ h => (parseBranch_zero h).elim, fun _ _ _ _ h => (parseTerminal_zero h).elim⟩
  | succ f ih =>
    obtain ⟨hE, hBs, hB, hT⟩ := ih
    exact ⟨IE_step hB hBs, IBs_step hB hBs, IB_step hT hB, IT_step hcls hE⟩

theorem parse_top_inv (c : PC) (hcls : ClassInv c) (f : Nat) (s : PS) (op : Op) (s' : PS) (n : Nat)
    (h : parseExpr c f s true = .ok op s') (hp : s.parens = n + 1) (hs : s.idx ≤ c.len) :
    ∃ r : RegExp, r.ok c.fl.xsd c.env n s.captures = true ∧ r.inLimit = true ∧
      Span c s s' r.render r.groups (r.closed n s.captures) ∧
      ∀ T par, Agree T (r.tbl par n []) → tblD T op par = true := by
  cases f with
  | zero => exact (parseExpr_zero h).elim
  | succ f =>
    obtain ⟨_, hBs, hB, _⟩ := parse_inv_all c hcls f
    cases parseExpr_res h with
    | plain _ e1 e2 =>
      obtain ⟨r, r1, r2, r3, r4⟩ := body_inv hB hBs e1 e2 hp hs
      exact ⟨r, r1, r2, r3, fun T par hag => tblD_makeSequence T _ _ par (r4 T par hag) rfl⟩
    | group ht => cases ht
    | cluster ht => cases ht

end Rx.Grammar
