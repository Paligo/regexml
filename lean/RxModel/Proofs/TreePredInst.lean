/-
  Proofs/TreePredInst — the tree predicates of the clean fragments (Spec/Enum … Spec/Enum4) and their side
  conditions as `TreePred`s, each with its one record: `…_transp` (the fields hold by unfolding the definition),
  `…_desc` where the predicate asks more of the node than of its children (`wfOp`, `detB`); where a fragment is false
  (`…_backref`, `…_rep`: what an inclusion from it need not treat, `cleanP_sub`).  At the end what the smallest
  fragment `cleanOp` is inside: no back-reference, small minimum length, `cleanOp2F`.
-/
import RxModel.Proofs.TreePred
import RxModel.Spec.Enum4
import RxModel.Spec.Preds
namespace Rx
open Rx.C08 (noEmptyAtoms noEmptyAtomsL clsCanon clsCanonL)
open TreePred

def cleanP : TreePred := .plain (cleanOp · = true) (cleanOps · = true)
def shapeP2 : TreePred := .plain (shape2 · = true) (shape2L · = true)
def shapeP3 : TreePred := .plain (shape3 · = true) (shape3L · = true)
def shapeP4 : TreePred := .plain (shape4 · = true) (shape4L · = true)
def neP : TreePred := .plain (noEmptyAtoms · = true) (noEmptyAtomsL · = true)
def canP : TreePred := .plain clsCanon clsCanonL
def canBP : TreePred := .plain (clsCanonB · = true) (clsCanonBL · = true)
def wfP : TreePred := .plain (wfOp · = true) (wfOps · = true)
def noBrP : TreePred := .plain (hasBackref · = false) (hasBackrefL · = false)
def smallP (n : Nat) : TreePred := .plain (C06.smallMin n · = true) (C06.smallMinL n · = true)
def cleanP2 (env : Env) (cb ml : Bool) : TreePred :=
  ⟨(cleanOp2F env cb ml · · · = true), (cleanAll2 env cb ml · = true), (cleanSeq2 env cb ml · · = true)⟩
def cleanP3 (env : Env) (cb ml : Bool) : TreePred :=
  ⟨(cleanOp3F env cb ml · · · = true), (cleanAll3 env cb ml · = true), (cleanSeq3 env cb ml · · = true)⟩
def cleanP4 (env : Env) (cb ml : Bool) : TreePred :=
  ⟨(cleanOp4F env cb ml · · · = true), (cleanAll4 env cb ml · = true), (cleanSeq4 env cb ml · · = true)⟩
/-- end-determinism (Spec/Enum3): the branches of an alternation are judged by `detChoice` -/
def detP (env : Env) (cb : Bool) : TreePred :=
  ⟨fun _ _ o => detB env cb o = true, (detChoice env cb · = true), fun _ l => detAll env cb l = true⟩

theorem cleanP_transp : cleanP.Transp :=
  ⟨Iff.rfl, Iff.rfl, Iff.rfl, Iff.rfl, Iff.rfl, rfl, rfl, Bool.and_eq_true_iff, Bool.and_eq_true_iff⟩

theorem shapeP2_transp : shapeP2.Transp :=
  ⟨Iff.rfl, Iff.rfl, Iff.rfl, Iff.rfl, Iff.rfl, rfl, rfl, Bool.and_eq_true_iff, Bool.and_eq_true_iff⟩

theorem shapeP3_transp : shapeP3.Transp :=
  ⟨Iff.rfl, Iff.rfl, Iff.rfl, Iff.rfl, Iff.rfl, rfl, rfl, Bool.and_eq_true_iff, Bool.and_eq_true_iff⟩

theorem shapeP4_transp : shapeP4.Transp :=
  ⟨Iff.rfl, Iff.rfl, Iff.rfl, Iff.rfl, Iff.rfl, rfl, rfl, Bool.and_eq_true_iff, Bool.and_eq_true_iff⟩

theorem neP_transp : neP.Transp :=
  ⟨Iff.rfl, Iff.rfl, Iff.rfl, Iff.rfl, Iff.rfl, rfl, rfl, Bool.and_eq_true_iff, Bool.and_eq_true_iff⟩

theorem canP_transp : canP.Transp :=
  ⟨Iff.rfl, Iff.rfl, Iff.rfl, Iff.rfl, Iff.rfl, trivial, trivial, Iff.rfl, Iff.rfl⟩

theorem canBP_transp : canBP.Transp :=
  ⟨Iff.rfl, Iff.rfl, Iff.rfl, Iff.rfl, Iff.rfl, rfl, rfl, Bool.and_eq_true_iff, Bool.and_eq_true_iff⟩

theorem noBrP_transp : noBrP.Transp :=
  ⟨Iff.rfl, Iff.rfl, Iff.rfl, Iff.rfl, Iff.rfl, rfl, rfl, Bool.or_eq_false_iff, Bool.or_eq_false_iff⟩

theorem smallP_transp (n : Nat) : (smallP n).Transp :=
  ⟨Iff.rfl, Iff.rfl, Iff.rfl, Iff.rfl, Iff.rfl, rfl, rfl, Bool.and_eq_true_iff, Bool.and_eq_true_iff⟩

theorem cleanP2_transp (env : Env) (cb ml : Bool) : (cleanP2 env cb ml).Transp :=
  ⟨Iff.rfl, Iff.rfl, Iff.rfl, Iff.rfl, Iff.rfl, rfl, rfl, Bool.and_eq_true_iff, Bool.and_eq_true_iff⟩

theorem cleanP3_transp (env : Env) (cb ml : Bool) : (cleanP3 env cb ml).Transp :=
  ⟨Iff.rfl, Iff.rfl, Iff.rfl, Iff.rfl, Iff.rfl, rfl, rfl, Bool.and_eq_true_iff, Bool.and_eq_true_iff⟩

theorem cleanP4_transp (env : Env) (cb ml : Bool) : (cleanP4 env cb ml).Transp :=
  ⟨Iff.rfl, Iff.rfl, Iff.rfl, Iff.rfl, Iff.rfl, rfl, rfl, Bool.and_eq_true_iff, Bool.and_eq_true_iff⟩

theorem wfP_desc : wfP.Desc := .ofDown down_wfOp

/-- `cleanOp` is false at `.backref`, `.rep` and `.unamb`: what it is inside is decided at the six other leaves -/
theorem cleanP_sub {B : TreePred} (hB : B.Gen) (leaf : ∀ top F o, Leaf0 o → B.op top F o) : cleanP.Sub B :=
  impl0 cleanP_transp.desc hB (fun h => by simp [cleanP, plain, cleanOp] at h) (fun top F o hl _ => leaf top F o hl)
    (fun _ _ _ _ _ _ _ _ h => by simp [cleanP, plain, cleanOp] at h)
    (fun _ _ _ _ _ _ h => by simp [cleanP, plain, cleanOp] at h)

theorem shapeP2_backref {top : Bool} {F : List Op} {g : Nat} : ¬ shapeP2.op top F (.backref g) :=
  fun h => by simp [shapeP2, plain, shape2] at h

theorem shapeP2_rep {top : Bool} {F : List Op} {id : Nat} {c : Op} {mn mx : Nat} {g : Bool} :
    ¬ shapeP2.op top F (.rep id c mn mx g) :=
  fun h => by simp [shapeP2, plain, shape2] at h

theorem cleanP2_backref {env : Env} {cb ml top : Bool} {F : List Op} {g : Nat} :
    ¬ (cleanP2 env cb ml).op top F (.backref g) :=
  fun h => by simp [cleanP2, cleanOp2F] at h

theorem cleanP2_rep {env : Env} {cb ml top : Bool} {F : List Op} {id : Nat} {c : Op} {mn mx : Nat} {g : Bool} :
    ¬ (cleanP2 env cb ml).op top F (.rep id c mn mx g) :=
  fun h => by simp [cleanP2, cleanOp2F] at h

theorem cleanP3_backref {env : Env} {cb ml top : Bool} {F : List Op} {g : Nat} :
    ¬ (cleanP3 env cb ml).op top F (.backref g) :=
  fun h => by simp [cleanP3, cleanOp3F] at h

theorem cleanP4_backref {env : Env} {cb ml top : Bool} {F : List Op} {g : Nat} :
    ¬ (cleanP4 env cb ml).op top F (.backref g) :=
  fun h => by simp [cleanP4, cleanOp4F] at h

theorem detP_desc (env : Env) (cb : Bool) : (detP env cb).Desc where
  capture h := h
  choice h := h
  seq h := h
  gfixed h := (Bool.and_eq_true_iff.1 h).2
  rfixed h := (Bool.and_eq_true_iff.1 h).2
  allCons h := by simp only [detP, detChoice, Bool.and_eq_true] at h; exact ⟨h.1.1.1, h.2⟩
  seqCons h := Bool.and_eq_true_iff.1 h

end Rx

namespace Rx.Clean
open Rx

theorem clean_noBackref : cleanP.Sub noBrP :=
  cleanP_sub noBrP_transp.gen fun _ _ _ hl => by cases hl <;> rfl

theorem clean_noBackrefL : (ops : List Op) → cleanOps ops = true → hasBackrefL ops = false :=
  fun _ => clean_noBackref.all

theorem clean_smallMin (n : Nat) : cleanP.Sub (smallP n) :=
  cleanP_sub (smallP_transp n).gen fun _ _ _ hl => by cases hl <;> rfl

theorem clean_smallMinL (n : Nat) : (ops : List Op) → cleanOps ops = true → C06.smallMinL n ops = true :=
  fun _ => (clean_smallMin n).all

end Rx.Clean

namespace Rx.Clean2
open Rx

/-- a tree without `.unamb` is judged the same whatever follows it -/
theorem cleanOp2F_of_cleanOp (env : Env) (cb ml : Bool) : cleanP.Sub (cleanP2 env cb ml) :=
  cleanP_sub (cleanP2_transp env cb ml).gen fun _ _ _ hl => by cases hl <;> rfl

theorem cleanOp2_of_cleanOp (env : Env) (cb ml : Bool) (op : Op) (h : cleanOp op = true) :
    cleanOp2 env cb ml op = true :=
  (cleanOp2F_of_cleanOp env cb ml).op' op h

end Rx.Clean2
