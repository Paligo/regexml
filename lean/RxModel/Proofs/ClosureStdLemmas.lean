/-
  The Boolean checks that Props/CaseTables runs over the two case tables (a lower-casing table
  `M : List (Nat × Nat)` and a case-closure table `C : List (Nat × List Nat)` with increasing keys),
  each with what it establishes; in front, the lower-casing function of a table (`CaseL.tableLower`;
  `Env.std.lower` is that of `Gen.lowerTable`).

  The rows of `C` that `equivCheck` needs come in no order, so it finds them in the search tree of
  the table; `valueInClosureB` asks for the keys of `M` in increasing order, so it is one merge.
-/
import RxModel.Proofs.TableLemmas
import RxModel.Props.C11
namespace Rx.CaseL
open Rx

def tableLower (tbl : List (Nat × Nat)) (c : Nat) : Nat := (lookupN tbl c).getD c

theorem tableLower_cases (tbl : List (Nat × Nat)) (c : Nat) :
    tableLower tbl c = c ∨ (c, tableLower tbl c) ∈ tbl := by
  unfold tableLower
  cases h : lookupN tbl c with
  | none => exact .inl rfl
  | some v => exact .inr (EnvStdL.lookupN_mem tbl c v h)

theorem tableLower_isolated (tbl : List (Nat × Nat)) (n : Nat)
    (hchk : tbl.all (fun e => e.1 != n && e.2 != n) = true) (a : Nat)
    (h : eqCB (tableLower tbl) a n = true) : a = n := by
  rw [List.all_eq_true] at hchk
  rw [C11.eqCB_iff_lower] at h
  have hn : tableLower tbl n = n := by
    rcases tableLower_cases tbl n with h0 | h0
    · exact h0
    · have := hchk _ h0
      simp at this
  rw [hn] at h
  rcases tableLower_cases tbl a with h0 | h0
  · rw [← h0]; exact h
  · have := hchk _ h0
    rw [h] at this
    simp at this

theorem tableLower_closed (A : Nat → Bool) (tbl : List (Nat × Nat)) (rs : Ranges)
    (hchk : tbl.all (fun e => !A e.1 || clsContains rs e.1 == clsContains rs e.2) = true) (a b : Nat)
    (ha : A a = true) (hb : A b = true)
    (h : eqCB (tableLower tbl) a b = true) : clsContains rs a = clsContains rs b := by
  rw [List.all_eq_true] at hchk
  rw [C11.eqCB_iff_lower] at h
  have key : ∀ c, A c = true → clsContains rs c = clsContains rs (tableLower tbl c) := by
    intro c hc
    rcases tableLower_cases tbl c with h0 | h0
    · rw [h0]
    · simpa [hc] using hchk _ h0
  rw [key a ha, key b hb, h]

end Rx.CaseL

namespace Rx.EnvStdL
open Rx

def closureOfT (C : List (Nat × List Nat)) (c : Nat) : List Nat := (lookupN C c).getD []

theorem closureOfT_entry (C : List (Nat × List Nat)) (x y : Nat) (h : y ∈ closureOfT C x) :
    ∃ cx, (x, cx) ∈ C ∧ closureOfT C x = cx ∧ y ∈ cx := by
  unfold closureOfT at h ⊢
  cases hl : lookupN C x with
  | none => rw [hl] at h; cases h
  | some cx =>
    rw [hl] at h
    exact ⟨cx, lookupN_mem C x cx hl, rfl, h⟩

/-- for every entry `(x, cx)` and every `y ∈ cx`: `y` is a key, `x` is in its closure `cy`, and
    every `z ∈ cy` is `x` or in `cx` -/
def equivB (t : Tree (List Nat)) (C : List (Nat × List Nat)) : Bool :=
  C.all (fun e => e.2.all (fun y =>
    match t.find y with
    | none => false
    | some cy => cy.contains e.1 && cy.all (fun z => z == e.1 || e.2.contains z)))

def equivCheck (C : List (Nat × List Nat)) : Bool := equivB (Tree.ofList C) C

theorem equiv_entry (C : List (Nat × List Nat)) (hk : keysInc C = true) (h : equivCheck C = true)
    (x y : Nat) (hy : y ∈ closureOfT C x) :
    x ∈ closureOfT C y ∧ ∀ z ∈ closureOfT C y, z = x ∨ z ∈ closureOfT C x := by
  obtain ⟨cx, hm, hcx, hycx⟩ := closureOfT_entry C x y hy
  unfold equivCheck equivB at h
  rw [List.all_eq_true] at h
  have h1 := h _ hm
  rw [List.all_eq_true] at h1
  have h2 := h1 y hycx
  split at h2
  · cases h2
  · rename_i cy hf
    have hcy : closureOfT C y = cy := by
      unfold closureOfT
      rw [Tree.find_ofList_lookupN C hk y cy hf]
      rfl
    simp only [Bool.and_eq_true, List.contains_eq_mem, decide_eq_true_eq, List.all_eq_true,
      Bool.or_eq_true, beq_iff_eq] at h2
    rw [hcy, hcx]
    exact h2

def rowsB : Nat → List (Nat × List Nat) → Bool
  | _, [] => true
  | lo, (a, cl) :: t => Nat.ble lo a && (!isSurrogate a && (cl.all (Nat.blt · cpLimit) && rowsB (a + 1) t))

theorem rowsB_spec : ∀ (C : List (Nat × List Nat)) (lo : Nat), rowsB lo C = true →
    keysIncFrom lo C = true ∧ ∀ e ∈ C, isSurrogate e.1 = false ∧ ∀ x ∈ e.2, x < cpLimit
  | [], _, _ => ⟨rfl, fun _ h => (nomatch h)⟩
  | (a, cl) :: t, lo, h => by
    simp only [rowsB, Bool.and_eq_true, Nat.ble_eq, Bool.not_eq_true', List.all_eq_true, Nat.blt_eq] at h
    obtain ⟨ih1, ih2⟩ := rowsB_spec t (a + 1) h.2.2.2
    exact ⟨by simp only [keysIncFrom, h.1, decide_true, ih1, Bool.and_self],
      List.forall_mem_cons.2 ⟨⟨h.2.1, h.2.2.1⟩, ih2⟩⟩

theorem noSur_of_rows (C : List (Nat × List Nat)) (h : rowsB 0 C = true) (s : Nat)
    (hs : isSurrogate s = true) : closureOfT C s = [] := by
  unfold closureOfT
  cases hl : lookupN C s with
  | none => rfl
  | some cs => exact absurd hs (Bool.eq_false_iff.1 ((rowsB_spec C 0 h).2 _ (lookupN_mem C s cs hl)).1)

theorem closureBound_of_rows (C : List (Nat × List Nat)) (h : rowsB 0 C = true) (a x : Nat)
    (hx : x ∈ closureOfT C a) : x < cpLimit := by
  obtain ⟨cl, hm, _, hxc⟩ := closureOfT_entry C a x hx
  exact ((rowsB_spec C 0 h).2 _ hm).2 x hxc

/-- on the alphabet `A`, the value of every key of the lower-casing table is in the key's closure -/
def valueInClosureB (A : Nat → Bool) (M : List (Nat × Nat)) (C : List (Nat × List Nat)) : Bool :=
  (lookupAll (fun e => e.1) C M).all (fun r => !A r.1.1 || (r.2.getD []).contains r.1.2)

theorem valueInClosure_of_check (A : Nat → Bool) (M : List (Nat × Nat)) (C : List (Nat × List Nat))
    (hk : keysInc C = true) (h : valueInClosureB A M C = true) (k v : Nat) (hm : (k, v) ∈ M)
    (ha : A k = true) : v ∈ closureOfT C k := by
  unfold valueInClosureB at h
  rw [lookupAll_eq _ C hk M, List.all_map, List.all_eq_true] at h
  simpa [ha, closureOfT] using h _ hm

/-- two keys with the same value are both related to the value -/
theorem caseOn_of_closure (A : Nat → Bool) (M : List (Nat × Nat)) (cl : Nat → List Nat)
    (hsym : ∀ x y, y ∈ cl x → x ∈ cl y) (htrans : ∀ x y z, y ∈ cl x → z ∈ cl y → z = x ∨ z ∈ cl x)
    (hM : ∀ k v, (k, v) ∈ M → A k = true → v ∈ cl k)
    (a x : Nat) (ha : A a = true) (hx : A x = true)
    (he : CaseL.tableLower M x = CaseL.tableLower M a) : x = a ∨ x ∈ cl a := by
  rcases CaseL.tableLower_cases M a with fa | ma <;> rcases CaseL.tableLower_cases M x with fx | mx
  · left; rw [← fx, he, fa]
  · -- `a` is its own lower case, `x` is a key mapped to `a`
    rw [he, fa] at mx
    exact .inr (hsym x a (hM x a mx hx))
  · -- `x` is its own lower case, `a` is a key mapped to `x`
    rw [← he, fx] at ma
    exact .inr (hM a x ma ha)
  · -- both are keys with the same value
    rw [he] at mx
    exact htrans a _ x (hM a _ ma ha) (hsym x _ (hM x _ mx hx))

/-- no value of the table is a key, so every value is mapped to itself -/
theorem tableLower_idem (M : List (Nat × Nat)) (h : mask (M.map (·.1)) &&& mask (M.map (·.2)) = 0) (x : Nat) :
    CaseL.tableLower M (CaseL.tableLower M x) = CaseL.tableLower M x := by
  rcases CaseL.tableLower_cases M x with fx | mx
  · rw [fx, fx]
  · rcases CaseL.tableLower_cases M (CaseL.tableLower M x) with fv | mv
    · exact fv
    · exact absurd (List.mem_map_of_mem (f := (·.2)) mx)
        (disjoint_of_mask _ _ h _ (List.mem_map_of_mem (f := (·.1)) mv))

end Rx.EnvStdL
