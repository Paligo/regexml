/-
  Proofs/BrCompileLemmas — the compiler establishes `progOK`: group and back-reference numbers below `maxParens`, a
  back-reference only under the `hasBackrefs` flag (parser, `optimize`, `numberReps`), plain well-formed
  preconditions (`add_precondition`), `prefix.len ≤ minimum_length` (`ReProgram::new`).
-/
import RxModel.Proofs.BrSafeLemmas
import RxModel.Proofs.WFLemmas
import RxModel.Proofs.CompileLemmas
import RxModel.Proofs.ProgFacts
namespace Rx
open Rx.WF

theorem freeOKg_hered (b c : Nat → Bool) : Hered (freeOKg b c) (freeOKgL b c) c :=
  ⟨rfl, fun _ _ => rfl, fun _ => rfl, fun _ => rfl, fun _ _ _ _ _ => rfl, fun _ _ _ _ => rfl,
    fun _ _ _ _ => rfl, fun _ _ _ => rfl, rfl, fun _ _ => rfl⟩

theorem freeOKg_makeSequence (b c : Nat → Bool) (x y : Op) :
    freeOKg b c (makeSequence x y) = (freeOKg b c x && freeOKg b c y) :=
  (freeOKg_hered b c).makeSequence x y

theorem freeOKg_numberReps (b c : Nat → Bool) (op : Op) (n : Nat) :
    freeOKg b c (numberReps op n).1 = freeOKg b c op :=
  (freeOKg_hered b c).numberReps op n

theorem freeOKgL_numberRepsL (b c : Nat → Bool) : (l : List Op) → ∀ n,
    freeOKgL b c (numberRepsL l n).1 = freeOKgL b c l :=
  (freeOKg_hered b c).numberRepsL

theorem freeOKg_optimize (env : Env) (fl : CFlags) (b c : Nat → Bool) : ∀ (op : Op), freeOKg b c op = true →
    freeOKg b c (optimize env fl op) = true :=
  (freeOKg_hered b c).optimize env fl

theorem freeOKgL_optimizeL (env : Env) (fl : CFlags) (b c : Nat → Bool) : ∀ (l : List Op), freeOKgL b c l = true →
    freeOKgL b c (optimizeL env fl l) = true :=
  (freeOKg_hered b c).optimizeL env fl

theorem freeOKgL_optimizeSeq (env : Env) (fl : CFlags) (b c : Nat → Bool) : ∀ (l : List Op), freeOKgL b c l = true →
    freeOKgL b c (optimizeSeq env fl l) = true :=
  (freeOKg_hered b c).optimizeSeq env fl

/-- whatever shape check `ret` passes, `op` passes -/
def FP (ret op : Op) : Prop := ∀ b c : Nat → Bool, freeOKg b c ret = true → freeOKg b c op = true

theorem FP.nothing (ret : Op) : FP ret .nothing := fun _ _ _ => rfl
theorem FP.gfixed {ret p : Op} (mn mx l : Nat) (hp : FP ret p) : FP ret (.gfixed p mn mx l) :=
  fun b c h => by simp only [freeOKg]; exact hp b c h
theorem FP.rfixed {ret p : Op} (mn mx l : Nat) (hp : FP ret p) : FP ret (.rfixed p mn mx l) :=
  fun b c h => by simp only [freeOKg]; exact hp b c h
theorem FP.rep {ret p : Op} (id mn mx : Nat) (g : Bool) (hp : FP ret p) : FP ret (.rep id p mn mx g) :=
  fun b c h => by simp only [freeOKg]; exact hp b c h

/-- the invariant of a parsed tree relative to the state reached: every capture number is below the
    number of groups opened so far; every back-reference number too, and the flag is raised -/
def BP (op : Op) (s : PS) : Prop :=
  freeOKg (fun g => s.hasBackrefs && decide (g < s.parens)) (fun g => decide (g < s.parens)) op = true

def BPL (l : List Op) (s : PS) : Prop :=
  freeOKgL (fun g => s.hasBackrefs && decide (g < s.parens)) (fun g => decide (g < s.parens)) l = true

theorem BP.mono {op : Op} {s s' : PS} (h : BP op s) (hs : MS s s') : BP op s' := by
  refine freeOKg_mono (fun g hg => ?_) (fun g hg => ?_) op h
  · simp only [Bool.and_eq_true, decide_eq_true_eq] at hg ⊢
    exact ⟨hs.2 hg.1, Nat.lt_of_lt_of_le hg.2 hs.1⟩
  · simp only [decide_eq_true_eq] at hg ⊢
    exact Nat.lt_of_lt_of_le hg hs.1

theorem BP.makeSequence {a b : Op} {s : PS} (ha : BP a s) (hb : BP b s) : BP (makeSequence a b) s := by
  unfold BP at ha hb ⊢
  rw [freeOKg_makeSequence, ha, hb]; rfl

theorem BPL.of_forall {s : PS} : ∀ (l : List Op), (∀ b ∈ l, BP b s) → BPL l s :=
  list_of_forall rfl fun b t hb ht => by
    unfold BP at hb
    unfold BPL at ht ⊢
    rw [freeOKgL, hb, ht]; rfl

theorem BPL.single {b : Op} {s : PS} (h : BP b s) : BPL [b] s :=
  BPL.of_forall [b] fun x hx => by rw [List.mem_singleton] at hx; rw [hx]; exact h

theorem BP.choice {l : List Op} {s : PS} (h : BPL l s) : BP (.choice l) s := by
  unfold BPL at h
  unfold BP
  simpa only [freeOKg] using h

theorem BP.capture {op : Op} {s : PS} (n : Nat) (hn : n < s.parens) (h : BP op s) : BP (.capture n op) s := by
  unfold BP at h ⊢
  simp only [freeOKg, Bool.and_eq_true, decide_eq_true_eq]
  exact ⟨hn, h⟩

theorem BP.inv {xsd : Bool} : ParserInv xsd 0 BP where
  mono := BP.mono
  bol _ _ := rfl
  eol _ _ := rfl
  nothing _ := rfl
  cls _ _ := rfl
  atom _ _ _ := rfl
  backref _ n s hn hb := by
    unfold BP
    simp only [freeOKg, hb, Bool.true_and, decide_eq_true_eq]
    exact hn
  capture g _ _ _ hg h := BP.capture g hg h
  choice l _ h _ := BP.choice (BPL.of_forall l h)
  seq _ _ _ := BP.makeSequence
  gfixed _ _ _ _ _ h _ _ _ _ := h
  rfixed _ _ _ _ _ _ h _ _ _ _ := h
  rep _ _ _ _ _ _ h _ _ _ := h

theorem parse_BP (c : PC) (f : Nat) (s : PS) (top : Bool) : POk BP (parseExpr c f s top) :=
  fun _ _ h => parseExpr_inv BP.inv (fun _ => rfl) (Nat.zero_le _) h

def PreGood (o : Op) : Prop := wfOp o = true ∧ plainTree o = true

theorem isAtomOrClass_good {c : Op} (h : isAtomOrClass c = true) : wfOp c = true ∧ plainTree c = true := by
  cases c <;> first | exact ⟨rfl, rfl⟩ | (simp [isAtomOrClass] at h)

theorem preGood_of_preAt {n t : Op} (h : PreAt n t) (hwf : wfOp n = true) : PreGood t := by
  cases h with
  | leaf hl => exact isAtomOrClass_good hl
  | self hp hac =>
    refine ⟨hwf, ?_⟩
    have hc := (isAtomOrClass_good hac).2
    rcases repeatParts_cases hp with ⟨_, rfl⟩ | ⟨_, rfl, _⟩ | ⟨_, rfl, _⟩ | ⟨rfl, _⟩
    all_goals simpa only [plainTree, freeOKg] using hc
  | fixed hp hac h2 =>
    obtain ⟨h1, hc⟩ := isAtomOrClass_good hac
    refine ⟨?_, by simpa only [plainTree, freeOKg] using hc⟩
    simp only [wfOp, h1, Bool.true_and, Bool.and_eq_true, decide_eq_true_eq]
    omega

theorem addPreSeq_good (ml : Bool) : (ops : List Op) → ∀ fp mp, wfOps ops = true →
    ∀ q ∈ addPreSeq ml ops fp mp, PreGood q.op := by
  intro ops fp mp h q hq
  obtain ⟨n, hn, hat⟩ := addPreSeq_node down_wfOp ml h fp mp hq
  exact preGood_of_preAt hat hn

theorem mkProgram_presOK (pat : List Nat) (op : Op) (mp : Nat) (fl : CFlags) (hb : Bool)
    (hwf : wfOp op = true) : presOK (mkProgram pat op mp fl hb) = true := by
  simp only [presOK, List.all_eq_true, Bool.and_eq_true]
  intro q hq
  obtain ⟨n, t, b, hn, hat, he⟩ := mkProgram_pres_node down_wfOp pat op mp fl hb
    (by rw [wfOp_numberReps]; exact hwf) hq
  obtain ⟨h1, h2⟩ := preGood_of_preAt hat hn
  rw [he, wfOp_numberReps]
  refine ⟨h1, ?_⟩
  unfold plainTree at h2 ⊢
  rw [freeOKg_numberReps]
  exact h2

theorem mkProgram_prefixOK (pat : List Nat) (op : Op) (mp : Nat) (fl : CFlags) (hb : Bool) :
    prefixOK (mkProgram pat op mp fl hb) = true := by
  unfold prefixOK
  split
  · rename_i cs hcs
    simp only [Bool.or_eq_true]
    rcases mkProgram_prefixLen pat op mp fl hb cs hcs with h | h
    · exact .inl (decide_eq_true h)
    · exact .inr (decide_eq_true h)
  · rfl

/-- `hns` is the side condition of `WF.compile_wf`: no saturated body length -/
theorem compile_progOK (env : Env) (fl : CFlags) (pat : List Nat) (pr : Prog)
    (h : compileCore env fl pat true = .ok pr)
    (hns : ∀ op s, parseExpr { pat := pat, fl := fl, env := env } (4 * pat.length + 16) {} true = .ok op s →
              noSat (optimize env fl op) = true ∧ noSat op = true) :
    progOK pr = true := by
  rcases compileCore_ok h with ⟨_, rfl⟩ | ⟨_, op, s, hp, _, rfl⟩
  · rw [if_pos rfl]
    have hwf : wfOp (makeSequence (.atom pat) .endProgram) = true := by simp [makeSequence, wfOp, wfOps]
    simp only [progOK, Bool.and_eq_true]
    refine ⟨⟨⟨?_, ?_⟩, mkProgram_presOK _ _ _ _ _ hwf⟩, mkProgram_prefixOK _ _ _ _ _⟩
    · rw [MkProgram.op, wfOp_numberReps]; exact hwf
    · rw [MkProgram.op]
      unfold brOK
      rw [freeOKg_numberReps]
      simp [makeSequence, freeOKg, freeOKgL]
  · rw [if_pos rfl]
    obtain ⟨_, hns2⟩ := hns op s hp
    have g := parse_G _ _ {} true (Nat.le_refl 1) op s hp
    have w1 : wfOp op = true := g.1 hns2
    have hwf : wfOp (optimize env fl op) = true := (wm_optimize env fl op w1).1
    have hbp : BP op s := parse_BP _ _ {} true op s hp
    simp only [progOK, Bool.and_eq_true]
    refine ⟨⟨⟨?_, ?_⟩, mkProgram_presOK _ _ _ _ _ hwf⟩, mkProgram_prefixOK _ _ _ _ _⟩
    · rw [MkProgram.op, wfOp_numberReps]; exact hwf
    · rw [MkProgram.op, MkProgram.hasBackrefs, MkProgram.maxParens]
      unfold brOK
      rw [freeOKg_numberReps]
      apply freeOKg_optimize
      refine freeOKg_mono (fun g hg => hg) (fun g hg => ?_) op hbp
      simp only [decide_eq_true_eq] at hg
      simp only [Bool.or_eq_true, decide_eq_true_eq]
      exact .inr hg

end Rx
