/-
  Proofs/InvLemmas — state invariants of the engine as instances of `sem_sat`: no panic for trees without
  back-references (`satEnv_np`, C05), the start of group 0 (`satEnv_s0`, C02).  `Writes`, `ChildOK`, `GenInv` are the
  vocabulary in which invariants of the primitive writes and of the body of a repeat are handed around.  At the end,
  what `Prog.isMatch` answers, read off the final state of `matchesFrom`.
-/
import RxModel.Spec.Preds
import RxModel.Model.Api
import RxModel.Proofs.SearchNF
import RxModel.Proofs.TermLemmas
import RxModel.Proofs.ArrayLemmas
namespace Rx

/-- the primitive state writes of the engine preserve `I` -/
structure Writes (I : St → Prop) : Prop where
  clear : ∀ st p, I st → I (clearBeyond st p)
  div : ∀ st, I st → I (st.setPanic panicDiverge)
  hist : ∀ st (h : List (Nat × Nat)), I st → I { st with hist := h }
  restore : ∀ st st', I st → I st' → I { st' with cap := st.cap }
  setEnd0 : ∀ st p, I st → I { st with cap := st.cap.setEnd 0 p }

/-- what the loops need of the body of a repeat -/
structure ChildOK (Pos : Nat → Prop) (I : St → Prop) (child : Gen) : Prop where
  inv : ∀ p st, Pos p → I st → (child p st).Inv I
  fst : ∀ p st, Pos p → I st → I (first1 (child p st)).2
  pos : ∀ p st, Pos p → (child p st).All Pos

def GenInv (Pos : Nat → Prop) (I : St → Prop) (g : Gen) : Prop :=
  ∀ p st, Pos p → I st → (g p st).Inv I

theorem ChildOK.genSat {Pos : Nat → Prop} {I : St → Prop} {child : Gen} (C : ChildOK Pos I child) :
    GenSat True Pos I (fun _ _ => True) child :=
  fun p st hp h => ((C.inv p st hp h).sat (C.pos p st hp)).mono (fun _ hn => ⟨hn, trivial⟩)

theorem ChildOK.pullOK {Pos : Nat → Prop} {I : St → Prop} {R : Nat → Nat → Prop} {child : Gen}
    (C : ChildOK Pos I child) (hR : ∀ p st, Pos p → (child p st).All (R p)) :
    PullOK Pos I (fun a b => Pos b ∧ R a b) child := by
  intro p st hp h o st' heq
  have hf := C.fst p st hp h
  rw [heq] at hf
  exact ⟨hf, fun x hx => by subst hx; exact first1_all ((C.pos p st hp).and (hR p st hp)) heq⟩

theorem repGreedyGen_inv {Pos : Nat → Prop} {I : St → Prop} {child : Gen} (C : ChildOK Pos I child) (ctx : Ctx)
    (id min max : Nat) (p : Nat) (st : St) (hp : Pos p) (h : I st)
    (hh : min = 0 → memPair st.hist id p = false → I { st with hist := (id, p) :: st.hist }) :
    (repGreedyGen ctx id child min max p st).Inv I :=
  (repGreedyGen_sat C.genSat ctx id min max p st hp (fun _ => h) hh).inv

/-- "no real panic": the marker is clear, or only records non-termination -/
def NoRealPanic (st : St) : Prop := st.panic = none ∨ st.panic = some panicDiverge

theorem NoRealPanic.setDiv {st : St} (h : NoRealPanic st) : NoRealPanic (st.setPanic panicDiverge) := by
  unfold St.setPanic
  split
  · exact h
  · exact .inr rfl

theorem noRealPanic_junk : NoRealPanic junkSt := .inr rfl

theorem noDivMark_of_clean {st : St} (h : st.panic = none) : C06.NoDivMark st :=
  fun hc => nomatch h.symm.trans hc

theorem writes_np : Writes NoRealPanic where
  clear := fun _ _ h => h
  div := fun _ h => h.setDiv
  hist := fun _ _ h => h
  restore := fun _ _ _ h => h
  setEnd0 := fun _ _ h => h

theorem captureWrite_np (ctx : Ctx) (hb : ctx.hasBackrefs = false) (g p n : Nat) (st : St)
    (h : NoRealPanic st) : NoRealPanic (captureWrite ctx g p n st) := by
  unfold captureWrite
  simp only [hb, Bool.false_eq_true, if_false]
  exact h

/-- any start position, divergence allowed: the state `first1` makes up for a diverging body carries the fuel
    marker only -/
theorem satEnv_np (ctx : Ctx) (hb : ctx.hasBackrefs = false) :
    SatEnv ctx True (fun _ => True) NoRealPanic (fun o => hasBackref o = false) (fun os => hasBackrefL os = false) where
  down := down_noBackref
  clear := fun _ _ _ h => h
  restore := fun _ _ _ h => h
  setEnd0 := fun _ _ h => h
  up := fun _ _ _ _ _ => trivial
  pos := fun _ _ _ _ => Step.All.trivial _
  pull := fun _ C => C.pullOK (fun _ => noRealPanic_junk)
  mode := .inl ⟨trivial, fun _ h => h.setDiv⟩
  capture := fun {g c} _ =>
    ⟨fun p st hst => by simp only [captureEntry, hb, Bool.false_eq_true, if_false]; exact hst,
     fun p n st hst => captureWrite_np ctx hb g p n st hst⟩
  hist := fun _ _ _ _ hst => hst
  unamb := fun _ => .inl (fun _ h => h.setDiv)
  bref := fun h => by simp [hasBackref] at h

theorem sem_np (ctx : Ctx) (hb : ctx.hasBackrefs = false) (op : Op) (hop : hasBackref op = false) :
    GenInv (fun _ => True) NoRealPanic (sem ctx op) :=
  fun p st hp h => (sem_sat (satEnv_np ctx hb) op hop p st hp h).inv

theorem sem_np_seq (ctx : Ctx) (hb : ctx.hasBackrefs = false) :
    (ops : List Op) → hasBackrefL ops = false → GenInv (fun _ => True) NoRealPanic (seqGo (semL ctx ops)) :=
  fun ops hop p st hp h => (sem_sat_seq (satEnv_np ctx hb) ops hop p st hp h).inv

theorem NoRealPanic.of_panic_eq {st st' : St} (h : st'.panic = st.panic) (hn : NoRealPanic st) :
    NoRealPanic st' := by
  unfold NoRealPanic
  rw [h]
  exact hn

def GenND (L : Nat) (g : Gen) : Prop := ∀ p st, p ≤ L → (g p st).NoDiv

theorem sem_nd (ctx : Ctx) (op : Op) (hwf : wfOp op = true) : GenND ctx.len (sem ctx op) :=
  fun p st hp =>
    (sem_termG ctx false op hwf (fun h => by cases h) p hp st (MarkOk.false st)).toNoDiv MarkOk.false

theorem sem_nd_choice (ctx : Ctx) : (bs : List Op) → wfOps bs = true → GenND ctx.len (choiceGen (semL ctx bs)) :=
  fun bs hwf p st hp =>
    (sem_termG_choice ctx false bs hwf (fun h => by cases h) p hp st (MarkOk.false st)).toNoDiv MarkOk.false

theorem sem_nd_seq (ctx : Ctx) : (ops : List Op) → wfOps ops = true → GenND ctx.len (seqGo (semL ctx ops)) :=
  fun ops hwf p st hp =>
    (sem_termG_seq ctx false ops hwf (fun h => by cases h) p hp st (MarkOk.false st)).toNoDiv MarkOk.false

def Start0 (j : Nat) (st : St) : Prop := getO st.cap.startn 0 = some j

theorem Start0.setPanic {j : Nat} {st : St} (c : Nat) (h : Start0 j st) : Start0 j (st.setPanic c) := by
  unfold St.setPanic
  split
  · exact h
  · exact h

theorem captureWrite_s0 (ctx : Ctx) (j g p n : Nat) (hg : 1 ≤ g) (st : St) (h : Start0 j st) :
    Start0 j (captureWrite ctx g p n st) := by
  obtain ⟨g', rfl⟩ : ∃ g', g = g' + 1 := ⟨g - 1, by omega⟩
  unfold captureWrite
  simp only
  have key : ∀ c : Cap, getO c.startn 0 = some j →
      getO ((c.setStart (g' + 1) p).setEnd (g' + 1) n).startn 0 = some j := by
    intro c hc
    simp only [Cap.setStart, Cap.setEnd]
    rw [getO_setAt, if_neg (Nat.succ_ne_zero g').symm]; exact hc
  have key2 : getO (((if g' + 1 ≥ st.cap.parenCount then { st.cap with parenCount := g' + 1 + 1 } else st.cap).setStart
      (g' + 1) p).setEnd (g' + 1) n).startn 0 = some j := by
    apply key
    split
    · exact h
    · exact h
  split
  · exact key2
  · exact key2

theorem capturePre_s0 (ctx : Ctx) (j g p : Nat) (st : St) (h : Start0 j st) :
    Start0 j (captureEntry ctx g p st) := by
  unfold captureEntry
  split
  · split
    · exact h.setPanic _
    · exact h
  · exact h

theorem childOK_wf (ctx : Ctx) {I : St → Prop} (c : Op) (hwc : wfOp c = true)
    (h : GenInv (fun p => p ≤ ctx.len) I (sem ctx c)) : ChildOK (fun p => p ≤ ctx.len) I (sem ctx c) where
  inv := h
  fst := fun p st hp hst => first1_inv_nodiv (h p st hp hst) (sem_nd ctx c hwc p st hp)
  pos := fun p st hp => (sem_bounds_op ctx c hwc p hp st).mono (fun _ hn => hn.2)

theorem down_capsPos : Down (fun o => C02.capsPos o = true) (fun os => C02.capsPosL os = true) :=
  .ofBool (fun _ _ h => (Bool.and_eq_true_iff.1 h).2) (fun _ h => h) (fun _ h => h) (fun _ _ _ _ _ h => h)
    (fun _ _ _ _ h => h) (fun _ _ _ _ h => h) (fun _ _ _ h => h) (fun _ _ h => Bool.and_eq_true_iff.1 h)

theorem satEnv_s0 (ctx : Ctx) (j : Nat) :
    SatEnv ctx False (fun p => p ≤ ctx.len) (Start0 j) (fun o => wfOp o = true ∧ C02.capsPos o = true)
      (fun os => wfOps os = true ∧ C02.capsPosL os = true) where
  down := down_wfOp.and down_capsPos
  clear := fun _ _ _ h => h
  restore := fun _ _ h _ => h
  setEnd0 := fun _ _ h => h
  up := fun _ _ _ _ h => h
  pos := fun ho p st hp => (sem_bounds_op ctx _ ho.1 p hp st).mono (fun _ h => h.2)
  pull := fun _ C => C.pullOK (fun h => h.elim)
  mode := .inr ⟨fun _ h => h.1, fun _ h => h⟩
  capture := fun {g _} h =>
    have hg : 1 ≤ g := of_decide_eq_true (Bool.and_eq_true_iff.1 h.2).1
    ⟨fun p st hst => capturePre_s0 ctx j g p st hst, fun p n st hst => captureWrite_s0 ctx j g p n hg st hst⟩
  hist := fun _ _ _ _ hst => hst
  unamb := fun _ => .inl (fun _ h => h.setPanic _)
  bref := fun _ _ h _ => h.setPanic _

theorem sem_s0 (ctx : Ctx) (j : Nat) (op : Op) (hwf : wfOp op = true) (hc : C02.capsPos op = true) :
    GenInv (fun p => p ≤ ctx.len) (Start0 j) (sem ctx op) :=
  fun p st hp h => (sem_sat (satEnv_s0 ctx j) op ⟨hwf, hc⟩ p st hp h).inv

theorem matchStart_s0 (ctx : Ctx) (j : Nat) (st : St) : Start0 j (matchStart ctx j st) := by
  unfold matchStart
  simp only
  split
  · exact getO_setAt_zero _ _
  · exact getO_setAt_zero _ _

/-! ### `Prog.isMatch` read off the outcome of `matchesFrom` and the marker of its final state -/

theorem isMatch_true {pr : Prog} {lower : Nat → Nat} {input : List Nat}
    (h : pr.isMatch lower input = .ok true) :
    ∃ st, matchesFrom (pr.ctx lower input) pr 0 {} = (true, st) := by
  unfold Prog.isMatch at h
  generalize matchesFrom (pr.ctx lower input) pr 0 {} = r at h
  obtain ⟨m, st⟩ := r
  simp only at h
  split at h
  · unfold Out.ofFailed at h
    split at h <;> cases h
  · simp only [Out.ok.injEq] at h
    exact ⟨st, by rw [h]⟩

theorem isMatch_np (pr : Prog) (lower : Nat → Nat) (input : List Nat)
    (h : NoRealPanic (matchesFrom (pr.ctx lower input) pr 0 {}).2) (c : Nat) :
    pr.isMatch lower input ≠ .panic c := by
  unfold Prog.isMatch
  generalize matchesFrom (pr.ctx lower input) pr 0 {} = r at h
  obtain ⟨m, st⟩ := r
  simp only at h ⊢
  split
  · rename_i c' hc'
    rcases h with h | h
    · rw [hc'] at h; cases h
    · rw [hc'] at h
      simp only [Option.some.injEq] at h
      subst h
      intro hx
      simp [Out.ofFailed] at hx
  · intro hx; cases hx

theorem isMatch_ne_diverge (pr : Prog) (lower : Nat → Nat) (input : List Nat)
    (h : MarkOk true (matchesFrom (pr.ctx lower input) pr 0 {}).2) :
    pr.isMatch lower input ≠ .diverge := by
  unfold Prog.isMatch
  generalize matchesFrom (pr.ctx lower input) pr 0 {} = r at h
  obtain ⟨m, st⟩ := r
  simp only at h ⊢
  split
  · rename_i c hc
    have := h rfl
    rw [hc] at this
    unfold Out.ofFailed
    split
    · rename_i hcd
      simp only [beq_iff_eq] at hcd
      subst hcd
      exact absurd rfl this
    · intro h'; cases h'
  · intro h'; cases h'

end Rx
