/-
  Proofs/GrammarLemmas — the parser accepts every rendered well-formed tree of Spec/Grammar.
  Every statement speaks of the parser standing before a text (`At`: the rest of the pattern, the
  groups opened and closed) and of a call that succeeds and leaves it before the rest (`Runs`); the
  position is where the remaining text says, so no statement counts characters.  One induction on the
  fuel over the four parser functions (`parse_all`).
-/
import RxModel.Model.Compile
import RxModel.Proofs.ParserWalk
import RxModel.Spec.Grammar
import RxModel.Proofs.ClassFullLemmas
namespace Rx.Grammar
open Rx

/-- the parser in state `s` stands before the text `l`, all that is left of the pattern, with `n`
    groups opened and the groups `cl` closed -/
structure At (c : PC) (s : PS) (l : List Nat) (n : Nat) (cl : List Nat) : Prop where
  text : c.pat.drop s.idx = l
  le : s.idx ≤ c.len
  parens : s.parens = n + 1
  caps : s.captures = cl

theorem At.of_cons {c : PC} {s : PS} {y : Nat} {tl : List Nat} {n : Nat} {cl : List Nat}
    (h : c.pat.drop s.idx = y :: tl) (hp : s.parens = n + 1) (hc : s.captures = cl) :
    At c s (y :: tl) n cl :=
  ⟨h, Nat.le_of_lt (PC.drop_cons h).1, hp, hc⟩

theorem At.head {c : PC} {s : PS} {y : Nat} {tl : List Nat} {n : Nat} {cl : List Nat}
    (h : At c s (y :: tl) n cl) : s.idx < c.len ∧ c.at s.idx = y :=
  ⟨(PC.drop_cons h.text).1, (PC.drop_cons h.text).2.1⟩

theorem At.adv {c : PC} {s s' : PS} {T rest : List Nat} {n n' : Nat} {cl cl' : List Nat}
    (h : At c s (T ++ rest) n cl) (hi : s'.idx = s.idx + T.length) (hp : s'.parens = n' + 1)
    (hc : s'.captures = cl') : At c s' rest n' cl' := by
  refine ⟨by rw [hi]; exact (PC.drop_append h.text).1, ?_, hp, hc⟩
  have h1 := PC.drop_len h.text
  have h2 := h.le
  rw [List.length_append] at h1
  omega

theorem At.next {c : PC} {s : PS} {y : Nat} {tl : List Nat} {n : Nat} {cl : List Nat}
    (h : At c s (y :: tl) n cl) (s' : PS) (hi : s'.idx = s.idx + 1) {n' : Nat} {cl' : List Nat}
    (hp : s'.parens = n' + 1) (hc : s'.captures = cl') : At c s' tl n' cl' :=
  At.adv (T := [y]) h hi hp hc

/-- the state the look-ahead of the atom loop leaves at a backslash: back at the position of `s`, with
    the bookkeeping of the state `s'` after the escape -/
theorem At.back {c : PC} {s s' : PS} {l l' : List Nat} {n : Nat} {cl : List Nat} (h : At c s l n cl)
    (h' : At c s' l' n cl) : At c { s' with idx := s.idx } l n cl :=
  ⟨h.text, h.le, h'.parens, h'.caps⟩

theorem At.idx {c : PC} {s s' : PS} {T rest : List Nat} {n n' : Nat} {cl cl' : List Nat}
    (h : At c s (T ++ rest) n cl) (h' : At c s' rest n' cl') : s'.idx = s.idx + T.length := by
  have h1 := PC.drop_len h.text
  have h2 := PC.drop_len h'.text
  have h3 := h.le
  have h4 := h'.le
  rw [List.length_append] at h1
  omega

/-- the call `x` made in state `s` succeeds, having read `k` characters and opened `g` groups, with
    `cl'` closed: `Runs` with the characters counted (`Runs.acc`), the form of Props/C07b -/
def Acc {α : Type} (x : PRes α) (s : PS) (k g : Nat) (cl' : List Nat) : Prop :=
  ∃ a s', x = .ok a s' ∧ s'.idx = s.idx + k ∧ s'.parens = s.parens + g ∧ s'.captures = cl'

/-- the call `x` succeeds and leaves the parser before `rest` (`At`) -/
def Runs (c : PC) {α : Type} (x : PRes α) (rest : List Nat) (n : Nat) (cl : List Nat) : Prop :=
  ∃ a s', x = .ok a s' ∧ At c s' rest n cl

theorem Runs.acc {c : PC} {α : Type} {x : PRes α} {s : PS} {T rest : List Nat} {n g : Nat}
    {cl cl' : List Nat} (h : At c s (T ++ rest) n cl) (hx : Runs c x rest (n + g) cl') :
    Acc x s T.length g cl' := by
  obtain ⟨a, s', e, h'⟩ := hx
  exact ⟨a, s', e, h.idx h', by rw [h'.parens, h.parens]; omega, h'.caps⟩

/-- what may follow a branch: the end, `)` or `|` -/
def FolB (rest : List Nat) : Prop := rest = [] ∨ ∃ tl, rest = 41 :: tl ∨ rest = 124 :: tl

/-- what may follow a regExp: the end or `)` -/
def FolR (rest : List Nat) : Prop := rest = [] ∨ ∃ tl, rest = 41 :: tl

theorem FolR.folB {rest : List Nat} (h : FolR rest) : FolB rest := by
  rcases h with rfl | ⟨tl, rfl⟩
  · exact .inl rfl
  · exact .inr ⟨tl, .inl rfl⟩

/-- the text does not start with a quantifier character: what follows an unquantified atom, and
    (since `?` is one) what follows a quantifier -/
def NoQ (l : List Nat) : Prop := ∀ y tl, l = y :: tl → isQuantChar y = false

theorem escape_numeral {c : PC} {s : PS} {ds rest : List Nat}
    (h : c.pat.drop s.idx = 92 :: (ds ++ rest)) (hx : c.fl.xsd = false)
    (hnum : backrefNumeral ds = true) (hle : Spec.digitsVal ds ≤ s.parens - 1)
    (hmem : Spec.digitsVal ds ∈ s.captures)
    (hfol : backrefFollowOk (s.parens - 1) (Spec.digitsVal ds) rest = true) :
    escape c s false = .ok (.backref (Spec.digitsVal ds))
      { s with idx := s.idx + 1 + ds.length, hasBackrefs := true } := by
  cases ds with
  | nil => simp [backrefNumeral] at hnum
  | cons d more =>
    simp only [backrefNumeral, List.all_cons, Bool.and_eq_true, bne_iff_ne, ne_eq] at hnum
    obtain ⟨⟨hd, hmore⟩, hd0⟩ := hnum
    simp only [List.cons_append] at h
    have h2 := (PC.drop_cons (PC.drop_cons h).2.2).2.2
    have hdr : 49 ≤ d ∧ d ≤ 57 := by
      simp only [isDigit, Bool.and_eq_true, decide_eq_true_eq] at hd
      omega
    have hv : Spec.digitsVal (d :: more) = more.foldl (fun n d => n * 10 + (d - 48)) (d - 48) := by
      simp [Spec.digitsVal]
    rw [hv] at hle hmem hfol
    have hbd := backrefDigits_spec c s.parens more rest (c.len + 1) (s.idx + 2) (d - 48) hmore h2
      (by
        have := PC.drop_len h2
        simp only [List.length_append] at this
        omega) (fun _ => hle) hfol
    have e3 : (!decide (more.foldl (fun n d => n * 10 + (d - 48)) (d - 48) ∈ s.captures)) = false := by
      simp [hmem]
    rw [escape_digit h hdr, hx]
    simp only [Bool.false_eq_true, if_false, escapeBackref, hbd, e3, hv, List.length_cons]
    congr 2
    omega

theorem pieceQuant_ok (c : PC) (ret : Op) (s : PS) (hlt : s.idx < c.len) (hasQ : Bool) (s1 : PS)
    (hr : quantHead c s = .ok hasQ s1) (hx : (relAt c s1 && c.fl.xsd) = false) :
    ∃ op, pieceQuant c ret s =
      .ok op (if relAt c s1 then { s1 with idx := s1.idx + 1 } else s1) := by
  rw [pieceQuant_eq, if_neg (by omega), hr]
  simp only [hx, Bool.false_eq_true, if_false]
  exact ⟨_, rfl⟩

theorem quantHead_char {c : PC} {s : PS} (h : c.at s.idx = 63 ∨ c.at s.idx = 42 ∨ c.at s.idx = 43) :
    quantHead c s = .ok true { s with idx := s.idx + 1 } := by
  unfold quantHead
  rcases h with h | h | h <;> rw [h] <;> rfl

theorem quantHead_brace {c : PC} {s s' : PS} (h : c.at s.idx = 123) (hb : bracket c s = .ok () s') :
    quantHead c s = .ok true s' := by
  unfold quantHead
  rw [h, hb]
  rfl

theorem quantHead_kind {c : PC} {s : PS} {k : QKind} {rest : List Nat} {n : Nat} {cl : List Nat}
    (hat : At c s (k.render ++ rest) n cl) (hok : k.ok = true) (hlim : k.inLimit = true) :
    ∃ s1, quantHead c s = .ok true s1 ∧ At c s1 rest n cl := by
  have h := hat.text
  cases k with
  | opt | star | plus =>
    simp only [QKind.render, List.cons_append, List.nil_append] at h
    have hat1 := (PC.drop_cons h).2.1
    exact ⟨_, quantHead_char (by omega), hat.adv rfl hat.parens hat.caps⟩
  | exact n =>
    simp only [QKind.render, List.cons_append] at h
    obtain ⟨hne, hds⟩ := numeral_iff.1 hok
    simp only [QKind.inLimit, decide_eq_true_eq] at hlim
    have hb := bracket_exact' c s n rest hne hds hlim (by simpa using h)
    exact ⟨_, quantHead_brace (PC.drop_cons h).2.1 hb,
      hat.adv (by simp [QKind.render]; omega) hat.parens hat.caps⟩
  | atLeast n =>
    simp only [QKind.render, List.cons_append] at h
    obtain ⟨hne, hds⟩ := numeral_iff.1 hok
    simp only [QKind.inLimit, decide_eq_true_eq] at hlim
    have hb := bracket_open' c s n rest hne hds hlim (by simpa using h)
    exact ⟨_, quantHead_brace (PC.drop_cons h).2.1 hb,
      hat.adv (by simp [QKind.render]; omega) hat.parens hat.caps⟩
  | range n m =>
    simp only [QKind.render, List.cons_append] at h
    simp only [QKind.ok, Bool.and_eq_true, decide_eq_true_eq] at hok
    obtain ⟨hne, hds⟩ := numeral_iff.1 hok.1.1
    obtain ⟨hme, hms⟩ := numeral_iff.1 hok.1.2
    simp only [QKind.inLimit, Bool.and_eq_true, decide_eq_true_eq] at hlim
    have hb := bracket_range' c s n m rest hne hds hme hms hlim.1 hlim.2 (by simpa using h)
    rw [if_pos hok.2] at hb
    exact ⟨_, quantHead_brace (PC.drop_cons h).2.1 hb,
      hat.adv (by simp [QKind.render]; omega) hat.parens hat.caps⟩

theorem relAt_at {c : PC} {s : PS} {l : List Nat} {n : Nat} {cl : List Nat} (h : At c s l n cl) :
    relAt c s = (l.head? == some 63) := by
  cases l with
  | nil =>
    have := PC.drop_nil h.text
    simp [relAt, this]
  | cons y tl => simp [relAt, h.head.1, h.head.2]

theorem pieceQuant_at {c : PC} (ret : Op) {s : PS} {q : Option Quant} {X : List Nat} {n : Nat}
    {cl : List Nat} (hat : At c s (qRender q ++ X) n cl) (hq : qOk c.fl.xsd q = true)
    (hql : qInLimit q = true) (hX : NoQ X) : Runs c (pieceQuant c ret s) X n cl := by
  -- no reluctant marker before `X`
  have hrelX : ∀ {s1 : PS}, At c s1 X n cl → relAt c s1 = false := by
    intro s1 h1
    rw [relAt_at h1]
    cases X with
    | nil => rfl
    | cons y tl =>
      have hy : y ≠ 63 := fun h => by
        have := hX y tl rfl
        rw [h] at this
        cases this
      simp [hy]
  cases q with
  | none =>
    have hat' : At c s X n cl := hat
    cases X with
    | nil =>
      exact ⟨ret, s, by rw [pieceQuant, if_pos (Nat.le_of_not_lt (PC.drop_nil hat'.text))], hat'⟩
    | cons y tl =>
      obtain ⟨h1, h2, h3, h4⟩ := (isQuantChar_false _).1 (hX y tl rfl)
      have hh : quantHead c s = .ok false s := by simp [quantHead, hat'.head.2, h1, h2, h3, h4]
      obtain ⟨op, hp⟩ := pieceQuant_ok c ret s hat'.head.1 false s hh (by simp [hrelX hat'])
      rw [hrelX hat'] at hp
      exact ⟨op, s, hp, hat'⟩
  | some q =>
    simp only [qOk, Quant.ok, Bool.and_eq_true, Bool.not_eq_true', Bool.and_eq_false_iff] at hq
    have hat1 : At c s (q.kind.render ++ ((if q.reluctant then [63] else []) ++ X)) n cl := by
      simpa [qRender, Quant.render] using hat
    obtain ⟨s1, hh, h1⟩ := quantHead_kind hat1 hq.1 hql
    have hlt : s.idx < c.len := by
      have hi := hat1.idx h1
      have hle := h1.le
      have : 0 < q.kind.render.length := by cases q.kind <;> simp [QKind.render]
      omega
    cases hr : q.reluctant with
    | true =>
      rw [hr] at h1
      have hx : c.fl.xsd = false := by
        rcases hq.2 with h2 | h2
        · rw [hr] at h2; cases h2
        · exact h2
      have h1' : At c s1 (63 :: X) n cl := h1
      obtain ⟨op, hp⟩ := pieceQuant_ok c ret s hlt true s1 hh (by simp [hx])
      rw [show relAt c s1 = true by rw [relAt_at h1']; rfl] at hp
      exact ⟨op, _, hp, h1'.next _ rfl h1.parens h1.caps⟩
    | false =>
      rw [hr] at h1
      have h1' : At c s1 X n cl := h1
      obtain ⟨op, hp⟩ := pieceQuant_ok c ret s hlt true s1 hh (by simp [hrelX h1'])
      rw [hrelX h1'] at hp
      exact ⟨op, s1, hp, h1'⟩

theorem Atom.head_spec {xsd : Bool} {env : Env} {n : Nat} {cl : List Nat} {a : Atom}
    (h : a.ok xsd env n cl = true) :
    ∃ y tl, a.render = y :: tl ∧ isQuantChar y = false ∧ y ≠ 41 ∧ y ≠ 124 := by
  cases a with
  | chr x =>
    obtain ⟨_, _, h63, h42, h43, h123, _, _, h41, h124, _⟩ := normalChar_ne h
    exact ⟨x, [], rfl, by simp only [isQuantChar, h123, h63, h42, h43, Bool.or_self],
      by simpa using h41, by simpa using h124⟩
  | dot => exact ⟨46, [], rfl, by decide, by decide, by decide⟩
  | bol => exact ⟨94, [], rfl, by decide, by decide, by decide⟩
  | eol => exact ⟨36, [], rfl, by decide, by decide, by decide⟩
  | esc e => exact ⟨92, [e], rfl, by decide, by decide, by decide⟩
  | clsEsc e => exact ⟨92, [e], rfl, by decide, by decide, by decide⟩
  | prop pos name => exact ⟨92, _, rfl, by decide, by decide, by decide⟩
  | backref ds => exact ⟨92, ds, rfl, by decide, by decide, by decide⟩
  | cls e =>
    obtain ⟨tl, ht⟩ := C09.CExpr.render_cons e
    exact ⟨91, tl, ht, by decide, by decide, by decide⟩
  | group r => exact ⟨40, _, rfl, by decide, by decide, by decide⟩
  | ncgroup r => exact ⟨40, _, rfl, by decide, by decide, by decide⟩

theorem Branch.ok_cons {xsd : Bool} {env : Env} {n : Nat} {cl : List Nat} {a : Atom} {q : Option Quant}
    {b' : Branch} (h : (Branch.cons a q b').ok xsd env n cl = true) :
    a.ok xsd env n cl = true ∧ qOk xsd q = true ∧ a.followOk n (qRender q ++ b'.render) = true ∧
    b'.ok xsd env (n + a.groups) (a.closed n cl) = true := by
  simp only [Branch.ok, Bool.and_eq_true] at h
  exact ⟨h.1.1.1, h.1.1.2, h.1.2, h.2⟩

theorem Branch.inLimit_cons {a : Atom} {q : Option Quant} {b' : Branch}
    (h : (Branch.cons a q b').inLimit = true) :
    a.inLimit = true ∧ qInLimit q = true ∧ b'.inLimit = true := by
  simp only [Branch.inLimit, Bool.and_eq_true] at h
  exact ⟨h.1.1, h.1.2, h.2⟩

theorem Branch.noQ {xsd : Bool} {env : Env} {n : Nat} {cl : List Nat} {b : Branch}
    (h : b.ok xsd env n cl = true) {rest : List Nat} (hr : FolB rest) : NoQ (b.render ++ rest) := by
  intro y tl hy
  cases b with
  | nil =>
    rcases hr with rfl | ⟨tl', rfl | rfl⟩
    · cases hy
    · cases hy; rfl
    · cases hy; rfl
  | cons a q b' =>
    obtain ⟨y', tl', hy', hq, _, _⟩ := Atom.head_spec (Branch.ok_cons h).1
    rw [Branch.render, hy'] at hy
    cases hy
    exact hq

/-- the value `escape` returns for an atom that starts with a backslash -/
def Atom.escRes (env : Env) : Atom → Option Esc
  | .esc e => some (.chr (C09.escVal e))
  | .clsEsc e => some (.set (C09.clsSet env e))
  | .prop pos name => some (.set (C09.propSet env pos name))
  | .backref ds => some (.backref (Spec.digitsVal ds))
  | _ => none

theorem escape_at {c : PC} {a : Atom} {r : Esc} (hr : a.escRes c.env = some r) {n : Nat}
    {cl : List Nat} (hok : a.ok c.fl.xsd c.env n cl = true) {s : PS} {rest : List Nat}
    (hat : At c s (a.render ++ rest) n cl) (hf : a.followOk n rest = true) :
    ∃ s', escape c s false = .ok r s' ∧ At c s' rest n cl := by
  have h := hat.text
  cases a with
  | esc e =>
    simp only [Atom.escRes, Option.some.injEq] at hr; subst hr
    simp only [Atom.ok] at hok
    exact ⟨_, C09.escape_single false (by simpa [Atom.render] using h) hok,
      hat.adv rfl hat.parens hat.caps⟩
  | clsEsc e =>
    simp only [Atom.escRes, Option.some.injEq] at hr; subst hr
    simp only [Atom.ok] at hok
    exact ⟨_, C09.escape_cls false (by simpa [Atom.render] using h) hok,
      hat.adv rfl hat.parens hat.caps⟩
  | prop pos name =>
    simp only [Atom.escRes, Option.some.injEq] at hr; subst hr
    simp only [Atom.ok, Bool.and_eq_true] at hok
    obtain ⟨rs, hrs⟩ := Option.isSome_iff_exists.1 hok.2
    have he := C09.escape_prop (c := c) (s := s) (pos := pos) (name := name) (tl := rest) false
      (by simpa [Atom.render] using h) hok.1 hrs
    refine ⟨{ s with idx := s.idx + 4 + name.length }, ?_,
      hat.adv (by simp [Atom.render]; omega) hat.parens hat.caps⟩
    rw [he]; simp [C09.propSet, hrs]
  | backref ds =>
    simp only [Atom.escRes, Option.some.injEq] at hr; subst hr
    simp only [Atom.ok, Bool.and_eq_true, Bool.not_eq_true', decide_eq_true_eq] at hok
    obtain ⟨⟨⟨hx, hnum⟩, hle⟩, hmem⟩ := hok
    simp only [Atom.followOk] at hf
    have he := escape_numeral (c := c) (s := s) (ds := ds) (rest := rest)
      (by simpa [Atom.render] using h) hx hnum (by rw [hat.parens]; simpa using hle)
      (by rw [hat.caps]; exact hmem) (by rw [hat.parens]; simpa using hf)
    exact ⟨_, he, hat.adv (by simp [Atom.render]; omega) hat.parens hat.caps⟩
  | _ => cases hr

theorem dispatch_stop {c : PC} {f : Nat} {s : PS} {ub : List Nat}
    (h : c.at s.idx = 93 ∨ c.at s.idx = 46 ∨ c.at s.idx = 91 ∨ c.at s.idx = 40 ∨ c.at s.idx = 41 ∨
      c.at s.idx = 124) : dispatch c f s ub = .ok ub s := by
  unfold dispatch
  rcases h with h | h | h | h | h | h <;> simp [h]

theorem dispatch_quant {c : PC} {f : Nat} {s : PS} {ub : List Nat}
    (hq : isQuantChar (c.at s.idx) = true) (hub : ub ≠ []) : dispatch c f s ub = .ok ub s := by
  unfold dispatch
  have hne : ub.isEmpty = false := by cases ub with
    | nil => exact absurd rfl hub
    | cons _ _ => rfl
  rw [isQuantChar_iff] at hq
  rcases hq with h | h | h | h <;> simp [h, isQuantChar, hne]

theorem dispatch_anchor {c : PC} {f : Nat} {s : PS} {ub : List Nat}
    (h : c.at s.idx = 94 ∨ c.at s.idx = 36) (hx : c.fl.xsd = false) : dispatch c f s ub = .ok ub s := by
  unfold dispatch
  rcases h with h | h <;> simp [h, isQuantChar, hx]

theorem dispatch_esc {c : PC} {f : Nat} {s : PS} {ub : List Nat} {r : Esc} {s' : PS}
    (h : c.at s.idx = 92) (he : escape c s false = .ok r s') :
    dispatch c f s ub =
      match r with
      | .chr x => parseAtomGo c f s' (ub ++ [x])
      | _ => .ok ub { s' with idx := s.idx } := by
  unfold dispatch
  simp only [h, he, isQuantChar]
  cases r <;> simp

theorem dispatch_normal {c : PC} {f : Nat} {s : PS} {ub : List Nat}
    (h : normalChar c.fl.xsd (c.at s.idx) = true) :
    dispatch c f s ub = parseAtomGo c f { s with idx := s.idx + 1 } (ub ++ [c.at s.idx]) := by
  obtain ⟨h46, h92, h63, h42, h43, h123, h125, h40, h41, h124, h91, h93, hx⟩ := normalChar_ne h
  unfold dispatch
  simp only [h93, h46, h91, h40, h41, h124, isQuantChar, h123, h63, h42, h43, h125, h92, Bool.or_self,
    Bool.false_eq_true, if_false]
  rcases hx with hx | hx
  · simp [hx]
  · simp only [hx.1, hx.2, Bool.or_self, Bool.false_and, Bool.false_eq_true, if_false]

/-- the atoms `parse_atom` merges into one literal: characters and single-character escapes -/
def Atom.isChar : Atom → Bool
  | .chr _ => true
  | .esc _ => true
  | _ => false

theorem isChar_facts {a : Atom} (hch : a.isChar = true) (n : Nat) (cl : List Nat) :
    a.groups = 0 ∧ a.closed n cl = cl := by
  cases a <;> first | exact ⟨rfl, rfl⟩ | cases hch

/-- what is left of a branch after the atom loop has merged unquantified characters from its front -/
def Rem (xsd : Bool) (env : Env) (n : Nat) (cl : List Nat) (b b2 : Branch) : Prop :=
  b2.ok xsd env n cl = true ∧ b2.inLimit = true ∧ b2.groups = b.groups ∧
    b2.closed n cl = b.closed n cl ∧ b2.render.length ≤ b.render.length

theorem Rem.rfl' {xsd : Bool} {env : Env} {n : Nat} {cl : List Nat} {b : Branch}
    (h : b.ok xsd env n cl = true) (hl : b.inLimit = true) : Rem xsd env n cl b b :=
  ⟨h, hl, rfl, rfl, Nat.le_refl _⟩

theorem Rem.cons {xsd : Bool} {env : Env} {n : Nat} {cl : List Nat} {a : Atom} {b' b2 : Branch}
    (hch : a.isChar = true) (h : Rem xsd env n cl b' b2) : Rem xsd env n cl (.cons a none b') b2 := by
  obtain ⟨h1, h2, h3, h4, h5⟩ := h
  obtain ⟨hg, hcl⟩ := isChar_facts hch n cl
  refine ⟨h1, h2, ?_, ?_, ?_⟩
  · simp [Branch.groups, hg, h3]
  · simp [Branch.closed, hg, hcl, h4]
  · simp [Branch.render, qRender]; omega

theorem Quant.render_head (q : Quant) : ∃ y tl, q.render = y :: tl ∧ isQuantChar y = true := by
  obtain ⟨k, r⟩ := q
  cases k <;> exact ⟨_, _, rfl, by decide⟩

theorem followOk_append {n : Nat} {a : Atom} {X rest : List Nat} (h : a.followOk n X = true)
    (hr : FolB rest) : a.followOk n (X ++ rest) = true := by
  cases a with
  | backref ds =>
    simp only [Atom.followOk] at h ⊢
    cases X with
    | nil =>
      rcases hr with rfl | ⟨tl, rfl | rfl⟩
      · rfl
      · simp [backrefFollowOk, isDigit]
      · simp [backrefFollowOk, isDigit]
    | cons x tl => simpa [backrefFollowOk] using h
  | _ => rfl

theorem go_stop_plain {c : PC} {f : Nat} {s : PS} {ub : List Nat} (hlt : s.idx < c.len)
    (h92 : c.at s.idx ≠ 92) (hd : dispatch c f s ub = .ok ub s) :
    parseAtomGo c (f + 1) s ub = .ok ub s := by
  obtain ⟨bq, hla, _, _⟩ := lookAhead_plain (ub := ub) (.inl h92)
  rw [parseAtomGo_succ, if_pos hlt, hla]
  cases bq
  · exact hd
  · rfl

theorem go_stop_esc {c : PC} {f : Nat} {s : PS} {ub : List Nat} {a : Atom} {r : Esc}
    (hr : a.escRes c.env = some r) (hnc : ∀ x, r ≠ .chr x) {n : Nat} {cl : List Nat}
    (hok : a.ok c.fl.xsd c.env n cl = true) {rest : List Nat}
    (hat : At c s (a.render ++ rest) n cl) (hf : a.followOk n rest = true) :
    ∃ s3, parseAtomGo c (f + 1) s ub = .ok ub s3 ∧ At c s3 (a.render ++ rest) n cl := by
  obtain ⟨s', he, hat'⟩ := escape_at hr hok hat hf
  obtain ⟨h92, h2, h3, _⟩ := escape_ok he
  have hlt1 : s.idx + 1 < c.len := by omega
  obtain ⟨bq, hla, _, _⟩ := lookAhead_esc (ub := ub) h92 hlt1 he
  have hat0 := hat.back hat'
  rw [parseAtomGo_succ, if_pos (by omega), hla]
  cases bq
  · -- the dispatch runs `escape` again, from the state the look-ahead left
    obtain ⟨s2', he2, hat2⟩ := escape_at hr hok hat0 hf
    refine ⟨{ s2' with idx := s.idx }, ?_, hat.back hat2⟩
    simp only []
    rw [dispatch_esc (f := f) (ub := ub) (s := { s' with idx := s.idx }) h92 he2]
    cases r with
    | chr x => exact absurd rfl (hnc x)
    | set rs => rfl
    | backref k => rfl
  · exact ⟨_, rfl, hat0⟩

theorem go_stop_atom {c : PC} {f : Nat} {s : PS} {ub : List Nat} {a : Atom} (hch : a.isChar = false)
    {n : Nat} {cl : List Nat} (hok : a.ok c.fl.xsd c.env n cl = true) {rest : List Nat}
    (hat : At c s (a.render ++ rest) n cl) (hf : a.followOk n rest = true) :
    ∃ s3, parseAtomGo c (f + 1) s ub = .ok ub s3 ∧ At c s3 (a.render ++ rest) n cl := by
  have plain : ∀ {y : Nat} {tl : List Nat}, a.render ++ rest = y :: tl → y ≠ 92 →
      (∀ hat : c.at s.idx = y, dispatch c f s ub = .ok ub s) →
      ∃ s3, parseAtomGo c (f + 1) s ub = .ok ub s3 ∧ At c s3 (a.render ++ rest) n cl := by
    intro y tl hy h92 hd
    have h := hat.text
    rw [hy] at h
    obtain ⟨hlt, hy', _⟩ := PC.drop_cons h
    exact ⟨s, go_stop_plain hlt (by rw [hy']; exact h92) (hd hy'), hat⟩
  cases a with
  | dot => exact plain rfl (by decide) fun hat => dispatch_stop (by omega)
  | bol =>
    have hx : c.fl.xsd = false := by simpa [Atom.ok] using hok
    exact plain rfl (by decide) fun hat => dispatch_anchor (.inl hat) hx
  | eol =>
    have hx : c.fl.xsd = false := by simpa [Atom.ok] using hok
    exact plain rfl (by decide) fun hat => dispatch_anchor (.inr hat) hx
  | cls e =>
    obtain ⟨tl, ht⟩ := C09.CExpr.render_cons e
    exact plain (by rw [Atom.render, ht]; rfl) (by decide) fun hat => dispatch_stop (by omega)
  | group r => exact plain rfl (by decide) fun hat => dispatch_stop (by omega)
  | ncgroup r => exact plain rfl (by decide) fun hat => dispatch_stop (by omega)
  | clsEsc e => exact go_stop_esc (a := .clsEsc e) rfl (by intro x h; cases h) hok hat hf
  | prop pos name => exact go_stop_esc (a := .prop pos name) rfl (by intro x h; cases h) hok hat hf
  | backref ds => exact go_stop_esc (a := .backref ds) rfl (by intro x h; cases h) hok hat hf
  | _ => cases hch

/-- one iteration of the atom loop at a token it takes, given what the look-ahead answers (`sq` is
    any state before the text `X` after the token) and where the dispatch goes on: with a literal
    already read the look-ahead may stop the loop; otherwise the token is taken, and then no
    quantifier follows it unless it is the first character of the literal -/
theorem atomGo_take {c : PC} {f : Nat} {s s0 s1 sq : PS} {ub l X : List Nat} {x n : Nat}
    {cl : List Nat} (hlt : s.idx < c.len)
    (hla : ∃ bq, lookAhead c s ub = .ok bq s0 ∧
      (sq.idx < c.len → isQuantChar (c.at sq.idx) = true → ub ≠ [] → bq = true) ∧
      (bq = true → ub ≠ []))
    (h0 : At c s0 l n cl) (hq : At c sq X n cl) (h1 : At c s1 X n cl)
    (hd : dispatch c f s0 ub = parseAtomGo c f s1 (ub ++ [x])) :
    (ub ≠ [] ∧ ∃ s3, parseAtomGo c (f + 1) s ub = .ok ub s3 ∧ At c s3 l n cl) ∨
    ∃ x s1, At c s1 X n cl ∧ parseAtomGo c (f + 1) s ub = parseAtomGo c f s1 (ub ++ [x]) ∧
      (ub ≠ [] → NoQ X) := by
  obtain ⟨bq, hla, hq1, hq0⟩ := hla
  rw [parseAtomGo_succ, if_pos hlt, hla]
  cases bq with
  | true => exact .inl ⟨hq0 rfl, s0, rfl, h0⟩
  | false =>
    refine .inr ⟨x, s1, h1, hd, fun hub y tl hy => ?_⟩
    subst hy
    -- a quantifier character here would have made the look-ahead answer `true`
    cases hyq : isQuantChar y with
    | false => rfl
    | true => exact Bool.noConfusion (hq1 hq.head.1 (by rw [hq.head.2]; exact hyq) hub)

theorem atomGo_char {c : PC} {n : Nat} {cl : List Nat} {a : Atom} {X : List Nat} {s : PS}
    (f : Nat) (ub : List Nat) (hch : a.isChar = true) (haok : a.ok c.fl.xsd c.env n cl = true)
    (hat : At c s (a.render ++ X) n cl) :
    (ub ≠ [] ∧ ∃ s3, parseAtomGo c (f + 1) s ub = .ok ub s3 ∧ At c s3 (a.render ++ X) n cl) ∨
    ∃ x s1, At c s1 X n cl ∧ parseAtomGo c (f + 1) s ub = parseAtomGo c f s1 (ub ++ [x]) ∧
      (ub ≠ [] → NoQ X) := by
  cases a with
  | chr x =>
    have hat1 : At c s (x :: X) n cl := hat
    have hn : normalChar c.fl.xsd x = true := by simpa [Atom.ok] using haok
    have h92 : c.at s.idx ≠ 92 := by
      rw [hat1.head.2]; intro h; subst h; revert hn; cases c.fl.xsd <;> decide
    have h1 : At c { s with idx := s.idx + 1 } X n cl := hat1.next _ rfl hat.parens hat.caps
    exact atomGo_take (sq := { s with idx := s.idx + 1 }) hat1.head.1 (lookAhead_plain (.inl h92)) hat h1 h1
      (by rw [dispatch_normal (by rw [hat1.head.2]; exact hn), hat1.head.2])
  | esc e =>
    have hr : (Atom.esc e).escRes c.env = some (.chr (C09.escVal e)) := rfl
    obtain ⟨s', he, hat'⟩ := escape_at hr haok hat rfl
    obtain ⟨h92, h2, h3, _⟩ := escape_ok he
    -- the dispatch runs `escape` again, from the state the look-ahead left
    have hat0 := hat.back hat'
    obtain ⟨s2, he2, hat2⟩ := escape_at hr haok hat0 rfl
    exact atomGo_take (by omega) (lookAhead_esc h92 (by omega) he) hat0 hat' hat2
      (dispatch_esc (s := { s' with idx := s.idx }) h92 he2)
  | _ => cases hch

/-- result of the atom loop on the text of `b`: success, somewhere on a piece boundary -/
def GoAt (c : PC) (n : Nat) (cl : List Nat) (b : Branch) (rest : List Nat) (x : PRes (List Nat)) : Prop :=
  ∃ ub' s1 b2, x = .ok ub' s1 ∧ ub' ≠ [] ∧ At c s1 (b2.render ++ rest) n cl ∧
    Rem c.fl.xsd c.env n cl b b2

theorem atomGo_run {c : PC} (n : Nat) (cl : List Nat) : ∀ (f : Nat) (b : Branch) (s : PS)
    (ub rest : List Nat), ub ≠ [] → At c s (b.render ++ rest) n cl → FolB rest →
    b.ok c.fl.xsd c.env n cl = true → b.inLimit = true →
    GoAt c n cl b rest (parseAtomGo c f s ub) := by
  intro f
  induction f with
  | zero =>
    intro b s ub rest hub hat _ hok hlim
    exact ⟨ub, s, b, by rw [parseAtomGo], hub, hat, Rem.rfl' hok hlim⟩
  | succ f ih =>
    intro b s ub rest hub hat hfol hok hlim
    cases b with
    | nil =>
      refine ⟨ub, s, .nil, ?_, hub, hat, Rem.rfl' hok hlim⟩
      by_cases hlt : s.idx < c.len
      · have hy : c.at s.idx = 41 ∨ c.at s.idx = 124 := by
          have htext : c.pat.drop s.idx = rest := hat.text
          rcases hfol with rfl | ⟨tl, rfl | rfl⟩
          · exact absurd hlt (PC.drop_nil htext)
          · exact .inl (PC.drop_cons htext).2.1
          · exact .inr (PC.drop_cons htext).2.1
        exact go_stop_plain hlt (by omega) (dispatch_stop (.inr (.inr (.inr (.inr hy)))))
      · rw [parseAtomGo_succ, if_neg hlt]
    | cons a q b' =>
      obtain ⟨haok, _, hafol, hb'ok⟩ := Branch.ok_cons hok
      have hl := Branch.inLimit_cons hlim
      have hat1 : At c s (a.render ++ ((qRender q ++ b'.render) ++ rest)) n cl := by
        simpa [Branch.render] using hat
      have stop : ∀ {s3 : PS}, parseAtomGo c (f + 1) s ub = .ok ub s3 →
          At c s3 (a.render ++ ((qRender q ++ b'.render) ++ rest)) n cl →
          GoAt c n cl (.cons a q b') rest (parseAtomGo c (f + 1) s ub) := fun h3 hs3 =>
        ⟨ub, _, .cons a q b', h3, hub, by simpa [Branch.render] using hs3, Rem.rfl' hok hlim⟩
      cases hch : a.isChar with
      | false =>
        obtain ⟨s3, h3, hs3⟩ := go_stop_atom (f := f) (ub := ub) hch haok hat1
          (followOk_append hafol hfol)
        exact stop h3 hs3
      | true =>
        rcases atomGo_char f ub hch haok hat1 with ⟨_, s3, h3, hs3⟩ | ⟨x, s1, hs1, hgo, hnq⟩
        · exact stop h3 hs3
        cases q with
        | some qq =>
          -- a quantifier after `a`: the look-ahead has stopped the loop
          obtain ⟨y, tl, hy, hyq⟩ := Quant.render_head qq
          have := hnq hub y (tl ++ (b'.render ++ rest))
            (by simp only [qRender, hy, List.cons_append, List.append_assoc])
          rw [hyq] at this
          cases this
        | none =>
          obtain ⟨hg, hcl⟩ := isChar_facts hch n cl
          rw [hg, hcl, Nat.add_zero] at hb'ok
          obtain ⟨ub', s2, b2, e1, e2, e3, e4⟩ :=
            ih b' s1 (ub ++ [x]) rest (by simp) (by simpa [qRender] using hs1) hfol hb'ok hl.2.2
          exact ⟨ub', s2, b2, by rw [hgo]; exact e1, e2, e3, e4.cons hch⟩

theorem atomGo_at_quant {c : PC} {f : Nat} {s : PS} {ub : List Nat} (hlt : s.idx < c.len)
    (hq : isQuantChar (c.at s.idx) = true) (hub : ub ≠ []) : parseAtomGo c f s ub = .ok ub s := by
  cases f with
  | zero => rw [parseAtomGo]
  | succ f =>
    refine go_stop_plain hlt ?_ (dispatch_quant hq hub)
    intro h; rw [h] at hq; revert hq; decide

theorem parseAtom_char {c : PC} {n : Nat} {cl : List Nat} {a : Atom} {q : Option Quant}
    {b' : Branch} {s : PS} {rest : List Nat} (hch : a.isChar = true)
    (hok : (Branch.cons a q b').ok c.fl.xsd c.env n cl = true)
    (hlim : (Branch.cons a q b').inLimit = true)
    (hat : At c s ((Branch.cons a q b').render ++ rest) n cl) (hfol : FolB rest) :
    ∃ b2, Runs c (parseAtom c s) (qRender q ++ (b2.render ++ rest)) n cl ∧
      Rem c.fl.xsd c.env n cl b' b2 := by
  obtain ⟨haok, _, _, hb'ok⟩ := Branch.ok_cons hok
  have hl := Branch.inLimit_cons hlim
  obtain ⟨hg, hcl⟩ := isChar_facts hch n cl
  rw [hg, hcl, Nat.add_zero] at hb'ok
  have hat1 : At c s (a.render ++ (qRender q ++ (b'.render ++ rest))) n cl := by
    simpa [Branch.render] using hat
  -- the first iteration: with nothing read yet the look-ahead cannot stop the loop
  obtain ⟨x, s1, hs1, hgo, _⟩ := (atomGo_char (c.len + 1) [] hch haok hat1).resolve_left
    fun h => h.1 rfl
  unfold parseAtom
  rw [hgo, List.nil_append]
  cases q with
  | some qq =>
    obtain ⟨y, tl, hy, hyq⟩ := Quant.render_head qq
    have h1 : At c s1 (y :: (tl ++ (b'.render ++ rest))) n cl := by simpa [qRender, hy] using hs1
    rw [atomGo_at_quant h1.head.1 (by rw [h1.head.2]; exact hyq) (by simp)]
    exact ⟨b', ⟨_, s1, rfl, hs1⟩, Rem.rfl' hb'ok hl.2.2⟩
  | none =>
    obtain ⟨ub', s2, b2, e1, e2, e3, e4⟩ :=
      atomGo_run n cl (c.len + 1) b' s1 [x] rest (by simp) (by simpa [qRender] using hs1) hfol
        hb'ok hl.2.2
    rw [e1]
    have hne : ub'.isEmpty = false := by
      cases ub' with
      | nil => exact absurd rfl e2
      | cons _ _ => rfl
    simp only [hne, Bool.false_eq_true, if_false]
    exact ⟨b2, ⟨_, s2, rfl, by simpa [qRender] using e3⟩, e4⟩

theorem parseBranches_stop {c : PC} {f : Nat} {s : PS} {acc : List Op} {rest : List Nat}
    (h : c.pat.drop s.idx = rest) (hr : FolR rest) : parseBranches c (f + 1) s acc = .ok acc s := by
  rw [parseBranches]
  rcases hr with rfl | ⟨tl, rfl⟩
  · have := PC.drop_nil h
    have h1 : ¬ s.idx < c.len := by omega
    simp [h1]
  · obtain ⟨_, hat, _⟩ := PC.drop_cons h
    simp [hat]

theorem parseBranch_stop {c : PC} {f : Nat} {s : PS} {cur : Option Op} {rest : List Nat}
    (h : c.pat.drop s.idx = rest) (hr : FolB rest) :
    parseBranch c (f + 1) s cur = .ok (cur.getD .nothing) s := by
  rw [parseBranch]
  rcases hr with rfl | ⟨tl, rfl | rfl⟩
  · have := PC.drop_nil h
    have h1 : ¬ s.idx < c.len := by omega
    simp [h1]
  · obtain ⟨_, hat, _⟩ := PC.drop_cons h
    simp [hat]
  · obtain ⟨_, hat, _⟩ := PC.drop_cons h
    simp [hat]

theorem parseBranch_at {c : PC} {f : Nat} {s : PS} {cur : Option Op} {y : Nat} {tl : List Nat}
    (htext : c.pat.drop s.idx = y :: tl) (hy1 : y ≠ 124) (hy2 : y ≠ 41) :
    parseBranch c (f + 1) s cur =
      match parseTerminal c f s with
      | .err e => .err e
      | .ok ret s' =>
        match pieceQuant c ret s' with
        | .err e => .err e
        | .ok op s'' => parseBranch c f s'' (some (seqCur cur op)) := by
  obtain ⟨hlt, hat, _⟩ := PC.drop_cons htext
  rw [parseBranch, if_pos (by simp [hlt, hat, hy1, hy2])]
  rfl

theorem parseTerminal_char {c : PC} {n : Nat} {cl : List Nat} {a : Atom} {rest : List Nat} {s : PS}
    (f : Nat) (hch : a.isChar = true) (haok : a.ok c.fl.xsd c.env n cl = true)
    (hat : At c s (a.render ++ rest) n cl) : parseTerminal c (f + 1) s = parseAtom c s := by
  cases a with
  | chr x =>
    have hat1 : At c s (x :: rest) n cl := hat
    exact parseTerminal_normalChar (by rw [hat1.head.2]; simpa [Atom.ok] using haok)
  | esc e =>
    simp only [Atom.ok] at haok
    have hat1 : At c s (92 :: e :: rest) n cl := hat
    rw [parseTerminal_esc hat1.head.2, C09.escape_single false hat1.text haok]
  | _ => cases hch

theorem parseClass_accepts (c : PC) (e : C09.CExpr) (hok : e.ok c.fl.xsd c.env = true) (s : PS)
    (rest : List Nat) (hpat : c.pat.drop s.idx = e.render ++ rest) :
    ∃ R, parseClass c (c.len + 2) s = .ok R { s with idx := s.idx + e.render.length } := by
  refine ⟨_, C09.parseClass_renderG e s rest _ hok hpat ?_⟩
  have := PC.drop_len hpat
  rw [List.length_append] at this
  omega

/-- the atoms `parse_terminal` handles without recursion and without `parse_atom` -/
def Atom.isLeaf : Atom → Bool
  | .dot => true
  | .bol => true
  | .eol => true
  | .clsEsc _ => true
  | .prop _ _ => true
  | .backref _ => true
  | .cls _ => true
  | _ => false

theorem Runs.of_res {c : PC} {f : Nat} {s s' : PS} {op : Op} (h : TerminalRes c f s op s')
    {rest : List Nat} {n : Nat} {cl : List Nat} (hat : At c s' rest n cl) :
    Runs c (parseTerminal c (f + 1) s) rest n cl :=
  ⟨op, s', h.run, hat⟩

theorem parseTerminal_leaf {c : PC} {n : Nat} {cl : List Nat}
    {a : Atom} {rest : List Nat} {s : PS} (f : Nat) (hleaf : a.isLeaf = true)
    (haok : a.ok c.fl.xsd c.env n cl = true) (hat : At c s (a.render ++ rest) n cl)
    (hfol : a.followOk n rest = true) : Runs c (parseTerminal c (f + 1) s) rest n cl := by
  have one : ∀ {y : Nat}, At c s (y :: rest) n cl → At c { s with idx := s.idx + 1 } rest n cl :=
    fun h => h.next _ rfl h.parens h.caps
  have esc : ∀ {r : Esc}, a.escRes c.env = some r →
      ∃ s', escape c s false = .ok r s' ∧ At c s' rest n cl := fun hr => escape_at hr haok hat hfol
  cases a with
  | dot => exact .of_res (.dot (At.head (tl := rest) hat).2) (one hat)
  | bol =>
    exact .of_res (.bol (by simpa [Atom.ok] using haok) (At.head (tl := rest) hat).2) (one hat)
  | eol =>
    exact .of_res (.eol (by simpa [Atom.ok] using haok) (At.head (tl := rest) hat).2) (one hat)
  | cls e =>
    obtain ⟨R, hcl⟩ := parseClass_accepts c e haok s rest hat.text
    exact .of_res (.cls hcl) (hat.adv rfl hat.parens hat.caps)
  | clsEsc e => obtain ⟨s', he, h'⟩ := esc rfl; exact .of_res (.escSet he) h'
  | prop pos name => obtain ⟨s', he, h'⟩ := esc rfl; exact .of_res (.escSet he) h'
  | backref ds =>
    obtain ⟨s', he, h'⟩ := esc rfl
    simp only [Atom.ok, Bool.and_eq_true, decide_eq_true_eq] at haok
    exact .of_res (.backref he (by rw [h'.parens]; omega)) h'
  | _ => cases hleaf

theorem not_ncAt {c : PC} {s : PS} {X : List Nat} (h : c.pat.drop s.idx = 40 :: X)
    (hX : ∀ tl, X ≠ 63 :: 58 :: tl) : ¬ ncAt c s :=
  fun hn => let ⟨tl, e⟩ := (ncAt_iff h).1 hn; hX tl e

theorem not_ncAt_head {c : PC} {s : PS} {X : List Nat} (h : c.pat.drop s.idx = 40 :: X)
    (hX : X.head? ≠ some 63) : ¬ ncAt c s :=
  not_ncAt h fun tl hx => hX (by rw [hx]; rfl)

theorem RegExp.head_ne {xsd : Bool} {env : Env} {n : Nat} {cl : List Nat} {r : RegExp}
    (h : r.ok xsd env n cl = true) {rest : List Nat} (hr : FolR rest) :
    (r.render ++ rest).head? ≠ some 63 := by
  have key : ∀ {l : List Nat}, NoQ l → l.head? ≠ some 63 := by
    intro l hl
    cases l with
    | nil => simp
    | cons y tl => intro h; cases h; exact absurd (hl 63 tl rfl) (by decide)
  cases r with
  | one b =>
    simp only [RegExp.ok] at h
    exact key (Branch.noQ h hr.folB)
  | alt b r' =>
    simp only [RegExp.ok, Bool.and_eq_true] at h
    simp only [RegExp.render, List.append_assoc, List.cons_append]
    exact key (Branch.noQ h.1 (.inr ⟨_, .inr rfl⟩))

theorem parseTerminal_paren {c : PC} {f : Nat} {s : PS} (h : c.at s.idx = 40) :
    parseTerminal c (f + 1) s = parseExpr c f s false := by
  rw [parseTerminal]; simp [h]

/-- the statements of the induction `parse_all`, one per parser function (Terminal, Branch, Branches,
    Expr): before the rendering of a well-formed tree (`At`), with fuel twice its length, the call
    `Runs` to the text behind it -/
def PT (c : PC) (f : Nat) : Prop :=
  ∀ (a : Atom) (s : PS) (rest : List Nat) (n : Nat) (cl : List Nat),
    a.isChar = false → a.ok c.fl.xsd c.env n cl = true → a.inLimit = true →
    At c s (a.render ++ rest) n cl → a.followOk n rest = true → 2 * a.render.length ≤ f →
    Runs c (parseTerminal c f s) rest (n + a.groups) (a.closed n cl)

def PB (c : PC) (f : Nat) : Prop :=
  ∀ (b : Branch) (s : PS) (cur : Option Op) (rest : List Nat) (n : Nat) (cl : List Nat),
    b.ok c.fl.xsd c.env n cl = true → b.inLimit = true → At c s (b.render ++ rest) n cl →
    FolB rest → 2 * b.render.length + 1 ≤ f →
    Runs c (parseBranch c f s cur) rest (n + b.groups) (b.closed n cl)

def PBs (c : PC) (f : Nat) : Prop :=
  ∀ (r : RegExp) (s : PS) (acc : List Op) (rest : List Nat) (n : Nat) (cl : List Nat),
    r.ok c.fl.xsd c.env n cl = true → r.inLimit = true → At c s (124 :: (r.render ++ rest)) n cl →
    FolR rest → 2 * r.render.length + 3 ≤ f →
    Runs c (parseBranches c f s acc) rest (n + r.groups) (r.closed n cl)

def PE (c : PC) (f : Nat) : Prop :=
  (∀ (r : RegExp) (s : PS) (rest : List Nat) (n : Nat) (cl : List Nat),
    r.ok c.fl.xsd c.env (n + 1) cl = true → r.inLimit = true →
    At c s (40 :: (r.render ++ 41 :: rest)) n cl → 2 * r.render.length + 2 ≤ f →
    Runs c (parseExpr c f s false) rest (n + (r.groups + 1)) ((n + 1) :: r.closed (n + 1) cl)) ∧
  (∀ (r : RegExp) (s : PS) (rest : List Nat) (n : Nat) (cl : List Nat),
    c.fl.xsd = false → r.ok c.fl.xsd c.env n cl = true → r.inLimit = true →
    At c s (40 :: 63 :: 58 :: (r.render ++ 41 :: rest)) n cl → 2 * r.render.length + 2 ≤ f →
    Runs c (parseExpr c f s false) rest (n + r.groups) (r.closed n cl))

theorem terminal_step {c : PC} {f : Nat} (hPT : PT c (f + 1)) {a : Atom} {q : Option Quant}
    {b' : Branch} {s : PS} {rest : List Nat} {n : Nat} {cl : List Nat}
    (hok : (Branch.cons a q b').ok c.fl.xsd c.env n cl = true)
    (hlim : (Branch.cons a q b').inLimit = true)
    (hat : At c s ((Branch.cons a q b').render ++ rest) n cl) (hfol : FolB rest)
    (hfuel : 2 * a.render.length ≤ f + 1) :
    ∃ b2, Runs c (parseTerminal c (f + 1) s) (qRender q ++ (b2.render ++ rest)) (n + a.groups)
        (a.closed n cl) ∧ Rem c.fl.xsd c.env (n + a.groups) (a.closed n cl) b' b2 := by
  obtain ⟨haok, _, hafol, hb'ok⟩ := Branch.ok_cons hok
  have hl := Branch.inLimit_cons hlim
  cases hch : a.isChar with
  | true =>
    obtain ⟨hg, hcl⟩ := isChar_facts hch n cl
    rw [hg, hcl, Nat.add_zero]
    have hat' : At c s (a.render ++ (qRender q ++ b'.render ++ rest)) n cl := by
      simpa [Branch.render] using hat
    rw [parseTerminal_char f hch haok hat']
    exact parseAtom_char hch hok hlim hat hfol
  | false =>
    have hat' : At c s (a.render ++ (qRender q ++ (b'.render ++ rest))) n cl := by
      simpa [Branch.render] using hat
    exact ⟨b', hPT a s _ n cl hch haok hl.1 hat'
      (by rw [← List.append_assoc]; exact followOk_append hafol hfol) hfuel, Rem.rfl' hb'ok hl.2.2⟩

theorem PB_step {c : PC} {f : Nat} (hPB : PB c f) (hPT : PT c f) : PB c (f + 1) := by
  intro b s cur rest n cl hok hlim hat hfol hfuel
  cases b with
  | nil => exact ⟨_, s, parseBranch_stop hat.text hfol, hat⟩
  | cons a q b' =>
    have hqq := (Branch.ok_cons hok).2.1
    obtain ⟨y, tl, hy, _, hy41, hy124⟩ := Atom.head_spec (Branch.ok_cons hok).1
    have hlen : (Branch.cons a q b').render.length =
        a.render.length + ((qRender q).length + b'.render.length) := by simp [Branch.render]
    have hapos : 0 < a.render.length := by rw [hy]; simp
    obtain ⟨f', rfl⟩ : ∃ f', f = f' + 1 := ⟨f - 1, by omega⟩
    obtain ⟨b2, ⟨ret, s1, hpt, hat1⟩, hr2, hr3, hr4, hr5, hr6⟩ :=
      terminal_step hPT hok hlim hat hfol (by omega)
    obtain ⟨op, s2, hpq, hat2⟩ :=
      pieceQuant_at ret hat1 hqq (Branch.inLimit_cons hlim).2.1 (Branch.noQ hr2 hfol)
    have := hPB b2 s2 (some (seqCur cur op)) rest _ _ hr2 hr3 hat2 hfol (by omega)
    rw [parseBranch_at (by rw [hat.text, Branch.render, hy]; rfl) hy124 hy41, hpt]
    simpa only [hpq, Branch.groups, Branch.closed, hr4, hr5, Nat.add_assoc] using this

theorem regexp_body {c : PC} {f : Nat} (hPB : PB c f) (hPBs : PBs c f) {r : RegExp} {s : PS}
    {rest : List Nat} {n : Nat} {cl : List Nat} (hok : r.ok c.fl.xsd c.env n cl = true)
    (hlim : r.inLimit = true) (hat : At c s (r.render ++ rest) n cl) (hfol : FolR rest)
    (hfuel : 2 * r.render.length + 1 ≤ f) (acc : List Op) :
    ∃ b1 s1, parseBranch c f s none = .ok b1 s1 ∧
      Runs c (parseBranches c f s1 (acc ++ [b1])) rest (n + r.groups) (r.closed n cl) := by
  cases r with
  | one b =>
    obtain ⟨b1, s1, e1, hat1⟩ := hPB b s none rest n cl hok hlim hat hfol.folB hfuel
    obtain ⟨f', rfl⟩ : ∃ f', f = f' + 1 := ⟨f - 1, by omega⟩
    exact ⟨b1, s1, e1, _, s1, parseBranches_stop hat1.text hfol, hat1⟩
  | alt b r' =>
    simp only [RegExp.ok, Bool.and_eq_true] at hok
    simp only [RegExp.inLimit, Bool.and_eq_true] at hlim
    simp only [RegExp.render, List.append_assoc, List.cons_append] at hat
    simp only [RegExp.render, List.length_append, List.length_cons] at hfuel
    obtain ⟨b1, s1, e1, hat1⟩ :=
      hPB b s none _ n cl hok.1 hlim.1 hat (.inr ⟨_, .inr rfl⟩) (by omega)
    have := hPBs r' s1 (acc ++ [b1]) rest _ _ hok.2 hlim.2 hat1 hfol (by omega)
    exact ⟨b1, s1, e1, by simpa only [RegExp.groups, RegExp.closed, Nat.add_assoc] using this⟩

theorem PBs_step {c : PC} {f : Nat} (hPB : PB c f) (hPBs : PBs c f) : PBs c (f + 1) := by
  intro r s acc rest n cl hok hlim hat hfol hfuel
  obtain ⟨b1, s1, e1, e2⟩ := regexp_body hPB hPBs hok hlim
    (hat.next { s with idx := s.idx + 1 } rfl hat.parens hat.caps) hfol (by omega) acc
  rw [parseBranches, if_pos (by simp [hat.head.1, hat.head.2]), e1]
  exact e2

theorem PE_step {c : PC} {f : Nat} (hPB : PB c f) (hPBs : PBs c f) : PE c (f + 1) := by
  constructor
  · intro r s rest n cl hok hlim hat hfuel
    obtain ⟨b1, s1, e1, bs, s2, e2, hat2⟩ := regexp_body hPB hPBs hok hlim
      (hat.next { s with idx := s.idx + 1, parens := s.parens + 1 } rfl
        (by simp only []; rw [hat.parens]) hat.caps) (.inr ⟨rest, rfl⟩) (by omega) []
    have hnc := not_ncAt_head hat.text (RegExp.head_ne hok (.inr ⟨rest, rfl⟩))
    exact ⟨_, _, (ExprRes.group rfl hat.head.2 hnc e1 e2 hat2.head.1 hat2.head.2).run,
      hat2.next _ rfl (by simp only []; rw [hat2.parens]; omega)
        (by simp only []; rw [hat2.caps, hat.parens])⟩
  · intro r s rest n cl hx hok hlim hat hfuel
    obtain ⟨b1, s1, e1, bs, s2, e2, hat2⟩ := regexp_body hPB hPBs hok hlim
      (At.adv (T := [40, 63, 58]) hat (s' := { s with idx := s.idx + 3 }) rfl hat.parens hat.caps)
      (.inr ⟨rest, rfl⟩) (by omega) []
    exact ⟨_, _, (ExprRes.cluster rfl hx hat.head.2 ((ncAt_iff hat.text).2 ⟨_, rfl⟩) e1 e2 hat2.head.1
      hat2.head.2).run, hat2.next _ rfl hat2.parens hat2.caps⟩

theorem PT_step {c : PC} {f : Nat} (hPE : PE c f) : PT c (f + 1) := by
  intro a s rest n cl hch hok hlim hat hfol hfuel
  cases hleaf : a.isLeaf with
  | true =>
    have hg : a.groups = 0 ∧ a.closed n cl = cl := by
      cases a <;> first | exact ⟨rfl, rfl⟩ | cases hleaf
    rw [hg.1, hg.2]
    exact parseTerminal_leaf f hleaf hok hat hfol
  | false =>
    cases a with
    | group r =>
      simp only [Atom.render, List.cons_append, List.append_assoc, List.length_cons,
        List.length_append, List.length_nil] at hat hfuel
      rw [parseTerminal_paren hat.head.2]
      exact hPE.1 r s rest n cl hok hlim hat (by omega)
    | ncgroup r =>
      simp only [Atom.ok, Bool.and_eq_true, Bool.not_eq_true'] at hok
      simp only [Atom.render, List.cons_append, List.append_assoc, List.length_cons,
        List.length_append, List.length_nil] at hat hfuel
      rw [parseTerminal_paren hat.head.2]
      exact hPE.2 r s rest n cl hok.1 hok.2 hlim hat (by omega)
    | chr x | esc e => cases hch
    | _ => cases hleaf

theorem parse_all (c : PC) : ∀ f, PE c f ∧ PBs c f ∧ PB c f ∧ PT c f := by
  intro f
  induction f with
  | zero =>
    refine ⟨⟨?_, ?_⟩, ?_, ?_, ?_⟩
    · intro r s rest n cl _ _ _ hfuel; omega
    · intro r s rest n cl _ _ _ _ hfuel; omega
    · intro r s acc rest n cl _ _ _ _ hfuel; omega
    · intro b s cur rest n cl _ _ _ _ hfuel; omega
    · intro a s rest n cl _ hok _ _ _ hfuel
      obtain ⟨y, tl, hy, _⟩ := Atom.head_spec hok
      rw [hy] at hfuel
      simp only [List.length_cons] at hfuel
      omega
  | succ f ih =>
    obtain ⟨hPE, hPBs, hPB, hPT⟩ := ih
    exact ⟨PE_step hPB hPBs, PBs_step hPB hPBs, PB_step hPB hPT, PT_step hPE⟩

/-- `rest`: nothing, or a stray `)`, at which the top-level call stops -/
theorem parse_top_gen (c : PC) (r : RegExp) (rest : List Nat)
    (hok : r.ok c.fl.xsd c.env 0 [] = true) (hlim : r.inLimit = true)
    (hpat : c.pat = r.render ++ rest) (hfol : FolR rest) :
    ∃ op s', parseExpr c (4 * c.pat.length + 16) {} true = .ok op s' ∧
      s'.idx = r.render.length ∧ s'.parens = r.groups + 1 ∧ s'.captures = r.closed 0 [] := by
  obtain ⟨_, hPBs, hPB, _⟩ := parse_all c (4 * c.pat.length + 15)
  have hlen : r.render.length ≤ c.pat.length := by rw [hpat]; simp
  have hat : At c {} (r.render ++ rest) 0 [] := ⟨by simpa using hpat, Nat.zero_le _, rfl, rfl⟩
  obtain ⟨b1, s1, e1, bs, s2, e2, hat2⟩ := regexp_body hPB hPBs hok hlim hat hfol (by omega) []
  exact ⟨_, s2, (ExprRes.plain (.inl rfl) e1 e2).run, by simpa using hat.idx hat2,
    by simpa using hat2.parens, hat2.caps⟩

/-- a tree without groups closes none -/
theorem mem_closed_none (x n : Nat) (cl : List Nat) : x ∈ cl ↔ (x ∈ cl ∨ (n < x ∧ x ≤ n + 0)) :=
  ⟨.inl, fun h => h.elim id (fun h' => by omega)⟩

mutual
theorem Atom.mem_closed (x : Nat) : (a : Atom) → ∀ (n : Nat) (cl : List Nat),
    x ∈ a.closed n cl ↔ (x ∈ cl ∨ (n < x ∧ x ≤ n + a.groups))
  | .group r, n, cl => by
    simp only [Atom.closed, Atom.groups, List.mem_cons, RegExp.mem_closed x r (n + 1) cl]
    by_cases hm : x ∈ cl
    · simp only [hm, true_or, or_true]
    · simp only [hm, false_or]
      omega
  | .ncgroup r, n, cl => by
    simp only [Atom.closed, Atom.groups, RegExp.mem_closed x r n cl]
  | .chr _, n, cl | .dot, n, cl | .bol, n, cl | .eol, n, cl | .esc _, n, cl | .clsEsc _, n, cl
  | .prop _ _, n, cl | .backref _, n, cl | .cls _, n, cl => mem_closed_none x n cl
termination_by structural a => a
theorem Branch.mem_closed (x : Nat) : (b : Branch) → ∀ (n : Nat) (cl : List Nat),
    x ∈ b.closed n cl ↔ (x ∈ cl ∨ (n < x ∧ x ≤ n + b.groups))
  | .nil, n, cl => mem_closed_none x n cl
  | .cons a q b, n, cl => by
    simp only [Branch.closed, Branch.groups, Branch.mem_closed x b, Atom.mem_closed x a]
    by_cases hm : x ∈ cl
    · simp only [hm, true_or]
    · simp only [hm, false_or]
      omega
termination_by structural b => b
theorem RegExp.mem_closed (x : Nat) : (r : RegExp) → ∀ (n : Nat) (cl : List Nat),
    x ∈ r.closed n cl ↔ (x ∈ cl ∨ (n < x ∧ x ≤ n + r.groups))
  | .one b, n, cl => by simp only [RegExp.closed, RegExp.groups, Branch.mem_closed x b]
  | .alt b r, n, cl => by
    simp only [RegExp.closed, RegExp.groups, RegExp.mem_closed x r, Branch.mem_closed x b]
    by_cases hm : x ∈ cl
    · simp only [hm, true_or]
    · simp only [hm, false_or]
      omega
termination_by structural r => r
end

def cs (c : PC) : PC := { c with fl := { c.fl with caseBlind := false } }

@[simp] theorem cs_at (c : PC) (i : Nat) : (cs c).at i = c.at i := rfl
@[simp] theorem cs_len (c : PC) : (cs c).len = c.len := rfl
@[simp] theorem cs_pat (c : PC) : (cs c).pat = c.pat := rfl
@[simp] theorem cs_env (c : PC) : (cs c).env = c.env := rfl
@[simp] theorem cs_xsd (c : PC) : (cs c).fl.xsd = c.fl.xsd := rfl
@[simp] theorem cs_caseBlind (c : PC) : (cs c).fl.caseBlind = false := rfl
@[simp] theorem cs_thereFollows (c : PC) (i : Nat) (l : List Nat) :
    thereFollows (cs c) i l = thereFollows c i l := rfl

/-- class-builder states that steer the loop identically (the sets built may differ) -/
def KEq (k k' : ClsSt) : Prop :=
  k.positive = k'.positive ∧ k.definingRange = k'.definingRange ∧ k.rangeStart = k'.rangeStart

theorem KEq.rfl' {k : ClsSt} : KEq k k := ⟨rfl, rfl, rfl⟩

end Rx.Grammar
