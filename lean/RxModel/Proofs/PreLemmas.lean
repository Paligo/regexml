/-
  Proofs/PreLemmas — positional preconditions are sound: fixed match lengths in terms of the language `OpR` (exact
  below saturation, a lower bound at saturation), and what `addPre` / `addPreSeq` record for a member of the
  language: two rule inductions over `OpR`.
-/
import RxModel.Spec.OpLang
import RxModel.Model.Program
import RxModel.Proofs.OptLemmas
import RxModel.Proofs.AddPre
import RxModel.Spec.Preds
import RxModel.Proofs.TreePredInst
namespace Rx.C08
open Rx

theorem down_noEmptyAtoms : Down (fun o => noEmptyAtoms o = true) (fun l => noEmptyAtomsL l = true) :=
  neP_transp.down (fun h => h) (fun h => h)

end Rx.C08

namespace Rx.PreL
open Rx Rx.C08

/-- the (possibly saturated) value `l` of `get_match_length` describes the step `x → y`:
    it is a lower bound of the real length, and the real length when it is not saturated -/
def ML (l x y : Nat) : Prop := x + l ≤ y ∧ (l < usizeMax → y = x + l)

theorem IterR_ML {R : Nat → Nat → Prop} {lc : Nat} (hR : ∀ a b, R a b → ML lc a b)
    {k p q : Nat} (h : IterR R k p q) : p + k * lc ≤ q ∧ (lc < usizeMax → q = p + k * lc) := by
  induction h with
  | zero p => simp
  | succ _ hr ih =>
    obtain ⟨h1, h2⟩ := hR _ _ hr
    rw [Nat.succ_mul]
    refine ⟨by omega, fun hl => ?_⟩
    have := h2 hl
    have := ih.2 hl
    omega

theorem rep_ML {R : Nat → Nat → Prop} {mn mx lc l x y : Nat} (hmm : mn = mx) (hpos : 0 < mx)
    (hl : satMul mn lc = l) (hR : ∀ a b, R a b → ML lc a b)
    (h : ∃ k, mn ≤ k ∧ k ≤ mx ∧ IterR R k x y) : ML l x y := by
  obtain ⟨k, h1, h2, hi⟩ := h
  have hk : k = mn := by omega
  subst hk
  obtain ⟨a1, a2⟩ := IterR_ML hR hi
  have h3 := OptL.satMul_le k lc
  refine ⟨by omega, fun hlt => ?_⟩
  have hml := satMul_eq hl hlt
  have h4 : lc ≤ k * lc := Nat.le_mul_of_pos_left lc (by omega)
  have := a2 (by omega)
  omega

theorem ML_both (ctx : Ctx) :
    (∀ op, wfOp op = true → ∀ x y, OpR ctx op x y → ∀ l, matchLen op = some l → ML l x y) ∧
    ∀ bs, wfOps bs = true →
      (∀ x y, OpRAny ctx bs x y → ∀ l, matchLenAllEq (some l) bs = true → ML l x y) ∧
      (∀ x y, OpRSeq ctx bs x y → ∀ l, matchLenSeq bs = some l → ML l x y) := by
  have zero : ∀ {o : Op}, matchLen o = some 0 → ∀ p l, matchLen o = some l → ML l p p := by
    intro o h0 p l hl
    rw [h0] at hl; cases hl
    exact ⟨Nat.le_refl _, fun _ => rfl⟩
  apply OpR.ind down_wfOp
  case bol | eol => intro _ p q h; simp only [OpR] at h; rw [h.1]; exact zero rfl p
  case nothing | endProgram => exact fun _ => zero rfl
  case atom | cls =>
    intro _ _ p q h l hl
    simp only [matchLen, Option.some.injEq] at hl; subst hl
    simp only [OpR] at h; simp only [ML]; omega
  case backref => intro _ _ _ _ _ l hl; cases hl
  case capture => intro _ _ _ x y _ ih l hl; exact ih l hl
  case choice => intro _ _ x y _ ih l hl; exact ih l (matchLenChoice_allEq hl)
  case seq => intro _ _ x y _ ih l hl; exact ih l hl
  case rpt =>
    intro o c mn mx g e hwf k h1 h2 x y hi l hl
    obtain ⟨lc, hc, heq, hl⟩ := matchLen_rpt e hwf hl
    exact rep_ML heq (wfOp_rpt e hwf).2.2 hl (fun a b hab => hab.2 lc hc) ⟨k, h1, h2, hi⟩
  case anyHead =>
    intro o os _ x y _ ih l hl
    simp only [matchLenAllEq, Bool.and_eq_true, beq_iff_eq] at hl
    exact ih l hl.1
  case anyTail =>
    intro o os _ x y _ ih l hl
    simp only [matchLenAllEq, Bool.and_eq_true] at hl
    exact ih l hl.2
  case seqNil => intro _ p l hl; cases hl; exact ⟨Nat.le_refl _, fun _ => rfl⟩
  case seqCons =>
    intro o os _ x m y _ iho _ ihs l hl
    simp only [matchLenSeq] at hl
    cases ha : matchLen o with
    | none => simp [ha] at hl
    | some a =>
      cases hb : matchLenSeq os with
      | none => simp [ha, hb] at hl
      | some b =>
        simp only [ha, hb, Option.some.injEq] at hl
        obtain ⟨a1, a2⟩ := iho a ha
        obtain ⟨b1, b2⟩ := ihs b hb
        have hle := OptL.satAdd_le a b
        refine ⟨by omega, fun hlt => ?_⟩
        have hab := satAdd_eq hl hlt
        have := a2 (by omega)
        have := b2 (by omega)
        omega

theorem ML_op (ctx : Ctx) : (op : Op) → wfOp op = true → ∀ l, matchLen op = some l →
    ∀ x y, OpR ctx op x y → ML l x y :=
  fun op hwf l hl x y h => (ML_both ctx).1 op hwf x y h l hl

theorem ML_choice (ctx : Ctx) : (bs : List Op) → wfOps bs = true → ∀ l,
    matchLenChoice bs = some l → ∀ x y, OpRAny ctx bs x y → ML l x y :=
  fun bs hwf l hl x y h => ((ML_both ctx).2 bs hwf).1 x y h l (matchLenChoice_allEq hl)

theorem ML_allEq (ctx : Ctx) : (bs : List Op) → wfOps bs = true → ∀ l,
    matchLenAllEq (some l) bs = true → ∀ x y, OpRAny ctx bs x y → ML l x y :=
  fun bs hwf l hl x y h => ((ML_both ctx).2 bs hwf).1 x y h l hl

theorem ML_seq (ctx : Ctx) : (ops : List Op) → wfOps ops = true → ∀ l,
    matchLenSeq ops = some l → ∀ x y, OpRSeq ctx ops x y → ML l x y :=
  fun ops hwf l hl x y h => ((ML_both ctx).2 ops hwf).2 x y h l hl

/-- a fixed length claimed for an operation that matches inside an input shorter than
    `usize::MAX` is not saturated, hence exact -/
theorem ML_exact (ctx : Ctx) (hlen : ctx.len < usizeMax) (op : Op) (hwf : wfOp op = true) (l : Nat)
    (hl : matchLen op = some l) (x y : Nat) (hy : y ≤ ctx.len) (h : OpR ctx op x y) :
    l < usizeMax ∧ y = x + l := by
  obtain ⟨a1, a2⟩ := ML_op ctx op hwf l hl x y h
  have hlt : l < usizeMax := by omega
  exact ⟨hlt, a2 hlt⟩

def PreIn (ctx : Ctx) (q : Pre) (start : Nat) : Prop := PreOK ctx q start ∧ ∀ f, q.fixed = some f → f < ctx.len

theorem PreIn_mk (ctx : Ctx) (o : Op) (fp : Option Nat) (mp start x y : Nat)
    (h : OpR ctx o x y) (hfp : ∀ f, fp = some f → x = f) (hmp : mp ≤ x) (hst : start ≤ x)
    (hx : x < ctx.len) : PreIn ctx { op := o, fixed := fp, minPos := mp } start := by
  cases fp with
  | none => exact ⟨⟨x, y, hst, hmp, hx, h⟩, fun _ hf => nomatch hf⟩
  | some f =>
    have := hfp f rfl
    subst this
    exact ⟨⟨y, h⟩, fun _ hf => Option.some.inj hf ▸ hx⟩

theorem atomcls_nonempty (ctx : Ctx) (c : Op) (hac : isAtomOrClass c = true)
    (hne : noEmptyAtoms c = true) (x m : Nat) (h : OpR ctx c x m) : x < m := by
  cases c with
  | atom cs =>
    cases cs with
    | nil => simp [noEmptyAtoms] at hne
    | cons a t => simp only [OpR, List.length_cons] at h; omega
  | cls rs => simp only [OpR] at h; omega
  | _ => simp [isAtomOrClass] at hac

/-- the fixed position handed to an element of a sequence -/
def fp1 (ml : Bool) (o : Op) (fp : Option Nat) : Option Nat := if isBol o && !ml then some 0 else fp

/-- the fixed position handed to the rest of the sequence -/
def fp2 (fp : Option Nat) (o : Op) : Option Nat :=
  match fp, matchLen o with
  | some f, some l => some (satAdd f l)
  | _, _ => none

theorem addPreSeq_cons (ml : Bool) (o : Op) (os : List Op) (fp : Option Nat) (mp : Nat) :
    addPreSeq ml (o :: os) fp mp =
      addPre ml o (fp1 ml o fp) mp ++ addPreSeq ml os (fp2 (fp1 ml o fp) o) (satAdd mp (minLenOp o)) := by
  simp only [addPreSeq, fp1, fp2]
  rfl

theorem fp1_ok (ctx : Ctx) (o : Op) (fp : Option Nat) (x m : Nat) (h : OpR ctx o x m)
    (hfp : ∀ f, fp = some f → x = f) : ∀ f, fp1 ctx.multiLine o fp = some f → x = f := by
  intro f hf
  unfold fp1 at hf
  split at hf
  · rename_i hc
    simp only [Bool.and_eq_true, Bool.not_eq_true'] at hc
    obtain ⟨hb, hml⟩ := hc
    cases o with
    | bol =>
      simp only [OpR, hml] at h
      simp only [Option.some.injEq] at hf
      rcases h.2 with h0 | h0
      · omega
      · simp at h0
    | _ => simp [isBol] at hb
  · exact hfp f hf

theorem fp2_ok (ctx : Ctx) (hlen : ctx.len < usizeMax) (o : Op) (hwf : wfOp o = true)
    (fp : Option Nat) (x m : Nat) (h : OpR ctx o x m) (hm : m ≤ ctx.len)
    (hfp : ∀ f, fp = some f → x = f) : ∀ f, fp2 fp o = some f → m = f := by
  intro f' hf
  unfold fp2 at hf
  cases fp with
  | none => simp at hf
  | some f =>
    cases hl : matchLen o with
    | none => simp [hl] at hf
    | some l =>
      simp only [hl, Option.some.injEq] at hf
      have hxf := hfp f rfl
      subst hxf
      obtain ⟨_, hy⟩ := ML_exact ctx hlen o hwf l hl x m hm h
      rw [satAdd_eq_min, Nat.min_def] at hf
      split at hf <;> omega

theorem addPre_both (ctx : Ctx) (hlen : ctx.len < usizeMax) :
    (∀ op, wfOp op = true ∧ noEmptyAtoms op = true → ∀ x y, OpR ctx op x y → ∀ (fp : Option Nat) (mp start : Nat),
      x ≤ ctx.len → (∀ f, fp = some f → x = f) → mp ≤ x → start ≤ x →
      ∀ q ∈ addPre ctx.multiLine op fp mp, PreIn ctx q start) ∧
    ∀ ops, wfOps ops = true ∧ noEmptyAtomsL ops = true → (∀ x y, OpRAny ctx ops x y → True) ∧
      ∀ x y, OpRSeq ctx ops x y → ∀ (fp : Option Nat) (mp start : Nat),
      x ≤ ctx.len → (∀ f, fp = some f → x = f) → mp ≤ x → start ≤ x →
      ∀ q ∈ addPreSeq ctx.multiLine ops fp mp, PreIn ctx q start := by
  -- nothing is recorded / the leaf itself is recorded
  have none : ∀ {op : Op}, addPre ctx.multiLine op = (fun _ _ => []) → ∀ (fp : Option Nat) (mp start : Nat),
      ∀ q ∈ addPre ctx.multiLine op fp mp, PreIn ctx q start := by
    intro op h fp mp start q hq; rw [h] at hq; cases hq
  have leaf : ∀ (c : Op), isAtomOrClass c = true → addPre ctx.multiLine c = (fun fp mp => [⟨c, fp, mp⟩]) →
      wfOp c = true ∧ noEmptyAtoms c = true → ∀ x y, OpR ctx c x y → ∀ (fp : Option Nat) (mp start : Nat),
      x ≤ ctx.len → (∀ f, fp = some f → x = f) → mp ≤ x → start ≤ x →
      ∀ q ∈ addPre ctx.multiLine c fp mp, PreIn ctx q start := by
    intro c hac he hn x y h fp mp start hx hfp hmp hst q hq
    rw [he] at hq
    simp only [List.mem_singleton] at hq; subst hq
    have hlt := atomcls_nonempty ctx c hac hn.2 x y h
    have hb := OpR_bounds_op ctx _ x y hx h
    exact PreIn_mk ctx _ fp mp start x y h hfp hmp hst (by omega)
  apply OpR.ind (down_wfOp.and down_noEmptyAtoms)
  case bol | eol => exact fun _ _ _ _ fp mp start _ _ _ _ => none rfl fp mp start
  case nothing | endProgram => exact fun _ _ fp mp start _ _ _ _ => none rfl fp mp start
  case backref => exact fun _ _ _ _ _ fp mp start _ _ _ _ => none rfl fp mp start
  case atom => exact fun cs => leaf (.atom cs) rfl rfl
  case cls => exact fun rs => leaf (.cls rs) rfl rfl
  case capture => intro g c _ x y _ ih fp mp start; simpa only [addPre] using ih fp mp start
  case choice => exact fun _ _ _ _ _ _ fp mp start _ _ _ _ => none rfl fp mp start
  case seq => intro l _ x y _ ih fp mp start; simpa only [addPre] using ih fp mp start
  case rpt =>
    -- `mn ≥ 1`: the run starts with a member `x → m` of the body's language
    intro o c mn mx g e hn k hk1 hk2 x y hi fp mp start hx hfp hmp hst q hq
    have hself : OpR ctx o x y := (OpR_rpt ctx e x y).2 ⟨k, hk1, hk2, hi.mono fun _ _ h => h.1⟩
    rw [addPre_rpt _ e] at hq
    by_cases h1 : mn ≥ 1
    · rw [if_pos h1] at hq
      obtain ⟨k', rfl⟩ : ∃ k', k = k' + 1 := ⟨k - 1, by omega⟩
      obtain ⟨m, hm, _⟩ := IterR.uncons hi
      by_cases hac : isAtomOrClass c = true
      · rw [if_pos hac] at hq
        have hlt := atomcls_nonempty ctx c hac (down_noEmptyAtoms.rpt e hn.2) x m hm.1
        have hb := OpR_bounds_op ctx c x m hx hm.1
        by_cases h2 : (mn == 1) = true
        · rw [if_pos h2] at hq
          simp only [List.mem_singleton] at hq; subst hq
          exact PreIn_mk ctx o fp mp start x y hself hfp hmp hst (by omega)
        · rw [if_neg h2] at hq
          simp only [List.mem_singleton] at hq; subst hq
          have hi' : IterR (fun a b => OpR ctx c a b) (mn + (k' + 1 - mn)) x y := by
            rw [show mn + (k' + 1 - mn) = k' + 1 by omega]; exact hi.mono fun _ _ h => h.1
          obtain ⟨z, hz, _⟩ := IterR.split mn (k' + 1 - mn) hi'
          refine PreIn_mk ctx _ fp mp start x z ?_ hfp hmp hst (by omega)
          simp only [OpR]
          exact ⟨mn, Nat.le_refl _, Nat.le_refl _, hz⟩
      · rw [if_neg hac] at hq
        exact hm.2 fp mp start hx hfp hmp hst q hq
    · rw [if_neg h1] at hq
      cases hq
  case anyHead | anyTail => exact fun _ _ _ _ _ _ _ => trivial
  case seqNil => intro _ p fp mp start _ _ _ _ q hq; simp only [addPreSeq] at hq; cases hq
  case seqCons =>
    intro o os hn x m y h1 iho _ ihos fp mp start hx hfp hmp hst q hq
    have hb := OpR_bounds_op ctx o x m hx h1
    have hfp1 := fp1_ok ctx o fp x m h1 hfp
    have hfp2 := fp2_ok ctx hlen o (down_wfOp.head hn.1) _ x m h1 hb.2 hfp1
    have hmin := OptL.minLen_op ctx o x m h1
    have hsat := OptL.satAdd_le mp (minLenOp o)
    rw [addPreSeq_cons, List.mem_append] at hq
    rcases hq with hq | hq
    · exact iho _ mp start hx hfp1 hmp hst q hq
    · exact ihos _ _ start hb.2 hfp2 (by omega) (by omega) q hq

theorem addPre_op (ctx : Ctx) (hlen : ctx.len < usizeMax) : (op : Op) → wfOp op = true →
    noEmptyAtoms op = true → ∀ (fp : Option Nat) (mp start x y : Nat), OpR ctx op x y →
    x ≤ ctx.len → (∀ f, fp = some f → x = f) → mp ≤ x → start ≤ x →
    ∀ q ∈ addPre ctx.multiLine op fp mp, PreIn ctx q start :=
  fun op hwf hne fp mp start x y h => (addPre_both ctx hlen).1 op ⟨hwf, hne⟩ x y h fp mp start

theorem addPre_seq (ctx : Ctx) (hlen : ctx.len < usizeMax) : (ops : List Op) → wfOps ops = true →
    noEmptyAtomsL ops = true → ∀ (fp : Option Nat) (mp start x y : Nat), OpRSeq ctx ops x y →
    x ≤ ctx.len → (∀ f, fp = some f → x = f) → mp ≤ x → start ≤ x →
    ∀ q ∈ addPreSeq ctx.multiLine ops fp mp, PreOK ctx q start :=
  fun ops hwf hne fp mp start x y h hx hfp hmp hst q hq =>
    (((addPre_both ctx hlen).2 ops ⟨hwf, hne⟩).2 x y h fp mp start hx hfp hmp hst q hq).1

end Rx.PreL
