/-
  Proofs/PathCaps2Lemmas — the engine against the path semantics with environments on the fragment
  `altCaps` (captures inside alternatives).
-/
import RxModel.Spec.PathCaps2
import RxModel.Proofs.PathCapsLemmas
import RxModel.Proofs.CapsMatchLemmas
import RxModel.Proofs.SearchLemmas
namespace Rx

theorem TPair.toSome {s e : Option Nat} (h : TPair s e none) (p : Nat) : TPair s e (some p) := by
  simp only [TPair] at h ⊢
  rcases h with h | h
  · exact .inl h
  · exact .inr (.inl h)

theorem TPair.anti {s e : Option Nat} {p p' : Nat} (h : TPair s e (some p)) (hp : p' ≤ p) : TPair s e (some p') := by
  simp only [TPair] at h ⊢
  rcases h with h | h | ⟨a, h1, h2⟩
  · exact .inl h
  · exact .inr (.inl h)
  · exact .inr (.inr ⟨a, h1, Nat.le_trans hp h2⟩)

/-- `LvlLe l' l`: level `l` is at least as strong as `l'` (`none` is the strongest, `some p` weakens as `p` falls) -/
def LvlLe : Option Nat → Option Nat → Prop
  | _, none => True
  | some p', some p => p' ≤ p
  | none, some _ => False

theorem TPair.weaken {s e : Option Nat} {l l' : Option Nat} (h : TPair s e l) (hl : LvlLe l' l) : TPair s e l' := by
  cases l with
  | none =>
    cases l' with
    | none => exact h
    | some p' => exact h.toSome p'
  | some p =>
    cases l' with
    | none => exact absurd hl (by simp [LvlLe])
    | some p' => exact h.anti hl

/-- the `if` is the end entry after `clearBeyond x` (`getO_clearArr`): clearing at or before the level empties
    whatever was not yet tidy -/
theorem TPair.clear_all {s e : Option Nat} {l : Option Nat} (h : TPair s e l) (x : Nat)
    (hx : ∀ p, l = some p → x ≤ p) : TPair s (if optGe s x = true then s else e) none := by
  cases l with
  | none =>
    simp only [TPair] at h ⊢
    rcases h with h | h
    · exact .inl h
    · right; rw [h, ite_self]
  | some p =>
    simp only [TPair] at h ⊢
    rcases h with h | h | ⟨a, h1, h2⟩
    · exact .inl h
    · right; rw [h, ite_self]
    · right
      have := hx p rfl
      have : optGe s x = true := by rw [h1]; simp [optGe]; omega
      rw [if_pos this]

theorem TPair.clear_keep {s e : Option Nat} {l : Option Nat} (h : TPair s e l) (x : Nat) :
    TPair s (if optGe s x = true then s else e) l := by
  cases l with
  | none =>
    simp only [TPair] at h ⊢
    rcases h with h | h
    · exact .inl h
    · right; rw [h, ite_self]
  | some p =>
    simp only [TPair] at h ⊢
    rcases h with h | h | h
    · exact .inl h
    · right; left; rw [h, ite_self]
    · exact .inr (.inr h)

namespace ReprT
variable {ctx : Ctx} {opn : List (Nat × Nat)} {fut : List Nat} {lvl : Option Nat} {st : St} {e : CEnv}

theorem weaken {lvl' : Option Nat} (h : ReprT ctx opn fut lvl st e) (hl : LvlLe lvl' lvl) :
    ReprT ctx opn fut lvl' st e :=
  ⟨h.agree, h.lens, h.np, h.pc, h.pc0, fun k h1 h2 h3 h4 => (h.tidy k h1 h2 h3 h4).weaken hl, h.tidyO⟩

theorem toSome (h : ReprT ctx opn fut none st e) (p : Nat) : ReprT ctx opn fut (some p) st e :=
  h.weaken (by simp [LvlLe])

theorem anti {p p' : Nat} (h : ReprT ctx opn fut (some p) st e) (hp : p' ≤ p) : ReprT ctx opn fut (some p') st e :=
  h.weaken (by simpa [LvlLe] using hp)

theorem congrFut {fut' : List Nat} (h : ReprT ctx opn fut lvl st e) (hf : ∀ k, k ∈ fut ↔ k ∈ fut') :
    ReprT ctx opn fut' lvl st e :=
  ⟨fun k h1 h2 => h.agree k h1 (h2.imp (fun hn hm => hn ((hf k).1 hm)) id), h.lens, h.np, h.pc, h.pc0,
   fun k h1 h2 h3 h4 => h.tidy k h1 ((hf k).2 h2) h3 h4, h.tidyO⟩

theorem clear {lo x : Nat} (h : ReprT ctx opn fut lvl st e) (he : EnvIn e lo x)
    (hx : ∀ p, lvl = some p → x ≤ p) : ReprT ctx opn fut none (clearBeyond st x) e := by
  refine ⟨fun k hk hc => ?_, fun hb => ?_, h.np, h.pc, h.pc0, fun k h1 h2 h3 h4 => ?_, fun k pg h1 h2 => ?_⟩
  · exact (h.agree k hk hc).clear x (fun a b hab => (he k a b hab).2)
  · have := h.lens hb
    exact ⟨this.1, Nat.le_trans this.2 (length_clearArr_ge _ _ _)⟩
  · show TPair (getO st.cap.startn k) (getO (clearArr st.cap.startn st.cap.endn x) k) none
    rw [getO_clearArr]
    exact (h.tidy k h1 h2 h3 h4).clear_all x hx
  · show TPair (getO st.cap.startn k) (getO (clearArr st.cap.startn st.cap.endn x) k) (some pg)
    rw [getO_clearArr]
    exact (h.tidyO k pg h1 h2).clear_keep x

theorem setDiv (h : ReprT ctx opn fut lvl st e) : ReprT ctx opn fut lvl (st.setPanic panicDiverge) e := by
  have hnp : NoRealPanic (st.setPanic panicDiverge) := NoRealPanic.setDiv h.np
  revert hnp
  unfold St.setPanic
  split
  · exact fun _ => h
  · exact fun hnp => ⟨h.agree, h.lens, hnp, h.pc, h.pc0, h.tidy, h.tidyO⟩

theorem restore {st' : St} (h : ReprT ctx opn fut lvl st e) (h' : ReprT ctx opn fut lvl st' e) :
    ReprT ctx opn fut lvl { st' with cap := st.cap } e :=
  ⟨fun k hk hc => ⟨(h.agree k hk hc).1, (h.agree k hk hc).2.1, (h'.agree k hk hc).2.2⟩, h'.lens, h'.np,
   h.pc, h.pc0, h.tidy, h.tidyO⟩

theorem setEnd0 (h : ReprT ctx opn fut lvl st e) (p : Nat) :
    ReprT ctx opn fut lvl { st with cap := st.cap.setEnd 0 p } e := by
  have he : ∀ k, 1 ≤ k → getO (st.cap.setEnd 0 p).endn k = getO st.cap.endn k := fun k hk => getO_setEnd0 st p hk
  refine ⟨fun k hk hc => ?_, h.lens, h.np, h.pc, h.pc0, fun k h1 h2 h3 h4 => ?_, fun k pg h1 h2 => ?_⟩
  · exact (h.agree k hk hc).congr rfl (he k hk) rfl rfl
  · show TPair (getO st.cap.startn k) (getO (st.cap.setEnd 0 p).endn k) lvl
    rw [he k h1]; exact h.tidy k h1 h2 h3 h4
  · show TPair (getO st.cap.startn k) (getO (st.cap.setEnd 0 p).endn k) (some pg)
    rw [he k h1]; exact h.tidyO k pg h1 h2

theorem capturePre (h : ReprT ctx opn fut lvl st e) (g p : Nat) (hg : g ∈ fut) (hge : e g = none)
    (hgm : g < ctx.maxParens) : ReprT ctx opn fut lvl (captureEntry ctx g p st) e := by
  unfold captureEntry
  split
  · split
    · rename_i hb hge'
      have := (h.lens hb).1
      omega
    · refine ⟨fun k hk hc => ?_, fun hb => ?_, h.np, h.pc, h.pc0, h.tidy, h.tidyO⟩
      · refine (h.agree k hk hc).congr rfl rfl ?_ rfl
        show getO (setIn st.startBr g (some p)) k = _
        rw [getO_setIn, if_neg]
        intro hc'
        rcases hc with hc | hc
        · exact hc (hc'.1 ▸ hg)
        · rw [hc'.1, hge] at hc; cases hc
      · have := h.lens hb
        exact ⟨by show _ ≤ (setIn st.startBr g (some p)).length; rw [length_setIn]; exact this.1, this.2⟩
  · exact h

theorem openG (h : ReprT ctx opn fut none st e) (g p : Nat) (hg : g ∈ fut) (hge : e g = none)
    (hno : ∀ pg, (g, pg) ∉ opn) : ReprT ctx ((g, p) :: opn) fut none st e := by
  refine ⟨h.agree, h.lens, h.np, h.pc, h.pc0, fun k h1 h2 h3 h4 => ?_, fun k pg h1 h2 => ?_⟩
  · exact h.tidy k h1 h2 h3 (fun pg hm => h4 pg (List.mem_cons_of_mem _ hm))
  · rcases List.mem_cons.1 h2 with heq | h2
    · simp only [Prod.mk.injEq] at heq
      obtain ⟨rfl, rfl⟩ := heq
      exact (h.tidy k h1 hg hge hno).toSome _
    · exact h.tidyO k pg h1 h2

theorem closeG {g p : Nat} (h : ReprT ctx ((g, p) :: opn) fut (some p) st e) (hno : ∀ pg, (g, pg) ∉ opn) :
    ReprT ctx opn fut (some p) st e := by
  refine ⟨h.agree, h.lens, h.np, h.pc, h.pc0, fun k h1 h2 h3 h4 => ?_, fun k pg h1 h2 => ?_⟩
  · by_cases hkg : k = g
    · subst hkg
      exact h.tidyO k p h1 List.mem_cons_self
    · exact h.tidy k h1 h2 h3 (fun pg hm => by
        rcases List.mem_cons.1 hm with heq | hm
        · simp only [Prod.mk.injEq] at heq; exact hkg heq.1
        · exact h4 pg hm)
  · exact h.tidyO k pg h1 (List.mem_cons_of_mem _ h2)

theorem captureWrite {e1 : CEnv} (g p n : Nat) (hg1 : g < ctx.maxParens) (hge : e1 g = none)
    (hno : ∀ pg, (g, pg) ∉ opn)
    (h : ReprT ctx ((g, p) :: opn) fut lvl st e1) :
    ReprT ctx opn fut lvl (Rx.captureWrite ctx g p n st) (e1.set g p n) := by
  refine ⟨fun k hk hc => ?_, fun hb => ?_, by rw [captureWrite_panic]; exact h.np, fun k hk hs => ?_, ?_,
    fun k h1 h2 h3 h4 => ?_, fun k pg h1 h2 => ?_⟩
  · by_cases hkg : k = g
    · subst hkg
      rw [CEnv.set_same]
      exact AgreeAt.captureWrite_self ctx k p n st (fun hb => by have := h.lens hb; omega)
    · rw [CEnv.set_other _ _ _ _ _ hkg] at hc ⊢
      exact (h.agree k hk hc).captureWrite_ne hkg p n
  · rw [(captureWrite_lens ctx g p n st hb).1, (captureWrite_lens ctx g p n st hb).2]
    exact h.lens hb
  · by_cases hkg : k = g
    · subst hkg; exact (captureWrite_pc_le ctx k p n st).2
    · rw [CEnv.set_other _ _ _ _ _ hkg] at hs
      exact Nat.lt_of_lt_of_le (h.pc k hk hs) (captureWrite_pc_le ctx g p n st).1
  · exact Nat.le_trans h.pc0 (captureWrite_pc_le ctx g p n st).1
  · have hkg : k ≠ g := by
      intro hc; subst hc; rw [CEnv.set_same] at h3; cases h3
    rw [CEnv.set_other _ _ _ _ _ hkg] at h3
    rw [(captureWrite_cap ctx g p n st k).1, (captureWrite_cap ctx g p n st k).2, if_neg hkg, if_neg hkg]
    exact h.tidy k h1 h2 h3 (fun pg hm => by
      rcases List.mem_cons.1 hm with heq | hm
      · simp only [Prod.mk.injEq] at heq; exact hkg heq.1
      · exact h4 pg hm)
  · have hkg : k ≠ g := fun hc => hno pg (hc ▸ h2)
    rw [(captureWrite_cap ctx g p n st k).1, (captureWrite_cap ctx g p n st k).2, if_neg hkg, if_neg hkg]
    exact h.tidyO k pg h1 (List.mem_cons_of_mem _ h2)

theorem unset {e1 : CEnv} {g p n : Nat} (hge : e1 g = none) (hg1 : 1 ≤ g) (hgf : g ∈ fut)
    (h : ReprT ctx opn fut lvl st (e1.set g p n)) : ReprT ctx ((g, p) :: opn) fut lvl st e1 := by
  have hag := h.agree g hg1 (.inr (by rw [CEnv.set_same]; rfl))
  rw [CEnv.set_same] at hag
  refine ⟨fun k hk hc => ?_, h.lens, h.np, fun k hk hs => ?_, h.pc0, fun k h1 h2 h3 h4 => ?_, fun k pg h1 h2 => ?_⟩
  · have hkg : k ≠ g := by
      intro hc'; subst hc'
      rcases hc with hc | hc
      · exact hc hgf
      · rw [hge] at hc; cases hc
    have := h.agree k hk (by rw [CEnv.set_other _ _ _ _ _ hkg]; exact hc)
    rw [CEnv.set_other _ _ _ _ _ hkg] at this
    exact this
  · have hkg : k ≠ g := by intro hc'; subst hc'; rw [hge] at hs; cases hs
    exact h.pc k hk (by rw [CEnv.set_other _ _ _ _ _ hkg]; exact hs)
  · have hkg : k ≠ g := fun hc' => h4 p (by rw [hc']; exact List.mem_cons_self)
    exact h.tidy k h1 h2 (by rw [CEnv.set_other _ _ _ _ _ hkg]; exact h3)
      (fun pg hm => h4 pg (List.mem_cons_of_mem _ hm))
  · rcases List.mem_cons.1 h2 with heq | h2
    · simp only [Prod.mk.injEq] at heq
      obtain ⟨rfl, rfl⟩ := heq
      rw [hag.1, hag.2.1]
      simp only [Option.map_some, TPair]
      exact .inr (.inr ⟨pg, rfl, Nat.le_refl _⟩)
    · exact h.tidyO k pg h1 h2

end ReprT

namespace Step.SeqT
variable {Y R : Nat → St → CEnv → Prop}

theorem of_ex_invAt (e : CEnv) {p0 : Nat} {s : Step} {l : List Nat} (hx : Step.Ex s l)
    (hi : s.InvAt (fun n st => Y n st e) (fun n st => R n st e) p0) :
    Step.SeqT Y R (fun st => R p0 st e) s (l.map (fun q => (q, e))) := by
  induction hx with
  | nil st => cases hi with | nil _ h => exact .nil st h
  | cons n st r l _ ih =>
    cases hi with
    | cons _ _ _ hy hr =>
      rw [List.map_cons]
      exact .cons n st r e _ hy (fun st' h' => ih st' trivial (hr st' h'))

end Step.SeqT

namespace Step.InvAt
variable {Y Y' I : Nat → St → Prop} {p0 : Nat}

theorem monoY {s : Step} (h : s.InvAt Y I p0) (hY : ∀ n st, Y n st → Y' n st) : s.InvAt Y' I p0 := by
  induction h with
  | nil st h => exact .nil st h
  | cons n st r hy _ ih => exact .cons n st r (hY _ _ hy) ih
  | diverge => exact .diverge

theorem append {s : Step} {f : St → Step} {p1 : Nat}
    (hs : s.InvAt Y I p1) (hf : ∀ st, I p1 st → (f st).InvAt Y I p0) : (s.append f).InvAt Y I p0 := by
  induction hs with
  | nil st h => exact hf st h
  | cons n st r hy _ ih => exact .cons _ _ _ hy ih
  | diverge => exact .diverge

theorem bindP {P : Nat → Prop} {s : Step} {f : Nat → St → Step}
    (hs : s.InvAt Y' I p0) (hp : s.All P) (hf : ∀ n st, P n → Y' n st → (f n st).InvAt Y I n) :
    (s.bind f).InvAt Y I p0 := by
  induction hs with
  | nil st h => exact .nil _ h
  | cons n st r hy _ ih =>
    cases hp with
    | cons _ _ _ hn hr => exact (hf n st hn hy).append (fun st' h' => ih st' h' (hr st'))
  | diverge => exact .diverge

theorem mapStP {P : Nat → Prop} {s : Step} {f : Nat → St → St}
    (hs : s.InvAt Y I p0) (hp : s.All P) (hf : ∀ n st, P n → Y n st → Y' n (f n st)) :
    (s.mapSt f).InvAt Y' I p0 := by
  induction hs with
  | nil st h => exact .nil _ h
  | cons n st r hy _ ih =>
    cases hp with
    | cons _ _ _ hn hr => exact .cons _ _ _ (hf n st hn hy) (fun st' h' => ih st' h' (hr st'))
  | diverge => exact .diverge

theorem onNil {s : Step} {f : St → St} (hs : s.InvAt Y I p0) (hf : ∀ st, I p0 st → I p0 (f st)) :
    (s.onNil f).InvAt Y I p0 := by
  induction hs with
  | nil st h => exact .nil _ (hf st h)
  | cons n st r hy _ ih => exact .cons _ _ _ hy ih
  | diverge => exact .diverge

theorem once {n : Nat} {st : St} (h : Y n st) (hn : ∀ st', I n st' → I p0 st') : (Step.once n st).InvAt Y I p0 :=
  .cons _ _ _ h (fun st' h' => .nil _ (hn st' h'))

end Step.InvAt

/-- `IA` ("all tidy") holds wherever an operation starts: every start is preceded by a clearing step at that very
    position.  `I n` is what holds at a yield at `n` and at the resumption after it: groups to the right of `n`
    may be transiently untidy. -/
structure WritesAt (p0 : Nat) (IA : St → Prop) (I : Nat → St → Prop) : Prop where
  weak : ∀ p st, IA st → I p st
  anti : ∀ p p' st, p' ≤ p → I p st → I p' st
  clearA : ∀ st x, p0 ≤ x → IA st → IA (clearBeyond st x)
  clearI : ∀ p st x, p0 ≤ x → x ≤ p → I p st → IA (clearBeyond st x)
  div : ∀ st, IA st → IA (st.setPanic panicDiverge)
  restoreA : ∀ st st', IA st → IA st' → IA { st' with cap := st.cap }
  restoreI : ∀ p st st', I p st → I p st' → I p { st' with cap := st.cap }
  setEnd0 : ∀ st p, IA st → IA { st with cap := st.cap.setEnd 0 p }

theorem WritesAt.writesFrom {p0 : Nat} {IA : St → Prop} {I : Nat → St → Prop} (W : WritesAt p0 IA I) :
    WritesFrom p0 IA where
  clear := fun st p hp h => W.clearA st p hp h
  div := W.div
  restore := W.restoreA
  setEnd0 := W.setEnd0

section at_
variable {p0 L : Nat} {IA : St → Prop} {I : Nat → St → Prop}

def GenAt (p0 L : Nat) (IA : St → Prop) (I : Nat → St → Prop) (g : Gen) : Prop :=
  ∀ p st, PosFrom p0 L p → IA st → (g p st).InvAt I I p

/-- an alternation clears before its first branch, so `I p` is enough to start it -/
def ChoiceAt (p0 L : Nat) (I : Nat → St → Prop) (g : Gen) : Prop :=
  ∀ p st, PosFrom p0 L p → I p st → (g p st).InvAt I I p

theorem once_at (W : WritesAt p0 IA I) {p n : Nat} {st : St} (h : IA st) (hn : p ≤ n) :
    (Step.once n st).InvAt I I p :=
  Step.InvAt.once (W.weak n st h) (fun st' h' => W.anti n p st' hn h')

theorem PureLeaf.invAt (W : WritesAt p0 IA I) {g : Gen} (hg : PureLeaf g) {p : Nat} {st : St}
    (hb : (g p st).All (fun n => p ≤ n ∧ n ≤ L)) (h : IA st) : (g p st).InvAt I I p := by
  rcases hg p st with e | ⟨n, e⟩
  · rw [e]; exact .nil _ (W.weak p st h)
  · rw [e] at hb ⊢
    cases hb with
    | cons _ _ _ hn _ => exact once_at W h hn.1

theorem endGen_at (W : WritesAt p0 IA I) : GenAt p0 L IA I endGen := by
  intro p st _ h
  exact once_at W (W.setEnd0 st p h) (Nat.le_refl _)

theorem choiceGen_nil_at : ChoiceAt p0 L I (choiceGen []) := by
  intro p st _ h
  exact .nil _ h

theorem choiceGen_cons_at (W : WritesAt p0 IA I) {g : Gen} {gs : List Gen}
    (h1 : GenAt p0 L IA I g) (h2 : ChoiceAt p0 L I (choiceGen gs)) : ChoiceAt p0 L I (choiceGen (g :: gs)) := by
  intro p st hp h
  unfold choiceGen
  exact (h1 p _ hp (W.clearI p st p hp.1 (Nat.le_refl _) h)).append (fun st' h' => h2 p st' hp h')

theorem ChoiceAt.genAt (W : WritesAt p0 IA I) {g : Gen} (h : ChoiceAt p0 L I g) : GenAt p0 L IA I g :=
  fun p st hp hs => h p st hp (W.weak p st hs)

theorem seqK_nil_at (W : WritesAt p0 IA I) : GenAt p0 L IA I (seqK []) :=
  fun p _ _ h => once_at W h (Nat.le_refl p)

theorem seqK_cons_at (W : WritesAt p0 IA I) {g : Gen} {gs : List Gen}
    (h1 : GenAt p0 L IA I g) (hpos : ∀ p st, PosFrom p0 L p → (g p st).All (PosFrom p0 L))
    (h2 : GenAt p0 L IA I (seqK gs)) : GenAt p0 L IA I (seqK (g :: gs)) :=
  fun p st hp h => Step.InvAt.bindP
    ((h1 p st hp h).mapStP (Y' := fun _ st => IA st) (hpos p st hp)
      (fun n st' hn hy => W.clearI n st' n hn.1 (Nat.le_refl _) hy))
    (hpos p st hp).mapSt (fun n st' hn hy => h2 n st' hn hy)

theorem GenAt.seqGo {gs : List Gen} (h : GenAt p0 L IA I (seqK gs)) (W : WritesAt p0 IA I) :
    GenAt p0 L IA I (seqGo gs) := by
  cases gs with
  | nil => exact fun p st _ hs => .nil _ (W.weak p st hs)
  | cons g gs => rw [seqGo_cons]; exact h

theorem seqGen_at (W : WritesAt p0 IA I) {gs : List Gen} (h : GenAt p0 L IA I (seqGo gs)) (hasCap : Bool) :
    GenAt p0 L IA I (seqGen hasCap gs) := by
  intro p st hp hst
  unfold seqGen
  simp only
  refine (h p st hp hst).onNil (fun st' h' => ?_)
  split
  · exact W.restoreI p st st' (W.weak p st hst) h'
  · exact h'

theorem descend_at (W : WritesAt p0 IA I) (len limit p : Nat) (hpl : p ≤ limit) :
    ∀ fuel cur st, p ≤ cur → I cur st → (descend len limit fuel cur st).InvAt I I p := by
  intro fuel
  induction fuel with
  | zero => intro cur st _ _; exact .diverge
  | succ f ih =>
    intro cur st hpc h
    unfold descend
    split
    · refine .cons _ _ _ h (fun st' h' => ?_)
      split
      · rename_i hc
        exact ih _ _ (Nat.le_sub_of_add_le (Nat.le_trans (Nat.add_le_add_right hpl len) hc)) (W.anti cur _ st' (Nat.sub_le _ _) h')
      · exact .nil _ (W.anti cur p st' hpc h')
    · exact .nil _ (W.anti cur p st hpc h)

structure ChildGe (L : Nat) (child : Gen) : Prop where
  ge : ∀ p st, p ≤ L → (child p st).All (fun n => p ≤ n ∧ n ≤ L)

theorem gfixedGen_at (W : WritesAt p0 IA I) {child : Gen} (C : ChildOK (PosFrom p0 L) IA child) (ctx : Ctx)
    (hL : ctx.len = L) (min max len : Nat) : GenAt p0 L IA I (gfixedGen ctx child min max len) := by
  intro p st hp h
  unfold gfixedGen
  simp only
  have hguard : (if max < usizeMax then Nat.min ctx.len (p + len * max) else ctx.len) ≤ ctx.len := by
    split
    · exact Nat.min_le_left _ _
    · exact Nat.le_refl _
  generalize (if max < usizeMax then Nat.min ctx.len (p + len * max) else ctx.len) = guard at hguard
  split
  · exact .nil _ (W.weak p st h)
  · obtain ⟨k, _, _, hk, _, hr⟩ := gfixedLoop_sat (C.pullOK (fun _ _ _ => Step.All.trivial _)) len max guard
      (fun _ _ hp hpq hq => ⟨Nat.le_trans hp.1 hpq, Nat.le_trans hq (hL ▸ hguard)⟩) (ctx.len + 2) p 0 st (fun _ => hp) h
      (.inl W.div)
    generalize gfixedLoop child len max guard (ctx.len + 2) p 0 st = r at hr hk
    split
    · exact .nil _ (W.weak p _ hr)
    · exact descend_at W len (p + len * min) p (Nat.le_add_right _ _) _ r.1 r.2.2 (hk ▸ Nat.le_add_right _ _)
        (W.weak r.1 _ hr)

theorem rfixedMore_at (W : WritesAt p0 IA I) {child : Gen} (C : ChildOK (PosFrom p0 L) IA child) (G : ChildGe L child)
    (max position : Nat) (hpos : p0 ≤ position) :
    ∀ fuel count pos st, PosFrom p0 L pos → position ≤ pos → I pos st →
      (rfixedMore child max position fuel count pos st).InvAt I I position := by
  intro fuel
  induction fuel with
  | zero => intro count pos st _ _ _; exact .diverge
  | succ f ih =>
    intro count pos st hp hle h
    unfold rfixedMore
    split
    · simp only
      have hf := C.fst pos _ hp (W.clearI pos st position hpos hle h)
      split
      · rename_i n x st' heq
        rw [← first1_snd heq] at hf
        have hn : PosFrom p0 L n := first1_all (C.pos pos _ hp) heq
        have hge : pos ≤ n := (first1_all (G.ge pos _ hp.2) heq).1
        exact .cons _ _ _ (W.weak n _ hf) (fun st'' h'' => ih _ _ _ hn (Nat.le_trans hle hge) h'')
      · rename_i st' heq
        rw [← first1_snd heq] at hf
        exact .nil _ (W.weak position _ hf)
    · exact .nil _ (W.anti pos position st hle h)

theorem rfixedGen_at (W : WritesAt p0 IA I) {child : Gen} (C : ChildOK (PosFrom p0 L) IA child) (G : ChildGe L child)
    (ctx : Ctx) (min max : Nat) : GenAt p0 L IA I (rfixedGen ctx child min max) := by
  intro p st hp h
  unfold rfixedGen
  have hi := iterMin_sat (d := 0) (L := L) (C.pullOK (fun p st hp => (G.ge p st hp.2).mono (fun _ hn => hn.1)))
    min p (loopFuel ctx min) 0 p st (.zero p) (Nat.zero_le _) hp h (.inl W.div)
  split
  · rename_i st' heq
    rw [heq] at hi
    exact .nil _ (W.weak p _ hi.1)
  · rename_i count pos st' heq
    rw [heq] at hi
    obtain ⟨_, hit, hpos⟩ := hi.2 _ _ rfl
    exact .cons _ _ _ (W.weak pos _ hi.1)
      (fun st'' h'' => rfixedMore_at W C G max p hp.1 _ _ _ _ hpos (IterR_le (fun _ _ h => h) hit) h'')

end at_

theorem childGe_sem (ctx : Ctx) (c : Op) (hwc : wfOp c = true) : ChildGe ctx.len (sem ctx c) where
  ge := fun p st hp => sem_bounds_op ctx c hwc p hp st

theorem pureLeaf_at {p0 : Nat} {IA : St → Prop} {I : Nat → St → Prop} (W : WritesAt p0 IA I) (ctx : Ctx) (o : Op)
    (hwf : wfOp o = true) (hg : PureLeaf (sem ctx o)) : GenAt p0 ctx.len IA I (sem ctx o) :=
  fun p st hp h => hg.invAt W (sem_bounds_op ctx o hwf p hp.2 st) h

mutual
theorem plain_at {p0 : Nat} {IA : St → Prop} {I : Nat → St → Prop} (W : WritesAt p0 IA I) (ctx : Ctx) :
    (op : Op) → plainOp op = true → wfOp op = true → GenAt p0 ctx.len IA I (sem ctx op)
  | .bol, _, hwf => pureLeaf_at W ctx .bol hwf (bolGen_pure ctx)
  | .eol, _, hwf => pureLeaf_at W ctx .eol hwf (eolGen_pure ctx)
  | .nothing, _, hwf => pureLeaf_at W ctx .nothing hwf nothingGen_pure
  | .endProgram, _, _ => by simp only [sem]; exact endGen_at W
  | .atom cs, _, hwf => pureLeaf_at W ctx (.atom cs) hwf (atomGen_pure ctx cs)
  | .cls rs, _, hwf => pureLeaf_at W ctx (.cls rs) hwf (clsGen_pure ctx rs)
  | .backref _, hc, _ | .capture _ _, hc, _ | .rep _ _ _ _ _, hc, _ | .unamb _ _ _, hc, _ => by
    simp [plainOp] at hc
  | .choice bs, hc, hwf => by
    simp only [wfOp, Bool.and_eq_true] at hwf
    simp only [plainOp] at hc
    simp only [sem]
    exact (plain_at_choice W ctx bs hc hwf.2).genAt W
  | .seq ops, hc, hwf => by
    simp only [wfOp, Bool.and_eq_true] at hwf
    simp only [plainOp] at hc
    simp only [sem]
    exact seqGen_at W ((plain_at_seqK W ctx ops hc hwf.2).seqGo W) _
  | .gfixed c mn mx len, hc, hwf => by
    simp only [wfOp, Bool.and_eq_true, decide_eq_true_eq, beq_iff_eq] at hwf
    obtain ⟨⟨⟨⟨⟨hwc, hml⟩, hlen0⟩, hlen1⟩, hmm⟩, hmx⟩ := hwf
    simp only [plainOp] at hc
    have C := childOK_from ctx c hwc (plain_inv W.writesFrom ctx c hc hwc)
    simp only [sem]
    exact gfixedGen_at W C ctx rfl mn mx len
  | .rfixed c mn mx len, hc, hwf => by
    simp only [wfOp, Bool.and_eq_true, decide_eq_true_eq, beq_iff_eq] at hwf
    obtain ⟨⟨⟨⟨⟨hwc, hml⟩, hlen0⟩, hlen1⟩, hmm⟩, hmx⟩ := hwf
    simp only [plainOp] at hc
    have C := childOK_from ctx c hwc (plain_inv W.writesFrom ctx c hc hwc)
    simp only [sem]
    exact rfixedGen_at W C (childGe_sem ctx c hwc) ctx mn mx
termination_by structural op => op
theorem plain_at_choice {p0 : Nat} {IA : St → Prop} {I : Nat → St → Prop} (W : WritesAt p0 IA I) (ctx : Ctx) :
    (bs : List Op) → plainOps bs = true → wfOps bs = true → ChoiceAt p0 ctx.len I (choiceGen (semL ctx bs))
  | [], _, _ => by simp only [semL]; exact choiceGen_nil_at
  | b :: bs, hc, hwf => by
    simp only [wfOps, Bool.and_eq_true] at hwf
    simp only [plainOps, Bool.and_eq_true] at hc
    simp only [semL]
    exact choiceGen_cons_at W (plain_at W ctx b hc.1 hwf.1) (plain_at_choice W ctx bs hc.2 hwf.2)
termination_by structural bs => bs
theorem plain_at_seqK {p0 : Nat} {IA : St → Prop} {I : Nat → St → Prop} (W : WritesAt p0 IA I) (ctx : Ctx) :
    (ops : List Op) → plainOps ops = true → wfOps ops = true → GenAt p0 ctx.len IA I (seqK (semL ctx ops))
  | [], _, _ => by simp only [semL]; exact seqK_nil_at W
  | o :: os, hc, hwf => by
    simp only [wfOps, Bool.and_eq_true] at hwf
    simp only [plainOps, Bool.and_eq_true] at hc
    simp only [semL]
    exact seqK_cons_at W (plain_at W ctx o hc.1 hwf.1)
      (fun p st hp => (sem_bounds_op ctx o hwf.1 p hp.2 st).mono (fun _ hn => ⟨Nat.le_trans hp.1 hn.1, hn.2⟩))
      (plain_at_seqK W ctx os hc.2 hwf.2)
termination_by structural ops => ops
end

theorem plain_at_seq {p0 : Nat} {IA : St → Prop} {I : Nat → St → Prop} (W : WritesAt p0 IA I) (ctx : Ctx) :
    (ops : List Op) → plainOps ops = true → wfOps ops = true → GenAt p0 ctx.len IA I (seqGo (semL ctx ops)) :=
  fun ops hc hwf => (plain_at_seqK W ctx ops hc hwf).seqGo W

theorem writesAt_reprT (ctx : Ctx) (opn : List (Nat × Nat)) (fut : List Nat) (e : CEnv) (lo p0 : Nat)
    (he : EnvIn e lo p0) :
    WritesAt p0 (fun st => ReprT ctx opn fut none st e) (fun p st => ReprT ctx opn fut (some p) st e) where
  weak := fun p _ h => h.toSome p
  anti := fun _ _ _ hp h => h.anti hp
  clearA := fun _ x hx h => h.clear (he.mono hx) (fun p hc => by cases hc)
  clearI := fun p _ x hx hxp h => h.clear (he.mono hx) (fun p' hc => by cases hc; exact hxp)
  div := fun _ h => h.setDiv
  restoreA := fun _ _ h h' => h.restore h'
  restoreI := fun _ _ _ h h' => h.restore h'
  setEnd0 := fun _ p h => h.setEnd0 p

theorem plain_seqT (ctx : Ctx) (op : Op) (hp : plainOp op = true) (hwf : wfOp op = true)
    (opn : List (Nat × Nat)) (fut : List Nat) (e : CEnv) (lo p : Nat) (hpl : p ≤ ctx.len) (he : EnvIn e lo p)
    (st : St) (hst : ReprT ctx opn fut none st e) :
    Step.SeqT (fun n st' e' => ReprT ctx opn fut (some n) st' e') (fun n st' e' => ReprT ctx opn fut (some n) st' e')
      (fun st' => ReprT ctx opn fut (some p) st' e) (sem ctx op p st) ((enum ctx op p).map (fun q => (q, e))) :=
  Step.SeqT.of_ex_invAt e (sem_ex_op ctx op (plain_clean.op' op hp) hwf p hpl st)
    (plain_at (writesAt_reprT ctx opn fut e lo p he) ctx op hp hwf p st ⟨Nat.le_refl _, hpl⟩ hst)

/-- the nodes of `altCaps` through which no capture is reached -/
def altLeaf : Op → Bool
  | .capture _ _ | .seq _ | .backref _ | .choice _ => false
  | _ => true

theorem alt_leaf_plain : (o : Op) → altLeaf o = true → altCaps o = true → plainOp o = true
  | .bol, _, _ | .eol, _, _ | .nothing, _, _ | .endProgram, _, _ | .atom _, _, _ | .cls _, _, _ => rfl
  | .gfixed _ _ _ _, _, h | .rfixed _ _ _ _, _, h => by simpa only [altCaps, plainOp] using h
  | .rep _ _ _ _ _, _, h | .unamb _ _ _, _, h => by simp [altCaps] at h
  | .capture _ _, h, _ | .seq _, h, _ | .backref _, h, _ | .choice _, h, _ => by cases h

theorem sureOf_leaf : (o : Op) → altLeaf o = true → sureOf o = []
  | .bol, _ | .eol, _ | .nothing, _ | .endProgram, _ | .atom _, _ | .cls _, _ | .rep _ _ _ _ _, _
  | .gfixed _ _ _ _, _ | .rfixed _ _ _ _, _ | .unamb _ _ _, _ => rfl
  | .capture _ _, h | .seq _, h | .backref _, h | .choice _, h => by cases h

theorem enumC2_leaf (ctx : Ctx) : (o : Op) → altLeaf o = true → altCaps o = true → ∀ p e,
    enumC2 ctx o p e = (enum ctx o p).map (fun q => (q, e))
  | .bol, _, _, _, _ | .eol, _, _, _, _ | .nothing, _, _, _, _ | .endProgram, _, _, _, _ | .atom _, _, _, _, _
  | .cls _, _, _, _, _ | .gfixed _ _ _ _, _, _, _, _ | .rfixed _ _ _ _, _, _, _, _ => by simp only [enumC2]
  | .rep _ _ _ _ _, _, h, _, _ | .unamb _ _ _, _, h, _, _ => by simp [altCaps] at h
  | .capture _ _, h, _, _, _ | .seq _, h, _, _, _ | .backref _, h, _, _, _ | .choice _, h, _, _, _ => by
    cases h

theorem alt_induction {P : Op → Prop} {QS QA : List Op → Prop}
    (cap : ∀ g c, P c → P (.capture g c)) (seq : ∀ ops, QS ops → P (.seq ops))
    (choice : ∀ bs, QA bs → P (.choice bs)) (bref : ∀ g, P (.backref g)) (leaf : ∀ o, altLeaf o = true → P o)
    (nilS : QS []) (consS : ∀ o os, P o → QS os → QS (o :: os))
    (nilA : QA []) (consA : ∀ o os, P o → QA os → QA (o :: os)) :
    (∀ o, P o) ∧ (∀ os, QS os) ∧ (∀ os, QA os) :=
  have h := Op.ind_both (M := P) (ML := fun l => QS l ∧ QA l) (leaf _ rfl) (leaf _ rfl) (leaf _ rfl) (leaf _ rfl)
    (fun _ => leaf _ rfl) (fun _ => leaf _ rfl) bref cap (fun l h => choice l h.2) (fun l h => seq l h.1)
    (fun _ _ _ _ _ _ => leaf _ rfl) (fun _ _ _ _ _ => leaf _ rfl) (fun _ _ _ _ _ => leaf _ rfl)
    (fun _ _ _ _ => leaf _ rfl) ⟨nilS, nilA⟩ (fun o l ho hl => ⟨consS o l ho hl.1, consA o l ho hl.2⟩)
  ⟨h.1, fun l => (h.2 l).1, fun l => (h.2 l).2⟩

theorem enumC2_backref (ctx : Ctx) (g p : Nat) (e : CEnv) :
    enumC2 ctx (.backref g) p e = backrefEnum ctx (e g) p e := by
  simp only [enumC2, backrefEnum]
  cases e g with
  | none => rfl
  | some ab => rfl

theorem plain_facts2 (ctx : Ctx) (op : Op) (hp : plainOp op = true) (hwf : wfOp op = true)
    (lo : Nat) (cl : List Nat) (p : Nat) (e : CEnv) (hpl : p ≤ ctx.len) (he : EnvIn e lo p) (hd : Dom cl e)
    (hsure : sureOf op = [])
    (x : Nat × CEnv) (hx : x ∈ (enum ctx op p).map (fun q => (q, e))) :
    PathFacts2 ctx lo (sureOf op) (capsOf op) cl (PathR ctx op p e) p e x.1 x.2 := by
  obtain ⟨q, hq, rfl⟩ := List.mem_map.1 hx
  have hr := enum_sound ctx op (plain_clean.op' op hp) hwf hpl hq
  have hb := OpR_bounds_op ctx op p q hpl hr
  rw [hsure]
  exact ⟨hb.1, hb.2, he.mono hb.1, hd, fun _ _ => rfl, (PathR_plain ctx op hp p e q e).2 ⟨rfl, hr⟩⟩

theorem enumC2_facts_both (ctx : Ctx) (lo : Nat) :
    (∀ op, altCaps op = true → wfOp op = true →
      ∀ cl p e, p ≤ ctx.len → lo ≤ p → EnvIn e lo p → Dom cl e →
      ∀ x, x ∈ enumC2 ctx op p e → PathFacts2 ctx lo (sureOf op) (capsOf op) cl (PathR ctx op p e) p e x.1 x.2) ∧
    (∀ ops, altCapsL ops = true → wfOps ops = true →
      ∀ cl p e, p ≤ ctx.len → lo ≤ p → EnvIn e lo p → Dom cl e →
      ∀ x, x ∈ enumC2Seq ctx ops p e →
        PathFacts2 ctx lo (sureOfL ops) (capsOfL ops) cl (PathRSeq ctx ops p e) p e x.1 x.2) ∧
    (∀ bs, altCapsL bs = true → wfOps bs = true →
      ∀ cl p e, p ≤ ctx.len → lo ≤ p → EnvIn e lo p → Dom cl e →
      ∀ x, x ∈ enumC2Any ctx bs p e →
        PathFacts2 ctx lo [] (capsOfL bs) cl (PathRAny ctx bs p e) p e x.1 x.2) := by
  refine alt_induction ?_ ?_ ?_ ?_ ?_ ?_ ?_ ?_ ?_
  · intro g c ih hs hwf cl p e hpl hlo he hd x hx
    simp only [altCaps] at hs
    simp only [wfOp] at hwf
    simp only [enumC2, List.mem_map] at hx
    obtain ⟨y, hy, rfl⟩ := hx
    have ih := ih hs hwf cl p e hpl hlo he hd y hy
    simp only [capsOf, sureOf]
    have hpath : PathR ctx (.capture g c) p e y.1 (y.2.set g p y.1) := by
      simp only [PathR]
      exact ⟨y.2, ih.path, rfl⟩
    exact ⟨ih.le, ih.len, ih.env.set g p y.1 hlo ih.le (Nat.le_refl _) (Nat.le_refl _), Dom.set ih.dom g p y.1,
      PathR_frame ctx _ p e _ _ hpath, hpath⟩
  · intro ops ih hs hwf cl p e hpl hlo he hd x hx
    simp only [altCaps] at hs
    simp only [wfOp, Bool.and_eq_true] at hwf
    simp only [enumC2] at hx
    simp only [capsOf, sureOf, PathR]
    exact ih hs hwf.2 cl p e hpl hlo he hd x hx
  · intro bs ih hs hwf cl p e hpl hlo he hd x hx
    simp only [altCaps] at hs
    simp only [wfOp, Bool.and_eq_true] at hwf
    simp only [enumC2] at hx
    simp only [capsOf, sureOf, PathR]
    exact ih hs hwf.2 cl p e hpl hlo he hd x hx
  · intro g _ _ cl p e hpl _ he hd x hx
    rw [enumC2_backref] at hx
    obtain ⟨rfl, hb⟩ := mem_backrefEnum.1 hx
    simp only [capsOf, sureOf]
    exact ⟨(hb.bounds hpl).1, (hb.bounds hpl).2, he.mono (hb.bounds hpl).1, hd, fun _ _ => rfl,
      by simp only [PathR]; exact ⟨trivial, hb⟩⟩
  · intro o hn hs hwf cl p e hpl _ he hd x hx
    have hp := alt_leaf_plain o hn hs
    exact plain_facts2 ctx o hp hwf lo cl p e hpl he hd (sureOf_leaf o hn) x (by rw [← enumC2_leaf ctx o hn hs]; exact hx)
  · intro _ _ cl p e hpl _ he hd x hx
    simp only [enumC2Seq, List.mem_singleton] at hx
    subst hx
    simp only [capsOfL, sureOfL]
    exact ⟨Nat.le_refl _, hpl, he, hd, fun _ _ => rfl, by simp only [PathRSeq, and_self]⟩
  · intro o os ih1 ih2 hs hwf cl p e hpl hlo he hd x hx
    simp only [altCapsL, Bool.and_eq_true] at hs
    simp only [wfOps, Bool.and_eq_true] at hwf
    simp only [enumC2Seq, List.mem_flatMap] at hx
    obtain ⟨y, hy, hx⟩ := hx
    have h1 := ih1 hs.1 hwf.1 cl p e hpl hlo he hd y hy
    have h2 := ih2 hs.2 hwf.2 (sureOf o ++ cl) y.1 y.2 h1.len
      (Nat.le_trans hlo h1.le) h1.env h1.dom x hx
    simp only [capsOfL, sureOfL]
    have hpath : PathRSeq ctx (o :: os) p e x.1 x.2 := by
      simp only [PathRSeq]
      exact ⟨y.1, y.2, h1.path, h2.path⟩
    refine ⟨Nat.le_trans h1.le h2.le, h2.len, h2.env, fun g hg => ?_, PathRSeq_frame ctx _ p e _ _ hpath, hpath⟩
    apply h2.dom g
    simp only [List.mem_append] at *
    rcases hg with (hg | hg) | hg
    · exact .inr (.inl hg)
    · exact .inl hg
    · exact .inr (.inr hg)
  · intro _ _ _ _ _ _ _ _ _ x hx
    simp [enumC2Any] at hx
  · intro b bs ih1 ih2 hs hwf cl p e hpl hlo he hd x hx
    simp only [altCapsL, Bool.and_eq_true] at hs
    simp only [wfOps, Bool.and_eq_true] at hwf
    simp only [enumC2Any, List.mem_append] at hx
    simp only [capsOfL]
    rcases hx with hx | hx
    · have h1 := ih1 hs.1 hwf.1 cl p e hpl hlo he hd x hx
      have hpath : PathRAny ctx (b :: bs) p e x.1 x.2 := by simp only [PathRAny]; exact .inl h1.path
      exact ⟨h1.le, h1.len, h1.env, fun g hg => h1.dom g (List.mem_append_right _ (by simpa using hg)),
        PathRAny_frame ctx _ p e _ _ hpath, hpath⟩
    · have h1 := ih2 hs.2 hwf.2 cl p e hpl hlo he hd x hx
      have hpath : PathRAny ctx (b :: bs) p e x.1 x.2 := by simp only [PathRAny]; exact .inr h1.path
      exact ⟨h1.le, h1.len, h1.env, h1.dom, PathRAny_frame ctx _ p e _ _ hpath, hpath⟩

theorem enumC2_facts (ctx : Ctx) (lo : Nat) (op : Op) (hs : altCaps op = true) (hwf : wfOp op = true)
    (cl : List Nat) (p : Nat) (e : CEnv) (hpl : p ≤ ctx.len) (hlo : lo ≤ p) (he : EnvIn e lo p) (hd : Dom cl e)
    (x : Nat × CEnv) (hx : x ∈ enumC2 ctx op p e) :
    PathFacts2 ctx lo (sureOf op) (capsOf op) cl (PathR ctx op p e) p e x.1 x.2 :=
  (enumC2_facts_both ctx lo).1 op hs hwf cl p e hpl hlo he hd x hx

theorem enumC2Any_facts (ctx : Ctx) (lo : Nat) : (bs : List Op) → altCapsL bs = true → wfOps bs = true →
    ∀ cl p e, p ≤ ctx.len → lo ≤ p → EnvIn e lo p → Dom cl e →
    ∀ x, x ∈ enumC2Any ctx bs p e →
      PathFacts2 ctx lo [] (capsOfL bs) cl (PathRAny ctx bs p e) p e x.1 x.2 :=
  (enumC2_facts_both ctx lo).2.2

theorem scope_fresh_both (hbr : Bool) (mp : Nat) :
    (∀ op, altCaps op = true → ∀ cl ub, scopeOK2 hbr mp op cl ub = true → ∀ k, k ∈ capsOf op → k ∉ ub) ∧
    (∀ ops, altCapsL ops = true → ∀ cl ub, scopeOK2L hbr mp ops cl ub = true → ∀ k, k ∈ capsOfL ops → k ∉ ub) ∧
    (∀ bs, altCapsL bs = true → ∀ cl ub, scopeOK2A hbr mp bs cl ub = true → ∀ k, k ∈ capsOfL bs → k ∉ ub) := by
  refine alt_induction ?_ ?_ ?_ ?_ ?_ ?_ ?_ ?_ ?_
  · intro g c ih hs cl ub h k hk
    simp only [altCaps] at hs
    simp only [scopeOK2, Bool.and_eq_true, decide_eq_true_eq, Bool.not_eq_true', List.contains_eq_mem,
      decide_eq_false_iff_not] at h
    simp only [capsOf, List.mem_cons] at hk
    rcases hk with rfl | hk
    · exact h.1.2
    · have := ih hs cl (g :: ub) h.2 k hk
      exact fun hc => this (List.mem_cons_of_mem _ hc)
  · intro ops ih hs cl ub h k hk
    simp only [altCaps] at hs
    simp only [scopeOK2] at h
    simp only [capsOf] at hk
    exact ih hs cl ub h k hk
  · intro bs ih hs cl ub h k hk
    simp only [altCaps] at hs
    simp only [scopeOK2] at h
    simp only [capsOf] at hk
    exact ih hs cl ub h k hk
  · intro _ _ _ _ _ k hk
    cases hk
  · intro o hn hs _ _ _ k hk
    rw [plain_capsOf o (alt_leaf_plain o hn hs)] at hk
    cases hk
  · intro _ _ _ _ k hk
    cases hk
  · intro o os ih1 ih2 hs cl ub h k hk
    simp only [altCapsL, Bool.and_eq_true] at hs
    simp only [scopeOK2L, Bool.and_eq_true] at h
    simp only [capsOfL, List.mem_append] at hk
    rcases hk with hk | hk
    · exact ih1 hs.1 cl ub h.1 k hk
    · have := ih2 hs.2 _ _ h.2 k hk
      exact fun hc => this (List.mem_append_right _ hc)
  · intro _ _ _ _ k hk
    cases hk
  · intro b bs ih1 ih2 hs cl ub h k hk
    simp only [altCapsL, Bool.and_eq_true] at hs
    simp only [scopeOK2A, Bool.and_eq_true] at h
    simp only [capsOfL, List.mem_append] at hk
    rcases hk with hk | hk
    · exact ih1 hs.1 cl ub h.1 k hk
    · exact ih2 hs.2 cl ub h.2 k hk

theorem scope_fresh (hbr : Bool) (mp : Nat) (op : Op) (hs : altCaps op = true) (cl ub : List Nat)
    (h : scopeOK2 hbr mp op cl ub = true) (k : Nat) (hk : k ∈ capsOf op) : k ∉ ub :=
  (scope_fresh_both hbr mp).1 op hs cl ub h k hk

theorem scope_freshL (hbr : Bool) (mp : Nat) : (ops : List Op) → altCapsL ops = true → ∀ cl ub,
    scopeOK2L hbr mp ops cl ub = true → ∀ k, k ∈ capsOfL ops → k ∉ ub :=
  (scope_fresh_both hbr mp).2.1

theorem scope_freshA (hbr : Bool) (mp : Nat) : (bs : List Op) → altCapsL bs = true → ∀ cl ub,
    scopeOK2A hbr mp bs cl ub = true → ∀ k, k ∈ capsOfL bs → k ∉ ub :=
  (scope_fresh_both hbr mp).2.2

abbrev RT (ctx : Ctx) (opn : List (Nat × Nat)) (fut : List Nat) : Nat → St → CEnv → Prop :=
  fun n st e' => ReprT ctx opn fut (some n) st e'

theorem sem_seqT_both (ctx : Ctx) (lo : Nat) :
    (∀ op, altCaps op = true → wfOp op = true →
      ∀ cl ub opn fut, scopeOK2 ctx.hasBackrefs ctx.maxParens op cl ub = true →
      (∀ g ∈ capsOf op, g ∈ fut) → (∀ g pg, (g, pg) ∈ opn → g ∈ ub) →
      ∀ p e st, p ≤ ctx.len → lo ≤ p → EnvIn e lo p → Dom cl e → (∀ k, (e k).isSome = true → k ∈ ub) →
      ReprT ctx opn fut none st e →
      Step.SeqT (RT ctx opn fut) (RT ctx opn fut) (fun st' => ReprT ctx opn fut (some p) st' e) (sem ctx op p st)
        (enumC2 ctx op p e)) ∧
    (∀ ops, altCapsL ops = true → wfOps ops = true →
      ∀ cl ub opn fut, scopeOK2L ctx.hasBackrefs ctx.maxParens ops cl ub = true →
      (∀ g ∈ capsOfL ops, g ∈ fut) → (∀ g pg, (g, pg) ∈ opn → g ∈ ub) →
      ∀ p e st, p ≤ ctx.len → lo ≤ p → EnvIn e lo p → Dom cl e → (∀ k, (e k).isSome = true → k ∈ ub) →
      ReprT ctx opn fut none st e →
      Step.SeqT (fun _ st' e' => ReprT ctx opn fut none st' e') (RT ctx opn fut)
        (fun st' => ReprT ctx opn fut (some p) st' e) (seqK (semL ctx ops) p st) (enumC2Seq ctx ops p e)) ∧
    (∀ bs, altCapsL bs = true → wfOps bs = true →
      ∀ cl ub opn fut, scopeOK2A ctx.hasBackrefs ctx.maxParens bs cl ub = true →
      (∀ g ∈ capsOfL bs, g ∈ fut) → (∀ g pg, (g, pg) ∈ opn → g ∈ ub) →
      ∀ p e st, p ≤ ctx.len → lo ≤ p → EnvIn e lo p → Dom cl e → (∀ k, (e k).isSome = true → k ∈ ub) →
      ReprT ctx opn fut (some p) st e →
      Step.SeqT (RT ctx opn fut) (RT ctx opn fut) (fun st' => ReprT ctx opn fut (some p) st' e)
        (choiceGen (semL ctx bs) p st) (enumC2Any ctx bs p e)) := by
  refine alt_induction ?_ ?_ ?_ ?_ ?_ ?_ ?_ ?_ ?_
  · intro g c ih hs hwf cl ub opn fut hsc hfut hopn p e st hpl hlo he hd hsub hst
    simp only [altCaps] at hs
    simp only [wfOp] at hwf
    simp only [scopeOK2, Bool.and_eq_true, decide_eq_true_eq, Bool.not_eq_true', List.contains_eq_mem,
      decide_eq_false_iff_not] at hsc
    obtain ⟨⟨⟨hg1, hgm⟩, hgub⟩, hsc⟩ := hsc
    simp only [capsOf] at hfut
    have hgf : g ∈ fut := hfut g List.mem_cons_self
    have hge : e g = none := by
      cases h : e g with
      | none => rfl
      | some ab => exact absurd (hsub g (by rw [h]; rfl)) hgub
    have hno : ∀ pg, (g, pg) ∉ opn := fun pg hm => hgub (hopn g pg hm)
    have hgc : g ∉ capsOf c := fun hc => scope_fresh _ _ c hs cl (g :: ub) hsc g hc List.mem_cons_self
    have hst1 := (hst.capturePre g p hgf hge hgm).openG g p hgf hge hno
    have ih := ih hs hwf cl (g :: ub) ((g, p) :: opn) fut hsc
      (fun k hk => hfut k (List.mem_cons_of_mem _ hk))
      (fun k pg hm => by
        rcases List.mem_cons.1 hm with heq | hm
        · simp only [Prod.mk.injEq] at heq; rw [heq.1]; exact List.mem_cons_self
        · exact List.mem_cons_of_mem _ (hopn k pg hm))
      p e _ hpl hlo he hd (fun k hk => List.mem_cons_of_mem _ (hsub k hk)) hst1
    have hfacts := enumC2_facts ctx lo c hs hwf cl p e hpl hlo he hd
    simp only [sem, enumC2]
    unfold captureGen
    simp only
    refine (Step.SeqT.mapSt (Y' := RT ctx opn fut) (R' := RT ctx opn fut) (fun x => x.2.set g p x.1) ih ?_ ?_).monoN ?_
    · intro x hx st' h'
      have hxg : x.2 g = none := by rw [(hfacts x hx).frame g hgc]; exact hge
      exact h'.captureWrite g p x.1 hgm hxg hno
    · intro x hx st' h'
      have hxg : x.2 g = none := by rw [(hfacts x hx).frame g hgc]; exact hge
      exact ReprT.unset hxg hg1 hgf h'
    · intro st' h'
      exact h'.closeG hno
  · intro ops ih hs hwf cl ub opn fut hsc hfut hopn p e st hpl hlo he hd hsub hst
    simp only [altCaps] at hs
    simp only [wfOp, Bool.and_eq_true, Bool.not_eq_true', List.isEmpty_eq_false_iff] at hwf
    simp only [scopeOK2] at hsc
    simp only [capsOf] at hfut
    obtain ⟨o, os, rfl⟩ := List.exists_cons_of_ne_nil hwf.1
    simp only [sem, enumC2, semL]
    unfold seqGen
    simp only [seqGo_cons]
    refine ((ih hs hwf.2 cl ub opn fut hsc hfut hopn p e st hpl hlo he hd hsub hst).onNil
      (fun st' h' => ?_)).monoY (fun n st' e' h' => h'.toSome n)
    split
    · exact (hst.toSome p).restore h'
    · exact h'
  · intro bs ih hs hwf cl ub opn fut hsc hfut hopn p e st hpl hlo he hd hsub hst
    simp only [altCaps] at hs
    simp only [wfOp, Bool.and_eq_true] at hwf
    simp only [scopeOK2] at hsc
    simp only [capsOf] at hfut
    simp only [sem, enumC2]
    exact ih hs hwf.2 cl ub opn fut hsc hfut hopn p e st hpl hlo he hd hsub (hst.toSome p)
  · intro g _ _ cl ub opn fut hsc _ _ p e st hpl _ he hd _ hst
    simp only [scopeOK2, Bool.and_eq_true, decide_eq_true_eq, List.contains_eq_mem] at hsc
    obtain ⟨⟨hbr, hg1⟩, hgcl⟩ := hsc
    have hsome := hd g hgcl
    cases hg : e g with
    | none => rw [hg] at hsome; cases hsome
    | some ab =>
      obtain ⟨a, b⟩ := ab
      have hag := hst.agree g hg1 (.inr (by rw [hg]; rfl))
      rw [hg] at hag
      have hbrs := hag.2.2 hbr
      have hab := (he g a b hg).2.1
      simp only [sem, enumC2, hg]
      rw [backrefGen_eval ctx g p st a b hpl hbrs.1 hbrs.2 hab]
      split
      · exact Step.SeqT.once (hst.toSome _) (fun st' h' => h'.anti (Nat.le_add_right _ _))
      · exact .nil st (hst.toSome _)
  · intro o hn hs hwf _ _ opn fut _ _ _ p e st hpl _ he _ _ hst
    rw [enumC2_leaf ctx o hn hs p e]
    exact plain_seqT ctx o (alt_leaf_plain o hn hs) hwf opn fut e lo p hpl he st hst
  · intro _ _ _ _ opn fut _ _ _ p e st _ _ _ _ _ hst
    exact Step.SeqT.once hst (fun _ h => h)
  · intro o os ih1 ih2 hs hwf cl ub opn fut hsc hfut hopn p e st hpl hlo he hd hsub hst
    simp only [altCapsL, Bool.and_eq_true] at hs
    simp only [wfOps, Bool.and_eq_true] at hwf
    simp only [scopeOK2L, Bool.and_eq_true] at hsc
    simp only [capsOfL] at hfut
    have ih := ih1 hs.1 hwf.1 cl ub opn fut hsc.1
      (fun g hg => hfut g (List.mem_append_left _ hg)) hopn p e st hpl hlo he hd hsub hst
    have hfacts := enumC2_facts ctx lo o hs.1 hwf.1 cl p e hpl hlo he hd
    simp only [semL, seqK, enumC2Seq]
    refine Step.SeqT.bind (g := fun x => enumC2Seq ctx os x.1 x.2)
      (ih.mapSt_same (Y' := fun _ st' e' => ReprT ctx opn fut none st' e') (fun x hx st' h' =>
        h'.clear (hfacts x hx).env (fun p' hc => by cases hc; exact Nat.le_refl _))) (fun x hx st' h' => ?_)
    have hf := hfacts x hx
    exact ih2 hs.2 hwf.2 (sureOf o ++ cl) (capsOf o ++ ub) opn fut
      hsc.2 (fun g hg => hfut g (List.mem_append_right _ hg))
      (fun g pg hm => List.mem_append_right _ (hopn g pg hm))
      x.1 x.2 st' hf.len (Nat.le_trans hlo hf.le) hf.env hf.dom
      (fun k hk => by
        by_cases hkc : k ∈ capsOf o
        · exact List.mem_append_left _ hkc
        · rw [hf.frame k hkc] at hk
          exact List.mem_append_right _ (hsub k hk))
      h'
  · intro _ _ _ _ _ _ _ _ _ p e st _ _ _ _ _ hst
    simp only [semL, enumC2Any, choiceGen]
    exact .nil st hst
  · intro b bs ih1 ih2 hs hwf cl ub opn fut hsc hfut hopn p e st hpl hlo he hd hsub hst
    simp only [altCapsL, Bool.and_eq_true] at hs
    simp only [wfOps, Bool.and_eq_true] at hwf
    simp only [scopeOK2A, Bool.and_eq_true] at hsc
    simp only [capsOfL] at hfut
    simp only [semL, enumC2Any]
    unfold choiceGen
    have hcl := hst.clear he (fun p' hc => by cases hc; exact Nat.le_refl _)
    exact (ih1 hs.1 hwf.1 cl ub opn fut hsc.1 (fun g hg => hfut g (List.mem_append_left _ hg)) hopn
      p e _ hpl hlo he hd hsub hcl).append
      (fun st' h' => ih2 hs.2 hwf.2 cl ub opn fut hsc.2
        (fun g hg => hfut g (List.mem_append_right _ hg)) hopn p e st' hpl hlo he hd hsub h')

theorem sem_seqT (ctx : Ctx) (lo : Nat) (op : Op) (hs : altCaps op = true) (hwf : wfOp op = true)
    (cl ub : List Nat) (opn : List (Nat × Nat)) (fut : List Nat)
    (hsc : scopeOK2 ctx.hasBackrefs ctx.maxParens op cl ub = true)
    (hfut : ∀ g ∈ capsOf op, g ∈ fut) (hopn : ∀ g pg, (g, pg) ∈ opn → g ∈ ub)
    (p : Nat) (e : CEnv) (st : St) (hpl : p ≤ ctx.len) (hlo : lo ≤ p) (he : EnvIn e lo p) (hd : Dom cl e)
    (hsub : ∀ k, (e k).isSome = true → k ∈ ub) (hst : ReprT ctx opn fut none st e) :
    Step.SeqT (RT ctx opn fut) (RT ctx opn fut) (fun st' => ReprT ctx opn fut (some p) st' e) (sem ctx op p st)
      (enumC2 ctx op p e) :=
  (sem_seqT_both ctx lo).1 op hs hwf cl ub opn fut hsc hfut hopn p e st hpl hlo he hd hsub hst

theorem seqK_seqT (ctx : Ctx) (lo : Nat) (ops : List Op) (hs : altCapsL ops = true)
    (hwf : wfOps ops = true) (cl ub : List Nat) (opn : List (Nat × Nat)) (fut : List Nat)
    (hsc : scopeOK2L ctx.hasBackrefs ctx.maxParens ops cl ub = true)
    (hfut : ∀ g ∈ capsOfL ops, g ∈ fut) (hopn : ∀ g pg, (g, pg) ∈ opn → g ∈ ub)
    (p : Nat) (e : CEnv) (st : St) (hpl : p ≤ ctx.len) (hlo : lo ≤ p) (he : EnvIn e lo p) (hd : Dom cl e)
    (hsub : ∀ k, (e k).isSome = true → k ∈ ub) (hst : ReprT ctx opn fut none st e) :
    Step.SeqT (fun _ st' e' => ReprT ctx opn fut none st' e') (RT ctx opn fut)
      (fun st' => ReprT ctx opn fut (some p) st' e) (seqK (semL ctx ops) p st) (enumC2Seq ctx ops p e) :=
  (sem_seqT_both ctx lo).2.1 ops hs hwf cl ub opn fut hsc hfut hopn p e st hpl hlo he hd hsub hst

theorem choice_seqT (ctx : Ctx) (lo : Nat) : (bs : List Op) → altCapsL bs = true → wfOps bs = true →
    ∀ cl ub opn fut, scopeOK2A ctx.hasBackrefs ctx.maxParens bs cl ub = true →
    (∀ g ∈ capsOfL bs, g ∈ fut) → (∀ g pg, (g, pg) ∈ opn → g ∈ ub) →
    ∀ p e st, p ≤ ctx.len → lo ≤ p → EnvIn e lo p → Dom cl e → (∀ k, (e k).isSome = true → k ∈ ub) →
    ReprT ctx opn fut (some p) st e →
    Step.SeqT (RT ctx opn fut) (RT ctx opn fut) (fun st' => ReprT ctx opn fut (some p) st' e)
      (choiceGen (semL ctx bs) p st) (enumC2Any ctx bs p e) :=
  (sem_seqT_both ctx lo).2.2

/-- a sequence clears at its own yields: there every unbound group is absent or EMPTY (level `none`) -/
theorem sem_seqT_seq (ctx : Ctx) (lo : Nat) (ops : List Op) (hs : altCaps (.seq ops) = true)
    (hwf : wfOp (.seq ops) = true) (cl ub : List Nat) (opn : List (Nat × Nat)) (fut : List Nat)
    (hsc : scopeOK2 ctx.hasBackrefs ctx.maxParens (.seq ops) cl ub = true)
    (hfut : ∀ g ∈ capsOf (.seq ops), g ∈ fut) (hopn : ∀ g pg, (g, pg) ∈ opn → g ∈ ub)
    (p : Nat) (e : CEnv) (st : St) (hpl : p ≤ ctx.len) (hlo : lo ≤ p) (he : EnvIn e lo p) (hd : Dom cl e)
    (hsub : ∀ k, (e k).isSome = true → k ∈ ub) (hst : ReprT ctx opn fut none st e) :
    Step.SeqT (fun _ st' e' => ReprT ctx opn fut none st' e') (RT ctx opn fut)
      (fun st' => ReprT ctx opn fut (some p) st' e ∧ (containsCapL ops = true → st'.cap = st.cap))
      (sem ctx (.seq ops) p st) (enumC2 ctx (.seq ops) p e) := by
  simp only [altCaps] at hs
  simp only [wfOp, Bool.and_eq_true, Bool.not_eq_true', List.isEmpty_eq_false_iff] at hwf
  simp only [scopeOK2] at hsc
  simp only [capsOf] at hfut
  have hk := seqK_seqT ctx lo ops hs hwf.2 cl ub opn fut hsc hfut hopn p e st hpl hlo he hd hsub hst
  obtain ⟨o, os, rfl⟩ := List.exists_cons_of_ne_nil hwf.1
  simp only [sem, enumC2, semL] at hk ⊢
  unfold seqGen
  simp only [seqGo_cons]
  refine hk.onNil (fun st' h' => ?_)
  split
  · exact ⟨(hst.toSome p).restore h', fun _ => rfl⟩
  · rename_i hc
    exact ⟨h', fun h => absurd h hc⟩

theorem enumC2_complete_both (ctx : Ctx) :
    (∀ op, altCaps op = true → wfOp op = true →
      ∀ p e q e', p ≤ ctx.len → PathR ctx op p e q e' → (q, e') ∈ enumC2 ctx op p e) ∧
    (∀ ops, altCapsL ops = true → wfOps ops = true →
      ∀ p e q e', p ≤ ctx.len → PathRSeq ctx ops p e q e' → (q, e') ∈ enumC2Seq ctx ops p e) ∧
    (∀ bs, altCapsL bs = true → wfOps bs = true →
      ∀ p e q e', p ≤ ctx.len → PathRAny ctx bs p e q e' → (q, e') ∈ enumC2Any ctx bs p e) := by
  refine alt_induction ?_ ?_ ?_ ?_ ?_ ?_ ?_ ?_ ?_
  · intro g c ih hs hwf p e q e' hp h
    simp only [altCaps] at hs
    simp only [wfOp] at hwf
    simp only [PathR] at h
    obtain ⟨e1, h1, rfl⟩ := h
    simp only [enumC2, List.mem_map]
    exact ⟨(q, e1), ih hs hwf p e q e1 hp h1, rfl⟩
  · intro ops ih hs hwf p e q e' hp h
    simp only [altCaps] at hs
    simp only [wfOp, Bool.and_eq_true] at hwf
    simp only [PathR] at h
    simp only [enumC2]
    exact ih hs hwf.2 p e q e' hp h
  · intro bs ih hs hwf p e q e' hp h
    simp only [altCaps] at hs
    simp only [wfOp, Bool.and_eq_true] at hwf
    simp only [PathR] at h
    simp only [enumC2]
    exact ih hs hwf.2 p e q e' hp h
  · intro g _ _ p e q e' _ h
    simp only [PathR] at h
    rw [enumC2_backref]
    exact mem_backrefEnum.2 h
  · intro o hn hs hwf p e q e' hp h
    rw [enumC2_leaf ctx o hn hs]
    exact plain_complete ctx o (alt_leaf_plain o hn hs) hwf hp h
  · intro _ _ p e q e' _ h
    simp only [PathRSeq] at h
    obtain ⟨rfl, rfl⟩ := h
    simp [enumC2Seq]
  · intro o os ih1 ih2 hs hwf p e q e' hp h
    simp only [altCapsL, Bool.and_eq_true] at hs
    simp only [wfOps, Bool.and_eq_true] at hwf
    simp only [PathRSeq] at h
    obtain ⟨m, e1, h1, h2⟩ := h
    simp only [enumC2Seq, List.mem_flatMap]
    exact ⟨(m, e1), ih1 hs.1 hwf.1 p e m e1 hp h1,
      ih2 hs.2 hwf.2 m e1 q e' (PathR_bounds ctx o hp h1).2 h2⟩
  · intro _ _ _ _ _ _ _ h
    simp only [PathRAny] at h
  · intro b bs ih1 ih2 hs hwf p e q e' hp h
    simp only [altCapsL, Bool.and_eq_true] at hs
    simp only [wfOps, Bool.and_eq_true] at hwf
    simp only [PathRAny] at h
    simp only [enumC2Any, List.mem_append]
    rcases h with h | h
    · exact .inl (ih1 hs.1 hwf.1 p e q e' hp h)
    · exact .inr (ih2 hs.2 hwf.2 p e q e' hp h)

theorem enumC2_complete (ctx : Ctx) (op : Op) (hs : altCaps op = true) (hwf : wfOp op = true)
    (p : Nat) (e : CEnv) (q : Nat) (e' : CEnv) (hp : p ≤ ctx.len) (h : PathR ctx op p e q e') :
    (q, e') ∈ enumC2 ctx op p e :=
  (enumC2_complete_both ctx).1 op hs hwf p e q e' hp h

theorem enumC2Seq_complete (ctx : Ctx) : (ops : List Op) → altCapsL ops = true → wfOps ops = true →
    ∀ p e q e', p ≤ ctx.len → PathRSeq ctx ops p e q e' → (q, e') ∈ enumC2Seq ctx ops p e :=
  (enumC2_complete_both ctx).2.1

theorem enumC2Any_complete (ctx : Ctx) : (bs : List Op) → altCapsL bs = true → wfOps bs = true →
    ∀ p e q e', p ≤ ctx.len → PathRAny ctx bs p e q e' → (q, e') ∈ enumC2Any ctx bs p e :=
  (enumC2_complete_both ctx).2.2

theorem containsCap_false_both :
    (∀ op, containsCap op = false → isCapture op = false → capsOf op = []) ∧
    (∀ ops, containsCapL ops = false → capsOfL ops = []) := by
  refine Op.ind_both (fun _ _ => rfl) (fun _ _ => rfl) (fun _ _ => rfl) (fun _ _ => rfl) (fun _ _ _ => rfl)
    (fun _ _ _ => rfl) (fun _ _ _ => rfl) ?_ ?_ ?_ ?_ ?_ ?_ ?_ (fun _ => rfl) ?_
  · intro _ _ _ _ h
    simp [isCapture] at h
  · intro l ih h _
    simp only [containsCap] at h; simp only [capsOf]; exact ih h
  · intro l ih h _
    simp only [containsCap] at h; simp only [capsOf]; exact ih h
  · intro _ c _ _ _ ih h _
    simp only [containsCap, Bool.or_eq_false_iff] at h; simp only [capsOf]; exact ih h.2 h.1
  · intro c _ _ _ ih h _
    simp only [containsCap, Bool.or_eq_false_iff] at h; simp only [capsOf]; exact ih h.2 h.1
  · intro c _ _ _ ih h _
    simp only [containsCap, Bool.or_eq_false_iff] at h; simp only [capsOf]; exact ih h.2 h.1
  · intro c _ _ ih h _
    simp only [containsCap, Bool.or_eq_false_iff] at h; simp only [capsOf]; exact ih h.2 h.1
  · intro o os ih1 ih2 h
    simp only [containsCapL, Bool.or_eq_false_iff] at h
    simp only [capsOfL, ih1 h.1.2 h.1.1, ih2 h.2, List.append_nil]

theorem containsCap_false : (op : Op) → containsCap op = false → isCapture op = false → capsOf op = [] :=
  containsCap_false_both.1

theorem containsCapL_false : (ops : List Op) → containsCapL ops = false → capsOfL ops = [] :=
  containsCap_false_both.2

theorem alt_smallMin_both (n : Nat) :
    (∀ op, altCaps op = true → C06.smallMin n op = true) ∧
    (∀ ops, altCapsL ops = true → C06.smallMinL n ops = true) := by
  have cons : ∀ o os, (altCaps o = true → C06.smallMin n o = true) →
      (altCapsL os = true → C06.smallMinL n os = true) → altCapsL (o :: os) = true →
      C06.smallMinL n (o :: os) = true := fun o os ih1 ih2 h => by
    simp only [altCapsL, Bool.and_eq_true] at h
    simp only [C06.smallMinL, Bool.and_eq_true]
    exact ⟨ih1 h.1, ih2 h.2⟩
  have h := alt_induction (P := fun o => altCaps o = true → C06.smallMin n o = true)
    (QS := fun l => altCapsL l = true → C06.smallMinL n l = true)
    (QA := fun l => altCapsL l = true → C06.smallMinL n l = true)
    (fun _ _ ih h => by simp only [altCaps] at h; simp only [C06.smallMin]; exact ih h)
    (fun _ ih h => by simp only [altCaps] at h; simp only [C06.smallMin]; exact ih h)
    (fun _ ih h => by simp only [altCaps] at h; simp only [C06.smallMin]; exact ih h)
    (fun _ _ => rfl) (fun o hn h => (Clean.clean_smallMin n).op' o (plain_clean.op' o (alt_leaf_plain o hn h)))
    (fun _ => rfl) cons (fun _ => rfl) cons
  exact ⟨h.1, h.2.1⟩

theorem alt_smallMin (n : Nat) : (op : Op) → altCaps op = true → C06.smallMin n op = true :=
  (alt_smallMin_both n).1

theorem alt_smallMinL (n : Nat) : (ops : List Op) → altCapsL ops = true → C06.smallMinL n ops = true :=
  (alt_smallMin_both n).2

/-- the tree is a sequence, as every compiled program's is -/
structure AltOK (ctx : Ctx) (ops : List Op) : Prop where
  alt : altCaps (.seq ops) = true
  wf : wfOp (.seq ops) = true
  capsPos : C02.capsPos (.seq ops) = true
  scope : scopeOK2 ctx.hasBackrefs ctx.maxParens (.seq ops) [] [] = true

/-- the reported arrays between two attempts of the candidate loop -/
def Cap2 (op : Op) (st : St) : Prop :=
  ∀ k, 1 ≤ k → (k ∉ capsOf op → getO st.cap.startn k = none ∧ getO st.cap.endn k = none) ∧
    TPair (getO st.cap.startn k) (getO st.cap.endn k) none

def Good2 (op : Op) (st : St) : Prop := Cap2 op st ∧ st.panic = none

theorem cap2_of_nil (op : Op) (st : St) (h1 : st.cap.startn = []) (h2 : st.cap.endn = []) : Cap2 op st := by
  intro k _
  rw [h1, h2]
  exact ⟨fun _ => ⟨getO_nil k, getO_nil k⟩, .inl (getO_nil k)⟩

theorem matchStart_reprT (ctx : Ctx) (op : Op) (i : Nat) (st : St) (h : Good2 op st) :
    ReprT ctx [] (capsOf op) none (matchStart ctx i st) CEnv.empty := by
  refine ⟨fun k hk hc => ?_, matchStart_lens ctx i st, by rw [matchStart_panic]; exact .inl h.2,
    fun k _ hs' => by simp [CEnv.empty] at hs', Nat.le_of_eq (matchStart_pc ctx i st).symm,
    fun k h1 _ _ _ => ?_, fun k pg _ hm => by cases hm⟩
  · rcases hc with hc | hc
    · exact matchStart_agree ctx i st hk ((h.1 k hk).1 hc)
    · simp [CEnv.empty] at hc
  · rw [(matchStart_cap ctx i st k h1).1, (matchStart_cap ctx i st k h1).2]
    exact (h.1 k h1).2

structure MatchRes2 (ctx : Ctx) (op : Op) (j n : Nat) (e' : CEnv) (st' : St) : Prop where
  path : PathR ctx op j CEnv.empty n e'
  first : (enumC2 ctx op j CEnv.empty).head? = some (n, e')
  start0 : getParenStart st' 0 = some j
  end0 : getParenEnd st' 0 = some n
  le : j ≤ n
  len : n ≤ ctx.len
  reprT : ReprT ctx [] (capsOf op) none st' e'
  env : EnvIn e' j n
  frame : ∀ k, k ∉ capsOf op → e' k = none
  clean : st'.panic = none

theorem AltOK.matchAt_cases (ctx : Ctx) (ops : List Op) (H : AltOK ctx ops) (j : Nat) (hj : j ≤ ctx.len)
    (st : St) (hst : Good2 (.seq ops) st) :
    (HasP ctx (.seq ops) j ∧ ∃ st' n e', matchAt ctx (.seq ops) j st = (true, st') ∧
        MatchRes2 ctx (.seq ops) j n e' st') ∨
    (¬ HasP ctx (.seq ops) j ∧ ∃ st', matchAt ctx (.seq ops) j st = (false, st') ∧ Good2 (.seq ops) st') := by
  have hfacts := enumC2_facts ctx j (.seq ops) H.alt H.wf [] j CEnv.empty hj (Nat.le_refl _) (EnvIn.empty _ _)
    (Dom.nil _)
  rcases matchAt_of_exact
      (sem_seqT_seq ctx j ops H.alt H.wf [] [] [] (capsOf (.seq ops)) H.scope (fun _ h => h)
        (fun _ _ hm => by cases hm) j CEnv.empty (matchStart ctx j st) hj (Nat.le_refl _) (EnvIn.empty _ _)
        (Dom.nil _) (fun k hk => by simp [CEnv.empty] at hk) (matchStart_reprT ctx (.seq ops) j st hst))
      (fun x hx => (hfacts x hx).path) (enumC2_complete ctx (.seq ops) H.alt H.wf j CEnv.empty · · hj)
      (sem_s0 ctx j (.seq ops) H.wf H.capsPos j (matchStart ctx j st) hj
        (matchStart_s0 ctx j st))
      (C06.matchAt_no_diverge ctx (.seq ops) H.wf (alt_smallMin _ _ H.alt) j hj st (noDivMark_of_clean hst.2))
      (fun _ _ _ h => h.np) (fun _ h => h.1.np) with
    ⟨hp, s, n, e', hhd, hm, hr, he, hg0, hcl⟩ | ⟨hp, s, hn, he, hcl⟩
  · have f := hfacts (n, e') hm
    exact .inl ⟨hp, _, n, e', he, f.path, hhd, hg0, getParenEnd_setEnd0 s n, f.le, f.len, hr.setEnd0 n, f.env,
      fun k hk => (f.frame k hk).trans rfl, hcl⟩
  · refine .inr ⟨hp, _, he, fun k hk => ?_, hcl⟩
    -- a sequence with captures has restored the reported arrays; one without has no groups at all
    by_cases hcc : containsCapL ops = true
    · show (k ∉ capsOf (.seq ops) → getO s.cap.startn k = none ∧ getO s.cap.endn k = none) ∧
        TPair (getO s.cap.startn k) (getO s.cap.endn k) none
      rw [hn.2 hcc, (matchStart_cap ctx j st k hk).1, (matchStart_cap ctx j st k hk).2]
      exact hst.1 k hk
    · have hnil : capsOf (.seq ops) = [] := by
        simp only [capsOf]
        exact containsCapL_false ops (by simpa using hcc)
      have hag := hn.1.agree k hk (.inl (by rw [hnil]; simp))
      simp only [CEnv.empty] at hag
      exact ⟨fun _ => ⟨hag.1, hag.2.1⟩, .inl hag.1⟩

def AltSeq (ctx : Ctx) (op : Op) : Prop := ∃ ops, op = .seq ops ∧ AltOK ctx ops

theorem AltSeq.matchAt_cases (ctx : Ctx) (op : Op) (H : AltSeq ctx op) (j : Nat) (hj : j ≤ ctx.len)
    (st : St) (hst : Good2 op st) :
    (HasP ctx op j ∧ ∃ st' n e', matchAt ctx op j st = (true, st') ∧ MatchRes2 ctx op j n e' st') ∨
    (¬ HasP ctx op j ∧ ∃ st', matchAt ctx op j st = (false, st') ∧ Good2 op st') := by
  obtain ⟨ops, rfl, H'⟩ := H
  exact AltOK.matchAt_cases ctx ops H' j hj st hst

theorem writes_cap2 (op : Op) : Writes (Cap2 op) where
  clear := by
    intro st p h k hk
    obtain ⟨h1, h2⟩ := h k hk
    have he : getO (clearBeyond st p).cap.endn k =
        (if optGe (getO st.cap.startn k) p = true then getO st.cap.startn k else getO st.cap.endn k) :=
      getO_clearArr _ _ _ _
    refine ⟨fun hn => ?_, ?_⟩
    · obtain ⟨a1, a2⟩ := h1 hn
      refine ⟨a1, ?_⟩
      rw [he, a1]
      simp [optGe, a2]
    · show TPair (getO st.cap.startn k) (getO (clearBeyond st p).cap.endn k) none
      rw [he]
      exact h2.clear_keep p
  div := by
    intro st h
    intro k hk
    rw [setPanic_cap]; exact h k hk
  hist := fun _ _ h => h
  restore := fun _ _ h _ => h
  setEnd0 := by
    intro st p h k hk
    obtain ⟨h1, h2⟩ := h k hk
    have he : getO (st.cap.setEnd 0 p).endn k = getO st.cap.endn k := getO_setEnd0 st p hk
    refine ⟨fun hn => ⟨(h1 hn).1, by rw [he]; exact (h1 hn).2⟩, ?_⟩
    show TPair (getO st.cap.startn k) (getO (st.cap.setEnd 0 p).endn k) none
    rw [he]; exact h2

theorem AltSeq.decides {ctx : Ctx} {op : Op} (H : AltSeq ctx op) (i : Nat) :
    Decides ctx op (HasP ctx op) (Good2 op) (fun j s => ∃ n e', MatchRes2 ctx op j n e' s) i := by
  intro j st _ hjl hst
  rcases AltSeq.matchAt_cases ctx op H j hjl st hst with ⟨hp, st', n, e', he, hres⟩ | h
  · exact .inl ⟨hp, st', he, n, e', hres⟩
  · exact .inr h

open SearchComplete in
theorem matchesFrom_foundT {ctx : Ctx} {pr : Prog} (F : SearchFacts ctx pr) (hlen : ctx.len < usizeMax)
    (H : AltSeq ctx pr.op)
    (hP : ∀ q ∈ pr.pres, CompleteAt ctx q.op ∧ C06.simplePre q.op = true)
    (i : Nat) (hi : i ≤ ctx.len) (st0 : St) (hst0 : st0.panic = none) :
    Found ctx pr.op (HasP ctx pr.op) (Good2 pr.op) (fun j s => ∃ n e', MatchRes2 ctx pr.op j n e' s) i
      (matchesFrom ctx pr i st0) :=
  F.search (fun _ hjl h => h.has hjl) (H.decides i) hlen hi (fun _ h => h.2)
    (fun q hq => ⟨(hP q hq).1, (quietAll_of_simplePre ctx q.op (hP q hq).2).quiet⟩)
    (fun q hq p st h => preHolds_writes (writes_cap2 pr.op) ctx q.op (hP q hq).2 p st h)
    st0 ⟨cap2_of_nil _ _ rfl rfl, hst0⟩

end Rx
