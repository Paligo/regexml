/-
  Proofs/PullLoop — `tokenLoop` and `analyzeLoop` (Model/Scan) are one harness, "pull at most `limit` items from an
  iterator", over two iterators (`pullLoop`, `tokenLoop_eq_pull`, `analyzeLoop_eq_pull`).  An iterator is specified
  by the list it yields (`Run`); the harness over an iterator with a known run is a closed form for ANY limit
  (`pullLoop_run`), so nothing about limits is proved per iterator.
-/
import RxModel.Model.Scan
namespace Rx
variable {S α β σ : Type}

def Out.bind : Out α → (α → Out β) → Out β
  | .ok a, f => f a
  | .err e, _ => .err e
  | .panic c, _ => .panic c
  | .diverge, _ => .diverge

def Out.map (f : α → β) (o : Out α) : Out β := o.bind (fun a => .ok (f a))

theorem Out.map_ok (f : α → β) (a : α) : (Out.ok a).map f = .ok (f a) := rfl

theorem Out.bind_ok (a : α) (f : α → Out β) : (Out.ok a).bind f = f a := rfl

theorem Out.bind_eq_ok {o : Out α} {f : α → Out β} {b : β} (h : o.bind f = .ok b) :
    ∃ a, o = .ok a ∧ f a = .ok b := by
  cases o with
  | ok a => exact ⟨a, rfl, h⟩
  | err _ => cases h
  | panic _ => cases h
  | diverge => cases h

theorem Out.map_eq_ok {o : Out α} {f : α → β} {b : β} (h : o.map f = .ok b) : ∃ a, o = .ok a ∧ f a = b := by
  obtain ⟨a, h1, h2⟩ := Out.bind_eq_ok h
  exact ⟨a, h1, Out.ok.inj h2⟩

theorem Out.bind_eq_err {o : Out α} {f : α → Out β} {e : Err} (h : o.bind f = .err e) :
    o = .err e ∨ ∃ a, o = .ok a ∧ f a = .err e := by
  cases o with
  | ok a => exact .inr ⟨a, rfl, h⟩
  | err _ => exact .inl (congrArg Out.err (Out.err.inj h))
  | panic _ => cases h
  | diverge => cases h

theorem Out.bind_eq_panic {o : Out α} {f : α → Out β} {c : Nat} (h : o.bind f = .panic c) :
    o = .panic c ∨ ∃ a, o = .ok a ∧ f a = .panic c := by
  cases o with
  | ok a => exact .inr ⟨a, rfl, h⟩
  | err _ => cases h
  | panic _ => exact .inl (congrArg Out.panic (Out.panic.inj h))
  | diverge => cases h

/-- pull at most `limit` items; the Bool says whether the iterator was not yet exhausted -/
def pullLoop (next : S → Out (Option α) × S) : (limit : Nat) → S → (acc : List α) → Out (List α × Bool)
  | 0, s, acc => (next s).1.bind fun x => .ok (acc, x.isSome)
  | l+1, s, acc => (next s).1.bind fun x =>
    match x with
    | none => .ok (acc, false)
    | some t => pullLoop next l (next s).2 (acc ++ [t])

/-- `TokenIter` as an iterator: the state is the previous end and the matcher's state -/
abbrev tokenIt (M : MatcherI σ) (input : List Nat) (s : Option Nat × σ) :
    Out (Option (List Nat)) × Option Nat × σ := tokenNext M input s.1 s.2

theorem tokenLoop_eq_pull (M : MatcherI σ) (input : List Nat) : ∀ (l : Nat) (pe : Option Nat) (st : σ)
    (acc : List (List Nat)), tokenLoop M input l pe st acc = pullLoop (tokenIt M input) l (pe, st) acc
  | 0, _, _, _ => by
    rw [tokenLoop, pullLoop]
    split <;> simp only [*, tokenIt, Out.bind, Option.isSome]
  | l + 1, _, _, _ => by
    rw [tokenLoop, pullLoop]
    split <;> simp only [*, tokenIt, Out.bind, tokenLoop_eq_pull M input l]

theorem analyzeLoop_eq_pull (M : MatcherI σ) (entry : σ → List Nat → Out (List MEntry)) (input : List Nat) :
    ∀ (l : Nat) (a : AState σ) (acc : List AEntry),
      analyzeLoop M entry input l a acc = pullLoop (analyzeNext M entry input) l a acc
  | 0, _, _ => by
    rw [analyzeLoop, pullLoop]
    split <;> simp only [*, Out.bind, Option.isSome]
  | l + 1, _, _ => by
    rw [analyzeLoop, pullLoop]
    split <;> simp only [*, Out.bind, analyzeLoop_eq_pull M entry input l]

variable {next : S → Out (Option α) × S}

/-- from `s` the iterator yields `items`, one a pull, and then is exhausted (`fin = .ok ()`) or answers what is
    not `.ok` -/
def Run (next : S → Out (Option α) × S) : S → List α → Out Unit → Prop
  | s, [], fin => (next s).1 = fin.bind fun _ => .ok none
  | s, t :: ts, fin => (next s).1 = .ok (some t) ∧ Run next (next s).2 ts fin

theorem pullLoop_run {fin : Out Unit} : ∀ (items : List α) (s : S) (l : Nat) (acc : List α), Run next s items fin →
    pullLoop next l s acc =
      if l < items.length then .ok (acc ++ items.take l, true) else fin.bind fun _ => .ok (acc ++ items, false)
  | [], s, l, acc, h => by
    rw [List.length_nil, if_neg (Nat.not_lt_zero l), List.append_nil]
    cases l <;> rw [pullLoop, show (next s).1 = _ from h] <;> cases fin <;> rfl
  | t :: ts, s, 0, acc, h => by
    rw [pullLoop, h.1, List.length_cons, if_pos (Nat.succ_pos _), List.take_zero, List.append_nil]
    rfl
  | t :: ts, s, l + 1, acc, h => by
    rw [pullLoop, h.1, Out.bind_ok]
    simp only [pullLoop_run ts _ l _ h.2, List.length_cons, Nat.succ_lt_succ_iff, List.take_succ_cons,
      List.append_assoc, List.singleton_append]

theorem pullLoop_run_ok {fin : Out Unit} {items : List α} {s : S} {l : Nat} {acc r : List α} {more : Bool}
    (hrun : Run next s items fin) (h : pullLoop next l s acc = .ok (r, more)) :
    r.length ≤ acc.length + items.length ∧ (items.length ≤ l → fin = .ok () ∧ r = acc ++ items ∧ more = false) := by
  rw [pullLoop_run items s l acc hrun] at h
  split at h
  · rename_i hlt
    cases h
    rw [List.length_append, List.length_take]
    exact ⟨Nat.add_le_add_left (Nat.min_le_right _ _) _, fun hle => absurd hlt (Nat.not_lt.2 hle)⟩
  · obtain ⟨_, rfl, h⟩ := Out.bind_eq_ok h
    cases h
    exact ⟨Nat.le_of_eq List.length_append, fun _ => ⟨rfl, rfl, rfl⟩⟩

theorem pullLoop_fail {J : S → Prop} (hJ : ∀ s, J s → J (next s).2) : ∀ (l : Nat) (s : S) (acc : List α), J s →
    (∀ e, pullLoop next l s acc = .err e → ∃ s', J s' ∧ (next s').1 = .err e) ∧
    (∀ c, pullLoop next l s acc = .panic c → ∃ s', J s' ∧ (next s').1 = .panic c)
  | 0, s, acc, hs => by
    rw [pullLoop]
    cases h : (next s).1 with
    | ok x => exact ⟨nofun, nofun⟩
    | err e' => exact ⟨fun _ hx => ⟨s, hs, h.trans (congrArg Out.err (Out.err.inj hx))⟩, nofun⟩
    | panic c' => exact ⟨nofun, fun _ hx => ⟨s, hs, h.trans (congrArg Out.panic (Out.panic.inj hx))⟩⟩
    | diverge => exact ⟨nofun, nofun⟩
  | l + 1, s, acc, hs => by
    rw [pullLoop]
    cases h : (next s).1 with
    | ok x =>
      cases x with
      | none => exact ⟨nofun, nofun⟩
      | some t => exact pullLoop_fail hJ l _ _ (hJ s hs)
    | err e' => exact ⟨fun _ hx => ⟨s, hs, h.trans (congrArg Out.err (Out.err.inj hx))⟩, nofun⟩
    | panic c' => exact ⟨nofun, fun _ hx => ⟨s, hs, h.trans (congrArg Out.panic (Out.panic.inj hx))⟩⟩
    | diverge => exact ⟨nofun, nofun⟩

end Rx
