/-
  Proofs/MemoSeqLemmas — the memo invariant along the root sequence of a program of the memo fragment
  (`cleanProg3m`, Spec/MemoPreds), and what one attempt ADDS to the memo.

  `HRG A` (every entry reachable from a start in `A` is dead) is all an attempt from a start in `A` asks of the
  memo: it consults no other entry.  What it leaves is a relation between the memo before and after (`Grown`):
  every entry it wrote belongs to a skippable repeat whose followers are dead from there — absolutely, reachable
  or not — or, after a success ending at `n`, lies on the path to `n` (`Path n`).  Hence a failed attempt keeps
  the absolute invariant `HR` and every relative one (`Grown.hr`, `Grown.hrx`).

  ONE induction along the root sequence (`seqGood`).  An entry `(id, p)` is written when the repeat is entered,
  before its followers are known to be dead from `p`; it is exposed to the followers only, whose own invariant
  does not mention `id` (the keys being distinct), and when the repeat's iterator is exhausted every end, `p`
  included, has been tried.
-/
import RxModel.Proofs.MemoLemmas

namespace Rx.MemoScan
open Rx Rx.Memo

/-- the positions at which the element after `o` is entered -/
def push (ctx : Ctx) (A : Nat → Prop) (o : Op) : Nat → Prop :=
  fun m => ∃ q, q ≤ ctx.len ∧ A q ∧ OpR ctx o q m

/-- the head of the (rest of the) root sequence is entered only at positions in `A`, the element after `o` only at
    the ends of `o` from there (`push`); every memo entry `(id, p)` of a skippable repeat at a position `p` where
    that repeat is entered is DEAD — its followers have no match from `p`, so the zero-iteration alternative the
    entry suppresses loses nothing — or excused by `E` -/
def HRX (ctx : Ctx) (E : List Op → Nat → Prop) : (Nat → Prop) → List Op → St → Prop
  | _, [], _ => True
  | A, o :: os, st =>
    (∀ id, rep0Id o = some id → ∀ p, p ≤ ctx.len → A p → memPair st.hist id p = true →
      ¬ Live ctx os p ∨ E os p) ∧
    HRX ctx E (push ctx A o) os st

def noExcuse : List Op → Nat → Prop := fun _ _ => False

/-- every reachable entry is dead -/
abbrev HRG (ctx : Ctx) := HRX ctx noExcuse

abbrev From (i : Nat) : Nat → Prop := fun p => i ≤ p

end Rx.MemoScan

namespace Rx.Memo
open Rx Rx.SearchComplete Rx.MemoScan
open Rx.C08 (noEmptyAtoms noEmptyAtomsL clsCanon clsCanonL)

/-- the excuse after a successful attempt that ended at `n` -/
def Path (ctx : Ctx) (n : Nat) : List Op → Nat → Prop := fun os q => q ≤ n ∧ (q = n → OpRSeq ctx os n n)

section
variable {ctx : Ctx} {E : List Op → Nat → Prop}

theorem mem_rep0Ids_cons {o : Op} {os : List Op} {id : Nat} :
    id ∈ rep0Ids (o :: os) ↔ rep0Id o = some id ∨ id ∈ rep0Ids os := by
  simp only [rep0Ids, List.mem_append]
  cases rep0Id o <;> simp [eq_comm]

theorem nodup_head {o : Op} {os : List Op} (h : (rep0Ids (o :: os)).Nodup) :
    (rep0Ids os).Nodup ∧ ∀ id, rep0Id o = some id → id ∉ rep0Ids os := by
  simp only [rep0Ids] at h
  refine ⟨(List.nodup_append.1 h).2.1, fun id hid hmem => ?_⟩
  rw [hid] at h
  exact (List.nodup_cons.1 h).1 hmem

/-- the entry `(id, q)` is harmless for `R`: if `id` is the key of an element of `R`, the followers of that element are
    dead from `q`, or excused by `E`.  `HR` says that every entry is harmless, `HRX` that every reachable one is. -/
def Harmless (ctx : Ctx) (E : List Op → Nat → Prop) : List Op → Nat → Nat → Prop
  | [], _, _ => True
  | o :: os, id, q => (rep0Id o = some id → ¬ Live ctx os q ∨ E os q) ∧ Harmless ctx E os id q

theorem Harmless.of_not_mem : ∀ {R : List Op} {id q : Nat}, id ∉ rep0Ids R → Harmless ctx E R id q
  | [], _, _, _ => trivial
  | _ :: _, _, _, h => ⟨fun hid => absurd (mem_rep0Ids_cons.2 (.inl hid)) h,
      of_not_mem (fun hm => h (mem_rep0Ids_cons.2 (.inr hm)))⟩

theorem Harmless.mono : ∀ {R : List Op} {id q : Nat}, Harmless ctx noExcuse R id q → Harmless ctx E R id q
  | [], _, _, _ => trivial
  | _ :: _, _, _, h => ⟨fun hid => .inl ((h.1 hid).resolve_right (fun hx => hx)), h.2.mono⟩

/-- the memo of `st'` is that of `st` and harmless entries under keys of `R` -/
def Grown (ctx : Ctx) (E : List Op → Nat → Prop) (R : List Op) (st st' : St) : Prop :=
  ∀ id q, memPair st'.hist id q = true → memPair st.hist id q = true ∨ (id ∈ rep0Ids R ∧ Harmless ctx E R id q)

namespace Grown
variable {R os : List Op} {o : Op} {a a' b b' c : St}

theorem refl : Grown ctx E R a a := fun _ _ h => .inl h

theorem congr (ha : a'.hist = a.hist) (hb : b'.hist = b.hist) (h : Grown ctx E R a b) : Grown ctx E R a' b' :=
  fun id q hm => by rw [ha]; exact h id q (by rw [← hb]; exact hm)

theorem histOnly : HistOnly (Grown ctx E R a) := fun _ _ he h => h.congr rfl he

theorem trans (h1 : Grown ctx noExcuse R a b) (h2 : Grown ctx E R b c) : Grown ctx E R a c :=
  fun id q hm => (h2 id q hm).elim (fun h => (h1 id q h).imp_right (fun h => ⟨h.1, h.2.mono⟩)) .inr

theorem lift {id q : Nat} (hnd : (rep0Ids (o :: os)).Nodup) (h : id ∈ rep0Ids os ∧ Harmless ctx E os id q) :
    id ∈ rep0Ids (o :: os) ∧ Harmless ctx E (o :: os) id q :=
  ⟨mem_rep0Ids_cons.2 (.inr h.1), fun hid => absurd h.1 ((nodup_head hnd).2 id hid), h.2⟩

theorem tail (hnd : (rep0Ids (o :: os)).Nodup) (h : Grown ctx E os a b) : Grown ctx E (o :: os) a b :=
  fun id q hm => (h id q hm).imp_right (lift hnd)

theorem head {id p : Nat} (hnd : (rep0Ids (o :: os)).Nodup) (hid : rep0Id o = some id)
    (hnew : ¬ Live ctx os p ∨ E os p) (h : Grown ctx E os { a with hist := (id, p) :: a.hist } b) :
    Grown ctx E (o :: os) a b := fun id' q hm => by
  rcases h id' q hm with h1 | h1
  · rw [memPair_cons, Bool.or_eq_true, Bool.and_eq_true, beq_iff_eq, beq_iff_eq] at h1
    rcases h1 with ⟨rfl, rfl⟩ | h1
    · exact .inr ⟨mem_rep0Ids_cons.2 (.inl hid), fun _ => hnew, .of_not_mem ((nodup_head hnd).2 _ hid)⟩
    · exact .inl h1
  · exact .inr (lift hnd h1)

end Grown

theorem HRX_keep {st st' : St} : ∀ R A, HRG ctx A R st →
    (∀ id q, memPair st'.hist id q = true → memPair st.hist id q = true ∨ Harmless ctx E R id q) → HRX ctx E A R st'
  | [], _, _, _ => trivial
  | _ :: os, _, h, hg =>
    ⟨fun id hid p hp hA hm => (hg id p hm).elim
      (fun h1 => .inl ((h.1 id hid p hp hA h1).resolve_right (fun hx => hx))) (fun h1 => h1.1 hid),
      HRX_keep os _ h.2 (fun id q hm => (hg id q hm).imp_right (fun h1 => h1.2))⟩

theorem HR_keep {st st' : St} : ∀ R, HR ctx R st →
    (∀ id q, memPair st'.hist id q = true → memPair st.hist id q = true ∨ Harmless ctx noExcuse R id q) → HR ctx R st'
  | [], _, _ => trivial
  | _ :: os, h, hg =>
    ⟨fun id hid p hp hm => (hg id p hm).elim (h.1 id hid p hp) (fun h1 => (h1.1 hid).resolve_right (fun hx => hx)),
      HR_keep os h.2 (fun id q hm => (hg id q hm).imp_right (fun h1 => h1.2))⟩

theorem Grown.hrx {R : List Op} {A : Nat → Prop} {st st' : St} (hg : Grown ctx E R st st') (h : HRG ctx A R st) :
    HRX ctx E A R st' :=
  HRX_keep R A h (fun id q hm => (hg id q hm).imp_right (fun h => h.2))

theorem Grown.hr {R : List Op} {st st' : St} (hg : Grown ctx noExcuse R st st') (h : HR ctx R st) : HR ctx R st' :=
  HR_keep R h (fun id q hm => (hg id q hm).imp_right (fun h => h.2))

theorem HRG_add {R : List Op} {A : Nat → Prop} {st : St} {id : Nat} (hni : id ∉ rep0Ids R) (q : Nat)
    (h : HRG ctx A R st) : HRG ctx A R { st with hist := (id, q) :: st.hist } :=
  HRX_keep R A h (fun id' q' hm => by
    rw [memPair_cons, Bool.or_eq_true, Bool.and_eq_true, beq_iff_eq] at hm
    rcases hm with ⟨rfl, _⟩ | hm
    · exact .inr (.of_not_mem hni)
    · exact .inl hm)

/-- what the iterator of the rest `R`, entered at `p` from `st`, does FIRST -/
def Good (ctx : Ctx) (R : List Op) (st : St) (p : Nat) : Step → Prop
  | .nil st' => Grown ctx noExcuse R st st' ∧ ¬ Live ctx R p
  | .cons n st1 _ => OpRSeq ctx R p n ∧ (enumSeq3 ctx R p).head? = some n ∧ Grown ctx (Path ctx n) R st st1
  | .diverge => False

/-- one element followed by the rest: the first step of the `bind`.  `st1` is the state the followers start from
    (`st`, with the entry the element wrote on entry); `hpost`: once the entry at `p` is dead or excused, what the
    followers added from `st1` on is what the whole added from `st` on -/
theorem bind_good {e : Op} {R' : List Op} {A : Nat → Prop} {p : Nat} {k : Nat → St → Step} {st st1 : St}
    (hp : p ≤ ctx.len) (hA : A p) (h0 : HRG ctx (push ctx A e) R' st1)
    (hdn : ∀ x, x ≤ ctx.len → ¬ Live ctx R' x → enumSeq3 ctx R' x = [])
    (hK : ∀ n, n ≤ ctx.len → push ctx A e n → ∀ s, HRG ctx (push ctx A e) R' s → Good ctx R' s n (k n s))
    (hpost : ∀ (E : List Op → Nat → Prop) st', Grown ctx E R' st1 st' →
      (OpR ctx e p p → ¬ Live ctx R' p ∨ E R' p) → Grown ctx E (e :: R') st st') :
    ∀ {s : Step} {L : List Nat}, Elem ctx e R' p (Grown ctx noExcuse R' st1) s L →
      Good ctx (e :: R') st p ((s.mapSt (fun n st => clearBeyond st n)).bind k) := by
  intro s
  induction s with
  | nil st' =>
    intro L hE
    obtain ⟨hI, hdead⟩ := hE.nil
    refine ⟨hpost _ st' hI (fun h => .inl (hdead p h)), ?_⟩
    rintro ⟨q, hq⟩
    simp only [OpRSeq] at hq
    obtain ⟨m, hm, hmq⟩ := hq
    exact hdead m hm ⟨q, hmq⟩
  | cons n s1 r ih =>
    intro L hE
    obtain ⟨hI, hr, hn, hhead, L', hrest⟩ := hE.cons
    simp only [Step.mapSt, Step.bind]
    have h2 : Grown ctx noExcuse R' st1 (clearBeyond s1 n) := hI.congr rfl rfl
    have hg := hK n hn ⟨p, hp, hA, hr⟩ _ (h2.hrx h0)
    generalize k n (clearBeyond s1 n) = g at hg
    cases g with
    | nil st2 =>
      obtain ⟨a, c⟩ := hg
      simp only [Step.append]
      exact ih st2 (hrest st2 (h2.trans a) c (hdn n hn c))
    | cons m st3 r3 =>
      obtain ⟨g1, gh, g2⟩ := hg
      simp only [Step.append]
      have b1 := OpR_bounds_op ctx e p n hp hr
      have b2 := OpR_bounds_seq ctx R' n m b1.2 g1
      -- the entry at `p` is on the path to `m`: `p ≤ n ≤ m`, and if `p = m` the followers matched `[m, m)`
      refine ⟨?_, hhead m gh, hpost (Path ctx m) st3 (h2.trans g2) (fun _ => .inr ⟨by omega, fun he => by
        have : n = m := by omega
        subst this
        exact g1⟩)⟩
      simp only [OpRSeq]
      exact ⟨n, hr, g1⟩
    | diverge => exact hg.elim
  | diverge =>
    intro L hE
    nomatch hE.ex

theorem seqGood (env : Env) (ctx : Ctx) (hIn : InputOK env ctx) : ∀ (R : List Op),
    SeqM env ctx R → (rep0Ids R).Nodup → ∀ (A : Nat → Prop) p, p ≤ ctx.len → A p → ∀ st, HRG ctx A R st →
    Good ctx R st p (seqK (semL ctx R) p st) := by
  intro R
  induction R with
  | nil =>
    intro _ _ A p _ _ st _
    exact ⟨by simp only [OpRSeq], rfl, .refl⟩
  | cons e os ih =>
    intro hR hnd A p hp hA st hst
    obtain ⟨he, hos⟩ := hR.cons
    obtain ⟨hnd', hni⟩ := nodup_head hnd
    -- what the element provides, uniformly: the state `st1` its followers start from, and its iterator
    have key : ∃ (st1 : St) (L : List Nat), HRG ctx (push ctx A e) os st1 ∧
        Elem ctx e os p (Grown ctx noExcuse os st1) (sem ctx e p st) L ∧
        (∀ (E : List Op → Nat → Prop) st', Grown ctx E os st1 st' →
          (OpR ctx e p p → ¬ Live ctx os p ∨ E os p) → Grown ctx E (e :: os) st st') := by
      rcases he with ⟨hfree, hw, hn, hcc⟩ | ⟨id, c, mx, rfl, hr⟩
      · exact ⟨st, _, hst.2, elem_free env ctx hIn e os hfree hw hn hcc hos Grown.histOnly p hp st .refl,
          fun E st' h _ => h.tail hnd⟩
      · have hid : rep0Id (.rep id c 0 mx true) = some id := by simp [rep0Id]
        obtain ⟨L, hE⟩ := elem_rep0 env ctx hIn id c mx os hr hos
          (Grown.histOnly (E := noExcuse) (R := os) (a := { st with hist := (id, p) :: st.hist })) p hp st
          (fun id' q hm => .inl (by rw [memPair_cons, hm, Bool.or_true])) .refl
          (fun hm => (hst.1 id hid p hp hA hm).resolve_right (fun hx => hx))
        exact ⟨_, L, HRG_add (hni id hid) p hst.2, hE,
          fun E st' h hnew => h.head hnd hid (hnew (rep0_self ctx id c mx p))⟩
    obtain ⟨st1, L, h0, hE, hpost⟩ := key
    exact bind_good hp hA h0 (fun x hx => dead_nil env ctx hIn hos x hx)
      (fun n hn' hAn s h1 => ih hos hnd' _ n hn' hAn s h1) hpost hE

theorem good_onNil {R : List Op} {st : St} {p : Nat} {s : Step} {f : St → St} (hf : ∀ st, (f st).hist = st.hist)
    (h : Good ctx R st p s) : Good ctx R st p (s.onNil f) := by
  cases s with
  | nil st' => exact ⟨h.1.congr rfl (hf st'), h.2⟩
  | cons n st1 r => exact h
  | diverge => exact h

theorem rootGood (env : Env) (ctx : Ctx) (hIn : InputOK env ctx) (l : List Op)
    (hc : cleanProg3m env ctx.caseBlind ctx.multiLine (.seq l) = true) (hw : wfOp (.seq l) = true)
    (hn : noEmptyAtoms (.seq l) = true) (hcc : clsCanon (.seq l)) (A : Nat → Prop)
    (p : Nat) (hp : p ≤ ctx.len) (hA : A p) (st : St) (hst : HRG ctx A l st) :
    Good ctx l st p (sem ctx (.seq l) p st) := by
  obtain ⟨hR, hnd, hne⟩ := SeqM.of_prog hc hw hn hcc
  obtain ⟨o, os, rfl⟩ := List.exists_cons_of_ne_nil hne
  simp only [sem]
  unfold seqGen
  refine good_onNil (fun s => by split <;> rfl) ?_
  simp only [semL]
  rw [seqGo_cons]
  exact seqGood env ctx hIn (o :: os) hR hnd A p hp hA st hst

/-- what a successful attempt at `j` from `st` leaves: the reported end `n` is the head of the enumeration from `j`,
    and every entry added is dead or on the path to `n` -/
def Succ (ctx : Ctx) (l : List Op) (st : St) (j : Nat) (st' : St) : Prop :=
  ∃ n, getParenEnd st' 0 = some n ∧ (enumSeq3 ctx l j).head? = some n ∧ Grown ctx (Path ctx n) l st st'

theorem matchAt_grown (env : Env) (ctx : Ctx) (hIn : InputOK env ctx) (l : List Op)
    (hc : cleanProg3m env ctx.caseBlind ctx.multiLine (.seq l) = true) (hw : wfOp (.seq l) = true)
    (hn : noEmptyAtoms (.seq l) = true) (hcc : clsCanon (.seq l)) (A : Nat → Prop)
    (j : Nat) (hj : j ≤ ctx.len) (hA : A j) (st : St) (hst : HRG ctx A l st) :
    ((matchAt ctx (.seq l) j st).1 = true ↔ ∃ q, OpR ctx (.seq l) j q) ∧
    ((matchAt ctx (.seq l) j st).1 = false → Grown ctx noExcuse l st (matchAt ctx (.seq l) j st).2) ∧
    ((matchAt ctx (.seq l) j st).1 = true → Succ ctx l st j (matchAt ctx (.seq l) j st).2) := by
  have hh := Clean3.matchStart_hist ctx j st
  have hg := rootGood env ctx hIn l hc hw hn hcc A j hj hA (matchStart ctx j st)
    ((Grown.refl.congr rfl hh).hrx hst)
  rw [matchAt_eq]
  generalize sem ctx (.seq l) j (matchStart ctx j st) = s at hg
  cases s with
  | nil st' =>
    obtain ⟨h1, h3⟩ := hg
    exact ⟨⟨fun h => (by simp at h), fun ⟨q, hq⟩ => absurd ⟨q, by simpa only [OpR] using hq⟩ h3⟩,
      fun _ => h1.congr hh.symm rfl, fun h => by simp at h⟩
  | cons n st1 r =>
    obtain ⟨g1, gh, g2⟩ := hg
    refine ⟨⟨fun _ => ⟨n, by simpa only [OpR] using g1⟩, fun _ => rfl⟩, fun h => (by simp at h), fun _ => ?_⟩
    refine ⟨n, ?_, gh, g2.congr hh.symm rfl⟩
    simp only [getParenEnd, Cap.setEnd]
    exact getO_setAt_zero _ _
  | diverge => exact hg.elim

/-- the state invariant of a search that started in `st0` -/
def MI (ctx : Ctx) (l : List Op) (st0 st : St) : Prop := st.panic = none ∧ Grown ctx noExcuse l st0 st

theorem tests_grown {env : Env} {l : List Op} (Tr : TreeM env ctx l) (i : Nat) (st0 : St)
    (hm : HRG ctx (From i) l st0) :
    Decides ctx (.seq l) (Has ctx (.seq l)) (MI ctx l st0) (fun j s => s.panic = none ∧ Succ ctx l st0 j s) i := by
  intro j st hij hj hst
  obtain ⟨hiff, hfail, hsucc⟩ := matchAt_grown env ctx Tr.inp l Tr.clean Tr.wf Tr.ne Tr.can _ j hj hij st
    (hst.2.hrx hm)
  have hpan := matchAt_clean Tr.quiet j st hj hst.1
  cases hb : (matchAt ctx (.seq l) j st).1 with
  | true =>
    left
    obtain ⟨n, h1, h2, h3⟩ := hsucc hb
    exact ⟨hiff.1 hb, (matchAt ctx (.seq l) j st).2, by rw [← hb], hpan, n, h1, h2, hst.2.trans h3⟩
  | false =>
    right
    refine ⟨fun hh => ?_, (matchAt ctx (.seq l) j st).2, by rw [← hb], hpan, hst.2.trans (hfail hb)⟩
    rw [hiff.2 hh] at hb
    cases hb

theorem matchesFrom_grown {env : Env} {pr : Prog} {l : List Op} (hop : pr.op = .seq l)
    (Tr : TreeM env ctx l) (F : SearchFacts ctx pr) (hlen : ctx.len < usizeMax)
    (hP : ∀ q ∈ pr.pres, PreM ctx q) (i : Nat) (hi : i ≤ ctx.len)
    (st0 : St) (hp : st0.panic = none) (hm : HRG ctx (From i) l st0) :
    Found ctx (.seq l) (Has ctx (.seq l)) (MI ctx l st0) (fun j s => s.panic = none ∧ Succ ctx l st0 j s) i
      (matchesFrom ctx pr i st0) := by
  have h := F.search (Has' := Has ctx (.seq l)) (I := MI ctx l st0) (fun _ _ h => by rw [hop]; exact h)
    (by rw [hop]; exact tests_grown Tr i st0 hm) hlen hi (fun _ h => h.1)
    (fun q hq => ⟨(hP q hq).comp, (hP q hq).quiet.quiet⟩)
    (fun q hq p st h => ⟨preHolds_clean (hP q hq).quiet p st h.1,
      preHolds_hinv ctx Grown.histOnly q (hP q hq) p st h.2⟩) st0 ⟨hp, Grown.refl.congr rfl rfl⟩
  rw [hop] at h
  exact h

end

theorem HRG_of_HR (ctx : Ctx) : ∀ (R : List Op) (A : Nat → Prop) (st : St), HR ctx R st → HRG ctx A R st
  | [], _, _, _ => trivial
  | _ :: os, _, st, h => ⟨fun id hid p hp _ hm => .inl (h.1 id hid p hp hm), HRG_of_HR ctx os _ st h.2⟩

theorem HR_of_nil (ctx : Ctx) : ∀ (l : List Op) (st : St), st.hist = [] → HR ctx l st
  | [], _, _ => trivial
  | _ :: os, st, h => ⟨fun id _ p _ hm => by rw [h] at hm; simp [memPair] at hm, HR_of_nil ctx os st h⟩

theorem matchAt_memo (env : Env) (ctx : Ctx) (hIn : InputOK env ctx) (l : List Op)
    (hc : cleanProg3m env ctx.caseBlind ctx.multiLine (.seq l) = true) (hw : wfOp (.seq l) = true)
    (hn : noEmptyAtoms (.seq l) = true) (hcc : clsCanon (.seq l))
    (j : Nat) (hj : j ≤ ctx.len) (st : St) (hst : HR ctx l st) :
    ((matchAt ctx (.seq l) j st).1 = true ↔ ∃ q, OpR ctx (.seq l) j q) ∧
    ((matchAt ctx (.seq l) j st).1 = false → HR ctx l (matchAt ctx (.seq l) j st).2) := by
  have h := matchAt_grown env ctx hIn l hc hw hn hcc (fun _ => True) j hj trivial st (HRG_of_HR ctx l _ st hst)
  exact ⟨h.1, fun hf => (h.2.1 hf).hr hst⟩

def OutcomeM (ctx : Ctx) (l : List Op) (i : Nat) (r : Bool × St) : Prop :=
  Outcome ctx (.seq l) i r ∧ (r.1 = false → HR ctx l r.2)

theorem matchesFrom_outcome_memo {env : Env} {ctx : Ctx} {pr : Prog} {l : List Op} (hop : pr.op = .seq l)
    (T : TreeM env ctx l) (F : SearchFacts ctx pr) (hlen : ctx.len < usizeMax)
    (hP : ∀ q ∈ pr.pres, PreM ctx q)
    (i : Nat) (hi : i ≤ ctx.len) (st0 : St) (hp : st0.panic = none) (hm : HR ctx l st0) :
    OutcomeM ctx l i (matchesFrom ctx pr i st0) := by
  have h := matchesFrom_grown hop T F hlen hP i hi st0 hp (HRG_of_HR ctx l _ st0 hm)
  exact ⟨h.outcome (fun _ h => h.1) (fun _ _ h => h.1), fun hf => (h.fail hf).2.hr hm⟩

end Rx.Memo
