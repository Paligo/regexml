/-
  Proofs/ParserStepLemmas — the parser one step at a time: the outcomes of one iteration of the atom loop
  (`AtomIter`) with the run lemmas that follow from them, `bracket` on a rendered `{m,n}`, the induction
  showing that the parser fails with `Syntax` only and moves on inside the pattern (`Fine`, `fine_all`), and
  from it the errors of `compileCore` and `Regex::new`.
-/
import RxModel.Model.Compile
import RxModel.Spec.Repl
import RxModel.Spec.Grammar
import RxModel.Proofs.ClassText
import RxModel.Proofs.OutErrLemmas
import RxModel.Proofs.CompileLemmas
namespace Rx

theorem normalChar_ne {xsd : Bool} {x : Nat} (h : Grammar.normalChar xsd x = true) :
    (x == 46) = false ∧ (x == 92) = false ∧ (x == 63) = false ∧ (x == 42) = false ∧
    (x == 43) = false ∧ (x == 123) = false ∧ (x == 125) = false ∧ (x == 40) = false ∧
    (x == 41) = false ∧ (x == 124) = false ∧ (x == 91) = false ∧ (x == 93) = false ∧
    (xsd = true ∨ ((x == 94) = false ∧ (x == 36) = false)) := by
  simp only [Grammar.normalChar, Bool.and_eq_true, Bool.not_eq_true', Bool.or_eq_false_iff, Bool.or_eq_true] at h
  obtain ⟨⟨⟨⟨⟨⟨⟨⟨⟨⟨⟨⟨h46, h92⟩, h63⟩, h42⟩, h43⟩, h123⟩, h125⟩, h40⟩, h41⟩, h124⟩, h91⟩, h93⟩, hx⟩ := h
  exact ⟨h46, h92, h63, h42, h43, h123, h125, h40, h41, h124, h91, h93, hx⟩

/-- `parse_atom` looks ahead before it takes a character: at a backslash it runs `escape` and puts the
    position back, so the only trace of the look-ahead is the back-reference flag, raised when the escape
    was a back-reference (which only the XPath dialect has). -/
def AfterLook (c : PC) (s s0 : PS) : Prop :=
  s0 = s ∨ (c.fl.xsd = false ∧ s0 = { s with hasBackrefs := true })

theorem AfterLook.frame {c : PC} {s s0 : PS} (h : AfterLook c s s0) :
    s0 = { s with hasBackrefs := s0.hasBackrefs } ∧ (s.hasBackrefs = true → s0.hasBackrefs = true) ∧
    (c.fl.xsd = true → s0 = s) := by
  rcases h with rfl | ⟨hx, rfl⟩
  · exact ⟨rfl, id, fun _ => rfl⟩
  · exact ⟨rfl, fun _ => rfl, fun h => by rw [hx] at h; cases h⟩

theorem AfterLook.trans {c : PC} {s s0 s1 : PS} (h0 : AfterLook c s s0) (h1 : AfterLook c s0 s1) :
    AfterLook c s s1 := by
  rcases h0 with rfl | ⟨hx, rfl⟩
  · exact h1
  · rcases h1 with rfl | ⟨_, rfl⟩
    · exact .inr ⟨hx, rfl⟩
    · exact .inr ⟨hx, rfl⟩

theorem AfterLook.of_escape {c : PC} {s s' : PS} {r : Esc} (h : escape c s false = .ok r s') :
    AfterLook c s { s' with idx := s.idx } := by
  obtain ⟨_, _, _, hs, hbr⟩ := escape_ok h
  rw [hs]
  cases r with
  | backref n => exact .inr ⟨(hbr n rfl).2.1, by simp [Esc.isBackref]⟩
  | chr x => exact .inl (by simp [Esc.isBackref])
  | set rs => exact .inl (by simp [Esc.isBackref])

/-- why the atom loop stops at `s`: the pattern ends; a literal has been read and either the next
    character would bind to a quantifier or a quantifier follows; a character that starts something
    else; an escape that is not a single character; an anchor of the XPath dialect -/
def StopWhy (c : PC) (s : PS) (ub : List Nat) : Prop :=
  ¬ s.idx < c.len ∨ ub ≠ [] ∨
  (c.at s.idx == 93 || c.at s.idx == 46 || c.at s.idx == 91 || c.at s.idx == 40 || c.at s.idx == 41 ||
    c.at s.idx == 124) = true ∨
  (∃ r s1, escape c s false = .ok r s1 ∧ ∀ x, r ≠ .chr x) ∨
  ((c.at s.idx = 94 ∨ c.at s.idx = 36) ∧ c.fl.xsd = false)

inductive AtomIter (c : PC) (f : Nat) (s : PS) (ub : List Nat) : PRes (List Nat) → Prop
  | stop {s0 : PS} (h0 : AfterLook c s s0) (hwhy : StopWhy c s ub) : AtomIter c f s ub (.ok ub s0)
  | syn : AtomIter c f s ub (.err .syntax)
  | char (hlt : s.idx < c.len) (hch : Grammar.normalChar c.fl.xsd (c.at s.idx) = true) :
      AtomIter c f s ub (parseAtomGo c f { s with idx := s.idx + 1 } (ub ++ [c.at s.idx]))
  | esc {s0 s1 : PS} {x : Nat} (h0 : AfterLook c s s0) (he : escape c s0 false = .ok (.chr x) s1) :
      AtomIter c f s ub (parseAtomGo c f s1 (ub ++ [x]))

theorem escape_err_at {c : PC} {s : PS} {b : Bool} {e : Err} (h92 : c.at s.idx = 92)
    (h : escape c s b = .err e) : e = .syntax := by
  rcases escape_err h with h | ⟨_, h⟩
  · exact h
  · exact absurd h92 h

theorem not_isEmpty_of_ne {ub : List Nat} (h : ub ≠ []) : (!ub.isEmpty) = true := by
  cases ub with
  | nil => exact absurd rfl h
  | cons _ _ => rfl

theorem lookAhead_plain {c : PC} {s : PS} {ub : List Nat} (h : c.at s.idx ≠ 92 ∨ ¬ s.idx + 1 < c.len) :
    ∃ bq, lookAhead c s ub = .ok bq s ∧
      (s.idx + 1 < c.len → isQuantChar (c.at (s.idx + 1)) = true → ub ≠ [] → bq = true) ∧
      (bq = true → ub ≠ []) := by
  unfold lookAhead
  by_cases h1 : s.idx + 1 < c.len
  · have h92 : (c.at s.idx == 92) = false := by simpa using h.resolve_right (not_not_intro h1)
    simp only [h1, if_true, h92, Bool.false_eq_true, if_false]
    refine ⟨_, rfl, ?_, ?_⟩
    · intro _ hq hub; rw [hq, not_isEmpty_of_ne hub]; rfl
    · intro hb hub; subst hub; simp at hb
  · simp only [h1, if_false]
    exact ⟨false, rfl, fun h => h.elim, fun h => Bool.noConfusion h⟩

theorem lookAhead_esc {c : PC} {s : PS} {ub : List Nat} {r : Esc} {s' : PS} (h : c.at s.idx = 92)
    (hlt : s.idx + 1 < c.len) (he : escape c s false = .ok r s') :
    ∃ bq, lookAhead c s ub = .ok bq { s' with idx := s.idx } ∧
      (s'.idx < c.len → isQuantChar (c.at s'.idx) = true → ub ≠ [] → bq = true) ∧
      (bq = true → ub ≠ []) := by
  unfold lookAhead
  simp only [hlt, if_true, h, beq_self_eq_true, he]
  refine ⟨_, rfl, ?_, ?_⟩
  · intro h1 hq hub; simp only [h1, if_true]; rw [hq, not_isEmpty_of_ne hub]; rfl
  · intro hb hub; subst hub; simp at hb

theorem lookAhead_res (c : PC) (s : PS) (ub : List Nat) :
    lookAhead c s ub = .err .syntax ∨
    ∃ bq s0, lookAhead c s ub = .ok bq s0 ∧ AfterLook c s s0 ∧ (bq = true → ub ≠ []) ∧
      (c.at s.idx ≠ 92 → s0 = s) ∧
      (s.idx + 1 < c.len → c.at s.idx = 92 →
        ∃ r s', escape c s false = .ok r s' ∧ s0 = { s' with idx := s.idx }) := by
  by_cases h : c.at s.idx = 92 ∧ s.idx + 1 < c.len
  · cases he : escape c s false with
    | err e =>
      left
      unfold lookAhead
      rw [if_pos h.2, if_pos (beq_iff_eq.2 h.1), he, escape_err_at h.1 he]
    | ok r s' =>
      obtain ⟨bq, hla, -, hb⟩ := lookAhead_esc (ub := ub) h.1 h.2 he
      exact .inr ⟨bq, _, hla, .of_escape he, hb, fun hn => absurd h.1 hn, fun _ _ => ⟨r, s', rfl, rfl⟩⟩
  · obtain ⟨bq, hla, -, hb⟩ := lookAhead_plain (ub := ub) (Decidable.not_and_iff_or_not.1 h)
    exact .inr ⟨bq, s, hla, .inl rfl, hb, fun _ => rfl, fun h1 h2 => absurd ⟨h2, h1⟩ h⟩

theorem dispatch_iter {c : PC} {f : Nat} {s s0 : PS} {ub : List Nat} (hlt : s.idx < c.len)
    (h0 : AfterLook c s s0) (hs : c.at s.idx ≠ 92 → s0 = s)
    (hla : s.idx + 1 < c.len → c.at s.idx = 92 →
      ∃ r s', escape c s false = .ok r s' ∧ s0 = { s' with idx := s.idx }) :
    AtomIter c f s ub (dispatch c f s0 ub) := by
  have hidx : s0.idx = s.idx := by rw [h0.frame.1]
  unfold dispatch
  rw [hidx]
  by_cases c1 : (c.at s.idx == 93 || c.at s.idx == 46 || c.at s.idx == 91 || c.at s.idx == 40 ||
      c.at s.idx == 41 || c.at s.idx == 124) = true
  · rw [if_pos c1]; exact .stop h0 (.inr (.inr (.inl c1)))
  rw [if_neg c1]
  by_cases c2 : isQuantChar (c.at s.idx) = true
  · rw [if_pos c2]
    by_cases c3 : ub.isEmpty = true
    · rw [if_pos c3]; exact .syn
    · rw [if_neg c3]; exact .stop h0 (.inr (.inl fun h => c3 (by rw [h]; rfl)))
  rw [if_neg c2]
  by_cases c4 : (c.at s.idx == 125) = true
  · rw [if_pos c4]; exact .syn
  rw [if_neg c4]
  by_cases c5 : (c.at s.idx == 92) = true
  · rw [if_pos c5]
    cases he : escape c s0 false with
    | err e => rw [escape_err_at (by rw [hidx]; exact eq_of_beq c5) he]; exact .syn
    | ok r s1 =>
      have h1 : AfterLook c s { s1 with idx := s.idx } := by
        have := AfterLook.of_escape he
        rw [hidx] at this
        exact h0.trans this
      -- the look-ahead has run the same escape, from `s`
      have hwhy : (∀ x, r ≠ .chr x) → StopWhy c s ub := by
        intro hr
        have h2 := (escape_ok he).2
        obtain ⟨r', s', hl, hs0⟩ := hla (by omega) (eq_of_beq c5)
        refine .inr (.inr (.inr (.inl ⟨r', s', hl, fun x hx => ?_⟩)))
        subst hx
        have : s0 = s := by
          rw [hs0, (escape_ok hl).2.2.2.1]
          simp [Esc.isBackref]
        rw [this, hl] at he
        injection he with he _
        exact hr x he.symm
      cases r with
      | chr x => exact .esc h0 he
      | set rs => exact .stop h1 (hwhy nofun)
      | backref n => exact .stop h1 (hwhy nofun)
  rw [if_neg c5]
  have h92 : c.at s.idx ≠ 92 := by simpa using c5
  rw [hs h92]
  by_cases c6 : ((c.at s.idx == 94 || c.at s.idx == 36) && !c.fl.xsd) = true
  · rw [if_pos c6]
    refine .stop (.inl rfl) (.inr (.inr (.inr (.inr ?_))))
    simpa using c6
  rw [if_neg c6]
  refine .char hlt ?_
  simp only [Bool.or_eq_true, beq_iff_eq, not_or] at c1
  rw [Bool.not_eq_true, isQuantChar_false] at c2
  have e : ∀ k : Nat, c.at s.idx ≠ k → (c.at s.idx == k) = false := fun k hk => by simpa using hk
  simp only [Grammar.normalChar, e 46 c1.1.1.1.1.2, e 92 h92, e 63 c2.2.1, e 42 c2.2.2.1, e 43 c2.2.2.2,
    e 123 c2.1, e 125 (by simpa using c4), e 40 c1.1.1.2, e 41 c1.1.2, e 124 c1.2, e 91 c1.1.1.1.2,
    e 93 c1.1.1.1.1.1, Bool.or_self, Bool.not_false, Bool.true_and]
  cases hx : c.fl.xsd with
  | true => rfl
  | false => rw [hx] at c6; simpa using c6

theorem parseAtomGo_iter (c : PC) (f : Nat) (s : PS) (ub : List Nat) :
    AtomIter c f s ub (parseAtomGo c (f + 1) s ub) := by
  rw [parseAtomGo_succ]
  by_cases hlt : s.idx < c.len
  · rw [if_pos hlt]
    rcases lookAhead_res c s ub with h | ⟨bq, s0, h, h0, hb, hs, hla⟩
    · rw [h]; exact .syn
    · rw [h]
      cases bq with
      | true => exact .stop h0 (.inr (.inl (hb rfl)))
      | false => exact dispatch_iter hlt h0 hs hla
  · rw [if_neg hlt]; exact .stop (.inl rfl) (.inl hlt)

theorem parseAtomGo_err {c : PC} : ∀ {f : Nat} {s : PS} {ub : List Nat} {e : Err},
    parseAtomGo c f s ub = .err e → e = .syntax := by
  intro f
  induction f with
  | zero => intro s ub e h; rw [parseAtomGo] at h; cases h
  | succ f ih =>
    intro s ub e h
    have hit := parseAtomGo_iter c f s ub
    rw [h] at hit
    generalize hx : (PRes.err e : PRes (List Nat)) = x at hit
    cases hit with
    | stop => cases hx
    | syn => exact (PRes.err.inj hx)
    | char => exact ih hx.symm
    | esc => exact ih hx.symm

theorem parseAtomGo_ok {c : PC} : ∀ {f : Nat} {s s' : PS} {ub ub' : List Nat},
    parseAtomGo c f s ub = .ok ub' s' →
    s' = { s with idx := s'.idx, hasBackrefs := s'.hasBackrefs } ∧ (s.idx ≤ c.len → s'.idx ≤ c.len) ∧
    ub.length ≤ ub'.length ∧ ub'.length + s.idx ≤ ub.length + s'.idx ∧
    (s.hasBackrefs = true → s'.hasBackrefs = true) ∧ (c.fl.xsd = true → s'.hasBackrefs = s.hasBackrefs) := by
  intro f
  induction f with
  | zero =>
    intro s s' ub ub' h
    rw [parseAtomGo] at h
    injection h with h1 h2
    subst h1 h2
    exact ⟨rfl, id, Nat.le_refl _, Nat.le_refl _, id, fun _ => rfl⟩
  | succ f ih =>
    intro s s' ub ub' h
    have hit := parseAtomGo_iter c f s ub
    rw [h] at hit
    generalize hx : (PRes.ok ub' s' : PRes (List Nat)) = x at hit
    cases hit with
    | syn => cases hx
    | stop h0 _ =>
      injection hx with h1 h2
      subst h1 h2
      obtain ⟨f1, f2, f3⟩ := h0.frame
      exact ⟨by rw [f1], fun hs => by rw [f1]; exact hs, Nat.le_refl _, by rw [f1]; exact Nat.le_refl _,
        f2, fun hxsd => by rw [f3 hxsd]⟩
    | char hlt _ =>
      obtain ⟨g1, g2, g3, g4, g5, g6⟩ := ih hx.symm
      simp only [List.length_append, List.length_cons, List.length_nil] at g3 g4
      exact ⟨by rw [g1], fun _ => g2 hlt, by omega, by omega, g5, g6⟩
    | @esc s0 s1 x h0 he =>
      obtain ⟨f1, f2, f3⟩ := h0.frame
      obtain ⟨_, e1, e2, e3, _⟩ := escape_ok he
      obtain ⟨g1, g2, g3, g4, g5, g6⟩ := ih hx.symm
      simp only [List.length_append, List.length_cons, List.length_nil] at g3 g4
      have hi : s0.idx = s.idx := by rw [f1]
      have hfl : s1.hasBackrefs = s0.hasBackrefs := by rw [e3]; simp [Esc.isBackref]
      refine ⟨by rw [g1, e3, f1], fun _ => g2 e2, by omega, by omega,
        fun hb => g5 (by rw [hfl]; exact f2 hb), fun hxsd => by rw [g6 hxsd, hfl, f3 hxsd]⟩

theorem takeDigitRun_numeral (c : PC) (idx : Nat) (ds rest : List Nat) (hne : ds ≠ [])
    (hds : ds.all isDigit = true) (hrest : ∀ x, rest.head? = some x → isDigit x = false)
    (hpat : c.pat.drop idx = ds ++ rest) :
    idx < c.len ∧ isDigit (c.at idx) = true ∧
    takeDigitRun c (c.len + 1) idx 0 = (idx + ds.length, Spec.digitsVal ds) ∧
    c.pat.drop (idx + ds.length) = rest := by
  have h2 := PC.drop_append hpat
  obtain ⟨d, ds', rfl⟩ : ∃ d ds', ds = d :: ds' := by
    cases ds with
    | nil => exact absurd rfl hne
    | cons d ds' => exact ⟨d, ds', rfl⟩
  obtain ⟨h3, h4, _⟩ := PC.drop_cons (by simpa using hpat : c.pat.drop idx = d :: (ds' ++ rest))
  refine ⟨h3, ?_, takeDigitRun_spec c _ rest _ _ 0 hds hrest hpat (by have := h2.2; omega), h2.1⟩
  rw [h4]
  simp only [List.all_cons, Bool.and_eq_true] at hds
  exact hds.1

theorem bracket_numeral (c : PC) (s : PS) (ds rest : List Nat) (hne : ds ≠ []) (hds : ds.all isDigit = true)
    (hrest : ∀ x, rest.head? = some x → isDigit x = false)
    (hpat : c.pat.drop s.idx = 123 :: (ds ++ rest)) :
    bracket c s =
      if Spec.digitsVal ds > usizeMax then .err .syntax else
      if s.idx + 1 + ds.length ≥ c.len then .err .syntax else
      if c.at (s.idx + 1 + ds.length) == 125 then
        .ok () { s with idx := s.idx + 1 + ds.length + 1, bmin := Spec.digitsVal ds, bmax := Spec.digitsVal ds }
      else if c.at (s.idx + 1 + ds.length) != 44 then .err .syntax
      else bracketTail c s (Spec.digitsVal ds) (s.idx + 1 + ds.length) := by
  obtain ⟨a1, a2, h1⟩ := PC.drop_cons hpat
  obtain ⟨a3, a4, a5, _⟩ := takeDigitRun_numeral c (s.idx + 1) ds rest hne hds hrest h1
  rw [bracket_eq, if_neg (by omega), if_neg (by simp [a2]), if_neg (by simp [a4]; omega)]
  simp only [a5]

theorem isDigit_125 : isDigit 125 = false := by decide
theorem isDigit_44 : isDigit 44 = false := by decide

/-! `bracket` on `{n}`, `{n,}`, `{n,m}` and on a bound that overflows, a numeral being a non-empty list of
  digits; Props/C07 has the same statements with `C07.isNumeral`, under the names without the prime. -/

theorem bracket_exact' (c : PC) (s : PS) (ds rest : List Nat) (hne : ds ≠ []) (hds : ds.all isDigit = true)
    (hn : Spec.digitsVal ds ≤ usizeMax)
    (hpat : c.pat.drop s.idx = 123 :: (ds ++ 125 :: rest)) :
    bracket c s = .ok () { s with idx := s.idx + ds.length + 2, bmin := Spec.digitsVal ds, bmax := Spec.digitsVal ds } := by
  have b := PC.drop_cons (PC.drop_append (PC.drop_cons hpat).2.2).1
  have e : s.idx + 1 + ds.length + 1 = s.idx + ds.length + 2 := by omega
  rw [bracket_numeral c s ds (125 :: rest) hne hds
      (by intro x hx; simp at hx; subst hx; exact isDigit_125) hpat,
    if_neg (by omega), if_neg (by have := b.1; omega), if_pos (by rw [b.2.1]; rfl), e]

theorem bracket_open' (c : PC) (s : PS) (ds rest : List Nat) (hne : ds ≠ []) (hds : ds.all isDigit = true)
    (hn : Spec.digitsVal ds ≤ usizeMax)
    (hpat : c.pat.drop s.idx = 123 :: (ds ++ 44 :: 125 :: rest)) :
    bracket c s = .ok () { s with idx := s.idx + ds.length + 3, bmin := Spec.digitsVal ds, bmax := usizeMax } := by
  have b := PC.drop_cons (PC.drop_append (PC.drop_cons hpat).2.2).1
  have b' := PC.drop_cons b.2.2
  have e : s.idx + 1 + ds.length + 1 + 1 = s.idx + ds.length + 3 := by omega
  rw [bracket_numeral c s ds (44 :: 125 :: rest) hne hds
      (by intro x hx; simp at hx; subst hx; exact isDigit_44) hpat,
    if_neg (by omega), if_neg (by have := b.1; omega), if_neg (by rw [b.2.1]; decide),
    if_neg (by rw [b.2.1]; decide), bracketTail]
  dsimp only
  rw [if_neg (by have := b'.1; omega), if_pos (by rw [b'.2.1]; rfl), e]

theorem bracket_range' (c : PC) (s : PS) (ds es rest : List Nat) (hne : ds ≠ []) (hds : ds.all isDigit = true)
    (hne' : es ≠ []) (hes : es.all isDigit = true)
    (hn : Spec.digitsVal ds ≤ usizeMax) (hm : Spec.digitsVal es ≤ usizeMax)
    (hpat : c.pat.drop s.idx = 123 :: (ds ++ 44 :: (es ++ 125 :: rest))) :
    bracket c s = if Spec.digitsVal ds ≤ Spec.digitsVal es
                  then .ok () { s with idx := s.idx + ds.length + es.length + 3, bmin := Spec.digitsVal ds, bmax := Spec.digitsVal es }
                  else .err .syntax := by
  have b := PC.drop_cons (PC.drop_append (PC.drop_cons hpat).2.2).1
  obtain ⟨t1, t2, t3, t4⟩ := takeDigitRun_numeral c (s.idx + 1 + ds.length + 1) es (125 :: rest) hne' hes
    (by intro x hx; simp at hx; subst hx; exact isDigit_125) b.2.2
  have b3 := PC.drop_cons t4
  have h125 : c.at (s.idx + 1 + ds.length + 1) ≠ 125 := by
    intro h; rw [h] at t2; cases t2
  have e : s.idx + 1 + ds.length + 1 + es.length + 1 = s.idx + ds.length + es.length + 3 := by omega
  rw [bracket_numeral c s ds (44 :: (es ++ 125 :: rest)) hne hds
      (by intro x hx; simp at hx; subst hx; exact isDigit_44) hpat,
    if_neg (by omega), if_neg (by have := b.1; omega), if_neg (by rw [b.2.1]; decide),
    if_neg (by rw [b.2.1]; decide), bracketTail]
  dsimp only
  rw [if_neg (by omega), if_neg (by simpa using h125), if_neg (by rw [t2]; decide), t3]
  dsimp only
  rw [if_neg (by omega)]
  by_cases hle : Spec.digitsVal ds ≤ Spec.digitsVal es
  · rw [if_neg (by omega), if_neg (by simp [b3.2.1]; have := b3.1; omega), if_pos hle, e]
  · rw [if_pos (by omega), if_neg hle]

theorem bracket_overflow' (c : PC) (s : PS) (ds rest : List Nat) (hne : ds ≠ []) (hds : ds.all isDigit = true)
    (hn : Spec.digitsVal ds > usizeMax) (hrest : ∀ x, rest.head? = some x → isDigit x = false)
    (hpat : c.pat.drop s.idx = 123 :: (ds ++ rest)) :
    bracket c s = .err .syntax := by
  rw [bracket_numeral c s ds rest hne hds hrest hpat, if_pos hn]


theorem bracket_ok_bounds' (c : PC) (s s' : PS) (h : bracket c s = .ok () s') :
    s'.bmin ≤ s'.bmax ∧ s'.bmax ≤ usizeMax ∧ s.idx < s'.idx :=
  let ⟨h1, h2, h3, _⟩ := bracket_frame h
  ⟨h1, h2, h3⟩


/-! Every `Error::Internal` site of the compiler (fuel exhaustion, `bracket` / `escape` /
  `parse_character_class` called at the wrong character, the empty literal of `parse_atom`, `|` in
  `parse_terminal`) is dead.  One induction on the fuel shows, for each of the four parser functions
  started inside the pattern with fuel for three calls per remaining character, that an error is
  `Syntax` and that a success has moved on inside the pattern. -/

def Fine (c : PC) (lo : Nat) {α : Type} (x : PRes α) : Prop :=
  (∀ e, x = .err e → e = .syntax) ∧ ∀ a s', x = .ok a s' → lo ≤ s'.idx ∧ s'.idx ≤ c.len

theorem Fine.syn {c : PC} {lo : Nat} {α : Type} : Fine c lo (.err .syntax : PRes α) :=
  ⟨fun _ h => (PRes.err.inj h).symm, fun _ _ h => by cases h⟩

theorem Fine.ok {c : PC} {lo : Nat} {α : Type} {a : α} {s : PS} (h1 : lo ≤ s.idx)
    (h2 : s.idx ≤ c.len) : Fine c lo (.ok a s) :=
  ⟨fun _ h => (by cases h), fun _ _ h => by cases h; exact ⟨h1, h2⟩⟩

theorem Fine.ite {c : PC} {lo : Nat} {α : Type} {p : Prop} {i1 : Decidable p} {a b : PRes α}
    (h1 : p → Fine c lo a) (h2 : ¬p → Fine c lo b) : Fine c lo (@ite _ p i1 a b) := by
  by_cases hp : p
  · rw [if_pos hp]; exact h1 hp
  · rw [if_neg hp]; exact h2 hp

theorem Fine.mono {c : PC} {lo lo' : Nat} {α : Type} {x : PRes α} (h : Fine c lo x) (hl : lo' ≤ lo) :
    Fine c lo' x :=
  ⟨h.1, fun a s' hx => ⟨Nat.le_trans hl (h.2 a s' hx).1, (h.2 a s' hx).2⟩⟩

theorem Fine.of_err {c : PC} {lo : Nat} {α β : Type} {x : PRes α} {e : Err}
    (h : ∀ e, x = .err e → e = .syntax) (hx : x = .err e) : Fine c lo (.err e : PRes β) := by
  rw [h e hx]; exact Fine.syn

theorem pieceQuant_err_syntax {c : PC} {ret : Op} {s : PS} {e : Err} (h : pieceQuant c ret s = .err e) :
    e = .syntax := by
  rw [pieceQuant_eq] at h
  by_cases hge : s.idx ≥ c.len
  · rw [if_pos hge] at h; cases h
  rw [if_neg hge] at h
  cases hq : quantHead c s with
  | err e' =>
    rw [hq] at h
    cases h
    obtain ⟨h123, hb⟩ := quantHead_err hq
    rcases bracket_err c s e hb with h1 | ⟨_, h2⟩
    · exact h1
    · exact absurd ⟨by omega, h123⟩ h2
  | ok hasQ s1 =>
    rw [hq] at h
    dsimp only at h
    by_cases hx : (relAt c s1 && c.fl.xsd) = true
    · rw [if_pos hx] at h; exact (PRes.err.inj h).symm
    · rw [if_neg hx] at h; cases h

theorem pieceQuant_idx {c : PC} {ret op : Op} {s s' : PS} (hs : s.idx ≤ c.len)
    (h : pieceQuant c ret s = .ok op s') : s.idx ≤ s'.idx ∧ s'.idx ≤ c.len := by
  rcases pieceQuant_res h with ⟨_, _, rfl⟩ | ⟨hlt, hasQ, s1, hq, _, _, rfl⟩
  · exact ⟨Nat.le_refl _, hs⟩
  · obtain ⟨_, h1, h2, _⟩ := quantHead_frame hq
    by_cases hrel : relAt c s1 = true
    · rw [if_pos hrel]
      simp only [relAt, Bool.and_eq_true, decide_eq_true_eq] at hrel
      exact ⟨by simp only; omega, by simp only; omega⟩
    · rw [if_neg hrel]; exact ⟨h1, h2 hlt⟩

theorem parseAtom_fine {c : PC} {s : PS} (hno : ¬ StopWhy c s []) :
    Fine c (s.idx + 1) (parseAtom c s) := by
  have key : ∀ (s1 : PS) (x : Nat), s.idx + 1 ≤ s1.idx → s1.idx ≤ c.len →
      parseAtomGo c (c.len + 2) s [] = parseAtomGo c (c.len + 1) s1 [x] →
      Fine c (s.idx + 1) (parseAtom c s) := by
    intro s1 x h1 h2 hgo
    unfold parseAtom
    rw [hgo]
    cases hg : parseAtomGo c (c.len + 1) s1 [x] with
    | err e => exact Fine.of_err (fun _ => parseAtomGo_err) hg
    | ok ub s' =>
      obtain ⟨_, g2, g3, g4, _⟩ := parseAtomGo_ok hg
      have g2 := g2 h2
      simp only [List.length_cons, List.length_nil] at g3 g4
      have hne : ub.isEmpty = false := by
        cases ub with
        | nil => simp only [List.length_nil] at g3; omega
        | cons _ _ => rfl
      dsimp only
      rw [hne, if_neg Bool.false_ne_true]
      exact Fine.ok (by omega) g2
  have hit := parseAtomGo_iter c (c.len + 1) s []
  generalize hg : parseAtomGo c (c.len + 1 + 1) s [] = X at hit
  cases hit with
  | stop _ hwhy => exact absurd hwhy hno
  | syn =>
    unfold parseAtom
    rw [hg]
    exact Fine.syn
  | char hlt _ => exact key { s with idx := s.idx + 1 } _ (Nat.le_refl _) hlt hg
  | esc h0 he =>
    obtain ⟨_, e1, e2, _⟩ := escape_ok he
    rw [h0.frame.1] at e1
    exact key _ _ (by simp only at e1; omega) e2 hg

theorem exprOpen_err {c : PC} {s : PS} {top : Bool} {e : Err} (h : exprOpen c s top = .err e) :
    e = .syntax := by
  unfold exprOpen at h
  by_cases h1 : (!top && c.at s.idx == 40) = true
  · rw [if_pos h1] at h
    by_cases h2 : (decide (s.idx + 2 < c.len) && c.at (s.idx + 1) == 63 && c.at (s.idx + 2) == 58) = true
    · rw [if_pos h2] at h
      by_cases hx : c.fl.xsd = true
      · rw [if_pos hx] at h; exact (PRes.err.inj h).symm
      · rw [if_neg hx] at h; cases h
    · rw [if_neg h2] at h; cases h
  · rw [if_neg h1] at h; cases h

/-- the statements of the induction `fine_all`, one per parser function (Terminal, Branch, Branches,
    Expr): started inside the pattern with fuel for three calls per remaining character, the call is
    `Fine` -/
def FT (c : PC) (f : Nat) : Prop :=
  ∀ s : PS, s.idx < c.len → c.at s.idx ≠ 124 → 3 * (c.len - s.idx) ≤ f →
    Fine c (s.idx + 1) (parseTerminal c f s)
def FB (c : PC) (f : Nat) : Prop :=
  ∀ (s : PS) (cur : Option Op), s.idx ≤ c.len → 3 * (c.len - s.idx) + 1 ≤ f →
    Fine c s.idx (parseBranch c f s cur)
def FBs (c : PC) (f : Nat) : Prop :=
  ∀ (s : PS) (acc : List Op), s.idx ≤ c.len → 3 * (c.len - s.idx) + 1 ≤ f →
    Fine c s.idx (parseBranches c f s acc)
def FE (c : PC) (f : Nat) : Prop :=
  ∀ s : PS, c.at s.idx = 40 → 3 * (c.len - s.idx) ≤ f + 1 →
    Fine c (s.idx + 1) (parseExpr c f s false)

theorem body_fine {c : PC} {f : Nat} (hB : FB c f) (hBs : FBs c f) (cp paren : Nat) (s1 : PS)
    (hs : s1.idx ≤ c.len) (hf : 3 * (c.len - s1.idx) + 1 ≤ f) :
    Fine c s1.idx (exprBody c f cp paren s1) := by
  unfold exprBody
  have h1 := hB s1 none hs hf
  cases hb : parseBranch c f s1 none with
  | err e => exact Fine.of_err h1.1 hb
  | ok b1 sA =>
    obtain ⟨a1, a2⟩ := h1.2 b1 sA hb
    have h2 := hBs sA [b1] a2 (by omega)
    dsimp only
    cases hbs : parseBranches c f sA [b1] with
    | err e => exact Fine.of_err h2.1 hbs
    | ok bs sB =>
      obtain ⟨b1', b2'⟩ := h2.2 bs sB hbs
      dsimp only
      refine Fine.ite (fun _ => Fine.ite (fun hc => ?_) (fun _ => Fine.syn)) (fun _ => Fine.ok (by omega) b2')
      simp only [Bool.and_eq_true, decide_eq_true_eq] at hc
      exact Fine.ite (fun _ => Fine.ok (by simp only; omega) (by simp only; omega))
        (fun _ => Fine.ok (by simp only; omega) (by simp only; omega))

theorem FE_step {c : PC} {f : Nat} (hB : FB c f) (hBs : FBs c f) : FE c (f + 1) := by
  intro s h40 hf
  have hlt : s.idx < c.len := PC.lt_of_at_ne_zero (by rw [h40]; decide)
  rw [parseExpr_succ]
  cases ho : exprOpen c s false with
  | err e => exact Fine.of_err (fun _ => exprOpen_err) ho
  | ok paren s1 =>
    dsimp only
    rcases exprOpen_res ho with ⟨_, _, h0 | h0⟩ | ⟨_, _, _, _, rfl⟩ | ⟨_, _, _, _, ⟨hq, _, _⟩, rfl⟩
    · cases h0
    · exact absurd h40 h0
    · exact body_fine hB hBs _ _ _ (by simp only; omega) (by simp only; omega)
    · exact (body_fine hB hBs _ _ _ (by simp only; omega) (by simp only; omega)).mono
        (by simp only; omega)

theorem FBs_step {c : PC} {f : Nat} (hB : FB c f) (hBs : FBs c f) : FBs c (f + 1) := by
  intro s acc hs hf
  rw [parseBranches]
  refine Fine.ite (fun hc => ?_) (fun _ => Fine.ok (Nat.le_refl _) hs)
  simp only [Bool.and_eq_true, decide_eq_true_eq] at hc
  have h1 := hB { s with idx := s.idx + 1 } none (by simp only; omega) (by simp only; omega)
  cases hb : parseBranch c f { s with idx := s.idx + 1 } none with
  | err e => exact Fine.of_err h1.1 hb
  | ok b1 sA =>
    obtain ⟨a1, a2⟩ := h1.2 b1 sA hb
    simp only at a1
    dsimp only
    exact (hBs sA _ a2 (by omega)).mono (by omega)

theorem FB_step {c : PC} {f : Nat} (hT : FT c f) (hB : FB c f) : FB c (f + 1) := by
  intro s cur hs hf
  rw [parseBranch]
  refine Fine.ite (fun hc => ?_) (fun _ => Fine.ok (Nat.le_refl _) hs)
  simp only [Bool.and_eq_true, decide_eq_true_eq, bne_iff_ne, ne_eq] at hc
  have h1 := hT s hc.1.1 hc.1.2 (by omega)
  cases ht : parseTerminal c f s with
  | err e => exact Fine.of_err h1.1 ht
  | ok ret s1 =>
    obtain ⟨a1, a2⟩ := h1.2 ret s1 ht
    dsimp only
    cases hq : pieceQuant c ret s1 with
    | err e => exact Fine.of_err (fun _ => pieceQuant_err_syntax) hq
    | ok op1 s2 =>
      obtain ⟨b1, b2⟩ := pieceQuant_idx a2 hq
      dsimp only
      exact (hB s2 _ b2 (by omega)).mono (by omega)

theorem FT_step {c : PC} {f : Nat} (hE : FE c f) : FT c (f + 1) := by
  intro s hlt h124 hf
  have hs : s.idx ≤ c.len := by omega
  have one : ∀ {α : Type} (a : α), Fine c (s.idx + 1) (.ok a { s with idx := s.idx + 1 } : PRes α) :=
    fun a => Fine.ok (Nat.le_refl _) (by simp only; omega)
  rw [parseTerminal]
  refine Fine.ite (fun _ => one _) (fun n1 => Fine.ite (fun _ => one _) (fun n2 =>
    Fine.ite (fun _ => one _) (fun n3 => Fine.ite (fun h91 => ?_) (fun n4 =>
    Fine.ite (fun h40 => hE s (eq_of_beq h40) (by omega)) (fun n5 => Fine.ite (fun _ => Fine.syn)
    (fun n6 => Fine.ite (fun h => absurd (eq_of_beq h) h124) (fun n7 => Fine.ite (fun _ => Fine.syn)
    (fun n8 => Fine.ite (fun _ => Fine.syn) (fun n9 => Fine.ite (fun h92 => ?_) (fun n10 => ?_))))))))))
  · -- a class: the fuel `c.len + 2` covers the rest of the pattern
    cases hc : parseClass c (c.len + 2) s with
    | err e => exact Fine.of_err (fun _ h => parseClass_err (eq_of_beq h91) (by omega) h) hc
    | ok rs s1 =>
      obtain ⟨_, p1, p2, _⟩ := parseClass_ok hc
      exact Fine.ok p1 p2
  · have hat : c.at s.idx = 92 := eq_of_beq h92
    cases he : escape c s false with
    | err e => exact Fine.of_err (fun _ => escape_err_at hat) he
    | ok r s1 =>
      obtain ⟨_, p1, p2, p3, _⟩ := escape_ok he
      cases r with
      | backref n =>
        exact Fine.ite (fun _ => Fine.syn) (fun _ => Fine.ok (by omega) p2)
      | set rs => exact Fine.ok (by omega) p2
      | chr x =>
        -- `parse_atom` starts again at the backslash and reads the same escape
        have hs1 : ({ s1 with idx := s.idx } : PS) = s := by
          rw [p3]; simp [Esc.isBackref]
        dsimp only
        rw [hs1]
        refine parseAtom_fine ?_
        rintro (h | h | h | ⟨r, s2, h, hr⟩ | ⟨h, _⟩)
        · exact h hlt
        · exact h rfl
        · rw [hat] at h; cases h
        · rw [he] at h
          injection h with h _
          exact hr x h.symm
        · rw [hat] at h; rcases h with h | h <;> cases h
  · refine parseAtom_fine ?_
    rintro (h | h | h | ⟨r, s2, h, _⟩ | ⟨h, hx⟩)
    · exact h hlt
    · exact h rfl
    · simp only [Bool.not_eq_true] at n3 n4 n5 n6 n7 n8
      rw [n3, n4, n5, n6, n7, n8] at h
      cases h
    · exact n10 (by rw [(escape_ok h).1]; rfl)
    · simp only [Bool.not_eq_true] at n1 n2
      rw [hx] at n1 n2
      rcases h with h | h
      · rw [h] at n2; cases n2
      · rw [h] at n1; cases n1

theorem fine_all (c : PC) : ∀ f, FE c f ∧ FBs c f ∧ FB c f ∧ FT c f := by
  intro f
  induction f with
  | zero =>
    refine ⟨?_, ?_, ?_, ?_⟩
    · intro s h40 hf
      have : s.idx < c.len := PC.lt_of_at_ne_zero (by rw [h40]; decide)
      omega
    · intro s acc _ hf; omega
    · intro s cur _ hf; omega
    · intro s hlt _ hf; omega
  | succ f ih =>
    obtain ⟨hE, hBs, hB, hT⟩ := ih
    exact ⟨FE_step hB hBs, FBs_step hB hBs, FB_step hT hB, FT_step hE⟩

theorem parseExpr_top_err (c : PC) {e : Err}
    (h : parseExpr c (4 * c.pat.length + 16) {} true = .err e) : e = .syntax := by
  obtain ⟨_, hBs, hB, _⟩ := fine_all c (4 * c.pat.length + 15)
  rw [show 4 * c.pat.length + 16 = (4 * c.pat.length + 15) + 1 from rfl, parseExpr_succ] at h
  have ho : exprOpen c {} true = .ok 0 {} := rfl
  rw [ho] at h
  exact (body_fine hB hBs _ _ {} (Nat.zero_le _) (by
    show 3 * (c.pat.length - 0) + 1 ≤ 4 * c.pat.length + 15
    omega)).1 e h

theorem compileCore_err_syntax (env : Env) (fl : CFlags) (pat : List Nat) (opt : Bool) (e : Err)
    (h : compileCore env fl pat opt = .err e) : e = .syntax := by
  cases hl : fl.literal with
  | true => rw [compileCore_lit hl] at h; cases h
  | false =>
    rw [compileCore_eq env fl pat opt hl] at h
    split at h
    · rename_i hp; cases h; exact parseExpr_top_err _ hp
    · split at h
      · exact (Out.err.inj h).symm
      · split at h <;> cases h

theorem Regex.new_err_cases {env : Env} {p fs : List Nat} {xsd opt : Bool} {e : Err}
    (h : Regex.new env p fs xsd opt = .err e) :
    (e = .invalidFlags ∧ parseFlags fs xsd = none) ∨
    (e = .syntax ∧ ∃ fl, parseFlags fs xsd = some fl ∧ compileProg env fl p opt = .err .syntax) := by
  rw [Regex.new_bind] at h
  split at h
  · rename_i hf; exact .inl ⟨(Out.err.inj h).symm, hf⟩
  · rename_i fl hf
    rcases Out.bind_eq_err h with hc | ⟨pr, _, hn⟩
    · cases compileCore_err_syntax _ _ _ _ _ hc
      exact .inr ⟨rfl, fl, hf, hc⟩
    · rcases Out.bind_eq_err hn with hn | ⟨_, _, hn⟩
      · exact absurd hn (isMatch_ne_err _ _ _ _)
      · cases hn

theorem Regex.new_err (env : Env) (p fs : List Nat) (xsd opt : Bool) (e : Err)
    (h : Regex.new env p fs xsd opt = .err e) :
    (e = .invalidFlags ∧ parseFlags fs xsd = none) ∨ (e = .syntax ∧ (parseFlags fs xsd).isSome = true) := by
  rcases Regex.new_err_cases h with h | ⟨h1, fl, hf, _⟩
  · exact .inl h
  · exact .inr ⟨h1, by rw [hf]; rfl⟩

end Rx
