/-
  Proofs/ReplLemmas — replacement-string expansion (Props/C15): the loop `expandGo` (Model/Api) against the
  tokeniser `tokens` (Spec/Repl).
-/
import RxModel.Spec.Repl
namespace Rx.ReplLemmas
open Rx Rx.Spec

theorem isDigit_ne {c : Nat} (h : isDigit c = true) : c ≠ 92 ∧ c ≠ 36 := by
  simp only [isDigit, Bool.and_eq_true, decide_eq_true_eq] at h
  omega

theorem isDigit_sub_le {c : Nat} (h : isDigit c = true) : c - 48 ≤ 9 := by
  simp only [isDigit, Bool.and_eq_true, decide_eq_true_eq] at h
  omega

theorem digitsVal_nil : digitsVal [] = 0 := rfl

theorem digitsVal_append_singleton (a : List Nat) (c : Nat) :
    digitsVal (a ++ [c]) = digitsVal a * 10 + (c - 48) := by
  simp [digitsVal, List.foldl_append]

theorem digitsVal_singleton (c : Nat) : digitsVal [c] = c - 48 := by
  simp [digitsVal]

theorem foldl_digits_ge (b : List Nat) (n : Nat) :
    n ≤ b.foldl (fun n d => n * 10 + (d - 48)) n := by
  induction b generalizing n with
  | nil => simp
  | cons c b ih =>
    simp only [List.foldl_cons]
    have := ih (n * 10 + (c - 48))
    omega

theorem digitsVal_le_append (a b : List Nat) : digitsVal a ≤ digitsVal (a ++ b) := by
  simp only [digitsVal, List.foldl_append]
  exact foldl_digits_ge b _

theorem digitsVal_take_mono (ds : List Nat) {k k' : Nat} (h : k ≤ k') :
    digitsVal (ds.take k) ≤ digitsVal (ds.take k') := by
  have : ds.take k' = ds.take k ++ (ds.drop k).take (k' - k) := by
    have e : k' = k + (k' - k) := by omega
    conv => lhs; rw [e]
    exact List.take_add
  rw [this]
  exact digitsVal_le_append _ _

theorem spanDigits_cons_digit {c : Nat} (rest : List Nat) (h : isDigit c = true) :
    spanDigits (c :: rest) = (c :: (spanDigits rest).1, (spanDigits rest).2) := by
  simp [spanDigits, h]

theorem spanDigits_cons_nondigit {c : Nat} (rest : List Nat) (h : isDigit c = false) :
    spanDigits (c :: rest) = ([], c :: rest) := by
  simp [spanDigits, h]

/-- the search of `refLen`: the largest `k` in `1..n` with `p k` -/
theorem findRev_eq_some (p : Nat → Bool) {n k : Nat} (h1 : 1 ≤ k) (hk : k ≤ n) (hp : p k = true)
    (hno : ∀ j, k < j → j ≤ n → p j = false) :
    ((List.range n).map (· + 1)).reverse.find? p = some k := by
  induction n with
  | zero => omega
  | succ n ih =>
    rw [List.range_succ, List.map_append, List.reverse_append, List.map_singleton,
      List.reverse_singleton, List.singleton_append, List.find?_cons]
    by_cases hkn : k = n + 1
    · rw [← hkn, hp]
    · rw [hno (n + 1) (by omega) (Nat.le_refl _)]
      exact ih (by omega) fun j hj hjn => hno j hj (by omega)

/-- an admissible prefix that cannot be extended by one digit is the one `refLen` finds: values
    grow with the prefix, so every longer prefix is inadmissible as well -/
theorem refLen_eq {mc : Nat} (hmc : 9 < mc) {pre ds : List Nat} {j : Nat} (hne : pre ≠ [])
    (hj : j ≤ ds.length) (hp : digitsVal (pre ++ ds.take j) ≤ mc)
    (hno : j = ds.length ∨ mc < digitsVal (pre ++ ds.take (j + 1))) :
    refLen mc (pre ++ ds) = pre.length + j := by
  have hlen : 1 ≤ pre.length := List.length_pos_iff.mpr hne
  rw [← List.take_length_add_append] at hp hno
  rw [refLen, if_neg (by omega), findRev_eq_some _ (by omega) (by rw [List.length_append]; omega)
    (decide_eq_true hp)]
  intro i hi hin
  rw [List.length_append] at hin
  exact decide_eq_false (Nat.not_le.mpr
    (Nat.lt_of_lt_of_le (hno.resolve_left (by omega)) (digitsVal_take_mono _ hi)))

theorem takeDigits_length (mc n : Nat) (xs : List Nat) :
    (takeDigits mc n xs).2.length ≤ xs.length := by
  induction xs generalizing n with
  | nil => simp [takeDigits]
  | cons c xs ih =>
    unfold takeDigits
    split
    · simp only
      split
      · simp
      · have := ih (n * 10 + (c - 48))
        simp only [List.length_cons]
        omega
    · simp

/-- greedy = an admissible prefix that cannot be extended -/
theorem takeDigits_spec (mc : Nat) (xs : List Nat) (pre : List Nat) (hpre : digitsVal pre ≤ mc) :
    ∃ j, j ≤ (spanDigits xs).1.length ∧
      takeDigits mc (digitsVal pre) xs = (digitsVal (pre ++ (spanDigits xs).1.take j), xs.drop j) ∧
      digitsVal (pre ++ (spanDigits xs).1.take j) ≤ mc ∧
      (j = (spanDigits xs).1.length ∨ mc < digitsVal (pre ++ (spanDigits xs).1.take (j + 1))) := by
  induction xs generalizing pre with
  | nil => exact ⟨0, by simp [spanDigits, takeDigits, hpre]⟩
  | cons c xs ih =>
    cases hc : isDigit c with
    | false =>
      refine ⟨0, ?_⟩
      simp [spanDigits_cons_nondigit xs hc, takeDigits, hc, hpre]
    | true =>
      rw [spanDigits_cons_digit xs hc]
      by_cases hm : digitsVal pre * 10 + (c - 48) > mc
      · refine ⟨0, ?_⟩
        simp only [List.length_cons, Nat.zero_le, List.take_zero, List.append_nil, List.drop_zero,
          true_and, Nat.zero_add, List.take_succ_cons, hpre]
        refine ⟨?_, Or.inr ?_⟩
        · simp [takeDigits, hc, hm]
        · rw [digitsVal_append_singleton]; exact hm
      · have hpre' : digitsVal (pre ++ [c]) ≤ mc := by
          rw [digitsVal_append_singleton]; omega
        obtain ⟨j, hj1, hj2, hj3, hj4⟩ := ih (pre ++ [c]) hpre'
        refine ⟨j + 1, ?_⟩
        simp only [List.length_cons, List.take_succ_cons, List.drop_succ_cons]
        simp only [List.append_assoc, List.singleton_append] at hj2 hj3 hj4
        refine ⟨by omega, ?_, hj3, ?_⟩
        · rw [← hj2, digitsVal_append_singleton]
          conv => lhs; unfold takeDigits
          simp [hc, hm]
        · rcases hj4 with h | h
          · left; omega
          · right; exact h

theorem takeDigits_eq_refLen (mc d : Nat) (rest : List Nat) (hd : isDigit d = true) (hmc : 9 < mc) :
    takeDigits mc (d - 48) rest =
      (digitsVal ((spanDigits (d :: rest)).1.take (refLen mc (spanDigits (d :: rest)).1)),
        (d :: rest).drop (refLen mc (spanDigits (d :: rest)).1)) ∧
      (takeDigits mc (d - 48) rest).1 ≤ mc := by
  have hpre : digitsVal [d] ≤ mc := by
    rw [digitsVal_singleton]
    exact Nat.le_trans (isDigit_sub_le hd) (Nat.le_of_lt hmc)
  obtain ⟨j, hjl, hj, hle, hno⟩ := takeDigits_spec mc rest [d] hpre
  rw [digitsVal_singleton] at hj
  rw [spanDigits_cons_digit rest hd, ← List.singleton_append,
    refLen_eq hmc (List.cons_ne_nil _ _) hjl hle hno, hj, List.length_singleton, Nat.add_comm]
  exact ⟨rfl, hle⟩

theorem wfRepl_cons_plain {c : Nat} (xs : List Nat) (hc : c ≠ 92 ∧ c ≠ 36) :
    wfRepl (c :: xs) = wfRepl xs := by
  cases xs with
  | nil => simp [wfRepl, hc.1, hc.2]
  | cons d xs => simp [wfRepl, hc.1, hc.2]

theorem wfRepl_takeDigits (mc n : Nat) (xs : List Nat) :
    wfRepl (takeDigits mc n xs).2 = wfRepl xs := by
  induction xs generalizing n with
  | nil => simp [takeDigits]
  | cons c xs ih =>
    unfold takeDigits
    split
    · rename_i hc
      simp only
      split
      · rfl
      · rw [ih, wfRepl_cons_plain xs (isDigit_ne hc)]
    · rfl

theorem plainRepl_cons (c : Nat) (xs : List Nat) :
    plainRepl (c :: xs) = (!(c == 92 || c == 36) && plainRepl xs) := by
  simp [plainRepl]

section tokensStep
variable {mc f c d : Nat} {rest : List Nat}

theorem tokens_nil : tokens mc (f + 1) [] = some [] := rfl

theorem tokens_backslash (h92 : (c == 92) = true) (hd : (d == 92 || d == 36) = true) :
    tokens mc (f + 1) (c :: d :: rest) = (tokens mc f rest).map (.lit d :: ·) := by
  rw [tokens, if_pos h92, if_pos hd]

theorem tokens_backslash_bad (h92 : (c == 92) = true) (hd : ¬ (d == 92 || d == 36) = true) :
    tokens mc (f + 1) (c :: d :: rest) = none := by
  rw [tokens, if_pos h92, if_neg hd]

theorem tokens_backslash_end (h92 : (c == 92) = true) : tokens mc (f + 1) [c] = none := by
  rw [tokens, if_pos h92]

theorem tokens_dollar_end (h92 : ¬ (c == 92) = true) (h36 : (c == 36) = true) :
    tokens mc (f + 1) [c] = none := by
  rw [tokens, if_neg h92, if_pos h36]
  rfl

theorem tokens_dollar_bad (h92 : ¬ (c == 92) = true) (h36 : (c == 36) = true)
    (hd : isDigit d = false) : tokens mc (f + 1) (c :: d :: rest) = none := by
  rw [tokens, if_neg h92, if_pos h36]
  simp only [spanDigits_cons_nondigit rest hd, List.isEmpty_nil, if_true]

theorem tokens_dollar (h92 : ¬ (c == 92) = true) (h36 : (c == 36) = true) (hd : isDigit d = true) :
    tokens mc (f + 1) (c :: d :: rest) =
      (tokens mc f ((d :: rest).drop (refLen mc (d :: (spanDigits rest).1)))).map
        (.group (digitsVal ((d :: (spanDigits rest).1).take (refLen mc (d :: (spanDigits rest).1)))) :: ·) := by
  rw [tokens, if_neg h92, if_pos h36]
  simp only [spanDigits_cons_digit rest hd, List.isEmpty_cons, Bool.false_eq_true, if_false]

theorem tokens_plain (h92 : ¬ (c == 92) = true) (h36 : ¬ (c == 36) = true) :
    tokens mc (f + 1) (c :: rest) = (tokens mc f rest).map (.lit c :: ·) := by
  cases rest <;> rw [tokens, if_neg h92, if_neg h36]
end tokensStep

section tokensDollar
variable {mc f c d : Nat} {rest : List Nat}

theorem tokens_dollar_small (h92 : ¬ (c == 92) = true) (h36 : (c == 36) = true)
    (hd : isDigit d = true) (hmc : mc ≤ 9) :
    tokens mc (f + 1) (c :: d :: rest) = (tokens mc f rest).map (.group (d - 48) :: ·) := by
  rw [tokens_dollar h92 h36 hd, refLen, if_pos hmc]
  rw [List.take_succ_cons, List.take_zero, digitsVal_singleton]
  rfl

theorem tokens_dollar_big (h92 : ¬ (c == 92) = true) (h36 : (c == 36) = true)
    (hd : isDigit d = true) (hmc : ¬ mc ≤ 9) :
    tokens mc (f + 1) (c :: d :: rest) =
      (tokens mc f (takeDigits mc (d - 48) rest).2).map (.group (takeDigits mc (d - 48) rest).1 :: ·) := by
  rw [tokens_dollar h92 h36 hd, (takeDigits_eq_refLen mc d rest hd (Nat.lt_of_not_le hmc)).1,
    spanDigits_cons_digit rest hd]

end tokensDollar

theorem map_cons_tok (mc : Nat) (grp : Nat → Option (List Nat)) (o : Option (List RTok)) (t : RTok)
    (acc : List Nat) (b : Bool) :
    (o.map (t :: ·)).map (fun ts => (acc ++ (ts.map (tokText mc grp)).flatten, b))
      = o.map (fun ts => (acc ++ tokText mc grp t ++ (ts.map (tokText mc grp)).flatten, b)) := by
  rw [Option.map_map]
  congr 1
  funext ts
  rw [Function.comp_apply, List.map_cons, List.flatten_cons, List.append_assoc]

theorem plainRepl_meta {c : Nat} (xs : List Nat) (h : (c == 92) = true ∨ (c == 36) = true) :
    plainRepl (c :: xs) = false := by
  rw [plainRepl_cons]
  rcases h with h | h <;> rw [h]
  · rfl
  · rw [Bool.or_true]; rfl

theorem plainRepl_plain {c : Nat} (xs : List Nat) (h92 : ¬ (c == 92) = true) (h36 : ¬ (c == 36) = true) :
    plainRepl (c :: xs) = plainRepl xs := by
  rw [plainRepl_cons, Bool.eq_false_iff.mpr h92, Bool.eq_false_iff.mpr h36]
  rfl

theorem expandGo_tokens (mc : Nat) (grp : Nat → Option (List Nat)) (f : Nat) (rest acc : List Nat)
    (s : Bool) (h : rest.length < f) :
    expandGo mc grp f rest acc s =
      (tokens mc f rest).map
        (fun ts => (acc ++ (ts.map (tokText mc grp)).flatten, s && plainRepl rest)) := by
  fun_induction expandGo mc grp f rest acc s with
  | case1 => exact absurd h (Nat.not_lt_zero _)
  | case2 f acc s =>
    rw [tokens_nil, Option.map_some, List.map_nil, List.flatten_nil, List.append_nil, plainRepl,
      List.all_nil, Bool.and_true]
  | case3 _ c _ _ h92 => rw [tokens_backslash_end h92]; rfl
  | case4 f c acc s h92 d rest' hd ih =>
    rw [List.length_cons, List.length_cons] at h
    rw [ih (by omega), tokens_backslash h92 hd, map_cons_tok, plainRepl_meta _ (.inl h92),
      Bool.false_and, Bool.and_false]
    rfl
  | case5 f c acc s h92 d rest' hd => rw [tokens_backslash_bad h92 hd]; rfl
  | case6 _ c _ _ h92 h36 => rw [tokens_dollar_end h92 h36]; rfl
  | case7 f c acc s h92 h36 d rest' hd =>
    rw [Bool.not_eq_true'] at hd
    rw [tokens_dollar_bad h92 h36 hd]; rfl
  | case8 f c acc s h92 h36 d rest' hd n hmc acc' ih =>
    rw [Bool.not_eq_true', Bool.not_eq_false] at hd
    rw [List.length_cons, List.length_cons] at h
    rw [ih (by omega), tokens_dollar_small h92 h36 hd hmc, map_cons_tok, plainRepl_meta _ (.inr h36),
      Bool.false_and, Bool.and_false, tokText]
    -- `acc'` appends the group's text only if the group exists; `tokText` gives `[]` otherwise
    by_cases hn : d - 48 ≤ mc
    · simp only [acc', n, if_pos hn]
    · simp only [acc', n, if_neg hn, List.append_nil]
  | case9 f c acc s h92 h36 d rest' hd n hmc r ih =>
    rw [Bool.not_eq_true', Bool.not_eq_false] at hd
    rw [List.length_cons, List.length_cons] at h
    have hl := takeDigits_length mc (d - 48) rest'
    rw [ih (by simp only [r, n]; omega), tokens_dollar_big h92 h36 hd hmc, map_cons_tok,
      plainRepl_meta _ (.inr h36), Bool.false_and, Bool.and_false, tokText,
      if_pos (takeDigits_eq_refLen mc d rest' hd (Nat.lt_of_not_le hmc)).2]
  | case10 f c rest acc s h92 h36 ih =>
    rw [List.length_cons] at h
    rw [ih (by omega), tokens_plain h92 h36, map_cons_tok, plainRepl_plain _ h92 h36]
    rfl

theorem expandGo_isSome (mc : Nat) (grp : Nat → Option (List Nat)) (f : Nat) (rest acc : List Nat)
    (s : Bool) (h : rest.length < f) :
    (expandGo mc grp f rest acc s).isSome = wfRepl rest := by
  fun_induction expandGo mc grp f rest acc s with
  | case1 => exact absurd h (Nat.not_lt_zero _)
  | case2 => rfl
  | case3 _ c _ _ h92 => simp [wfRepl, h92]
  | case4 f c acc s h92 d rest' hd ih =>
    rw [ih (by simp only [List.length_cons] at h; omega), wfRepl, if_pos h92, hd, Bool.true_and]
  | case5 f c acc s h92 d rest' hd => simp [wfRepl, h92, hd]
  | case6 _ c _ _ h92 h36 => simp [wfRepl, h92, h36]
  | case7 f c acc s h92 h36 d rest' hd =>
    simp only [Bool.not_eq_true'] at hd
    simp [wfRepl, h92, h36, hd]
  | case8 f c acc s h92 h36 d rest' hd n hmc acc' ih =>
    simp only [Bool.not_eq_true', Bool.not_eq_false] at hd
    rw [ih (by simp only [List.length_cons] at h; omega), wfRepl, if_neg h92, if_pos h36, hd,
      Bool.true_and]
  | case9 f c acc s h92 h36 d rest' hd n hmc r ih =>
    simp only [Bool.not_eq_true', Bool.not_eq_false] at hd
    have hl := takeDigits_length mc (d - 48) rest'
    rw [ih (by simp only [List.length_cons] at h; simp only [r, n]; omega), wfRepl_takeDigits,
      wfRepl, if_neg h92, if_pos h36, hd, Bool.true_and]
  | case10 f c rest acc s h92 h36 ih =>
    rw [ih (by simp only [List.length_cons] at h; omega)]
    exact (wfRepl_cons_plain rest ⟨by simpa using h92, by simpa using h36⟩).symm

theorem expandGo_plain (mc : Nat) (grp : Nat → Option (List Nat)) (f : Nat) (rest acc : List Nat)
    (s : Bool) (h : rest.length < f) (hp : plainRepl rest = true) :
    expandGo mc grp f rest acc s = some (acc ++ rest, s) := by
  induction rest generalizing f acc with
  | nil =>
    cases f with
    | zero => simp [expandGo]
    | succ f => simp [expandGo]
  | cons c rest ih =>
    cases f with
    | zero => simp at h
    | succ f =>
      simp only [List.length_cons] at h
      rw [plainRepl_cons] at hp
      simp only [Bool.and_eq_true, Bool.not_eq_true', Bool.or_eq_false_iff] at hp
      obtain ⟨⟨hb92, hb36⟩, hp⟩ := hp
      simp only [expandGo, hb92, hb36, Bool.false_eq_true, if_false]
      rw [ih f _ (by omega) hp]
      simp

theorem tokens_fuel (mc : Nat) (f : Nat) (rest : List Nat) (h : rest.length < f) (k : Nat) :
    tokens mc (f + k) rest = tokens mc f rest := by
  fun_induction tokens mc f rest with
  | case1 => exact absurd h (Nat.not_lt_zero _)
  | case2 f => rw [Nat.succ_add, tokens]
  | case3 f c h92 d rest' hd ih =>
    rw [Nat.succ_add, tokens, if_pos h92, if_pos hd, ih (by simp only [List.length_cons] at h; omega)]
  | case4 f c h92 d rest' hd => rw [Nat.succ_add, tokens, if_pos h92, if_neg hd]
  | case5 f c h92 => rw [Nat.succ_add, tokens, if_pos h92]
  | case6 f c rest h92 h36 ds hds =>
    simp only [Nat.succ_add, tokens, h92, h36, hds, ds, Bool.false_eq_true, if_true, if_false]
  | case7 f c rest h92 h36 ds hds k' ih =>
    simp only [Nat.succ_add, tokens, h92, h36, hds, ds, k', Bool.false_eq_true, if_true, if_false,
      ih (by simp only [List.length_cons, List.length_drop] at h ⊢; omega)]
  | case8 f c rest h92 h36 ih =>
    simp only [Nat.succ_add, tokens, h92, h36, Bool.false_eq_true, if_false,
      ih (by simp only [List.length_cons] at h; omega)]

theorem expand_text (mc : Nat) (grp : Nat → Option (List Nat)) (r : List Nat) :
    (expand mc grp r).map (·.1) =
      (tokens mc (r.length + 1) r).map (fun ts => (ts.map (tokText mc grp)).flatten) := by
  rw [expand, expandGo_tokens mc grp _ r [] true (Nat.lt_succ_self _), Option.map_map]
  rfl

theorem expand_step (mc : Nat) (grp : Nat → Option (List Nat)) {r rest : List Nat} {t : RTok} (k : Nat)
    (hlen : r.length = rest.length + 1 + k)
    (h : tokens mc (r.length + 1) r = (tokens mc r.length rest).map (t :: ·)) :
    (expand mc grp r).map (·.1) = (expand mc grp rest).map (fun x => tokText mc grp t ++ x.1) := by
  have e : (expand mc grp rest).map (fun x => tokText mc grp t ++ x.1)
      = ((expand mc grp rest).map (·.1)).map (tokText mc grp t ++ ·) := by
    rw [Option.map_map]; rfl
  rw [e, expand_text, expand_text, h, hlen, tokens_fuel mc _ rest (Nat.lt_succ_self _) k,
    Option.map_map, Option.map_map]
  rfl

end Rx.ReplLemmas
