/-
  Proofs/LiteralLemmas — for Props/C13 (flag q): engine, search and `is_match` on the program compiled from a
  literal pattern.
-/
import RxModel.Proofs.SearchNF
import RxModel.Model.Api
import RxModel.Model.Program
namespace Rx.Lit
open Rx

abbrev litOp (pat : List Nat) : Op := .seq [.atom pat, .endProgram]

theorem atomGen_hit {ctx : Ctx} {pat : List Nat} {i : Nat} (st : St)
    (hlen : i + pat.length ≤ ctx.len) (hpm : prefixMatch ctx pat (ctx.input.drop i) = true) :
    atomGen ctx pat i st = .once (i + pat.length) st := by
  rw [atomGen, if_neg (Nat.not_lt.mpr hlen), if_pos hpm]

theorem sem_lit (ctx : Ctx) (pat : List Nat) (i : Nat) (st : St)
    (hlen : i + pat.length ≤ ctx.len) (hpm : prefixMatch ctx pat (ctx.input.drop i) = true) :
    ∃ st' r, sem ctx (litOp pat) i st = .cons (i + pat.length) st' r ∧ st'.panic = st.panic := by
  simp only [sem, semL, seqGen, seqGo, atomGen_hit st hlen hpm, endGen, Step.once, Step.mapSt,
    Step.bind, Step.append, Step.onNil]
  exact ⟨_, _, rfl, rfl⟩

theorem matchAt_lit_ok (ctx : Ctx) (pat : List Nat) (i : Nat) (st : St)
    (hlen : i + pat.length ≤ ctx.len) (hpm : prefixMatch ctx pat (ctx.input.drop i) = true) :
    ∃ st', matchAt ctx (litOp pat) i st = (true, st') ∧ st'.panic = st.panic := by
  obtain ⟨st', r, hs, hp⟩ := sem_lit ctx pat i (matchStart ctx i st) hlen hpm
  rw [matchAt_eq, hs]
  exact ⟨_, rfl, hp.trans (matchStart_panic ctx i st)⟩

theorem tryCands_lit (ctx : Ctx) (pat : List Nat) :
    ∀ (cands : List Nat) (st : St),
    (∀ j ∈ cands, j + pat.length ≤ ctx.len ∧ prefixMatch ctx pat (ctx.input.drop j) = true) →
    ∃ st', tryCands ctx (litOp pat) cands st = (!cands.isEmpty, st') ∧ st'.panic = st.panic
  | [], st, _ => ⟨st, rfl, rfl⟩
  | j :: js, st, h => by
    obtain ⟨h1, h2⟩ := h j List.mem_cons_self
    obtain ⟨st', e, hp⟩ := matchAt_lit_ok ctx pat j st h1 h2
    exact ⟨st', tryCands_cons_true e, hp⟩

theorem planOf_lit (ctx : Ctx) (pr : Prog) (pat : List Nat)
    (hbol : pr.hasBol = false) (hmin : pr.minLen = pat.length) (hpre : pr.prefix_ = some pat) :
    planOf ctx pr 0 = if ctx.len < pat.length then .stop none else
      .run false ((rangeFrom 0 (ctx.len + 1 - pat.length)).filter
        (fun j => prefixMatch ctx pat (ctx.input.drop j))) := by
  simp only [planOf, hbol, hmin, hpre, Bool.false_eq_true, if_false, Nat.not_lt_zero, gt_iff_lt,
    Nat.sub_zero]
  split
  · rfl
  · rw [if_neg (by omega)]

theorem matchesFrom_lit (pr : Prog) (pat : List Nat) (lower : Nat → Nat) (s : List Nat)
    (hop : pr.op = litOp pat) (hbol : pr.hasBol = false) (hmin : pr.minLen = pat.length)
    (hpre : pr.prefix_ = some pat) :
    ∃ b st, matchesFrom (pr.ctx lower s) pr 0 {} = (b, st) ∧ st.panic = none ∧
      (b = true ↔ ∃ j, j + pat.length ≤ s.length ∧ prefixMatch (pr.ctx lower s) pat (s.drop j) = true) := by
  have hcl : (pr.ctx lower s).len = s.length := rfl
  rw [matchesFrom_eq_exec, planOf_lit _ pr pat hbol hmin hpre, hcl]
  by_cases hlt : s.length < pat.length
  · rw [if_pos hlt]
    refine ⟨false, _, rfl, rfl, ?_⟩
    simp only [Bool.false_eq_true, false_iff, not_exists, not_and]
    intro j hj; omega
  · rw [if_neg hlt, Plan.exec, hop]
    have hmem : ∀ j, j ∈ (rangeFrom 0 (s.length + 1 - pat.length)).filter
          (fun j => prefixMatch (pr.ctx lower s) pat (s.drop j)) ↔
        j + pat.length ≤ s.length ∧ prefixMatch (pr.ctx lower s) pat (s.drop j) = true := by
      intro j
      rw [List.mem_filter, mem_rangeFrom_iff]
      exact and_congr_left fun _ => by omega
    obtain ⟨st', e, hp⟩ := tryCands_lit (pr.ctx lower s) pat _ { ({} : St) with cap := {} }
      (fun j hj => (hmem j).1 hj)
    refine ⟨_, st', e, hp, ?_⟩
    simp only [Bool.not_eq_true', List.isEmpty_eq_false_iff_exists_mem, hmem]

theorem mkProgram_lit (fl : CFlags) (pat : List Nat) (hlen : pat.length < usizeMax) :
    ∃ pres, mkProgram pat (litOp pat) 1 fl false =
      { op := litOp pat, caseBlind := fl.caseBlind, multiLine := fl.multiLine, literal := fl.literal,
        hasBackrefs := false, maxParens := 1, minLen := pat.length, pattern := pat,
        prefix_ := some pat, pres := pres } := by
  have hmin : minLenOp (litOp pat) = pat.length := by
    simp only [minLenOp, minLenSeq, satAdd]
    unfold usizeMax at *
    simp only [Nat.min_def]
    split <;> split <;> omega
  refine ⟨numberPres (addPre fl.multiLine (litOp pat) none 0) 0, ?_⟩
  simp only [mkProgram, litOp, numberReps, numberRepsL]
  rw [show minLenOp (.seq [.atom pat, .endProgram]) = pat.length from hmin]

/-- `is_match` on the literal program, in terms of `prefixMatch` under a context that compares
    characters like the program's own -/
theorem isMatch_lit (fl : CFlags) (pat : List Nat) (hlen : pat.length < usizeMax) (lower : Nat → Nat)
    (s : List Nat) :
    ∃ b ctx, ctx.caseBlind = fl.caseBlind ∧ ctx.lower = lower ∧
      (mkProgram pat (litOp pat) 1 fl false).isMatch lower s = .ok b ∧
      (b = true ↔ ∃ j, j + pat.length ≤ s.length ∧ prefixMatch ctx pat (s.drop j) = true) := by
  obtain ⟨pres, e⟩ := mkProgram_lit fl pat hlen
  obtain ⟨b, st, hm, hp, hb⟩ := matchesFrom_lit (mkProgram pat (litOp pat) 1 fl false) pat lower s
    (by rw [e]) (by rw [e]) (by rw [e]) (by rw [e])
  refine ⟨b, _, ?_, ?_, by simp only [Prog.isMatch, hm, hp], hb⟩
  · show (mkProgram pat (litOp pat) 1 fl false).caseBlind = _
    rw [e]
  · rfl

end Rx.Lit
