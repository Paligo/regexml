/- `canonB` (Spec/Enum2) is the Boolean form of `C09.Canon`; `C10.canonB` is the same function
   (`C10.canonB_eq`). -/
import RxModel.Spec.Enum2
import RxModel.Spec.Class
namespace Rx

theorem canon_of_canonB : ∀ (rs : Ranges), canonB rs = true → C09.Canon rs
  | [], _ => by simp only [C09.Canon]
  | [(a, b)], h => by
    simp only [canonB, Bool.and_eq_true, decide_eq_true_eq] at h
    simp only [C09.Canon]; exact h
  | (a, b) :: (c, d) :: rs, h => by
    simp only [canonB, Bool.and_eq_true, decide_eq_true_eq] at h
    simp only [C09.Canon]
    exact ⟨h.1.1, h.1.2, canon_of_canonB _ h.2⟩

end Rx
