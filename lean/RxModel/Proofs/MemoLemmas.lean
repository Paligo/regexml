/-
  Proofs/MemoLemmas — the zero-length-match memo (`St.hist`) as an INVARIANT of the search, on the fragment
  `cleanProg3m` (Spec/MemoPreds: a root sequence whose elements are trees of Spec/Enum3 or skippable general
  repeats `.rep id c 0 mx true`).

  `HistOnly` invariants (predicates of `st.hist` alone) are kept by every generator that does not write the memo,
  i.e. by everything except `repGreedyGen` with `min = 0` (`satEnv_hist`).  `Elem` is what the root sequence needs
  of ONE element's iterator: the ends it yields, in which states, and how they sit in the element's state-free
  enumeration `enum3`.  The memo only removes the zero-iteration end `p` of a repeat entered at `p`, and only
  when the entry `(id, p)` is there:
     free element     yields `enum3 e p`                                          (`elem_free`)
     repeat, no entry yields `enum3 e p ++ (a part of it again)`, writes `(id, p)` (`rep0_yields`,
     repeat, entry    yields `enum3 e p` without its last element `p`              `elem_rep0`)
-/
import RxModel.Props.Clean3
import RxModel.Proofs.Clean3SearchLemmas
namespace Rx.Memo
open Rx Rx.SearchComplete
open Rx.C08 (noEmptyAtoms noEmptyAtomsL clsCanon clsCanonL)

def HistOnly (I : St → Prop) : Prop := ∀ st st', st'.hist = st.hist → I st → I st'

theorem setPanic_hist (st : St) (c : Nat) : (st.setPanic c).hist = st.hist := by
  unfold St.setPanic; split <;> rfl

abbrev InP (ctx : Ctx) : Nat → Prop := fun p => p ≤ ctx.len

/-- the shape of Spec/Enum3 (or of Spec/Enum2, which the bodies of its general repeats have) on well-formed trees, as
    a class for the induction over the tree: entered inside the input, so the bodies of repeats terminate; its general
    greedy repeats have `min ≥ 1` and do not write the memo.  Nothing else of the fragment is needed. -/
theorem satEnv_hist (ctx : Ctx) {I : St → Prop} (hI : HistOnly I) :
    SatEnv ctx False (InP ctx) I (fun o => (shape3 o = true ∨ shape2 o = true) ∧ wfOp o = true)
      (fun os => (shape3L os = true ∨ shape2L os = true) ∧ wfOps os = true) where
  down := down_shape3.and down_wfOp
  clear := fun st _ _ h => hI st _ rfl h
  restore := fun _ st' _ h => hI st' _ rfl h
  setEnd0 := fun st _ h => hI st _ rfl h
  up := fun _ _ _ _ h => h
  pos := fun ho p st hp => (sem_bounds_op ctx _ ho.2 p hp st).mono (fun _ h => h.2)
  pull := fun _ C => C.pullOK (fun h => h.elim)
  mode := .inr ⟨fun _ h => h.2, fun _ h => h⟩
  capture := fun {g c} _ => by
    refine ⟨fun p st h => hI st _ ?_ h, fun p n st h => hI st _ ?_ h⟩
    · unfold captureEntry
      split
      · split
        · exact setPanic_hist _ _
        · rfl
      · rfl
    · unfold captureWrite
      simp only
      split <;> rfl
  hist := fun ⟨hs, _⟩ => by
    rcases hs with hs | hs
    · simp [shape3] at hs
    · simp [shape2] at hs
  unamb := fun _ => .inl (fun st h => hI st _ (setPanic_hist _ _) h)
  bref := fun _ st h _ => hI st _ (setPanic_hist _ _) h

theorem sem_hinv_shape (ctx : Ctx) {I : St → Prop} (hI : HistOnly I) (op : Op)
    (hs : shape3 op = true ∨ shape2 op = true) (hwf : wfOp op = true) : GenInv (InP ctx) I (sem ctx op) :=
  fun p st hp h => (sem_sat (satEnv_hist ctx hI) op ⟨hs, hwf⟩ p st hp h).inv

theorem sem_hinv_any (env : Env) (ctx : Ctx) (hIn : InputOK env ctx) {I : St → Prop} (hI : HistOnly I) :
    (bs : List Op) → cleanAll3 env ctx.caseBlind ctx.multiLine bs = true → wfOps bs = true →
    noEmptyAtomsL bs = true → clsCanonL bs → GenInv (InP ctx) I (choiceGen (semL ctx bs)) :=
  fun bs hc hwf _ _ p st hp h =>
    (sem_sat_choice (satEnv_hist ctx hI) bs ⟨.inl (shape3_of_cleanAll3 env _ _ bs hc), hwf⟩ p st hp h).inv

theorem sem_hinv_seq (env : Env) (ctx : Ctx) (hIn : InputOK env ctx) {I : St → Prop} (hI : HistOnly I) :
    (ops : List Op) → ∀ top, cleanSeq3 env ctx.caseBlind ctx.multiLine top ops = true → wfOps ops = true →
    noEmptyAtomsL ops = true → clsCanonL ops → GenInv (InP ctx) I (seqGo (semL ctx ops)) :=
  fun ops top hc hwf _ _ p st hp h =>
    (sem_sat_seq (satEnv_hist ctx hI) ops ⟨.inl ((shape3_of_clean3 env _ _).seq hc), hwf⟩ p st hp h).inv

theorem memPair_cons (h : List (Nat × Nat)) (a b id p : Nat) :
    memPair ((a, b) :: h) id p = ((a == id && b == p) || memPair h id p) := rfl

theorem rep0_self (ctx : Ctx) (id : Nat) (c : Op) (mx p : Nat) : OpR ctx (.rep id c 0 mx true) p p := by
  simp only [OpR]; exact ⟨0, Nat.le_refl _, Nat.zero_le _, .zero p⟩

theorem rep0Id_self (ctx : Ctx) {o : Op} {id : Nat} (h : rep0Id o = some id) (p : Nat) : OpR ctx o p p := by
  cases o with
  | rep id' c mn mx g =>
    simp only [rep0Id] at h
    split at h
    · rename_i hc
      simp only [Bool.and_eq_true, beq_iff_eq] at hc
      obtain ⟨rfl, rfl⟩ := hc
      exact rep0_self ctx id' c mx p
    · cases h
  | _ => simp [rep0Id] at h

theorem rep0B_cases (env : Env) (ctx : Ctx) (o : Op) (h : rep0B env ctx.caseBlind ctx.multiLine o = true)
    (hw : wfOp o = true) (hn : noEmptyAtoms o = true) (hcc : clsCanon o) :
    ∃ id c mx, o = .rep id c 0 mx true ∧ Clean3.Rep0OK env ctx c mx := by
  cases o with
  | rep id c mn mx g =>
    simp only [rep0B, Bool.and_eq_true, beq_iff_eq] at h
    obtain ⟨⟨⟨⟨rfl, rfl⟩, h1⟩, h2⟩, h3⟩ := h
    simp only [wfOp, Bool.and_eq_true, decide_eq_true_eq] at hw
    simp only [noEmptyAtoms] at hn
    simp only [clsCanon] at hcc
    exact ⟨id, c, mx, rfl, ⟨hw.2, h1, h2, h3, hw.1.1, hn, hcc⟩⟩
  | _ => simp [rep0B] at h

structure SeqM (env : Env) (ctx : Ctx) (R : List Op) : Prop where
  clean : cleanSeq3m env ctx.caseBlind ctx.multiLine R = true
  wf : wfOps R = true
  ne : noEmptyAtomsL R = true
  can : clsCanonL R

theorem SeqM.cons {env : Env} {ctx : Ctx} {e : Op} {os : List Op} (h : SeqM env ctx (e :: os)) :
    ((cleanOp3F env ctx.caseBlind ctx.multiLine true os e = true ∧ wfOp e = true ∧ noEmptyAtoms e = true ∧
        clsCanon e) ∨
      ∃ id c mx, e = .rep id c 0 mx true ∧ Clean3.Rep0OK env ctx c mx) ∧ SeqM env ctx os := by
  obtain ⟨hc, hw, hn, hcc⟩ := h
  simp only [cleanSeq3m, elemOK, Bool.and_eq_true, Bool.or_eq_true] at hc
  simp only [wfOps, Bool.and_eq_true] at hw
  simp only [noEmptyAtomsL, Bool.and_eq_true] at hn
  simp only [clsCanonL] at hcc
  refine ⟨?_, hc.2, hw.2, hn.2, hcc.2⟩
  rcases hc.1 with hfree | hrep
  · exact .inl ⟨hfree, hw.1, hn.1, hcc.1⟩
  · exact .inr (rep0B_cases env ctx e hrep hw.1 hn.1 hcc.1)

theorem SeqM.of_prog {env : Env} {ctx : Ctx} {l : List Op}
    (hc : cleanProg3m env ctx.caseBlind ctx.multiLine (.seq l) = true) (hw : wfOp (.seq l) = true)
    (hn : noEmptyAtoms (.seq l) = true) (hcc : clsCanon (.seq l)) :
    SeqM env ctx l ∧ (rep0Ids l).Nodup ∧ l ≠ [] := by
  simp only [cleanProg3m, Bool.and_eq_true, decide_eq_true_eq] at hc
  simp only [wfOp, Bool.and_eq_true, Bool.not_eq_true', List.isEmpty_eq_false_iff] at hw
  simp only [noEmptyAtoms] at hn
  simp only [clsCanon] at hcc
  exact ⟨⟨hc.1, hw.2, hn, hcc⟩, hc.2, hw.1⟩

theorem rep0_enum_sound (env : Env) (ctx : Ctx) (hIn : InputOK env ctx) (id : Nat) (c : Op) (mx : Nat)
    (h : Clean3.Rep0OK env ctx c mx) (p : Nat) (hp : p ≤ ctx.len) (n : Nat)
    (hn : n ∈ enum3 ctx (.rep id c 0 mx true) p) : OpR ctx (.rep id c 0 mx true) p n ∧ n ≤ ctx.len := by
  have hex := Clean3.rep0_fresh env ctx hIn id c mx h p hp {} rfl
  rw [← Clean3.rep0_first_pass env ctx hIn id c mx h p hp] at hn
  exact ex_sound ctx _ (h.wfRep id) hp hex n (List.mem_append_left _ hn)

theorem enumSeq3m_sound (env : Env) (ctx : Ctx) (hIn : InputOK env ctx) : ∀ (R : List Op), SeqM env ctx R →
    ∀ p q, p ≤ ctx.len → q ∈ enumSeq3 ctx R p → OpRSeq ctx R p q := by
  intro R
  induction R with
  | nil =>
    intro _ p q _ h
    simp only [enumSeq3, List.mem_singleton] at h
    simp only [OpRSeq]; exact h
  | cons e os ih =>
    intro hR p q hp h
    obtain ⟨he, hos⟩ := hR.cons
    simp only [enumSeq3, List.mem_flatMap] at h
    obtain ⟨n, hmem, hq⟩ := h
    have hb : OpR ctx e p n ∧ n ≤ ctx.len := by
      rcases he with ⟨hfree, hw, hn, hcc⟩ | ⟨id, c, mx, rfl, hr⟩
      · have h1 := enum3_sound_op env ctx hIn e true os hfree hw hn hcc hp hmem
        exact ⟨h1, (OpR_bounds_op ctx e p n hp h1).2⟩
      · exact rep0_enum_sound env ctx hIn id c mx hr p hp n hmem
    simp only [OpRSeq]
    exact ⟨n, hb.1, ih hos n q hb.2 hq⟩

theorem dead_nil (env : Env) (ctx : Ctx) (hIn : InputOK env ctx) {R : List Op} (hR : SeqM env ctx R)
    (p : Nat) (hp : p ≤ ctx.len) (hd : ¬ Live ctx R p) : enumSeq3 ctx R p = [] := by
  cases hl : enumSeq3 ctx R p with
  | nil => rfl
  | cons a t =>
    exact absurd ⟨a, enumSeq3m_sound env ctx hIn R hR p a hp (by rw [hl]; exact List.mem_cons_self)⟩ hd

/-- the iterator `s` of the element `e`, entered at `p` and followed by `os`: it yields exactly the list `L`
    of ends of `e`, and exposes only states satisfying `I'` as long as it is resumed with such states;
    if the followers are live from some end of `e`, they are live from a member of `L`; and the first end
    of the whole from `p` is reached through `L` as it is through the enumeration of `e` -/
structure Elem (ctx : Ctx) (e : Op) (os : List Op) (p : Nat) (I' : St → Prop) (s : Step) (L : List Nat) :
    Prop where
  ex : Step.Ex s L
  inv : s.Inv I'
  sound : ∀ n ∈ L, OpR ctx e p n ∧ n ≤ ctx.len
  live : ∀ m, OpR ctx e p m → Live ctx os m → ∃ n ∈ L, Live ctx os n
  head : (enumSeq3 ctx (e :: os) p).head? = (L.flatMap (enumSeq3 ctx os)).head?

theorem Elem.nil {ctx : Ctx} {e : Op} {os : List Op} {p : Nat} {I' : St → Prop} {st' : St} {L : List Nat}
    (h : Elem ctx e os p I' (.nil st') L) : I' st' ∧ ∀ m, OpR ctx e p m → ¬ Live ctx os m := by
  obtain ⟨hex, hinv, _, hlive, _⟩ := h
  cases hex
  refine ⟨hinv.nil_inv, fun m hm hl => ?_⟩
  obtain ⟨n, hn, _⟩ := hlive m hm hl
  cases hn

theorem Elem.cons {ctx : Ctx} {e : Op} {os : List Op} {p : Nat} {I' : St → Prop} {n : Nat} {st1 : St}
    {r : St → Step} {L : List Nat} (h : Elem ctx e os p I' (.cons n st1 r) L) :
    I' st1 ∧ OpR ctx e p n ∧ n ≤ ctx.len ∧
    (∀ m, (enumSeq3 ctx os n).head? = some m → (enumSeq3 ctx (e :: os) p).head? = some m) ∧
    ∃ L', ∀ st2, I' st2 → ¬ Live ctx os n → enumSeq3 ctx os n = [] → Elem ctx e os p I' (r st2) L' := by
  obtain ⟨hex, hinv, hsound, hlive, hhead⟩ := h
  cases hex with
  | cons _ _ _ L' hex' =>
    obtain ⟨h1, h2⟩ := hsound n List.mem_cons_self
    refine ⟨hinv.head, h1, h2, fun m hm => ?_, L', fun st2 h2 hd hnil => ?_⟩
    · rw [hhead, List.flatMap_cons, List.head?_append, hm]
      rfl
    · refine ⟨hex' st2 trivial, hinv.tail st2 h2, fun k hk => hsound k (List.mem_cons_of_mem _ hk),
        fun m hm hl => ?_, ?_⟩
      · obtain ⟨k, hk, hkl⟩ := hlive m hm hl
        rcases List.mem_cons.1 hk with rfl | hk
        · exact absurd hkl hd
        · exact ⟨k, hk, hkl⟩
      · rw [hhead, List.flatMap_cons, hnil, List.nil_append]

theorem head?_flatMap_append_sub {f : Nat → List Nat} {A B : List Nat} (hB : ∀ x ∈ B, x ∈ A) :
    ((A ++ B).flatMap f).head? = (A.flatMap f).head? := by
  rw [List.flatMap_append, List.head?_append]
  cases hA : A.flatMap f with
  | cons a t => rfl
  | nil =>
    have hB' : B.flatMap f = [] :=
      List.flatMap_eq_nil_iff.2 (fun x hx => List.flatMap_eq_nil_iff.1 hA x (hB x hx))
    rw [hB']
    rfl

theorem elem_free (env : Env) (ctx : Ctx) (hIn : InputOK env ctx) (e : Op) (os : List Op)
    (hc : cleanOp3F env ctx.caseBlind ctx.multiLine true os e = true)
    (hw : wfOp e = true) (hn : noEmptyAtoms e = true) (hcc : clsCanon e) (hos : SeqM env ctx os)
    {I' : St → Prop} (hI' : HistOnly I') (p : Nat) (hp : p ≤ ctx.len) (st : St) (hst : I' st) :
    Elem ctx e os p I' (sem ctx e p st) (enum3 ctx e p) := by
  have hex := sem_ex3_op env ctx hIn e true os hc hw hn hcc p hp st
  have hs := (shape3_of_clean3 env _ _).op hc
  refine ⟨hex, sem_hinv_shape ctx hI' e (.inl hs) hw p st hp hst, ex_sound ctx e hw hp hex, ?_, by rw [enumSeq3]⟩
  -- the element's list has the end a match of the whole goes through — or, before `EndProgram`, some end
  have hE : ElemOK ctx true os e := (frag4_comp env ctx hIn).op (top := true) (F := os)
    ⟨⟨⟨(clean4_of_clean3 env _ _).op hc, hw, hos.wf⟩, hn, hos.ne⟩, hcc, hos.can⟩
  rintro m hm ⟨q, hq⟩
  obtain ⟨m', h1, _, h3⟩ := hE p m q hp hm hq
  rw [enum4_eq_enum3_shape ctx e hs] at h1
  rcases h3 with rfl | ⟨_, rfl⟩
  · exact ⟨m', h1, q, hq⟩
  · exact ⟨m', h1, m', by simp only [OpRSeq, OpR]; exact ⟨m', rfl, rfl⟩⟩

theorem rep0_child {env : Env} {ctx : Ctx} {c : Op} {mx : Nat}
    (h : Clean3.Rep0OK env ctx c mx) {I : St → Prop} (hI : HistOnly I) : ChildOK (InP ctx) I (sem ctx c) :=
  childOK_wf ctx c h.wf
    (sem_hinv_shape ctx hI c (.inr ((shape_of_clean2 env _ _).op h.clean)) h.wf)

theorem rep0_yields (env : Env) (ctx : Ctx) (hIn : InputOK env ctx) (id : Nat) (c : Op) (mx : Nat)
    (h : Clean3.Rep0OK env ctx c mx) (p : Nat) (hp : p ≤ ctx.len) (st : St) :
    ∃ L, Step.Ex (sem ctx (.rep id c 0 mx true) p st) L ∧
      (∀ n ∈ L, n ∈ enum3 ctx (.rep id c 0 mx true) p) ∧
      (∀ n ∈ enum3 ctx (.rep id c 0 mx true) p, n ∈ L ∨ (n = p ∧ memPair st.hist id p = true)) ∧
      ∀ f : Nat → List Nat, (memPair st.hist id p = true → f p = []) →
        (L.flatMap f).head? = ((enum3 ctx (.rep id c 0 mx true) p).flatMap f).head? := by
  have hfirst := Clean3.rep0_first_pass env ctx hIn id c mx h p hp
  cases hm : memPair st.hist id p with
  | true =>
    have hlist : enum3 ctx (.rep id c 0 mx true) p =
        (enum3 ctx c p).flatMap (fun q => greedyIter (enum3 ctx c) 0 (Nat.min mx (ctx.len + 1 - p) - 1) 0 q) ++ [p] := by
      rw [← hfirst]
      have hpos : 0 < Nat.min mx (ctx.len + 1 - p) := by
        show 0 < min mx (ctx.len + 1 - p)
        have := h.mx0
        rw [Nat.min_def]; split <;> omega
      obtain ⟨b, hb⟩ : ∃ b, Nat.min mx (ctx.len + 1 - p) = b + 1 := ⟨_, (Nat.succ_pred_eq_of_pos hpos).symm⟩
      rw [hb]
      simp only [Nat.add_sub_cancel, greedyIter, Nat.zero_le, if_true]
      have hdet := (h.body hIn).det p hp
      cases hl : enum3 ctx c p with
      | nil => rfl
      | cons q t =>
        rw [hl] at hdet
        have ht : t = [] := by
          cases t with
          | nil => rfl
          | cons a b => simp at hdet
        subst ht
        simp only [List.flatMap_cons, List.flatMap_nil, List.append_nil]
        rw [greedyIter_k0 (enum3 ctx c) b 1 0 q]
    refine ⟨_, Clean3.rep0_hit env ctx hIn id c mx h p hp st hm, fun n hn => ?_, fun n hn => ?_, fun f hf => ?_⟩
    · rw [hlist]; exact List.mem_append_left _ hn
    · rw [hlist, List.mem_append, List.mem_singleton] at hn
      exact hn.imp_right (fun he => ⟨he, rfl⟩)
    · rw [hlist, List.flatMap_append, List.flatMap_singleton, hf rfl, List.append_nil]
  | false =>
    have hex : Step.Ex (sem ctx (.rep id c 0 mx true) p st) _ := Clean3.rep0_fresh env ctx hIn id c mx h p hp st hm
    have hsub : ∀ x ∈ greedyIter (enum3 ctx c) 0 (Nat.min mx (ctx.len + 1 - p) - 1) 0 p,
        x ∈ enum3 ctx (.rep id c 0 mx true) p := fun x hx =>
      Clean3.rep0_complete env ctx hIn id c mx h p x hp
        (ex_sound ctx _ (h.wfRep id) hp hex x (List.mem_append_right _ hx)).1
    rw [hfirst] at hex
    refine ⟨_, hex, fun n hn => ?_, fun n hn => .inl (List.mem_append_left _ hn), fun f _ => ?_⟩
    · exact (List.mem_append.1 hn).elim (fun h => h) (hsub n)
    · exact head?_flatMap_append_sub hsub

theorem elem_rep0 (env : Env) (ctx : Ctx) (hIn : InputOK env ctx) (id : Nat) (c : Op) (mx : Nat) (os : List Op)
    (h : Clean3.Rep0OK env ctx c mx) (hos : SeqM env ctx os) {I : St → Prop} (hI : HistOnly I)
    (p : Nat) (hp : p ≤ ctx.len) (st : St) (hst : I st) (hadd : I { st with hist := (id, p) :: st.hist })
    (hdead : memPair st.hist id p = true → ¬ Live ctx os p) :
    ∃ L, Elem ctx (.rep id c 0 mx true) os p I (sem ctx (.rep id c 0 mx true) p st) L := by
  obtain ⟨L, hex, hsub, hsup, hhead⟩ := rep0_yields env ctx hIn id c mx h p hp st
  refine ⟨L, hex, ?_, fun n hn => rep0_enum_sound env ctx hIn id c mx h p hp n (hsub n hn), fun m hm hl => ?_, ?_⟩
  · simp only [sem, if_true]
    exact repGreedyGen_inv (rep0_child h hI) ctx id 0 mx p st hp hst (fun _ _ => hadd)
  · rcases hsup m (Clean3.rep0_complete env ctx hIn id c mx h p m hp hm) with hmem | ⟨rfl, hmp⟩
    · exact ⟨m, hmem, hl⟩
    · exact absurd hl (hdead hmp)
  · rw [enumSeq3]
    exact (hhead _ (fun hmp => dead_nil env ctx hIn hos p hp (hdead hmp))).symm

structure TreeM (env : Env) (ctx : Ctx) (l : List Op) : Prop where
  inp : InputOK env ctx
  clean : cleanProg3m env ctx.caseBlind ctx.multiLine (.seq l) = true
  wf : wfOp (.seq l) = true
  ne : noEmptyAtoms (.seq l) = true
  can : clsCanon (.seq l)
  quiet : Quiet ctx (.seq l)

/-- a precondition tree does not write the memo: no skippable repeat at its root (its body is one character) -/
def preMemoFree : Op → Bool
  | .rep _ _ mn _ g => g && decide (1 ≤ mn)
  | _ => true

/-- `b`: however `numberPres` renumbers the recorded operation.  Of the operations `add_precondition` records only
    a general repeat with minimum 1 over one character could fail the test, and in the fragment it is greedy. -/
theorem preMemoFree_of_preAt {n t : Op} (h : PreAt n t) (hs : shape3 n = true ∨ shape2 n = true) (b : Nat) :
    preMemoFree (numberReps t b).1 = true := by
  cases h with
  | leaf hl =>
    rw [ApiL.numberReps_leaf n hl]
    rcases ApiL.leaf_cases hl with ⟨_, rfl⟩ | ⟨_, rfl⟩ <;> rfl
  | @self c mx g hp hac =>
    rcases repeatParts_cases hp with ⟨id, rfl⟩ | ⟨len, rfl, _⟩ | ⟨len, rfl, _⟩ | ⟨rfl, _⟩
    · rcases hs with hs | hs
      · simp only [shape3, Bool.and_eq_true] at hs
        simp only [numberReps, preMemoFree, hs.1.1, Bool.true_and, decide_eq_true_eq]
        exact Nat.le_refl 1
      · simp [shape2] at hs
    · simp only [numberReps, preMemoFree]
    · simp only [numberReps, preMemoFree]
    · simp only [numberReps, preMemoFree]
  | @fixed c mn mx g hp hac h2 =>
    simp only [numberReps, preMemoFree, Bool.true_and, decide_eq_true_eq]
    exact Nat.le_trans (by decide : 1 ≤ 2) h2

/-- at EVERY position (a fixed-position precondition may be tested beyond the input) -/
theorem pre_hinv (ctx : Ctx) {I : St → Prop} (hI : HistOnly I) (o : Op) (hs : C06.simplePre o = true)
    (hm : preMemoFree o = true) : GenInv (fun _ => True) I (sem ctx o) :=
  fun p st _ h => (C06.simplePre_sat (fun st _ h => hI st _ rfl h) ctx o hs (fun id c mx ho => by
    subst ho; simp [preMemoFree] at hm) p st h).inv

structure PreM (ctx : Ctx) (q : Pre) : Prop where
  comp : CompleteAt ctx q.op
  quiet : QuietAll ctx q.op
  simple : C06.simplePre q.op = true
  free : preMemoFree q.op = true

theorem preHolds_hinv (ctx : Ctx) {I : St → Prop} (hI : HistOnly I) (q : Pre) (hq : PreM ctx q) (j : Nat) (st : St)
    (h : I st) : I (preHolds ctx q.op j st).2 :=
  preHolds_keeps (pre_hinv ctx hI q.op hq.simple hq.free j st trivial h)
    (fun _ => hI st _ (setPanic_hist _ _) h)

theorem rep0B_body (env : Env) (cb ml : Bool) (o : Op) (h : rep0B env cb ml o = true) :
    ∃ id c mx, o = .rep id c 0 mx true ∧ shape2 c = true := by
  cases o with
  | rep id c mn mx g =>
    simp only [rep0B, Bool.and_eq_true, beq_iff_eq] at h
    obtain ⟨⟨⟨⟨rfl, rfl⟩, h1⟩, _⟩, _⟩ := h
    exact ⟨id, c, mx, rfl, (shape_of_clean2 env cb ml).op h1⟩
  | _ => simp [rep0B] at h

theorem noBackref3m (env : Env) (cb ml : Bool) : ∀ (l : List Op), cleanSeq3m env cb ml l = true →
    hasBackrefL l = false
  | [], _ => rfl
  | o :: os, h => by
    simp only [cleanSeq3m, elemOK, Bool.and_eq_true, Bool.or_eq_true] at h
    simp only [hasBackrefL, Bool.or_eq_false_iff]
    refine ⟨?_, noBackref3m env cb ml os h.2⟩
    rcases h.1 with h1 | h1
    · exact (clean3_noBackref env cb ml).op h1
    · obtain ⟨id, c, mx, rfl, hs⟩ := rep0B_body env cb ml o h1
      simp only [hasBackref]; exact shape2_noBackref.op' c hs

theorem smallMin3m (env : Env) (cb ml : Bool) (n : Nat) : ∀ (l : List Op), cleanSeq3m env cb ml l = true →
    noEmptyAtomsL l = true → C06.smallMinL n l = true
  | [], _, _ => rfl
  | o :: os, h, hne => by
    simp only [cleanSeq3m, elemOK, Bool.and_eq_true, Bool.or_eq_true] at h
    simp only [noEmptyAtomsL, Bool.and_eq_true] at hne
    simp only [C06.smallMinL, Bool.and_eq_true]
    refine ⟨?_, smallMin3m env cb ml n os h.2 hne.2⟩
    rcases h.1 with h1 | h1
    · exact (clean3_smallMin env cb ml n).op ⟨h1, hne.1⟩
    · obtain ⟨id, c, mx, rfl, hs⟩ := rep0B_body env cb ml o h1
      have hnc : noEmptyAtoms c = true := by simpa only [noEmptyAtoms] using hne.1
      simp only [C06.smallMin, Bool.true_or, Bool.and_true]
      exact (shape2_smallMin n).op' c ⟨hs, hnc⟩

/-- every recorded operation sits at a node of the fragment of Spec/Enum3 or below -/
theorem addPreSeq_node3m (env : Env) (cb ml mlf : Bool) : ∀ (l : List Op), cleanSeq3m env cb ml l = true →
    ∀ fp mp, ∀ q ∈ addPreSeq mlf l fp mp, ∃ n, (shape3 n = true ∨ shape2 n = true) ∧ PreAt n q.op
  | [], _, fp, mp, q, hq => by simp only [addPreSeq] at hq; cases hq
  | o :: os, hc, fp, mp, q, hq => by
    simp only [cleanSeq3m, elemOK, Bool.and_eq_true, Bool.or_eq_true] at hc
    simp only [addPreSeq, List.mem_append] at hq
    rcases hq with hq | hq
    · rcases hc.1 with h1 | h1
      · exact addPre_node down_shape3 mlf (.inl ((shape3_of_clean3 env cb ml).op h1)) _ mp hq
      · obtain ⟨id, c, mx, rfl, _⟩ := rep0B_body env cb ml o h1
        -- `add_precondition` records nothing for a skippable repeat
        simp [addPre] at hq
    · exact addPreSeq_node3m env cb ml mlf os hc.2 _ _ q hq

theorem program_facts (env : Env) (pat : List Nat) (op : Op) (mp : Nat) (fl : CFlags)
    (lower : Nat → Nat) (input : List Nat) (hI : InputOKFor env fl lower input) (l : List Op)
    (hop : (mkProgram pat op mp fl false).op = .seq l)
    (hc : cleanProg3m env fl.caseBlind fl.multiLine (.seq l) = true)
    (hwf : wfOp op = true) (hne : noEmptyAtoms op = true) (hcan : clsCanonB (.seq l) = true)
    (hlen : input.length < usizeMax) :
    TreeM env ((mkProgram pat op mp fl false).ctx lower input) l ∧
    SearchFacts ((mkProgram pat op mp fl false).ctx lower input) (mkProgram pat op mp fl false) ∧
    (∀ q ∈ (mkProgram pat op mp fl false).pres, PreM ((mkProgram pat op mp fl false).ctx lower input) q) := by
  have hnum := MkProgram.op pat op mp fl false
  have hbr := MkProgram.hasBackrefs pat op mp fl false
  have hT : (numberReps op 0).1 = .seq l := by rw [← hnum]; exact hop
  have hwT : wfOp (.seq l) = true := by rw [← hT, WF.wfOp_numberReps]; exact hwf
  have hnT : noEmptyAtoms (.seq l) = true := by rw [← hT, ApiL.noEmptyAtoms_numberReps]; exact hne
  have hc' := hc
  simp only [cleanProg3m, Bool.and_eq_true, decide_eq_true_eq] at hc'
  have hnbT : hasBackref (.seq l) = false := by simp only [hasBackref]; exact noBackref3m env _ _ l hc'.1
  have hsmT : C06.smallMin input.length (.seq l) = true := by
    simp only [C06.smallMin]
    exact smallMin3m env _ _ _ l hc'.1 (by simpa only [noEmptyAtoms] using hnT)
  have hIn := hI.ctx pat op mp false
  refine ⟨⟨hIn, by rw [MkProgram.ctx]; exact hc, hwT, hnT, clsCanon_of_B _ hcan,
    quiet_of_wf _ hbr _ hnbT hwT hsmT⟩,
    mkProgram_searchFacts pat op mp fl false lower input hwf hne hlen, ?_⟩
  intro q hq
  have hps := ApiL.mkProgram_pres_simple pat op mp fl false hwf hne q hq
  have hfree : preMemoFree q.op = true := by
    obtain ⟨_, _, _, hpres⟩ := MkProgram.shortcuts pat op mp fl false
    rcases hpres with he | ⟨n, he⟩
    · rw [he] at hq; cases hq
    · rw [he, hT] at hq
      obtain ⟨p, hp, b, rfl⟩ := mem_numberPres _ _ _ hq
      simp only [addPre] at hp
      obtain ⟨n, hn, hat⟩ := addPreSeq_node3m env _ _ fl.multiLine l hc'.1 none 0 p hp
      exact preMemoFree_of_preAt hat hn b
  exact ⟨mkProgram_pres_completeAt pat op mp fl false _ hwf hne q hq,
    mkProgram_pres_quietAll pat op mp fl false _ hwf hne q hq, hps, hfree⟩

end Rx.Memo
