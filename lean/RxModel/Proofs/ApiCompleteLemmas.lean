/-
  Proofs/ApiCompleteLemmas — `sem_wfinv`: a generic state invariant of the engine of a well-formed tree (every
  invariant kept by the primitive writes; the capture writes only if the tree has a capture node), with the instances
  `parenCount ≥ 1`, `parenCount = 1`; the state-free span sequence with the head of `enum2` built in; `OpR_ctx_congr`:
  the language does not depend on the engine-only fields of the context.
-/
import RxModel.Proofs.FirstHit
import RxModel.Spec.Enum2
import RxModel.Proofs.InvLemmas
import RxModel.Props.C04Defs
import RxModel.Spec.Repl
namespace Rx.ApiComplete
open Rx Rx.SearchComplete Rx.Spec
open Rx.C08 (noEmptyAtoms)

/-- the two state writes of a capture node keep `I` -/
structure CapOK (I : St → Prop) (ctx : Ctx) : Prop where
  pre : ∀ g p st, I st → I (if ctx.hasBackrefs then
      (if g ≥ st.startBr.length then st.setPanic panicCaptureIndex
       else { st with startBr := setIn st.startBr g (some p) }) else st)
  write : ∀ g p n st, I st → I (captureWrite ctx g p n st)

theorem down_ifCapNode (P : Prop) : Down (fun o => hasCapNode o = true → P) (fun l => hasCapNodeL l = true → P) where
  capture := fun h _ => h (by simp only [hasCapNode])
  choice := fun h hc => h (by simpa only [hasCapNode] using hc)
  seq := fun h hc => h (by simpa only [hasCapNode] using hc)
  rpt := fun e h hc => h (by
    rcases repeatParts_cases e with ⟨_, rfl⟩ | ⟨_, rfl, _⟩ | ⟨_, rfl, _⟩ | ⟨rfl, _⟩ <;>
      simpa only [hasCapNode] using hc)
  head := fun h hc => h (by simp only [hasCapNodeL, hc, Bool.true_or])
  tail := fun h hc => h (by simp only [hasCapNodeL, hc, Bool.or_true])

theorem satEnv_wf {I : St → Prop} (W : Writes I) (hp : ∀ st c, I st → I (st.setPanic c)) (ctx : Ctx) :
    SatEnv ctx False (fun p => p ≤ ctx.len) I (fun o => wfOp o = true ∧ (hasCapNode o = true → CapOK I ctx))
      (fun os => wfOps os = true ∧ (hasCapNodeL os = true → CapOK I ctx)) where
  down := down_wfOp.and (down_ifCapNode _)
  clear := fun st p _ h => W.clear st p h
  restore := W.restore
  setEnd0 := W.setEnd0
  up := fun _ _ _ _ h => h
  pos := fun ho p st hp => (sem_bounds_op ctx _ ho.1 p hp st).mono (fun _ hn => hn.2)
  pull := fun _ C => C.pullOK (fun h => h.elim)
  mode := .inr ⟨fun _ h => h.1, fun _ h => h⟩
  capture := fun {g c} h =>
    have C := h.2 (by simp only [hasCapNode])
    ⟨fun p st hst => C.pre g p st hst, fun p n st hst => C.write g p n st hst⟩
  hist := fun _ _ st _ hst => W.hist st _ hst
  unamb := fun _ => .inl W.div
  bref := fun _ st h _ => hp st _ h

theorem sem_wfinv {I : St → Prop} (W : Writes I) (hp : ∀ st c, I st → I (st.setPanic c)) (ctx : Ctx)
    (op : Op) (hwf : wfOp op = true) (hc : hasCapNode op = true → CapOK I ctx) :
    GenInv (fun p => p ≤ ctx.len) I (sem ctx op) :=
  fun p st hq h => (sem_sat (satEnv_wf W hp ctx) op ⟨hwf, hc⟩ p st hq h).inv

theorem sem_wfinv_choice {I : St → Prop} (W : Writes I) (hp : ∀ st c, I st → I (st.setPanic c)) (ctx : Ctx) :
    (bs : List Op) → wfOps bs = true → (hasCapNodeL bs = true → CapOK I ctx) →
    GenInv (fun p => p ≤ ctx.len) I (choiceGen (semL ctx bs)) :=
  fun bs hwf hc p st hq h => (sem_sat_choice (satEnv_wf W hp ctx) bs ⟨hwf, hc⟩ p st hq h).inv

theorem sem_wfinv_seq {I : St → Prop} (W : Writes I) (hp : ∀ st c, I st → I (st.setPanic c)) (ctx : Ctx) :
    (ops : List Op) → wfOps ops = true → (hasCapNodeL ops = true → CapOK I ctx) →
    GenInv (fun p => p ≤ ctx.len) I (seqGo (semL ctx ops)) :=
  fun ops hwf hc p st hq h => (sem_sat_seq (satEnv_wf W hp ctx) ops ⟨hwf, hc⟩ p st hq h).inv

theorem writes_pc (P : Nat → Prop) : Writes (fun st => P st.cap.parenCount) where
  clear := fun _ _ h => h
  div := fun st h => by
    unfold St.setPanic
    split <;> exact h
  hist := fun _ _ h => h
  restore := fun _ _ h _ => h
  setEnd0 := fun _ _ h => h

theorem setPanic_pc (P : Nat → Prop) (st : St) (c : Nat) (h : P st.cap.parenCount) :
    P (st.setPanic c).cap.parenCount := by
  unfold St.setPanic
  split <;> exact h

theorem capOK_ge1 (ctx : Ctx) : CapOK (fun st => 1 ≤ st.cap.parenCount) ctx where
  pre := by
    intro g p st h
    split
    · split
      · exact setPanic_pc (fun n => 1 ≤ n) st _ h
      · exact h
    · exact h
  write := by
    intro g p n st h
    unfold captureWrite
    simp only
    have key : 1 ≤ (((if g ≥ st.cap.parenCount then { st.cap with parenCount := g + 1 } else st.cap).setStart
        g p).setEnd g n).parenCount := by
      simp only [Cap.setStart, Cap.setEnd]
      split
      · exact Nat.le_add_left 1 g
      · exact h
    split
    · exact key
    · exact key

theorem matchAt_pc (ctx : Ctx) (op : Op) (hwf : wfOp op = true) (j : Nat) (hj : j ≤ ctx.len)
    (st st' : St) (h : matchAt ctx op j st = (true, st')) :
    1 ≤ st'.cap.parenCount ∧ (hasCapNode op = false → st'.cap.parenCount = 1) := by
  obtain ⟨n, st1, r, heq, rfl⟩ := matchAt_hit h
  have h1 : (matchStart ctx j st).cap.parenCount = 1 := by
    unfold matchStart
    simp only
    split <;> rfl
  generalize matchStart ctx j st = s0 at heq h1
  have i1 := sem_wfinv (writes_pc (fun n => 1 ≤ n)) (setPanic_pc (fun n => 1 ≤ n)) ctx op hwf (fun _ => capOK_ge1 ctx)
    j s0 hj (by show 1 ≤ s0.cap.parenCount; rw [h1]; exact Nat.le_refl 1)
  rw [heq] at i1
  refine ⟨i1.head, fun hnc => ?_⟩
  have i2 := sem_wfinv (writes_pc (fun n => n = 1)) (setPanic_pc (fun n => n = 1)) ctx op hwf
    (fun hc => by rw [hnc] at hc; cases hc) j s0 hj h1
  rw [heq] at i2
  exact i2.head

/-! The statements of Props/ApiComplete are written with the definitions below (`firstSpan`, `spansFrom`, and
    further down `grp0`, `Dep0`, `dollar0Only`, `replText`), which have the head of `enum2` built in; the scan
    layer (Proofs/ApiGenericLemmas) has the same definitions with the head as a parameter (`HeadFn`), and the
    other fragments state their theorems with those.  The two `spansFrom` are related by
    `ApiComplete.spansFrom_eq` (Props/ApiComplete); the others unfold to the same terms. -/

/-- the least start `≥ pos` (inside the input) from which the priority enumeration `enum2` is
    non-empty, paired with the head of that enumeration -/
def firstSpan (ctx : Ctx) (op : Op) (pos : Nat) : Option (Nat × Nat) :=
  firstFrom (fun j => (enum2 ctx op j).head?) (ctx.len + 1 - pos) pos

/-- search from `pos`, then from the end of each span (the shape of `C04.spansOf`, without states) -/
def spansFrom (ctx : Ctx) (op : Op) : (fuel : Nat) → (pos : Nat) → List (Nat × Nat)
  | 0, _ => []
  | f+1, pos =>
    if pos < ctx.len then
      match firstSpan ctx op pos with
      | some (a, b) => (a, b) :: spansFrom ctx op f b
      | none => []
    else []

/-- the groups as seen by a replacement string that only refers to the whole match -/
def grp0 (input : List Nat) (j n : Nat) : Nat → Option (List Nat) :=
  fun g => if g = 0 then some (slice input j n) else none

/-- the replacement string is well formed and its expansion depends on group 0 only
    (no `$N` with `N ≥ 1`); holds of every plain replacement, of `$0`, and is implied by the
    decidable `dollar0Only` -/
def Dep0 (mc : Nat) (repl : List Nat) : Prop :=
  ∀ grp grp' : Nat → Option (List Nat), grp 0 = grp' 0 →
    expandSpec mc grp repl = expandSpec mc grp' repl ∧ (expandSpec mc grp repl).isSome = true

/-- decidable: well formed, and every group reference is `$0` -/
def dollar0Only (mc : Nat) (repl : List Nat) : Bool :=
  match tokens mc (repl.length + 1) repl with
  | some ts => ts.all (fun t => match t with | .lit _ => true | .group n => n == 0)
  | none => false

theorem dep0_of_dollar0Only (mc : Nat) (repl : List Nat) (h : dollar0Only mc repl = true) : Dep0 mc repl := by
  intro grp grp' h0
  unfold dollar0Only at h
  unfold expandSpec
  cases ht : tokens mc (repl.length + 1) repl with
  | none => rw [ht] at h; cases h
  | some ts =>
    rw [ht] at h
    simp only [List.all_eq_true] at h
    refine ⟨?_, rfl⟩
    simp only [Option.map_some, Option.some.injEq]
    congr 1
    apply List.map_congr_left
    intro t htm
    have := h t htm
    cases t with
    | lit c => rfl
    | group n =>
      simp only [beq_iff_eq] at this
      subst this
      simp only [tokText, h0]


def replText (pr : Prog) (input repl : List Nat) (j n : Nat) : List Nat :=
  if pr.literal then repl else (expandSpec (pr.maxParens - 1) (grp0 input j n) repl).getD []


theorem ordered_mem (len : Nat) : ∀ (l : List (Nat × Nat)) (pos : Nat), C04.Ordered len pos l →
    ∀ x ∈ l, pos ≤ x.1 ∧ x.1 < x.2 ∧ x.2 ≤ len
  | [], _, _, x, hx => by cases hx
  | (a, b) :: rest, pos, ho, x, hx => by
    obtain ⟨h1, h2, h3, h4⟩ := ho
    rcases List.mem_cons.1 hx with rfl | hx
    · exact ⟨h1, h2, h3⟩
    · have := ordered_mem len rest b h4 x hx
      exact ⟨Nat.le_trans h1 (Nat.le_trans (Nat.le_of_lt h2) this.1), this.2.1, this.2.2⟩

theorem prefixMatch_congr (ctx ctx' : Ctx) (hcb : ctx.caseBlind = ctx'.caseBlind) (hlo : ctx.lower = ctx'.lower) :
    ∀ (cs xs : List Nat), prefixMatch ctx cs xs = prefixMatch ctx' cs xs
  | [], _ => rfl
  | _ :: _, [] => rfl
  | c :: cs, x :: xs => by
    simp only [prefixMatch, Ctx.eqAt, hcb, hlo, prefixMatch_congr ctx ctx' hcb hlo cs xs]

theorem OpR_ctx_congr_both (ctx ctx' : Ctx) (hin : ctx.input = ctx'.input) (hcb : ctx.caseBlind = ctx'.caseBlind)
    (hml : ctx.multiLine = ctx'.multiLine) (hlo : ctx.lower = ctx'.lower) :
    (∀ (op : Op) (p q : Nat), OpR ctx op p q ↔ OpR ctx' op p q) ∧
    ∀ (l : List Op), (∀ p q, OpRAny ctx l p q ↔ OpRAny ctx' l p q) ∧ ∀ p q, OpRSeq ctx l p q ↔ OpRSeq ctx' l p q :=
  -- equality of languages is respected by every constructor (`OpR.cong`): only the leaves read the context
  have h := (OpR.cong ctx ctx').diag Down.triv (fun o hl _ p q => by
    cases hl with
    | bol | eol => simp only [OpR, Ctx.len, hin, hml]
    | nothing | endProgram => simp only [OpR]
    | atom cs => simp only [OpR, Ctx.len, hin, prefixMatch_congr ctx ctx' hcb hlo]
    | cls rs => simp only [OpR, hin]
    | backref g => simp only [OpR, Ctx.len, hin])
  ⟨fun op => h.1 op trivial, fun l => h.2 l trivial⟩

theorem OpR_ctx_congr (ctx ctx' : Ctx) (hin : ctx.input = ctx'.input) (hcb : ctx.caseBlind = ctx'.caseBlind)
    (hml : ctx.multiLine = ctx'.multiLine) (hlo : ctx.lower = ctx'.lower) :
    ∀ (op : Op) (p q : Nat), OpR ctx op p q ↔ OpR ctx' op p q :=
  (OpR_ctx_congr_both ctx ctx' hin hcb hml hlo).1

theorem OpRAny_ctx_congr (ctx ctx' : Ctx) (hin : ctx.input = ctx'.input) (hcb : ctx.caseBlind = ctx'.caseBlind)
    (hml : ctx.multiLine = ctx'.multiLine) (hlo : ctx.lower = ctx'.lower) :
    ∀ (bs : List Op) (p q : Nat), OpRAny ctx bs p q ↔ OpRAny ctx' bs p q :=
  fun bs => ((OpR_ctx_congr_both ctx ctx' hin hcb hml hlo).2 bs).1

theorem OpRSeq_ctx_congr (ctx ctx' : Ctx) (hin : ctx.input = ctx'.input) (hcb : ctx.caseBlind = ctx'.caseBlind)
    (hml : ctx.multiLine = ctx'.multiLine) (hlo : ctx.lower = ctx'.lower) :
    ∀ (ops : List Op) (p q : Nat), OpRSeq ctx ops p q ↔ OpRSeq ctx' ops p q :=
  fun ops => ((OpR_ctx_congr_both ctx ctx' hin hcb hml hlo).2 ops).2

end Rx.ApiComplete
