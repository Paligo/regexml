/-
  Proofs/EnumLemmas — exact yield lists (`Step.Ex s l`): each generator against an arbitrary enumeration `e` of the
  body.  The greedy fixed-length quantifier needs `FixedBody` (over it the list is an arithmetic progression,
  `List.range'`: `gfixedLoop` runs to its last member, `descend` yields it backwards); the reluctant loops need only
  `ProgBody` and are stated for every loop of their shape, so that they serve the general reluctant repeat as well.
-/
import RxModel.Spec.Enum2
import RxModel.Proofs.EngineSound
namespace Rx

/-- `s` yields exactly `l` and then ends, under every consumer -/
abbrev Step.Ex (s : Step) (l : List Nat) : Prop := Step.Seq anySt s l

namespace Step.Ex

theorem nil (st : St) : Step.Ex (.nil st) [] := Step.Seq.nil st

theorem cons {n : Nat} {st : St} {r : St → Step} {l : List Nat} (h : ∀ st', Step.Ex (r st') l) :
    Step.Ex (.cons n st r) (n :: l) :=
  Step.Seq.cons n st r l (fun st' _ => h st')

theorem once (n : Nat) (st : St) : Step.Ex (Step.once n st) [n] := cons (fun st' => nil st')

theorem weaken {I : St → Prop} {s : Step} {l : List Nat} (h : Step.Ex s l) : Step.Seq I s l := by
  induction h with
  | nil st => exact .nil st
  | cons n st r l _ ih => exact .cons n st r l (fun st' _ => ih st' trivial)

theorem append {s : Step} {f : St → Step} {l1 l2 : List Nat}
    (hs : Step.Ex s l1) (hf : ∀ st, Step.Ex (f st) l2) : Step.Ex (s.append f) (l1 ++ l2) := by
  induction hs with
  | nil st => exact hf st
  | cons n st r l _ ih => exact cons (fun st' => ih st' trivial)

theorem bind {s : Step} {f : Nat → St → Step} {l : List Nat} {g : Nat → List Nat}
    (hs : Step.Ex s l) (hf : ∀ n, n ∈ l → ∀ st, Step.Ex (f n st) (g n)) :
    Step.Ex (s.bind f) (l.flatMap g) := by
  induction hs with
  | nil st => exact nil st
  | cons n st r l _ ih =>
    rw [List.flatMap_cons]
    exact append (hf n List.mem_cons_self st)
      (fun st' => ih st' trivial (fun m hm => hf m (List.mem_cons_of_mem _ hm)))

theorem mapSt {s : Step} {f : Nat → St → St} {l : List Nat} (hs : Step.Ex s l) :
    Step.Ex (s.mapSt f) l := by
  induction hs with
  | nil st => exact nil _
  | cons n st r l _ ih => exact cons (fun st' => ih st' trivial)

theorem onNil {s : Step} {f : St → St} {l : List Nat} (hs : Step.Ex s l) :
    Step.Ex (s.onNil f) l := by
  induction hs with
  | nil st => exact nil _
  | cons n st r l _ ih => exact cons (fun st' => ih st' trivial)

theorem all {P : Nat → Prop} {s : Step} {l : List Nat} (hs : Step.Ex s l) (ha : s.All P) :
    ∀ n, n ∈ l → P n := by
  induction hs with
  | nil st => intro n hn; cases hn
  | cons m st r l _ ih =>
    intro n hn
    cases ha with
    | cons _ _ _ hm hr =>
      rcases List.mem_cons.1 hn with rfl | hn
      · exact hm
      · exact ih st trivial (hr st) n hn

theorem unique {s : Step} {l l' : List Nat} (h : Step.Ex s l) (h' : Step.Ex s l') : l = l' := by
  induction h generalizing l' with
  | nil st => cases h'; rfl
  | cons n st r l _ ih =>
    cases h' with
    | cons _ _ _ l2 hr => rw [ih st trivial (hr st trivial)]

theorem first1_nil {s : Step} (h : Step.Ex s []) : ∃ st', first1 s = (none, st') := by
  cases h with
  | nil st => exact ⟨st, rfl⟩

theorem first1_cons {s : Step} {n : Nat} {l : List Nat} (h : Step.Ex s (n :: l)) :
    ∃ st', first1 s = (some (n, st'), st') := by
  cases h with
  | cons _ st r _ _ => exact ⟨st, rfl⟩

theorem noDiv {s : Step} {l : List Nat} (h : Step.Ex s l) : s.NoDiv := by
  induction h with
  | nil st => exact .nil st
  | cons n st r l _ ih => exact .cons n st r (fun st' => ih st' trivial)

theorem first1_head {s : Step} {l : List Nat} (h : Step.Ex s l) :
    (first1 s).1.map (·.1) = l.head? := by
  cases h with
  | nil st => rfl
  | cons n st r l _ => rfl

theorem first1_isSome {s : Step} {l : List Nat} (h : Step.Ex s l) :
    (first1 s).1.isSome = true ↔ l ≠ [] := by
  cases h with
  | nil st => exact ⟨fun h => (by cases h), fun h => absurd rfl h⟩
  | cons n st r l _ => exact ⟨fun _ => List.cons_ne_nil _ _, fun _ => rfl⟩

end Step.Ex

theorem tail_nil_of_length_le_one {l : List Nat} {x : Nat} {t : List Nat} (hl : l = x :: t)
    (h : l.length ≤ 1) : t = [] := by
  subst hl
  cases t with
  | nil => rfl
  | cons a r => simp at h

theorem bolGen_ex (ctx : Ctx) (p : Nat) (st : St) : Step.Ex (bolGen ctx p st) (enum ctx .bol p) := by
  unfold bolGen
  simp only [enum]
  by_cases hp : p = 0
  · subst hp
    simp only [bne_self_eq_false, Bool.false_eq_true, if_false, true_or, if_true]
    exact .once _ _
  · have h1 : (p != 0) = true := by simp [hp]
    simp only [h1, if_true, hp, false_or, Ctx.nlAt, Bool.and_eq_true, beq_iff_eq, decide_eq_true_eq,
      and_assoc]
    split
    · exact .once _ _
    · exact .nil _

theorem eolGen_ex (ctx : Ctx) (p : Nat) (st : St) : Step.Ex (eolGen ctx p st) (enum ctx .eol p) := by
  unfold eolGen
  simp only [enum, Ctx.nlAt, Bool.or_eq_true, beq_iff_eq, decide_eq_true_eq]
  by_cases hm : ctx.multiLine = true
  · simp only [hm, if_true, true_and]
    by_cases hc : (ctx.len = 0 ∨ p ≥ ctx.len) ∨ ctx.input[p]? = some 10
    · have hc' : p ≥ ctx.len ∨ ctx.input[p]? = some 10 := by
        rcases hc with (h | h) | h
        · left; omega
        · left; exact h
        · right; exact h
      rw [if_pos hc, if_pos hc']
      exact .once _ _
    · have hc' : ¬ (p ≥ ctx.len ∨ ctx.input[p]? = some 10) := by
        intro h; apply hc
        rcases h with h | h
        · exact .inl (.inr h)
        · exact .inr h
      rw [if_neg hc, if_neg hc']
      exact .nil _
  · simp only [hm, Bool.false_eq_true, if_false, false_and, or_false]
    by_cases hc : ctx.len = 0 ∨ p ≥ ctx.len
    · have hc' : p ≥ ctx.len := by omega
      rw [if_pos hc, if_pos hc']
      exact .once _ _
    · have hc' : ¬ p ≥ ctx.len := by omega
      rw [if_neg hc, if_neg hc']
      exact .nil _

theorem nothingGen_ex (ctx : Ctx) (p : Nat) (st : St) : Step.Ex (nothingGen p st) (enum ctx .nothing p) := by
  simp only [enum]; exact .once _ _

theorem endGen_ex (ctx : Ctx) (p : Nat) (st : St) : Step.Ex (endGen p st) (enum ctx .endProgram p) := by
  simp only [enum]; exact .once _ _

theorem atomGen_ex (ctx : Ctx) (cs : List Nat) (p : Nat) (st : St) :
    Step.Ex (atomGen ctx cs p st) (enum ctx (.atom cs) p) := by
  unfold atomGen
  simp only [enum]
  by_cases h1 : p + cs.length > ctx.len
  · have h1' : ¬ p + cs.length ≤ ctx.len := by omega
    simp only [h1, if_true, h1', false_and, if_false]
    exact .nil _
  · have h1' : p + cs.length ≤ ctx.len := by omega
    simp only [h1, if_false, h1', true_and]
    split
    · exact .once _ _
    · exact .nil _

theorem clsGen_ex (ctx : Ctx) (rs : Ranges) (p : Nat) (st : St) :
    Step.Ex (clsGen ctx rs p st) (enum ctx (.cls rs) p) := by
  unfold clsGen
  simp only [enum]
  cases ctx.input[p]? with
  | none => exact .nil _
  | some c =>
    simp only
    split
    · exact .once _ _
    · exact .nil _

theorem captureGen_ex {child : Gen} {p : Nat} {l : List Nat} (hc : ∀ st, Step.Ex (child p st) l)
    (ctx : Ctx) (g : Nat) (st : St) : Step.Ex (captureGen ctx g child p st) l := by
  unfold captureGen
  exact (hc _).mapSt

theorem choiceGen_nil_ex (p : Nat) (st : St) : Step.Ex (choiceGen [] p st) [] := .nil _

theorem choiceGen_cons_ex {g : Gen} {gs : List Gen} {p : Nat} {l1 l2 : List Nat}
    (h1 : ∀ st, Step.Ex (g p st) l1) (h2 : ∀ st, Step.Ex (choiceGen gs p st) l2) (st : St) :
    Step.Ex (choiceGen (g :: gs) p st) (l1 ++ l2) := by
  unfold choiceGen
  exact (h1 _).append h2

theorem seqK_nil_ex (p : Nat) (st : St) : Step.Ex (seqK [] p st) [p] := .once p st

theorem seqK_cons_ex {g : Gen} {gs : List Gen} {p : Nat} {l : List Nat} {e : Nat → List Nat}
    (h1 : ∀ st, Step.Ex (g p st) l) (h2 : ∀ n, n ∈ l → ∀ st, Step.Ex (seqK gs n st) (e n)) (st : St) :
    Step.Ex (seqK (g :: gs) p st) (l.flatMap e) :=
  ((h1 st).mapSt).bind h2

theorem seqGen_ex {gs : List Gen} {p : Nat} {l : List Nat} (h : ∀ st, Step.Ex (seqGo gs p st) l)
    (hasCap : Bool) (st : St) : Step.Ex (seqGen hasCap gs p st) l := by
  unfold seqGen
  exact (h st).onNil

/-- both list the chain `p, head (e p), …`; the reluctant one forwards, the greedy one backwards -/
theorem reluctIter_eq_reverse (e : Nat → List Nat) (mn : Nat) :
    ∀ b k p, reluctIter e mn b k p = (greedyIter e mn b k p).reverse := by
  intro b
  induction b with
  | zero => intro k p; simp only [reluctIter, greedyIter]; split <;> rfl
  | succ b ih =>
    intro k p
    have ht : (if mn ≤ k then [p] else []).reverse = (if mn ≤ k then [p] else []) := by split <;> rfl
    simp only [reluctIter, greedyIter, List.reverse_append, ht]
    cases e p with
    | nil => rfl
    | cons q t => simp only [ih]

theorem descend_ex (len limit : Nat) (hlen : 0 < len) : ∀ n fuel st, n < fuel →
    Step.Ex (descend len limit fuel (limit + len * n) st) (List.range' limit (n + 1) len).reverse := by
  intro n
  induction n with
  | zero =>
    intro fuel st hf
    obtain ⟨f, rfl⟩ : ∃ f, fuel = f + 1 := ⟨fuel - 1, by omega⟩
    unfold descend
    rw [if_pos (by omega)]
    refine .cons (fun st' => ?_)
    rw [if_neg (by omega)]
    exact .nil _
  | succ n ih =>
    intro fuel st hf
    obtain ⟨f, rfl⟩ : ∃ f, fuel = f + 1 := ⟨fuel - 1, by omega⟩
    rw [List.range'_concat, List.reverse_append]
    unfold descend
    rw [if_pos (by omega)]
    refine .cons (fun st' => ?_)
    rw [if_pos (by rw [Nat.mul_succ]; omega),
      show limit + len * (n + 1) - len = limit + len * n by rw [Nat.mul_succ]; omega]
    exact ih f st' (by omega)

/-- what the body of a fixed-length quantifier provides (`L`: the length of the input) -/
structure FixedBody (child : Gen) (e : Nat → List Nat) (len L : Nat) : Prop where
  pos : 0 < len
  ex : ∀ q, q ≤ L → ∀ st, Step.Ex (child q st) (e q)
  fixed : ∀ q, q ≤ L → ∀ n, n ∈ e q → n = q + len ∧ n ≤ L

def Clean2End.Progress (e : Nat → List Nat) (L : Nat) : Prop := ∀ q, q ≤ L → ∀ n, n ∈ e q → q < n ∧ n ≤ L

/-- what the reluctant loops need of a body -/
structure ProgBody (child : Gen) (e : Nat → List Nat) (L : Nat) : Prop where
  ex : ∀ q, q ≤ L → ∀ st, Step.Ex (child q st) (e q)
  prog : Clean2End.Progress e L

theorem FixedBody.progBody {child : Gen} {e : Nat → List Nat} {len L : Nat} (hb : FixedBody child e len L) :
    ProgBody child e L :=
  ⟨hb.ex, fun q hq n hn => by have := hb.fixed q hq n hn; have := hb.pos; omega⟩

theorem ProgBody.first_nil {child : Gen} {e : Nat → List Nat} {L : Nat} (hb : ProgBody child e L)
    {q : Nat} (hq : q ≤ L) (st : St) (h : e q = []) : ∃ st', first1 (child q st) = (none, st') := by
  have := hb.ex q hq st
  rw [h] at this
  exact this.first1_nil

theorem ProgBody.first_cons {child : Gen} {e : Nat → List Nat} {L : Nat} (hb : ProgBody child e L)
    {q : Nat} (hq : q ≤ L) (st : St) {n : Nat} {t : List Nat} (h : e q = n :: t) :
    (∃ st', first1 (child q st) = (some (n, st'), st')) ∧ q < n ∧ n ≤ L := by
  have h1 := hb.ex q hq st
  rw [h] at h1
  exact ⟨h1.first1_cons, hb.prog q hq n (by rw [h]; exact List.mem_cons_self)⟩

theorem FixedBody.first_cons {child : Gen} {e : Nat → List Nat} {len L : Nat} (hb : FixedBody child e len L)
    {q : Nat} (hq : q ≤ L) (st : St) {n : Nat} {t : List Nat} (h : e q = n :: t) :
    (∃ st', first1 (child q st) = (some (n, st'), st')) ∧ n = q + len ∧ n ≤ L :=
  ⟨(hb.progBody.first_cons hq st h).1, hb.fixed q hq n (by rw [h]; exact List.mem_cons_self)⟩

/-- over a fixed-length body the ends are an arithmetic progression: the first `mn - k` of the `j + 1` members
    of the run are not listed -/
theorem reluctIter_fixed {child : Gen} {e : Nat → List Nat} {len L : Nat} (hb : FixedBody child e len L)
    (mn : Nat) : ∀ b k p, p ≤ L →
    reluctIter e mn b k p = List.range' (p + len * (mn - k)) ((munch e b p).1 + 1 - (mn - k)) len := by
  have stop : ∀ k p, (if mn ≤ k then [p] else []) = List.range' (p + len * (mn - k)) (0 + 1 - (mn - k)) len := by
    intro k p
    by_cases h : mn ≤ k
    · rw [if_pos h, show mn - k = 0 by omega]; rfl
    · rw [if_neg h, show 0 + 1 - (mn - k) = 0 by omega]; rfl
  intro b
  induction b with
  | zero => intro k p _; exact stop k p
  | succ b ih =>
    intro k p hp
    cases hl : e p with
    | nil =>
      have h1 : reluctIter e mn (b + 1) k p = if mn ≤ k then [p] else [] := by
        simp only [reluctIter, hl, List.append_nil]
      have h2 : munch e (b + 1) p = (0, p) := by simp only [munch, hl]
      rw [h1, h2]
      exact stop k p
    | cons q t =>
      have h1 : reluctIter e mn (b + 1) k p =
          (if mn ≤ k then [p] else []) ++ reluctIter e mn b (k + 1) q := by simp only [reluctIter, hl]
      have h2 : munch e (b + 1) p = ((munch e b q).1 + 1, (munch e b q).2) := by simp only [munch, hl]
      obtain ⟨rfl, hq2⟩ := hb.fixed p hp q (by rw [hl]; exact List.mem_cons_self)
      rw [h1, h2, ih (k + 1) (p + len) hq2]
      generalize (munch e b (p + len)).1 = j
      by_cases h : mn ≤ k
      · rw [if_pos h, show mn - (k + 1) = 0 by omega, show mn - k = 0 by omega]
        rfl
      · obtain ⟨d, hd⟩ : ∃ d, mn - k = d + 1 := ⟨mn - k - 1, by omega⟩
        rw [if_neg h, List.nil_append, hd, show mn - (k + 1) = d by omega, Nat.add_sub_add_right,
          Nat.mul_succ, Nat.add_assoc p, Nat.add_comm len]

/-- `hg`: the guard admits every position up to `top`, which the remaining `b + 1` iterations cannot pass -/
theorem gfixedLoop_munch {child : Gen} {e : Nat → List Nat} {len L : Nat} (hb : FixedBody child e len L)
    (guard top : Nat) (hg : ∀ q, q ≤ L → q ≤ top → q ≤ guard) :
    ∀ fuel b p m st, p ≤ L → p + len * (b + 1) ≤ top → L + 2 ≤ fuel + p →
      (gfixedLoop child len (m + (b + 1)) guard fuel p m st).2.1 = m + (munch e (b + 1) p).1 ∧
      (gfixedLoop child len (m + (b + 1)) guard fuel p m st).1 = p + len * (munch e (b + 1) p).1 ∧
      p + len * (munch e (b + 1) p).1 ≤ L := by
  intro fuel
  induction fuel with
  | zero => intro b p m st hpL _ hf; omega
  | succ f ih =>
    intro b p m st hpL htop hfuel
    have hlen := hb.pos
    rw [gfixedLoop, if_pos (hg p hpL (by omega))]
    simp only [munch]
    cases hl : e p with
    | nil =>
      obtain ⟨st', hf⟩ := hb.progBody.first_nil hpL st hl
      rw [hf]
      exact ⟨rfl, rfl, hpL⟩
    | cons q t =>
      obtain ⟨⟨st1, hf⟩, hq1, hq2⟩ := hb.first_cons hpL st hl
      rw [hf]
      subst hq1
      dsimp only
      cases b with
      | zero =>
        rw [if_pos (by simp)]
        show m + 1 = m + (0 + 1) ∧ p + len = p + len * (0 + 1) ∧ p + len * (0 + 1) ≤ L
        omega
      | succ b =>
        have hne : (m + 1 == m + (b + 1 + 1)) = false := by simp
        simp only [hne, Bool.false_eq_true, if_false]
        have hih := ih b (p + len) (m + 1) st1 hq2 (by rw [Nat.mul_succ] at htop; omega) (by omega)
        rw [Nat.add_right_comm m 1 (b + 1), Nat.add_assoc m (b + 1) 1] at hih
        rw [Nat.mul_succ len, ← Nat.add_assoc p, Nat.add_right_comm p _ len]
        exact ⟨by rw [hih.1, Nat.add_assoc, Nat.add_comm 1], hih.2⟩

/-- the guard of `GreedyFixed::matches_iter` (op_greedy_fixed.rs): the end of the input, or of `max` iterations if that is earlier -/
theorem gfixedGuard {L p len mx guard : Nat}
    (hg : (if mx < usizeMax then Nat.min L (p + len * mx) else L) = guard)
    (hlen : 0 < len) (hmx : 0 < mx) (hp : p ≤ L) :
    (∀ q, q ≤ L → q ≤ p + len * mx → q ≤ guard) ∧ (guard ≤ p → p = L) := by
  have hpos : 0 < len * mx := Nat.mul_pos hlen hmx
  have hgd : guard = L ∨ guard = p + len * mx ∧ p + len * mx ≤ L := by
    rw [← hg]
    split
    · show min L (p + len * mx) = L ∨ min L (p + len * mx) = p + len * mx ∧ _
      rw [Nat.min_def]
      split
      · exact .inl rfl
      · exact .inr ⟨rfl, by omega⟩
    · exact .inl rfl
  refine ⟨fun q hq hqt => ?_, fun h => ?_⟩
  · rcases hgd with h | ⟨h, _⟩ <;> omega
  · rcases hgd with h' | ⟨h', _⟩ <;> omega

theorem descend_span {p len mn j L : Nat} (hlen : 0 < len) (hj : mn ≤ j) (hL : p + len * j ≤ L) :
    p + len * j = p + len * mn + len * (j - mn) ∧ j - mn < L + 3 := by
  obtain ⟨n, rfl⟩ : ∃ n, j = mn + n := ⟨j - mn, by omega⟩
  have : n ≤ len * n := Nat.le_mul_of_pos_left _ hlen
  rw [Nat.mul_add] at hL ⊢
  rw [Nat.add_sub_cancel_left]
  omega

theorem gfixedGen_ex {child : Gen} {e : Nat → List Nat} {len : Nat} (ctx : Ctx)
    (hb : FixedBody child e len ctx.len) (mn mx : Nat) (hmx : 0 < mx) (p : Nat) (hp : p ≤ ctx.len) (st : St) :
    Step.Ex (gfixedGen ctx child mn mx len p st) (greedyIter e mn mx 0 p) := by
  have hlen := hb.pos
  rw [← List.reverse_reverse (greedyIter e mn mx 0 p), ← reluctIter_eq_reverse, reluctIter_fixed hb mn mx 0 p hp,
    Nat.sub_zero]
  unfold gfixedGen
  simp only
  generalize hguard : (if mx < usizeMax then Nat.min ctx.len (p + len * mx) else ctx.len) = guard
  obtain ⟨hg2, hge⟩ := gfixedGuard hguard hlen hmx hp
  obtain ⟨b, rfl⟩ : ∃ b, mx = b + 1 := ⟨mx - 1, by omega⟩
  have h := gfixedLoop_munch hb guard (p + len * (b + 1)) hg2 (ctx.len + 2) b p 0 st hp (Nat.le_refl _)
    (by omega)
  rw [Nat.zero_add, Nat.zero_add] at h
  generalize gfixedLoop child len (b + 1) guard (ctx.len + 2) p 0 st = r at h
  obtain ⟨h2, h1, hL⟩ := h
  rw [← h2] at h1 hL ⊢
  split
  · -- at the end of the input nothing matches, and `mn > 0` iterations are wanted
    rename_i hexit
    simp only [Bool.and_eq_true, decide_eq_true_eq] at hexit
    have hpe := hge hexit.1
    have hj : r.2.1 = 0 := by
      rcases Nat.mul_eq_zero.1 (show len * r.2.1 = 0 by omega) with h | h
      · omega
      · exact h
    rw [hj, show 0 + 1 - mn = 0 by omega]
    exact .nil _
  · split
    · rename_i hlt
      rw [Nat.sub_eq_zero_of_le hlt]
      exact .nil _
    · rename_i hge'
      obtain ⟨d1, d2⟩ := descend_span hlen (Nat.le_of_not_lt hge') hL
      rw [h1, d1, Nat.sub_add_comm (Nat.le_of_not_lt hge')]
      exact descend_ex len (p + len * mn) hlen (r.2.1 - mn) _ _ d2

/-- the minimum loop with `d` mandatory iterations left: the fuel suffices either because it covers them or
    because it covers the rest of the input -/
theorem iterMin_enum {child : Gen} {e : Nat → List Nat} {L : Nat} (hb : ProgBody child e L) :
    ∀ fuel d count pos st b, pos ≤ L → d ≤ b → (d + 1 ≤ fuel ∨ L + 2 ≤ fuel + pos) →
      ((iterMin child (count + d) fuel count pos st).1 = none ∧ reluctIter e (count + d) b count pos = []) ∨
      (∃ pos', (iterMin child (count + d) fuel count pos st).1 = some (count + d, pos') ∧ pos' ≤ L ∧
        reluctIter e (count + d) b count pos = reluctIter e (count + d) (b - d) (count + d) pos') := by
  intro fuel
  induction fuel with
  | zero => intro d count pos st b _ _ hf; omega
  | succ f ih =>
    intro d count pos st b hpL hdb hfuel
    rw [iterMin]
    cases d with
    | zero =>
      rw [if_neg (show ¬ count < count + 0 from Nat.lt_irrefl _)]
      exact .inr ⟨pos, rfl, hpL, rfl⟩
    | succ d =>
      rw [if_pos (by omega)]
      obtain ⟨b', rfl⟩ : ∃ b', b = b' + 1 := ⟨b - 1, by omega⟩
      simp only [reluctIter]
      rw [if_neg (by omega), List.nil_append]
      cases hl : e pos with
      | nil =>
        obtain ⟨st', hf⟩ := hb.first_nil hpL st hl
        rw [hf]
        exact .inl ⟨rfl, rfl⟩
      | cons q t =>
        obtain ⟨⟨st1, hf⟩, hq1, hq2⟩ := hb.first_cons hpL st hl
        rw [hf]
        have hih := ih d (count + 1) q st1 b' hq2 (by omega) (by omega)
        rw [Nat.add_right_comm count 1 d, Nat.add_assoc count d 1] at hih
        rw [Nat.add_sub_add_right]
        exact hih

/-- for every loop `G` that unfolds in this way: `rfixedMore` (which first clears the captures beyond the start:
    `pre`) and `relMore` (`pre = id`) -/
theorem moreLoop_enum {child : Gen} {e : Nat → List Nat} {L : Nat} (hb : ProgBody child e L)
    (mn mx : Nat) (G : Nat → Nat → Nat → St → Step) (pre : St → St)
    (hGs : ∀ f count pos st, G (f + 1) count pos st =
      if count < mx then
        match first1 (child pos (pre st)) with
        | (some (n, _), st') => .cons n st' (fun st'' => G f (count + 1) n st'')
        | (none, st') => .nil st'
      else .nil st) :
    ∀ fuel b count pos st, mn ≤ count → count + b = mx → pos ≤ L → L + 2 ≤ fuel + pos →
      Step.Ex (.cons pos st (fun st'' => G fuel count pos st'')) (reluctIter e mn b count pos) := by
  intro fuel
  induction fuel with
  | zero => intro b count pos st _ _ _ hf; omega
  | succ f ih =>
    intro b count pos st hmc hcx hpL hfuel
    cases b with
    | zero =>
      simp only [reluctIter]
      rw [if_pos hmc]
      refine .cons (fun st'' => ?_)
      rw [hGs, if_neg (by omega)]
      exact .nil _
    | succ b =>
      simp only [reluctIter]
      rw [if_pos hmc]
      refine .cons (fun st'' => ?_)
      rw [hGs, if_pos (by omega)]
      cases hle : e pos with
      | nil =>
        obtain ⟨st', hf⟩ := hb.first_nil hpL (pre st'') hle
        rw [hf]
        exact .nil _
      | cons q t =>
        obtain ⟨⟨st1, hf⟩, hq1, hq2⟩ := hb.first_cons hpL (pre st'') hle
        rw [hf]
        exact ih b (count + 1) q st1 (by omega) (by omega) hq2 (by omega)

theorem loopFuel_covers (ctx : Ctx) (mn p : Nat) :
    mn + 1 ≤ loopFuel ctx mn ∨ ctx.len + 2 ≤ loopFuel ctx mn + p := by
  unfold loopFuel
  show _ ≤ min (mn + 1) (ctx.len + 1000) ∨ _ ≤ min (mn + 1) (ctx.len + 1000) + p
  rw [Nat.min_def]
  split <;> omega

theorem rfixedGen_ex {child : Gen} {e : Nat → List Nat} {len : Nat} (ctx : Ctx)
    (hb : FixedBody child e len ctx.len) (mn mx : Nat) (hmm : mn ≤ mx) (p : Nat) (hp : p ≤ ctx.len) (st : St) :
    Step.Ex (rfixedGen ctx child mn mx p st) (reluctIter e mn mx 0 p) := by
  unfold rfixedGen
  have h := iterMin_enum hb.progBody (loopFuel ctx mn) mn 0 p st mx hp hmm (loopFuel_covers ctx mn p)
  rw [Nat.zero_add] at h
  generalize iterMin child mn (loopFuel ctx mn) 0 p st = r at h
  obtain ⟨o, st'⟩ := r
  rcases h with ⟨rfl, h2⟩ | ⟨pos', rfl, h2, h3⟩
  · rw [h2]
    exact .nil _
  · rw [h3]
    exact moreLoop_enum hb.progBody mn mx (rfixedMore child mx p) (clearBeyond · p)
      (fun _ _ _ _ => rfl) _ (mx - mn) mn pos' _ (Nat.le_refl _) (by omega) h2 (by omega)

theorem ex_sound (ctx : Ctx) (op : Op) (hwf : wfOp op = true) {p : Nat} (hp : p ≤ ctx.len) {st : St}
    {l : List Nat} (h : Step.Ex (sem ctx op p st) l) : ∀ n, n ∈ l → OpR ctx op p n ∧ n ≤ ctx.len := by
  intro n hn
  have h1 : OpR ctx op p n := h.all (sem_sound_op ctx op hwf p st) n hn hp
  exact ⟨h1, (OpR_bounds_op ctx op p n hp h1).2⟩

theorem fixedBody_of (ctx : Ctx) (c : Op) (len : Nat) (hwc : wfOp c = true) (hml : matchLen c = some len)
    (hlen0 : 0 < len) (hlen1 : len < usizeMax) {e : Nat → List Nat}
    (hex : ∀ q, q ≤ ctx.len → ∀ st, Step.Ex (sem ctx c q st) (e q)) :
    FixedBody (sem ctx c) e len ctx.len where
  pos := hlen0
  ex := hex
  fixed := by
    intro q hq n hn
    have h := hex q hq {}
    exact ⟨h.all (matchLen_sound_op ctx c hwc len hml hlen1 q {}) n hn, (ex_sound ctx c hwc hq h n hn).2⟩

/-- a body relation all of whose members are the first element of `e` -/
structure HeadDet (R : Nat → Nat → Prop) (e : Nat → List Nat) (L : Nat) : Prop where
  det : ∀ a, a ≤ L → ∀ b, R a b → (∃ t, e a = b :: t) ∧ b ≤ L

theorem greedyIter_complete {R : Nat → Nat → Prop} {e : Nat → List Nat} {L : Nat} (hd : HeadDet R e L)
    (mn : Nat) : ∀ b k p j q, p ≤ L → IterR R j p q → j ≤ b → mn ≤ k + j → q ∈ greedyIter e mn b k p := by
  intro b
  induction b with
  | zero =>
    intro k p j q _ hi hj hmn
    have : j = 0 := by omega
    subst this
    rw [IterR.zero_iff.1 hi]
    simp only [greedyIter, if_pos (show mn ≤ k by omega), List.mem_singleton]
  | succ b ih =>
    intro k p j q hp hi hj hmn
    simp only [greedyIter, List.mem_append]
    cases j with
    | zero =>
      rw [IterR.zero_iff.1 hi]
      right
      simp only [if_pos (show mn ≤ k by omega), List.mem_singleton]
    | succ j =>
      obtain ⟨a, ha, hi'⟩ := IterR.uncons hi
      obtain ⟨⟨t, ht⟩, haL⟩ := hd.det p hp a ha
      left
      rw [ht]
      exact ih (k + 1) a j q haL hi' (by omega) (by omega)

theorem reluctIter_complete {R : Nat → Nat → Prop} {e : Nat → List Nat} {L : Nat} (hd : HeadDet R e L)
    (mn : Nat) (b k p j q : Nat) (hp : p ≤ L) (hi : IterR R j p q) (hj : j ≤ b) (hmn : mn ≤ k + j) :
    q ∈ reluctIter e mn b k p := by
  rw [reluctIter_eq_reverse, List.mem_reverse]
  exact greedyIter_complete hd mn b k p j q hp hi hj hmn

theorem headDet_of {child : Gen} {e : Nat → List Nat} {len L : Nat} {R : Nat → Nat → Prop}
    (hb : FixedBody child e len L) (hcomp : ∀ p q, p ≤ L → R p q → q ∈ e p) : HeadDet R e L where
  det := by
    intro a ha b hr
    have hmem := hcomp a b ha hr
    have hb1 := hb.fixed a ha b hmem
    cases hl : e a with
    | nil => rw [hl] at hmem; cases hmem
    | cons x t =>
      have hx := hb.fixed a ha x (by rw [hl]; exact List.mem_cons_self)
      have : x = b := by omega
      subst this
      exact ⟨⟨t, rfl⟩, hb1.2⟩

theorem greedyIter_exact_len (e : Nat → List Nat) (mn : Nat) : ∀ b k p, mn = k + b →
    (greedyIter e mn b k p).length ≤ 1 := by
  intro b
  induction b with
  | zero => intro k p _; simp only [greedyIter]; split <;> simp
  | succ b ih =>
    intro k p h
    simp only [greedyIter]
    rw [if_neg (by omega), List.append_nil]
    cases e p with
    | nil => simp
    | cons q t => exact ih (k + 1) q (by omega)

theorem reluctIter_exact_len (e : Nat → List Nat) (mn b k p : Nat) (h : mn = k + b) :
    (reluctIter e mn b k p).length ≤ 1 := by
  rw [reluctIter_eq_reverse, List.length_reverse]
  exact greedyIter_exact_len e mn b k p h

end Rx
