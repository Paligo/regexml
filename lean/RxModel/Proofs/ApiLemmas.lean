/-
  Proofs/ApiLemmas — the operations `add_precondition` records are of the shape `C06.simplePre`, and numbering the
  repeat nodes (`numberReps` / `numberPres`) keeps that shape; `Regex::new` unfolded to `compileProg` (`new_compile`).
  Also: `noEmptyAtoms` is hereditary (`noEmptyAtoms_hered`: kept by numbering, by the optimiser, by `makeSequence`);
  `compileProg` is `compileCore` on the pattern after the whitespace pre-pass (`effPat`, `compileProg_core`).
-/
import RxModel.Model.Compile
import RxModel.Proofs.CompileLemmas
import RxModel.Spec.OpLang
import RxModel.Proofs.AddPre
import RxModel.Proofs.PreLemmas
import RxModel.Proofs.InvLemmas
import RxModel.Proofs.ProgFacts
namespace Rx.ApiL
open Rx Rx.C08

theorem simplePreChild_of_noEmpty (c : Op) (hne : noEmptyAtoms c = true) :
    C06.simplePre.simplePreChild c = true := by
  cases c with
  | atom cs => simpa only [noEmptyAtoms, C06.simplePre.simplePreChild] using hne
  | _ => rfl

theorem noEmptyAtoms_hered : Hered noEmptyAtoms noEmptyAtomsL (fun _ => true) :=
  ⟨rfl, fun _ _ => rfl, fun _ => rfl, fun _ => rfl, fun _ _ _ _ _ => rfl, fun _ _ _ _ => rfl,
    fun _ _ _ _ => rfl, fun _ _ _ => rfl, rfl, fun _ _ => rfl⟩

theorem simplePre_of_preAt {n t : Op} (h : PreAt n t) (hwf : wfOp n = true) (hne : noEmptyAtoms n = true) :
    C06.simplePre t = true := by
  cases h with
  | leaf hl =>
    cases n with
    | atom cs => simpa only [noEmptyAtoms, C06.simplePre] using hne
    | cls rs => rfl
    | _ => simp [isAtomOrClass] at hl
  | self hp hac =>
    have hch := simplePreChild_of_noEmpty _ (down_noEmptyAtoms.rpt hp hne)
    rcases repeatParts_cases hp with ⟨_, rfl⟩ | ⟨_, rfl, _⟩ | ⟨_, rfl, _⟩ | ⟨rfl, _⟩
    · simp only [wfOp, Bool.and_eq_true, decide_eq_true_eq] at hwf
      simp only [C06.simplePre, hac, hch, hwf.1.2, hwf.2, decide_true, Bool.and_self, Bool.or_true,
        show (1 : Nat) < 1000 by decide]
    · simp only [wfOp, Bool.and_eq_true, decide_eq_true_eq] at hwf
      obtain ⟨⟨⟨⟨⟨_, hc⟩, hlen0⟩, hlen1⟩, hmm⟩, hmx⟩ := hwf
      simp only [C06.simplePre, hac, hch, hc, hlen0, hlen1, hmm, hmx, decide_true, Bool.and_self]
    · simp only [wfOp, Bool.and_eq_true, decide_eq_true_eq] at hwf
      obtain ⟨⟨⟨⟨⟨_, hc⟩, hlen0⟩, hlen1⟩, hmm⟩, hmx⟩ := hwf
      simp only [C06.simplePre, hac, hch, hc, hlen0, hlen1, hmm, hmx, decide_true, Bool.and_self]
    · simp only [wfOp, Bool.and_eq_true, decide_eq_true_eq] at hwf
      simp only [C06.simplePre, hac, hch, hwf.1.2, hwf.2, decide_true, Bool.and_self]
  | fixed hp hac h2 =>
    have hch := simplePreChild_of_noEmpty _ (down_noEmptyAtoms.rpt hp hne)
    have h0 : 0 < _ := Nat.lt_of_lt_of_le (by decide : 0 < 2) h2
    simp only [C06.simplePre, hac, hch, Nat.le_refl, h0, decide_true, Bool.and_self, Bool.true_or]

theorem addPre_simple (ml : Bool) : (op : Op) → wfOp op = true → noEmptyAtoms op = true →
    ∀ (fp : Option Nat) (mp : Nat), ∀ q ∈ addPre ml op fp mp, C06.simplePre q.op = true :=
  fun _ hwf hne fp mp _ hq => by
    obtain ⟨n, ⟨h1, h2⟩, h⟩ := addPre_node (down_wfOp.and down_noEmptyAtoms) ml ⟨hwf, hne⟩ fp mp hq
    exact simplePre_of_preAt h h1 h2

theorem addPreSeq_simple (ml : Bool) : (ops : List Op) → wfOps ops = true → noEmptyAtomsL ops = true →
    ∀ (fp : Option Nat) (mp : Nat), ∀ q ∈ addPreSeq ml ops fp mp, C06.simplePre q.op = true :=
  fun _ hwf hne fp mp _ hq => by
    obtain ⟨n, ⟨h1, h2⟩, h⟩ := addPreSeq_node (down_wfOp.and down_noEmptyAtoms) ml ⟨hwf, hne⟩ fp mp hq
    exact simplePre_of_preAt h h1 h2

theorem leaf_cases {c : Op} (h : isAtomOrClass c = true) : (∃ cs, c = .atom cs) ∨ (∃ rs, c = .cls rs) := by
  cases c with
  | atom cs => exact .inl ⟨cs, rfl⟩
  | cls rs => exact .inr ⟨rs, rfl⟩
  | _ => simp [isAtomOrClass] at h

theorem numberReps_leaf (c : Op) (h : isAtomOrClass c = true) (n : Nat) : (numberReps c n).1 = c := by
  rcases leaf_cases h with ⟨_, rfl⟩ | ⟨_, rfl⟩ <;> rfl

theorem simplePre_numberReps (op : Op) (n : Nat) (h : C06.simplePre op = true) :
    C06.simplePre (numberReps op n).1 = true := by
  cases op with
  | atom cs => exact h
  | cls rs => exact h
  | rep id c mn mx g =>
    have hac : isAtomOrClass c = true := by
      simp only [C06.simplePre, Bool.and_eq_true] at h; exact h.1.1.1.1
    simp only [numberReps, numberReps_leaf c hac]
    exact h
  | gfixed c mn mx len =>
    have hac : isAtomOrClass c = true := by
      simp only [C06.simplePre, Bool.and_eq_true] at h; exact h.1.1.1.1.1.1
    simp only [numberReps, numberReps_leaf c hac]
    exact h
  | rfixed c mn mx len =>
    have hac : isAtomOrClass c = true := by
      simp only [C06.simplePre, Bool.and_eq_true] at h; exact h.1.1.1.1.1.1
    simp only [numberReps, numberReps_leaf c hac]
    exact h
  | unamb c mn mx =>
    have hac : isAtomOrClass c = true := by
      simp only [C06.simplePre, Bool.and_eq_true] at h; exact h.1.1.1
    simp only [numberReps, numberReps_leaf c hac]
    exact h
  | _ => simp [C06.simplePre] at h

theorem noEmptyAtoms_numberReps : (op : Op) → ∀ n, noEmptyAtoms (numberReps op n).1 = noEmptyAtoms op :=
  noEmptyAtoms_hered.numberReps

theorem noEmptyAtomsL_numberRepsL : (ops : List Op) → ∀ n,
    noEmptyAtomsL (numberRepsL ops n).1 = noEmptyAtomsL ops :=
  noEmptyAtoms_hered.numberRepsL

theorem mkProgram_pres_at (pat : List Nat) (op : Op) (mp : Nat) (fl : CFlags) (hb : Bool)
    (hwf : wfOp op = true) (hne : noEmptyAtoms op = true) {q : Pre} (hq : q ∈ (mkProgram pat op mp fl hb).pres) :
    ∃ n t b, (wfOp n = true ∧ noEmptyAtoms n = true) ∧ PreAt n t ∧ q.op = (numberReps t b).1 :=
  mkProgram_pres_node (down_wfOp.and down_noEmptyAtoms) pat op mp fl hb
    ⟨by rw [WF.wfOp_numberReps]; exact hwf, by rw [noEmptyAtoms_numberReps]; exact hne⟩ hq

theorem mkProgram_pres_simple (pat : List Nat) (op : Op) (mp : Nat) (fl : CFlags) (hb : Bool)
    (hwf : wfOp op = true) (hne : noEmptyAtoms op = true) :
    ∀ q ∈ (mkProgram pat op mp fl hb).pres, C06.simplePre q.op = true := fun q hq => by
  obtain ⟨n, t, b, ⟨h1, h2⟩, hat, he⟩ := mkProgram_pres_at pat op mp fl hb hwf hne hq
  rw [he]
  exact simplePre_numberReps t b (simplePre_of_preAt hat h1 h2)

theorem new_compile (env : Env) (p fs : List Nat) (xsd opt : Bool) (fl : Flags) (r : Regex)
    (hf : parseFlags fs xsd = some fl) (h : Regex.new env p fs xsd opt = .ok r) :
    compileProg env fl p opt = .ok r.prog := by
  obtain ⟨fl', hf', hc, _⟩ := Regex.new_ok h
  rw [hf] at hf'
  cases hf'
  exact hc

/-- the pattern the compiler sees after the whitespace pre-pass -/
def effPat (fl : Flags) (p : List Nat) : List Nat :=
  if !fl.literal && fl.allowWs then stripWs p 0 false else p

theorem compileProg_core (env : Env) (fl : Flags) (p : List Nat) (opt : Bool) :
    compileProg env fl p opt = compileCore env fl.core (effPat fl p) opt := rfl

end Rx.ApiL
