/-
  Proofs/ProgOK — the search on a program built by `ReProgram::new` from a well-formed tree without empty literal:
  the recorded facts are true of its language (`mkProgram_searchFacts`) and its precondition tests are complete and
  quiet (Proofs/PreComplete), so all that is left to ask concerns the main tree.  `TreeOK ctx o e` (an exact
  enumeration `e`, `Quiet`, well-formedness) is the ONE fact a fragment has to provide; `ProgOK.*` are the search
  theorems read off it.
-/
import RxModel.Proofs.PreComplete
import RxModel.Props.C16
namespace Rx.SearchComplete
open Rx

/-- `hsm`: the model's fuel covers the loops of the tree -/
theorem mkProgram_quiet (pat : List Nat) (op : Op) (mp : Nat) (fl : CFlags) (lower : Nat → Nat) (input : List Nat)
    (hwf : wfOp op = true) (hnb : hasBackref op = false) (hsm : C06.smallMin input.length op = true) :
    Quiet ((mkProgram pat op mp fl false).ctx lower input) (mkProgram pat op mp fl false).op := by
  rw [MkProgram.op]
  exact quiet_of_wf _ (MkProgram.hasBackrefs pat op mp fl false) _ (by rw [hasBackref_numberReps]; exact hnb)
    (by rw [WF.wfOp_numberReps]; exact hwf) (by rw [smallMin_numberReps]; exact hsm)

theorem mkProgram_outcome (pat : List Nat) (op : Op) (mp : Nat) (fl : CFlags)
    (lower : Nat → Nat) (input : List Nat)
    (hwf : wfOp op = true) (hnb : hasBackref op = false) (hne : C08.noEmptyAtoms op = true)
    (hsm : C06.smallMin input.length op = true) (hlen : input.length < usizeMax)
    (hC : CompleteAt ((mkProgram pat op mp fl false).ctx lower input) (mkProgram pat op mp fl false).op)
    (i : Nat) (hi : i ≤ input.length) (st : St) (hst : st.panic = none) :
    Outcome ((mkProgram pat op mp fl false).ctx lower input) (mkProgram pat op mp fl false).op i
      (matchesFrom ((mkProgram pat op mp fl false).ctx lower input) (mkProgram pat op mp fl false) i st) :=
  matchesFrom_outcome (mkProgram_searchFacts pat op mp fl false lower input hwf hne hlen) hlen hC
    (mkProgram_quiet pat op mp fl lower input hwf hnb hsm)
    (fun q hq => ⟨mkProgram_pres_completeAt pat op mp fl false _ hwf hne q hq,
      mkProgram_pres_quietAll pat op mp fl false _ hwf hne q hq⟩) i hi st hst

theorem isMatch_of_outcome {pr : Prog} {lower : Nat → Nat} {input : List Nat}
    (ho : Outcome (pr.ctx lower input) pr.op 0 (matchesFrom (pr.ctx lower input) pr 0 {})) :
    ∃ b, pr.isMatch lower input = .ok b ∧
      (b = true ↔ ∃ j q, j ≤ input.length ∧ OpR (pr.ctx lower input) pr.op j q) := by
  have hiff := ho.iff
  have hcl := ho.clean
  unfold Prog.isMatch
  generalize matchesFrom (pr.ctx lower input) pr 0 {} = r at *
  obtain ⟨m, st⟩ := r
  simp only at hcl hiff ⊢
  rw [hcl]
  refine ⟨m, rfl, hiff.trans ?_⟩
  constructor
  · rintro ⟨j, q, _, h2, h3⟩; exact ⟨j, q, h2, h3⟩
  · rintro ⟨j, q, h2, h3⟩; exact ⟨j, q, Nat.zero_le _, h2, h3⟩

theorem ok_true_iff {r : Out Bool} {P : Prop} (h : ∃ b, r = .ok b ∧ (b = true ↔ P)) : r = .ok true ↔ P := by
  obtain ⟨b, hb, hiff⟩ := h
  rw [hb]
  constructor
  · intro h
    simp only [Out.ok.injEq] at h
    exact hiff.1 h
  · intro h
    rw [hiff.2 h]

theorem ok_false_of_not {r : Out Bool} {P : Prop} (h : ∃ b, r = .ok b ∧ (b = true ↔ P)) (hno : ¬ P) :
    r = .ok false := by
  obtain ⟨b, hb, hiff⟩ := h
  rw [hb]
  cases b with
  | false => rfl
  | true => exact absurd (hiff.1 rfl) hno

theorem isMatch_congr {pr1 pr2 : Prog} {lower1 lower2 : Nat → Nat} {input1 input2 : List Nat}
    (hb : (matchesFrom (pr1.ctx lower1 input1) pr1 0 {}).1 = (matchesFrom (pr2.ctx lower2 input2) pr2 0 {}).1)
    (h1 : (matchesFrom (pr1.ctx lower1 input1) pr1 0 {}).2.panic = none)
    (h2 : (matchesFrom (pr2.ctx lower2 input2) pr2 0 {}).2.panic = none) :
    pr1.isMatch lower1 input1 = pr2.isMatch lower2 input2 := by
  unfold Prog.isMatch
  generalize matchesFrom (pr1.ctx lower1 input1) pr1 0 {} = r1 at *
  generalize matchesFrom (pr2.ctx lower2 input2) pr2 0 {} = r2 at *
  obtain ⟨m1, s1⟩ := r1
  obtain ⟨m2, s2⟩ := r2
  simp only at h1 h2 hb ⊢
  rw [h1, h2, hb]

theorem no_zero_of_null {pr : Prog} {lower : Nat → Nat}
    (ho : Outcome (pr.ctx lower []) pr.op 0 (matchesFrom (pr.ctx lower []) pr 0 {}))
    (hnull : pr.isMatch lower [] = .ok false) (input : List Nat) (j : Nat) :
    ¬ OpR (pr.ctx lower input) pr.op j j := by
  intro hj
  have hz : OpR (pr.ctx lower []) pr.op 0 0 := C16.OpR_zero_anywhere _ _ j hj
  have hm := (ok_true_iff (isMatch_of_outcome ho)).2 ⟨0, 0, Nat.le_refl _, hz⟩
  rw [hnull] at hm
  cases hm

theorem bare_eq_naive (pat : List Nat) (op : Op) (mp : Nat) (fl : CFlags) (hb : Bool)
    (ctx : Ctx) (i : Nat) (hi : i ≤ ctx.len) (st : St) :
    matchesFrom ctx (mkBareProgram pat op mp fl hb) i st =
      matchesNaive ctx (numberReps op 0).1 i st := by
  unfold matchesFrom matchesNaive mkBareProgram
  have h1 : ¬ i > ctx.len := Nat.not_lt.2 hi
  simp only [Bool.false_eq_true, if_false, h1, Nat.not_lt_zero, checkPre]

theorem bare_same (pat : List Nat) (op : Op) (mp : Nat) (fl : CFlags) (hb : Bool)
    (lower : Nat → Nat) (input : List Nat) :
    (mkBareProgram pat op mp fl hb).op = (mkProgram pat op mp fl hb).op ∧
    (mkBareProgram pat op mp fl hb).ctx lower input = (mkProgram pat op mp fl hb).ctx lower input := by
  refine ⟨(MkProgram.op pat op mp fl hb).symm, ?_⟩
  rw [MkProgram.ctx]
  rfl

/-- `op'`: any tree with the same flags (the optimised one, say): a context does not depend on the tree -/
theorem bare_matchesFrom (pat : List Nat) (op op' : Op) (mp : Nat) (fl : CFlags) (hb : Bool)
    (lower : Nat → Nat) (input : List Nat) (i : Nat) (hi : i ≤ input.length) (st : St) :
    matchesFrom ((mkBareProgram pat op mp fl hb).ctx lower input) (mkBareProgram pat op mp fl hb) i st =
      matchesNaive ((mkProgram pat op' mp fl hb).ctx lower input) (mkProgram pat op mp fl hb).op i st := by
  rw [(bare_same pat op mp fl hb lower input).2, MkProgram.op pat op mp fl hb,
    MkProgram.ctx_eq pat op mp fl hb pat op' lower input]
  exact bare_eq_naive pat op mp fl hb ((mkProgram pat op' mp fl hb).ctx lower input) i hi st

/-- what the search layer uses of the main tree of a program -/
structure TreeOK (ctx : Ctx) (o : Op) (e : Nat → List Nat) : Prop where
  enum : Enumerates ctx o e
  quiet : Quiet ctx o
  wf : wfOp o = true

theorem TreeOK.naive {ctx : Ctx} {o : Op} {e : Nat → List Nat} (T : TreeOK ctx o e) (i : Nat) (st : St)
    (hst : st.panic = none) : Outcome ctx o i (matchesNaive ctx o i st) :=
  matchesNaive_outcome T.enum.completeAt T.quiet i st hst

theorem TreeOK.congr {ctx : Ctx} {o : Op} {e e' : Nat → List Nat} (T : TreeOK ctx o e) (h : e = e') :
    TreeOK ctx o e' := h ▸ T

/-- what the search layer uses of a program on an input -/
structure ProgOK (pr : Prog) (lower : Nat → Nat) (input : List Nat) (e : Nat → List Nat) : Prop where
  tree : TreeOK (pr.ctx lower input) pr.op e
  facts : SearchFacts (pr.ctx lower input) pr
  pres : ∀ q ∈ pr.pres, CompleteAt (pr.ctx lower input) q.op ∧ QuietAll (pr.ctx lower input) q.op
  len : input.length < usizeMax

theorem ProgOK.of_mkProgram {pat : List Nat} {op : Op} {mp : Nat} {fl : CFlags} {lower : Nat → Nat}
    {input : List Nat} {e : Nat → List Nat} (hwf : wfOp op = true) (hne : C08.noEmptyAtoms op = true)
    (hlen : input.length < usizeMax)
    (T : TreeOK ((mkProgram pat op mp fl false).ctx lower input) (mkProgram pat op mp fl false).op e) :
    ProgOK (mkProgram pat op mp fl false) lower input e :=
  ⟨T, mkProgram_searchFacts pat op mp fl false lower input hwf hne hlen, fun q hq =>
    ⟨mkProgram_pres_completeAt pat op mp fl false _ hwf hne q hq,
      mkProgram_pres_quietAll pat op mp fl false _ hwf hne q hq⟩, hlen⟩

namespace ProgOK
variable {pr : Prog} {lower : Nat → Nat} {input : List Nat} {e : Nat → List Nat}

theorem congr {e' : Nat → List Nat} (S : ProgOK pr lower input e) (h : e = e') : ProgOK pr lower input e' := h ▸ S

theorem outcome (S : ProgOK pr lower input e) (i : Nat) (hi : i ≤ input.length) (st : St) (hst : st.panic = none) :
    Outcome (pr.ctx lower input) pr.op i (matchesFrom (pr.ctx lower input) pr i st) :=
  matchesFrom_outcome S.facts S.len S.tree.enum.completeAt S.tree.quiet S.pres i hi st hst

theorem isMatch_ok (S : ProgOK pr lower input e) :
    ∃ b, pr.isMatch lower input = .ok b ∧
      (b = true ↔ ∃ j q, j ≤ input.length ∧ OpR (pr.ctx lower input) pr.op j q) :=
  isMatch_of_outcome (S.outcome 0 (Nat.zero_le _) {} rfl)

theorem isMatch_iff (S : ProgOK pr lower input e) :
    pr.isMatch lower input = .ok true ↔ ∃ j q, j ≤ input.length ∧ OpR (pr.ctx lower input) pr.op j q :=
  ok_true_iff S.isMatch_ok

theorem isMatch_false (S : ProgOK pr lower input e)
    (hno : ¬ ∃ j q, j ≤ input.length ∧ OpR (pr.ctx lower input) pr.op j q) : pr.isMatch lower input = .ok false :=
  ok_false_of_not S.isMatch_ok hno

theorem matchesFrom_iff (S : ProgOK pr lower input e) (i : Nat) (hi : i ≤ input.length) (st : St)
    (hst : st.panic = none) :
    ((matchesFrom (pr.ctx lower input) pr i st).1 = true ↔
      ∃ j q, i ≤ j ∧ j ≤ input.length ∧ OpR (pr.ctx lower input) pr.op j q) ∧
    (matchesFrom (pr.ctx lower input) pr i st).2.panic = none :=
  ⟨(S.outcome i hi st hst).iff, (S.outcome i hi st hst).clean⟩

/-- C02: least start, end = head of the enumeration -/
theorem leftmost_first (S : ProgOK pr lower input e) (hcp : C02.capsPos pr.op = true) (i : Nat)
    (hi : i ≤ input.length) (st st' : St) (hst : st.panic = none)
    (h : matchesFrom (pr.ctx lower input) pr i st = (true, st')) :
    ∃ j n, getParenStart st' 0 = some j ∧ getParenEnd st' 0 = some n ∧ (e j).head? = some n ∧
      i ≤ j ∧ j ≤ n ∧ n ≤ input.length ∧ OpR (pr.ctx lower input) pr.op j n ∧
      ∀ k q, i ≤ k → k < j → ¬ OpR (pr.ctx lower input) pr.op k q := by
  have := (S.outcome i hi st hst).span_of_ex S.tree.enum S.tree.wf hcp (by rw [h])
  rw [h] at this
  exact this

theorem agree_of_heads {pr' : Prog} {lower' : Nat → Nat} {input' : List Nat} {e' : Nat → List Nat}
    (S : ProgOK pr lower input e) (S' : ProgOK pr' lower' input' e') (hlen : input.length = input'.length)
    {i : Nat} (hh : ∀ k, i ≤ k → k ≤ input.length → (e k).head? = (e' k).head?) (hi : i ≤ input.length)
    (st st' : St) (hst : st.panic = none) (hst' : st'.panic = none) :
    (matchesFrom (pr.ctx lower input) pr i st).1 = (matchesFrom (pr'.ctx lower' input') pr' i st').1 ∧
    (C02.capsPos pr.op = true → C02.capsPos pr'.op = true → (matchesFrom (pr.ctx lower input) pr i st).1 = true →
      getParenStart (matchesFrom (pr.ctx lower input) pr i st).2 0 =
        getParenStart (matchesFrom (pr'.ctx lower' input') pr' i st').2 0 ∧
      getParenEnd (matchesFrom (pr.ctx lower input) pr i st).2 0 =
        getParenEnd (matchesFrom (pr'.ctx lower' input') pr' i st').2 0) :=
  (S.outcome i hi st hst).agree_of_heads S.tree.enum S'.tree.enum S.tree.wf S'.tree.wf hlen hh
    (S'.outcome i (hlen ▸ hi) st' hst')

/-- C08: shortcuts on / off — Boolean, start and end -/
theorem opt_eq_noopt (S : ProgOK pr lower input e) (hcp : C02.capsPos pr.op = true) (i : Nat)
    (hi : i ≤ input.length) (st1 st2 : St) (h1 : st1.panic = none) (h2 : st2.panic = none) :
    (matchesFrom (pr.ctx lower input) pr i st1).1 = (matchesNaive (pr.ctx lower input) pr.op i st2).1 ∧
    ((matchesFrom (pr.ctx lower input) pr i st1).1 = true →
      getParenStart (matchesFrom (pr.ctx lower input) pr i st1).2 0 =
        getParenStart (matchesNaive (pr.ctx lower input) pr.op i st2).2 0 ∧
      getParenEnd (matchesFrom (pr.ctx lower input) pr i st1).2 0 =
        getParenEnd (matchesNaive (pr.ctx lower input) pr.op i st2).2 0) :=
  let h := (S.outcome i hi st1 h1).agree_of_heads S.tree.enum S.tree.enum S.tree.wf S.tree.wf rfl
    (fun _ _ _ => rfl) (S.tree.naive i st2 h2)
  ⟨h.1, h.2 hcp hcp⟩

/-- `S0`, `hnull`: the nullability gate is decided on the empty input -/
theorem no_zero_length {e0 : Nat → List Nat} (S : ProgOK pr lower input e) (S0 : ProgOK pr lower [] e0)
    (hcp : C02.capsPos pr.op = true) (hnull : pr.isMatch lower [] = .ok false) (i : Nat) (hi : i ≤ input.length)
    (st st' : St) (hst : st.panic = none) (h : matchesFrom (pr.ctx lower input) pr i st = (true, st')) :
    ∃ j n, getParenStart st' 0 = some j ∧ getParenEnd st' 0 = some n ∧ i ≤ j ∧ j < n ∧ n ≤ input.length := by
  obtain ⟨j, n, hs, he, _, hij, hjn, hnl, hopr, _⟩ := S.leftmost_first hcp i hi st st' hst h
  refine ⟨j, n, hs, he, hij, Nat.lt_of_le_of_ne hjn (fun e => ?_), hnl⟩
  subst e
  exact no_zero_of_null (S0.outcome 0 (Nat.zero_le _) {} rfl) hnull input j hopr

theorem goodFind {e0 : Nat → List Nat} (S : ProgOK pr lower input e) (S0 : ProgOK pr lower [] e0)
    (hcp : C02.capsPos pr.op = true) (hnull : pr.isMatch lower [] = .ok false) :
    C04.GoodFind (pr.matcher lower input) input.length (fun st => st.panic = none) :=
  ⟨fun st pos st' _ hinv hpos hfind hfailed => ⟨hfailed, fun hm =>
    S.no_zero_length S0 hcp hnull pos hpos st st' hinv (hm ▸ hfind)⟩⟩

end ProgOK

theorem clean_treeOK (ctx : Ctx) (hbr : ctx.hasBackrefs = false) (o : Op) (hc : cleanOp o = true)
    (hwf : wfOp o = true) : TreeOK ctx o (enum ctx o) :=
  ⟨enumerates_clean ctx o hc hwf, quiet_clean ctx hbr o hc hwf, hwf⟩

theorem clean_progOK (pat : List Nat) (op : Op) (mp : Nat) (fl : CFlags) (lower : Nat → Nat) (input : List Nat)
    (hc : cleanOp op = true) (hwf : wfOp op = true) (hne : C08.noEmptyAtoms op = true)
    (hlen : input.length < usizeMax) :
    ProgOK (mkProgram pat op mp fl false) lower input
      (enum ((mkProgram pat op mp fl false).ctx lower input) (mkProgram pat op mp fl false).op) := by
  obtain ⟨hc', hw', _⟩ := clean_prog pat op mp fl false hc hwf
  exact .of_mkProgram hwf hne hlen (clean_treeOK _ (MkProgram.hasBackrefs pat op mp fl false) _ hc' hw')

end Rx.SearchComplete
