/-
  Proofs/SatSem — `sem_sat`: one induction over the operation tree, for a class of trees that passes to the children
  (`SatEnv`).  Yields are in the language of the tree at the distance `get_match_length` records (`Lang`), states keep
  `I`, divergence only if `dv`.  Soundness (C01), the state invariants (C02, C05, C05b, the memo) and termination
  (C06) are its instances.
-/
import RxModel.Proofs.SatGen
namespace Rx

/-- `q` is an end of `op` from `p` (claimed for starts inside the input), at the distance `get_match_length` records
    — both claimed of well-formed trees only -/
def Lang (ctx : Ctx) (op : Op) : Nat → Nat → Prop := fun p q => wfOp op = true →
  (p ≤ ctx.len → OpR ctx op p q) ∧ ∀ l, matchLen op = some l → l < usizeMax → q = p + l

def LangAny (ctx : Ctx) (bs : List Op) : Nat → Nat → Prop := fun p q => wfOps bs = true →
  (p ≤ ctx.len → OpRAny ctx bs p q) ∧ ∀ n, matchLenAllEq (some n) bs = true → n < usizeMax → q = p + n

def LangSeq (ctx : Ctx) (ops : List Op) : Nat → Nat → Prop := fun p q => wfOps ops = true →
  (p ≤ ctx.len → OpRSeq ctx ops p q) ∧ ∀ n, matchLenSeq ops = some n → n < usizeMax → q = p + n

namespace Lang
variable {ctx : Ctx} {p q : Nat}

/-- the upper bound is asked for only as far as the bounds of the node make sense -/
theorem rpt {o c : Op} {mn mx : Nat} {g : Bool} (e : repeatParts o = some (c, mn, mx, g))
    (h : ∃ k, mn ≤ k ∧ (mn ≤ mx → 0 < mx → k ≤ mx) ∧ IterR (Lang ctx c) k p q) : Lang ctx o p q :=
  fun hwf => by
  obtain ⟨k, h1, h2, hi⟩ := h
  obtain ⟨hwc, hmm, hmx⟩ := wfOp_rpt e hwf
  refine ⟨fun hp => (OpR_rpt ctx e p q).2 ⟨k, h1, h2 hmm hmx, ?_⟩, fun l hl hlt => ?_⟩
  · exact (IterR.guard (D := fun a => a ≤ ctx.len) (fun a b ha hr => (OpR_bounds_op ctx c a b ha hr).2)
      (hi.mono (fun _ _ h ha => (h hwc).1 ha)) hp).1
  · -- `mn = mx` iterations of a body of the recorded length `lc ≤ mn * lc = l`
    obtain ⟨lc, hc, heq, hl⟩ := matchLen_rpt e hwf hl
    have hml := satMul_eq hl hlt
    have : lc ≤ mn * lc := Nat.le_mul_of_pos_left lc (by omega)
    have : k = mn := by have := h2 hmm hmx; omega
    subst this
    rw [(hi.mono (fun _ _ h => (h hwc).2 lc hc (by omega))).fixedLen, hml]

theorem gfixed {c : Op} {mn mx len k guard : Nat} {D : Nat → Prop} (h1 : mn ≤ k) (h2 : 0 < mx → k ≤ mx)
    (hr : Rounds (fun a b => D b ∧ Lang ctx c a b) len guard p k) : Lang ctx (.gfixed c mn mx len) p (p + len * k) :=
  fun hwf => by
  have hwf' := hwf
  simp only [wfOp, Bool.and_eq_true, decide_eq_true_eq, beq_iff_eq] at hwf'
  exact rpt (o := .gfixed c mn mx len) rfl ⟨k, h1, fun _ => h2,
    Rounds.iterR (fun _ _ hab => ⟨hab.2, (hab.2 hwf'.1.1.1.1.1).2 len hwf'.1.1.1.1.2 hwf'.1.1.2⟩) k hr⟩ hwf

theorem capture {g : Nat} {c : Op} (h : Lang ctx c p q) : Lang ctx (.capture g c) p q := fun hwf => by
  simp only [wfOp] at hwf
  simp only [OpR, matchLen]
  exact h hwf

theorem choice {bs : List Op} (h : LangAny ctx bs p q) : Lang ctx (.choice bs) p q := fun hwf => by
  simp only [wfOp, Bool.and_eq_true] at hwf
  exact ⟨fun hp => by simp only [OpR]; exact (h hwf.2).1 hp,
    fun l hl hlt => (h hwf.2).2 l (matchLenChoice_allEq (by simpa only [matchLen] using hl)) hlt⟩

theorem seq {ops : List Op} (h : LangSeq ctx ops p q) : Lang ctx (.seq ops) p q := fun hwf => by
  simp only [wfOp, Bool.and_eq_true] at hwf
  simp only [OpR, matchLen]
  exact h hwf.2

theorem anyHead {o : Op} {os : List Op} (h : Lang ctx o p q) : LangAny ctx (o :: os) p q := fun hwf => by
  simp only [wfOps, Bool.and_eq_true] at hwf
  refine ⟨fun hp => by simp only [OpRAny]; exact .inl ((h hwf.1).1 hp), fun n hn hlt => ?_⟩
  simp only [matchLenAllEq, Bool.and_eq_true, beq_iff_eq] at hn
  exact (h hwf.1).2 n hn.1 hlt

theorem seqCons {o : Op} {os : List Op} {m : Nat} (h : Lang ctx o p m) (hs : LangSeq ctx os m q) :
    LangSeq ctx (o :: os) p q := fun hwf => by
  simp only [wfOps, Bool.and_eq_true] at hwf
  refine ⟨fun hp => ?_, fun n hn hlt => ?_⟩
  · simp only [OpRSeq]
    have hpm := (h hwf.1).1 hp
    exact ⟨m, hpm, (hs hwf.2).1 (OpR_bounds_op ctx o p m hp hpm).2⟩
  · simp only [matchLenSeq] at hn
    cases ha : matchLen o with
    | none => simp [ha] at hn
    | some a =>
      cases hb : matchLenSeq os with
      | none => simp [ha, hb] at hn
      | some b =>
        simp only [ha, hb, Option.some.injEq] at hn
        have hab := satAdd_eq hn hlt
        have := (h hwf.1).2 a ha (by omega)
        have := (hs hwf.2).2 b hb (by omega)
        omega

end Lang

theorem LangAny.anyTail {ctx : Ctx} {p q : Nat} {o : Op} {os : List Op} (h : LangAny ctx os p q) :
    LangAny ctx (o :: os) p q := fun hwf => by
  simp only [wfOps, Bool.and_eq_true] at hwf
  refine ⟨fun hp => by simp only [OpRAny]; exact .inr ((h hwf.2).1 hp), fun n hn hlt => ?_⟩
  simp only [matchLenAllEq, Bool.and_eq_true] at hn
  exact (h hwf.2).2 n hn.2 hlt

theorem LangSeq.nil (ctx : Ctx) (m : Nat) : LangSeq ctx [] m m := fun _ =>
  ⟨fun _ => by simp only [OpRSeq], fun n hn _ => by simp only [matchLenSeq, Option.some.injEq] at hn; omega⟩

/-- what the induction over the tree needs: a class of trees (`ok`; `okL` for lists of them) that contains the
    subtrees of its members (`down`); what the primitive writes of each kind of node ask of the invariant `I` and of
    the start positions `D`; that the ends of a tree of the class lie in `D` again (`pos`); what one pull of the body
    of a repeat leaves (`pull`: `GenSat.pullOK` when `I` holds of the state `first1` makes up for a diverging body, or
    when bodies do not diverge); and why running out of fuel is harmless (`mode`): divergence is allowed and `I`
    survives the fuel marker, or the trees are well-formed and entered inside the input, so that the fuels suffice -/
structure SatEnv (ctx : Ctx) (dv : Prop) (D : Nat → Prop) (I : St → Prop) (ok : Op → Prop) (okL : List Op → Prop) :
    Prop where
  down : Down ok okL
  clear : ∀ st p, D p → I st → I (clearBeyond st p)
  restore : ∀ st st', I st → I st' → I { st' with cap := st.cap }
  setEnd0 : ∀ st p, I st → I { st with cap := st.cap.setEnd 0 p }
  up : ∀ p q, D p → p ≤ q → q ≤ ctx.len → D q
  pos : ∀ {o}, ok o → ∀ p st, D p → (sem ctx o p st).All D
  pull : ∀ {c}, ok c → GenSat dv D I (Lang ctx c) (sem ctx c) →
    PullOK D I (fun a b => D b ∧ Lang ctx c a b) (sem ctx c)
  mode : (dv ∧ Tol I) ∨ ((∀ o, ok o → wfOp o = true) ∧ ∀ p, D p → p ≤ ctx.len)
  capture : ∀ {g c}, ok (.capture g c) →
    (∀ p st, I st → I (captureEntry ctx g p st)) ∧ (∀ p n st, I st → I (captureWrite ctx g p n st))
  hist : ∀ {id c mx}, ok (.rep id c 0 mx true) → ∀ p st, D p → I st → I { st with hist := (id, p) :: st.hist }
  unamb : ∀ {c mn mx}, ok (.unamb c mn mx) → Tol I ∨ isLeaf1 c = true
  bref : ∀ {g}, ok (.backref g) → ∀ st, I st → g ≥ st.startBr.length → I (st.setPanic panicBackrefIndex)

namespace SatEnv
variable {ctx : Ctx} {dv : Prop} {D : Nat → Prop} {I : St → Prop} {ok : Op → Prop} {okL : List Op → Prop}

theorem leaf (E : SatEnv ctx dv D I ok okL) {o : Op} (ho : ok o) {g : Gen} (hgo : sem ctx o = g) (hg : PureLeaf g)
    (hs : GenSound g (OpR ctx o)) (hml : ∀ p q l, OpR ctx o p q → matchLen o = some l → q = p + l) :
    GenSat dv D I (Lang ctx o) g :=
  fun p st hp h => by
    have hD : (g p st).All D := hgo ▸ E.pos ho p st hp
    exact hg.sat ((hD.and (hs p st)).mono (fun q hq =>
      ⟨hq.1, fun _ => ⟨fun _ => hq.2, fun l hl _ => hml p q l hq.2 hl⟩⟩)) h

theorem progress (_E : SatEnv ctx dv D I ok okL) (hwf : ∀ o, ok o → wfOp o = true) (hin : ∀ p, D p → p ≤ ctx.len)
    {c : Op} (hc : ok c) : Advances D (Lang ctx c) 0 ctx.len :=
  fun a b ha hr => have hb := OpR_bounds_op ctx c a b (hin a ha) ((hr (hwf c hc)).1 (hin a ha)); ⟨hb.1, hb.2⟩

end SatEnv

theorem sem_sat_both {ctx : Ctx} {dv : Prop} {D : Nat → Prop} {I : St → Prop} {ok : Op → Prop} {okL : List Op → Prop}
    (E : SatEnv ctx dv D I ok okL) :
    (∀ op, ok op → GenSat dv D I (Lang ctx op) (sem ctx op)) ∧
    ∀ l, okL l → GenSat dv D I (LangAny ctx l) (choiceGen (semL ctx l)) ∧
      GenSat dv D I (LangSeq ctx l) (seqK (semL ctx l)) := by
  refine Op.ind_both ?_ ?_ ?_ ?_ ?_ ?_ ?_ ?_ ?_ ?_ ?_ ?_ ?_ ?_ ?_ ?_
  · intro ho
    exact E.leaf ho (by simp only [sem]) (bolGen_pure ctx) (bolGen_sound ctx) (fun p q l h hl => by
      simp only [OpR] at h; simp only [matchLen, Option.some.injEq] at hl; omega)
  · intro ho
    exact E.leaf ho (by simp only [sem]) (eolGen_pure ctx) (eolGen_sound ctx) (fun p q l h hl => by
      simp only [OpR] at h; simp only [matchLen, Option.some.injEq] at hl; omega)
  · intro ho
    exact E.leaf ho (by simp only [sem]) nothingGen_pure (nothingGen_sound ctx) (fun p q l h hl => by
      simp only [OpR] at h; simp only [matchLen, Option.some.injEq] at hl; omega)
  · intro _ p st hp h
    simp only [sem]
    exact .once ⟨hp, fun _ => ⟨fun _ => by simp only [OpR], fun l hl _ => by
      simp only [matchLen, Option.some.injEq] at hl; omega⟩⟩ (E.setEnd0 st p h)
  · intro cs ho
    exact E.leaf ho (by simp only [sem]) (atomGen_pure ctx cs) (atomGen_sound ctx cs) (fun p q l h hl => by
      simp only [OpR] at h; simp only [matchLen, Option.some.injEq] at hl; omega)
  · intro rs ho
    exact E.leaf ho (by simp only [sem]) (clsGen_pure ctx rs) (clsGen_sound ctx rs) (fun p q l h hl => by
      simp only [OpR] at h; simp only [matchLen, Option.some.injEq] at hl; omega)
  · intro g ho p st hp h
    have hD := E.pos ho p st hp
    simp only [sem] at hD ⊢
    exact ((backrefGen_sat ctx g p st h (E.bref ho st h)).andAll hD).mono (fun q hq => ⟨hq.2, fun _ =>
      ⟨fun hpl => by simp only [OpR]; have := hq.1; omega, fun l hl _ => by simp [matchLen] at hl⟩⟩)
  · intro g c ih ho
    obtain ⟨hpre, hw⟩ := E.capture ho
    simp only [sem]
    exact fun p st hp h => (captureGen_sat (ih (E.down.capture ho)) ctx g hpre hw p st hp h).mono
      (fun q hq => ⟨hq.1, hq.2.capture⟩)
  · intro bs ih ho
    simp only [sem]
    exact fun p st hp h => ((ih (E.down.choice ho)).1 p st hp h).mono (fun q hq => ⟨hq.1, Lang.choice hq.2⟩)
  · intro ops ih ho
    simp only [sem]
    exact fun p st hp h => (seqGen_sat E.restore (ih (E.down.seq ho)).2.seqGo _ p st hp h).mono
      (fun q hq => ⟨hq.1, Lang.seq hq.2⟩)
  · intro id c mn mx greedy ih ho p st hp h
    have hc := E.down.rpt (o := .rep id c mn mx greedy) rfl ho
    simp only [sem]
    cases greedy with
    | true =>
      simp only [if_true]
      exact (repGreedyGen_sat (ih hc) ctx id mn mx p st hp (fun _ => h)
        (fun h0 _ => E.hist (h0 ▸ ho) p st hp h)).mono
        (fun q ⟨hq, k, h1, h2, hi⟩ => ⟨hq, Lang.rpt (o := .rep id c mn mx true) rfl ⟨k, h1, fun _ _ => h2, hi⟩⟩)
    | false =>
      simp only [Bool.false_eq_true, if_false]
      exact (repReluctantGen_sat (E.pull hc (ih hc)) ctx mn mx
        (E.mode.imp (fun m => ⟨m.2, m.1⟩) (fun m => E.progress m.1 m.2 hc)) p st hp h).mono
        (fun q ⟨hq, k, h1, h2, hi⟩ =>
          ⟨hq, Lang.rpt (o := .rep id c mn mx false) rfl ⟨k, h1, fun hm _ => h2 hm, hi⟩⟩)
  · intro c mn mx len ih ho p st hp h
    have hc := E.down.rpt (o := .gfixed c mn mx len) rfl ho
    have hD := E.pos ho p st hp
    simp only [sem] at hD ⊢
    refine ((gfixedGen_sat (E.pull hc (ih hc)) ctx mn mx len E.up ?_ p st (fun _ => hp) h).andAll hD).mono
      (fun q ⟨⟨k, h1, h2, hq, hr⟩, hDq⟩ => ⟨hDq, hq ▸ Lang.gfixed h1 h2 hr⟩)
    rcases E.mode with m | m
    · exact .inr ⟨m.2, m.1⟩
    · have hwf := m.1 _ ho
      simp only [wfOp, Bool.and_eq_true, decide_eq_true_eq] at hwf
      exact .inl hwf.1.1.1.2
  · intro c mn mx len ih ho p st hp h
    have hc := E.down.rpt (o := .rfixed c mn mx len) rfl ho
    simp only [sem]
    refine (rfixedGen_sat (d := len) (E.pull hc (ih hc)) ctx mn mx ?_ p st hp h
      (fun st h' => E.clear st p hp h')).mono
      (fun q ⟨hq, k, h1, h2, hi⟩ => ⟨hq, Lang.rpt (o := .rfixed c mn mx len) rfl ⟨k, h1, fun hm _ => h2 hm, hi⟩⟩)
    rcases E.mode with m | m
    · exact .inl ⟨m.2, m.1⟩
    · -- the body advances by the recorded length `len ≥ 1`
      have hwf := m.1 _ ho
      simp only [wfOp, Bool.and_eq_true, decide_eq_true_eq, beq_iff_eq] at hwf
      refine .inr ⟨fun a b ha hr => ?_, hwf.1.1.1.2⟩
      have := E.progress m.1 m.2 hc a b ha hr
      have := (hr hwf.1.1.1.1.1).2 len hwf.1.1.1.1.2 hwf.1.1.2
      omega
  · intro c mn mx ih ho p st hp h
    have hc := E.down.rpt (o := .unamb c mn mx) rfl ho
    simp only [sem]
    refine (unambGen_sat (d := 1) (E.pull hc (ih hc)) ctx mn mx ?_ p st hp h).mono
      (fun q ⟨hq, k, h1, h2, hi⟩ => ⟨hq, Lang.rpt (o := .unamb c mn mx) rfl ⟨k, h1, fun _ _ => h2, hi⟩⟩)
    rcases E.mode with m | m
    · exact .inl m.2
    · refine (E.unamb ho).imp id (fun hl => ⟨fun a b ha hr => ?_, Nat.le_refl _⟩)
      have := E.progress m.1 m.2 hc a b ha hr
      have := leaf1_adv hl ((hr (m.1 c hc)).1 (m.2 a ha))
      omega
  · intro _
    simp only [semL]
    exact ⟨choiceGen_nil_sat _, seqK_nil_sat (LangSeq.nil ctx)⟩
  · intro o os iho ihos h
    have ho := E.down.head h
    obtain ⟨hany, hseq⟩ := ihos (E.down.tail h)
    simp only [semL]
    exact ⟨choiceGen_cons_sat E.clear (fun p st hp h' => ((iho ho) p st hp h').mono (fun q hq => ⟨hq.1, hq.2.anyHead⟩))
        (fun p st hp h' => (hany p st hp h').mono (fun q hq => ⟨hq.1, hq.2.anyTail⟩)),
      fun p st hp h' => (seqK_cons_sat E.clear (iho ho) hseq p st hp h').mono
        (fun q ⟨hq, m, hm, hmq⟩ => ⟨hq, hm.seqCons hmq⟩)⟩

theorem sem_sat {ctx : Ctx} {dv : Prop} {D : Nat → Prop} {I : St → Prop} {ok : Op → Prop} {okL : List Op → Prop}
    (E : SatEnv ctx dv D I ok okL) : (op : Op) → ok op → GenSat dv D I (Lang ctx op) (sem ctx op) :=
  (sem_sat_both E).1

theorem sem_sat_choice {ctx : Ctx} {dv : Prop} {D : Nat → Prop} {I : St → Prop} {ok : Op → Prop} {okL : List Op → Prop}
    (E : SatEnv ctx dv D I ok okL) : (bs : List Op) → okL bs → GenSat dv D I (LangAny ctx bs) (choiceGen (semL ctx bs)) :=
  fun bs h => ((sem_sat_both E).2 bs h).1

theorem sem_sat_seq {ctx : Ctx} {dv : Prop} {D : Nat → Prop} {I : St → Prop} {ok : Op → Prop} {okL : List Op → Prop}
    (E : SatEnv ctx dv D I ok okL) : (ops : List Op) → okL ops → GenSat dv D I (LangSeq ctx ops) (seqGo (semL ctx ops)) :=
  fun ops h => ((sem_sat_both E).2 ops h).2.seqGo

end Rx
