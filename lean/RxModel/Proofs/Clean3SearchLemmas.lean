/-
  Proofs/Clean3SearchLemmas — what `add_precondition` records for a tree of the fragment with the general greedy
  repeat (Spec/Enum3): the shapes of Proofs/Clean2SearchLemmas, or `(x){1,m}` as a general repeat over one character
  (`preShape3`).  The search-loop theorems for the fragment are those of the fragment of Spec/Enum4.
-/
import RxModel.Proofs.Clean2SearchLemmas
namespace Rx.SearchComplete
open Rx
open Rx.C08 (noEmptyAtoms noEmptyAtomsL clsCanon clsCanonL)

/-- the shapes `add_precondition` records for a tree of the fragment: those of the fragment without the
    general repeat (`preShape2`), or `x{1,m}` as a general greedy repeat over one non-empty literal / class -/
def preShape3 (o : Op) : Bool :=
  preShape2 o ||
  (match o with
   | .rep _ c mn mx g => g && isAtomOrClass c && noEmptyAtoms c && clsCanonB c && (mn == 1) && decide (1 ≤ mx)
   | _ => false)

theorem preShape3_of_2 {o : Op} (h : preShape2 o = true) : preShape3 o = true := by
  unfold preShape3; rw [h]; rfl

/-- the body of a general repeat is in the fragment without it -/
theorem down_shape3 : Down (fun o => shape3 o = true ∨ shape2 o = true)
    (fun l => shape3L l = true ∨ shape2L l = true) where
  capture h := h.imp (fun h => by simpa only [shape3] using h) down_shape2.capture
  choice h := h.imp (fun h => by simpa only [shape3] using h) down_shape2.choice
  seq h := h.imp (fun h => by simpa only [shape3] using h) down_shape2.seq
  rpt hp h := by
    rcases h with hs | hs
    case inr => exact .inr (down_shape2.rpt hp hs)
    rcases repeatParts_cases hp with ⟨_, rfl⟩ | ⟨_, rfl, _⟩ | ⟨_, rfl, _⟩ | ⟨rfl, _⟩
    · simp only [shape3, Bool.and_eq_true] at hs
      exact .inr hs.2
    · exact .inl (by simpa only [shape3] using hs)
    · exact .inl (by simpa only [shape3] using hs)
    · exact .inr (shape2_of_leaf (by simpa only [shape3] using hs))
  head h := h.imp (fun h => by simp only [shape3L, Bool.and_eq_true] at h; exact h.1) down_shape2.head
  tail h := h.imp (fun h => by simp only [shape3L, Bool.and_eq_true] at h; exact h.2) down_shape2.tail

/-- what the hypotheses of the fragment give at every node `addPre` reaches -/
abbrev Node3 (o : Op) : Prop :=
  (((shape3 o = true ∨ shape2 o = true) ∧ wfOp o = true) ∧ noEmptyAtoms o = true) ∧ clsCanonB o = true

theorem down_node3 : Down Node3 (fun l =>
    (((shape3L l = true ∨ shape2L l = true) ∧ wfOps l = true) ∧ noEmptyAtomsL l = true) ∧ clsCanonBL l = true) :=
  ((down_shape3.and down_wfOp).and C08.down_noEmptyAtoms).and Clean2Opt.down_clsCanonB

theorem preShape3_of_preAt {n t : Op} (h : PreAt n t) (hn : Node3 n) : preShape3 t = true := by
  obtain ⟨⟨⟨hs, hwf⟩, hne⟩, hcan⟩ := hn
  rcases preAt_cases h hwf hne with h2 | ⟨id, c, mx, g, rfl, rfl, hac⟩
  · exact preShape3_of_2 h2
  · have hg : g = true := by
      rcases hs with hs | hs
      · simp only [shape3, Bool.and_eq_true] at hs; exact hs.1.1
      · simp [shape2] at hs
    subst hg
    simp only [wfOp, Bool.and_eq_true, decide_eq_true_eq] at hwf
    simp only [noEmptyAtoms] at hne
    simp only [clsCanonB] at hcan
    simp only [preShape3, hac, hne, hcan, beq_self_eq_true, Bool.and_self, Bool.true_and, Bool.or_eq_true,
      decide_eq_true_eq]
    exact .inr hwf.1.2

theorem addPreSeq_preShape3 (ml : Bool) : (ops : List Op) → shape3L ops = true → wfOps ops = true →
    noEmptyAtomsL ops = true → clsCanonBL ops = true →
    ∀ fp mp, ∀ q ∈ addPreSeq ml ops fp mp, preShape3 q.op = true :=
  fun _ hs hwf hne hcan fp mp _ hq => by
    obtain ⟨n, hn, h⟩ := addPreSeq_node down_node3 ml ⟨⟨⟨.inl hs, hwf⟩, hne⟩, hcan⟩ fp mp hq
    exact preShape3_of_preAt h hn

end Rx.SearchComplete
