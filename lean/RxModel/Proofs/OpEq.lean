/-
  Proofs/OpEq — a Boolean equality test on operation trees (`opEq`, `opEqL`) and its soundness: the examples tie a
  hand-written tree to the tree of a compiled program by `decide` on `opEq`, then rewrite with `opEq_sound`.
-/
import RxModel.Model.Engine
namespace Rx

mutual
def opEq : Op → Op → Bool
  | .bol, .bol | .eol, .eol | .nothing, .nothing | .endProgram, .endProgram => true
  | .atom a, .atom b => a == b
  | .cls a, .cls b => a == b
  | .backref a, .backref b => a == b
  | .capture g c, .capture g' c' => g == g' && opEq c c'
  | .choice a, .choice b => opEqL a b
  | .seq a, .seq b => opEqL a b
  | .rep i c mn mx gr, .rep i' c' mn' mx' gr' => i == i' && opEq c c' && mn == mn' && mx == mx' && gr == gr'
  | .gfixed c mn mx l, .gfixed c' mn' mx' l' => opEq c c' && mn == mn' && mx == mx' && l == l'
  | .rfixed c mn mx l, .rfixed c' mn' mx' l' => opEq c c' && mn == mn' && mx == mx' && l == l'
  | .unamb c mn mx, .unamb c' mn' mx' => opEq c c' && mn == mn' && mx == mx'
  | _, _ => false
termination_by structural a => a
def opEqL : List Op → List Op → Bool
  | [], [] => true
  | a :: as, b :: bs => opEq a b && opEqL as bs
  | _, _ => false
termination_by structural a => a
end

/-- `opEq`'s own induction principle has ONE case for all pairs of different constructors -/
theorem opEq_sound_both : (∀ a b : Op, opEq a b = true → a = b) ∧ (∀ as bs : List Op, opEqL as bs = true → as = bs) := by
  refine opEq.mutual_induct (motive_1 := fun a b => opEq a b = true → a = b)
    (motive_2 := fun as bs => opEqL as bs = true → as = bs) ?_ ?_ ?_ ?_ ?_ ?_ ?_ ?_ ?_ ?_ ?_ ?_ ?_ ?_ ?_ ?_ ?_ ?_
  · intro _; rfl
  · intro _; rfl
  · intro _; rfl
  · intro _; rfl
  · intro x y h; simp only [opEq, beq_iff_eq] at h; rw [h]
  · intro x y h; simp only [opEq, beq_iff_eq] at h; rw [h]
  · intro x y h; simp only [opEq, beq_iff_eq] at h; rw [h]
  · intro g c g' c' ih h
    simp only [opEq, Bool.and_eq_true, beq_iff_eq] at h
    rw [h.1, ih h.2]
  · intro x y ih h; simp only [opEq] at h; rw [ih h]
  · intro x y ih h; simp only [opEq] at h; rw [ih h]
  · intro i c mn mx gr i' c' mn' mx' gr' ih h
    simp only [opEq, Bool.and_eq_true, beq_iff_eq] at h
    obtain ⟨⟨⟨⟨h1, h2⟩, h3⟩, h4⟩, h5⟩ := h
    rw [h1, ih h2, h3, h4, h5]
  · intro c mn mx l c' mn' mx' l' ih h
    simp only [opEq, Bool.and_eq_true, beq_iff_eq] at h
    obtain ⟨⟨⟨h2, h3⟩, h4⟩, h5⟩ := h
    rw [ih h2, h3, h4, h5]
  · intro c mn mx l c' mn' mx' l' ih h
    simp only [opEq, Bool.and_eq_true, beq_iff_eq] at h
    obtain ⟨⟨⟨h2, h3⟩, h4⟩, h5⟩ := h
    rw [ih h2, h3, h4, h5]
  · intro c mn mx c' mn' mx' ih h
    simp only [opEq, Bool.and_eq_true, beq_iff_eq] at h
    obtain ⟨⟨h2, h3⟩, h4⟩ := h
    rw [ih h2, h3, h4]
  · intro t x h1 h2 h3 h4 h5 h6 h7 h8 h9 h10 h11 h12 h13 h14 h
    rw [opEq.eq_15 t x h1 h2 h3 h4 h5 h6 h7 h8 h9 h10 h11 h12 h13 h14] at h
    cases h
  · intro _; rfl
  · intro x xs y ys ih1 ih2 h
    simp only [opEqL, Bool.and_eq_true] at h
    rw [ih1 h.1, ih2 h.2]
  · intro t x h1 h2 h
    rw [opEqL.eq_3 t x h1 h2] at h
    cases h

theorem opEq_sound : (a b : Op) → opEq a b = true → a = b := opEq_sound_both.1

theorem opEqL_sound : (a b : List Op) → opEqL a b = true → a = b := opEq_sound_both.2

end Rx
