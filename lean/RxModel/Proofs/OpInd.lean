/-
  Proofs/OpInd — induction over an operation tree and its lists of sub-trees, as one principle with a
  motive for trees and one for lists: the two recursors of the nested inductive type `Op` side by side.
-/
import RxModel.Model.Engine
namespace Rx

theorem Op.ind_both {M : Op → Prop} {ML : List Op → Prop}
    (bol : M .bol) (eol : M .eol) (nothing : M .nothing) (endProgram : M .endProgram)
    (atom : ∀ cs, M (.atom cs)) (cls : ∀ rs, M (.cls rs)) (backref : ∀ g, M (.backref g))
    (capture : ∀ g c, M c → M (.capture g c)) (choice : ∀ l, ML l → M (.choice l)) (seq : ∀ l, ML l → M (.seq l))
    (rep : ∀ id c mn mx g, M c → M (.rep id c mn mx g)) (gfixed : ∀ c mn mx len, M c → M (.gfixed c mn mx len))
    (rfixed : ∀ c mn mx len, M c → M (.rfixed c mn mx len)) (unamb : ∀ c mn mx, M c → M (.unamb c mn mx))
    (nil : ML []) (cons : ∀ o l, M o → ML l → ML (o :: l)) : (∀ op, M op) ∧ ∀ l, ML l :=
  ⟨Op.rec (motive_2 := ML) bol eol nothing endProgram atom cls backref capture choice seq rep gfixed rfixed unamb
      nil cons,
    Op.rec_1 (motive_1 := M) bol eol nothing endProgram atom cls backref capture choice seq rep gfixed rfixed unamb
      nil cons⟩

end Rx
