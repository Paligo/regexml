/-
  Spec/OpLang — the language denoted by a compiled operation tree, compositionally:
  alternation = union, sequence = composition, every repetition operator = k-fold composition for
  min ≤ k ≤ max, anchors = position tests, a class = its set.  `OpR ctx op p q` : "`op` can match
  the input from offset `p` to offset `q`".  Independent of iterators, state, order of exploration.
  (A back-reference depends on the capture environment; here it is only constrained to stay
  inside the input — C19 refines it.)
-/
import RxModel.Spec.IterR
import RxModel.Model.Optimize
namespace Rx

mutual
def OpR (ctx : Ctx) : Op → Nat → Nat → Prop
  | .bol, p, q => q = p ∧ (p = 0 ∨ (ctx.multiLine = true ∧ ctx.input[p - 1]? = some 10 ∧ p < ctx.len))
  | .eol, p, q => q = p ∧ (p ≥ ctx.len ∨ (ctx.multiLine = true ∧ ctx.input[p]? = some 10))
  | .nothing, p, q => q = p
  | .endProgram, p, q => q = p
  | .atom cs, p, q => q = p + cs.length ∧ q ≤ ctx.len ∧ prefixMatch ctx cs (ctx.input.drop p) = true
  | .cls rs, p, q => q = p + 1 ∧ ∃ c, ctx.input[p]? = some c ∧ clsContains rs c = true
  | .backref _, p, q => p ≤ q ∧ q ≤ ctx.len
  | .capture _ c, p, q => OpR ctx c p q
  | .choice bs, p, q => OpRAny ctx bs p q
  | .seq ops, p, q => OpRSeq ctx ops p q
  | .rep _ c mn mx _, p, q => ∃ k, mn ≤ k ∧ k ≤ mx ∧ IterR (fun a b => OpR ctx c a b) k p q
  | .gfixed c mn mx _, p, q => ∃ k, mn ≤ k ∧ k ≤ mx ∧ IterR (fun a b => OpR ctx c a b) k p q
  | .rfixed c mn mx _, p, q => ∃ k, mn ≤ k ∧ k ≤ mx ∧ IterR (fun a b => OpR ctx c a b) k p q
  | .unamb c mn mx, p, q => ∃ k, mn ≤ k ∧ k ≤ mx ∧ IterR (fun a b => OpR ctx c a b) k p q
termination_by structural o => o
def OpRAny (ctx : Ctx) : List Op → Nat → Nat → Prop
  | [], _, _ => False
  | b :: bs, p, q => OpR ctx b p q ∨ OpRAny ctx bs p q
termination_by structural l => l
def OpRSeq (ctx : Ctx) : List Op → Nat → Nat → Prop
  | [], p, q => q = p
  | o :: os, p, q => ∃ m, OpR ctx o p m ∧ OpRSeq ctx os m q
termination_by structural l => l
end

mutual
/-- well-formedness of compiled trees: the recorded body length of a fixed-length repeat is the
    body's real fixed length and is positive; quantifier bounds satisfy `min ≤ max`, `0 < max`;
    sequences and choices are non-empty.  (The compiler only builds such trees; the driver
    re-checks `wfOp` on every program it is given.) -/
def wfOp : Op → Bool
  | .capture _ c => wfOp c
  | .choice bs => !bs.isEmpty && wfOps bs
  | .seq ops => !ops.isEmpty && wfOps ops
  | .rep _ c mn mx _ => wfOp c && decide (mn ≤ mx) && decide (0 < mx)
  | .gfixed c mn mx len =>
      wfOp c && (matchLen c == some len) && decide (0 < len) && decide (len < usizeMax) && decide (mn ≤ mx) && decide (0 < mx)
  | .rfixed c mn mx len =>
      wfOp c && (matchLen c == some len) && decide (0 < len) && decide (len < usizeMax) && decide (mn ≤ mx) && decide (0 < mx)
  | .unamb c mn mx => wfOp c && decide (mn ≤ mx) && decide (0 < mx)
  | _ => true
termination_by structural o => o
def wfOps : List Op → Bool
  | [] => true
  | o :: os => wfOp o && wfOps os
termination_by structural l => l
end

mutual
def hasBackref : Op → Bool
  | .backref _ => true
  | .capture _ c => hasBackref c
  | .choice bs => hasBackrefL bs
  | .seq ops => hasBackrefL ops
  | .rep _ c _ _ _ => hasBackref c
  | .gfixed c _ _ _ => hasBackref c
  | .rfixed c _ _ _ => hasBackref c
  | .unamb c _ _ => hasBackref c
  | _ => false
termination_by structural o => o
def hasBackrefL : List Op → Bool
  | [] => false
  | o :: os => hasBackref o || hasBackrefL os
termination_by structural l => l
end

end Rx
