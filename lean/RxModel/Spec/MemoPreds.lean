/-
  Spec/MemoPreds — the fragment with skippable greedy repeats as elements of the root sequence (`cleanProg3m`: each
  element in the fragment of Spec/Enum3, or `x*` / `x{0,m}` over a body that passes `rep0B`), and the invariant of the
  matcher's memo on it (`HR`: every entry for a skippable repeat of the sequence is dead).  Props/Clean3 and
  Props/Clean3Memo… state their theorems with these; Proofs/Memo{,Seq,Scan}Lemmas prove the search on them.
-/
import RxModel.Spec.Enum3
import RxModel.Spec.Preds
namespace Rx.Clean3
open Rx
open Rx.C08 (noEmptyAtoms noEmptyAtomsL clsCanon clsCanonL)

/-- the conditions on the body, for a repeat that may be skipped -/
structure Rep0OK (env : Env) (ctx : Ctx) (c : Op) (mx : Nat) : Prop where
  mx0 : 0 < mx
  clean : cleanOp2 env ctx.caseBlind ctx.multiLine c = true
  nn : nonNull c = true
  det : detB env ctx.caseBlind c = true
  wf : wfOp c = true
  ne : noEmptyAtoms c = true
  can : clsCanon c

end Rx.Clean3

namespace Rx.Memo
open Rx

/-- the rest `R` of the root sequence has a match from `p` -/
def Live (ctx : Ctx) (R : List Op) (p : Nat) : Prop := ∃ q, OpRSeq ctx R p q

/-- the memo key of a skippable general greedy repeat -/
def rep0Id : Op → Option Nat
  | .rep id _ mn _ g => if mn == 0 && g then some id else none
  | _ => none

def rep0Ids : List Op → List Nat
  | [] => []
  | o :: os => (match rep0Id o with | some id => [id] | none => []) ++ rep0Ids os

/-- THE MEMO INVARIANT for the (rest of the) root sequence: every entry `(id, p)` for a skippable repeat
    `id` of the sequence is DEAD — skipping the repeat at `p` (zero iterations) cannot be continued to a
    match by the elements that follow it -/
def HR (ctx : Ctx) : List Op → St → Prop
  | [], _ => True
  | o :: os, st =>
    (∀ id, rep0Id o = some id → ∀ p, p ≤ ctx.len → memPair st.hist id p = true → ¬ Live ctx os p) ∧
    HR ctx os st

/-- a skippable general greedy repeat over a rep-free, non-nullable, end-deterministic body -/
def rep0B (env : Env) (cb ml : Bool) : Op → Bool
  | .rep _ c mn _ g => (mn == 0) && g && cleanOp2 env cb ml c && nonNull c && detB env cb c
  | _ => false

/-- an element of the root sequence: in the fragment of Spec/Enum3 (judged against its followers), or a
    skippable repeat -/
def elemOK (env : Env) (cb ml : Bool) (o : Op) (os : List Op) : Bool :=
  cleanOp3F env cb ml true os o || rep0B env cb ml o

def cleanSeq3m (env : Env) (cb ml : Bool) : List Op → Bool
  | [] => true
  | o :: os => elemOK env cb ml o os && cleanSeq3m env cb ml os

/-- a whole program: a root sequence of such elements, the skippable repeats with pairwise distinct keys -/
def cleanProg3m (env : Env) (cb ml : Bool) : Op → Bool
  | .seq l => cleanSeq3m env cb ml l && decide (rep0Ids l).Nodup
  | _ => false

end Rx.Memo
