/-
  Spec/Preds — the predicates on compiled trees, programs and matcher states with which the hypotheses of the
  properties are written (decidable, or plain conditions); each stands in the namespace of the
  property whose statements use it: `C02.capsPos`, `C05.NoPanic`, `C05.FactsOK`, `C06.smallMin`, `C06.NoDivMark`,
  `C06.simplePre`, `C08.PreOK`, `C08.noEmptyAtoms`, `C08.clsCanon`, `ApiComplete.hasCapNode`.  What the compiler
  establishes of them is in Props/WF.  The hypotheses on case data and inputs are in Spec/InputPreds, the fragment
  with skippable repeats at the root and the memo invariant in Spec/MemoPreds.
-/
import RxModel.Spec.OpLang
import RxModel.Spec.Class
import RxModel.Model.Search
import RxModel.Model.Program
namespace Rx.C02
open Rx

mutual
/-- every capturing group of the tree has a number ≥ 1 (group 0 is the whole match) -/
def capsPos : Op → Bool
  | .capture g c => decide (1 ≤ g) && capsPos c
  | .choice bs => capsPosL bs
  | .seq ops => capsPosL ops
  | .rep _ c _ _ _ => capsPos c
  | .gfixed c _ _ _ => capsPos c
  | .rfixed c _ _ _ => capsPos c
  | .unamb c _ _ => capsPos c
  | _ => true
termination_by structural o => o
def capsPosL : List Op → Bool
  | [] => true
  | o :: os => capsPos o && capsPosL os
termination_by structural l => l
end

end Rx.C02

namespace Rx.C05
open Rx

/-- "no real panic": the marker is clear, or only records non-termination -/
def NoPanic (st : St) : Prop := st.panic = none ∨ st.panic = some panicDiverge

/-- the facts `ReProgram::new` derives never make the search loop itself panic -/
def FactsOK (pr : Prog) : Prop :=
  (∀ pre, pr.prefix_ = some pre → pre.length ≤ pr.minLen ∨ pr.minLen = usizeMax) ∧
  (∀ q ∈ pr.pres, hasBackref q.op = false)

end Rx.C05

namespace Rx.C06
open Rx

mutual
/-- reluctant variable-length repeats have a minimum the model's loop fuel covers, and a
    non-backtracking repeat is over a non-empty literal or a class (`Sequence::optimize` builds it
    over an `Atom` or a `CharClass` only) -/
def smallMin (len : Nat) : Op → Bool
  | .capture _ c => smallMin len c
  | .choice bs => smallMinL len bs
  | .seq ops => smallMinL len ops
  | .rep _ c mn _ g => smallMin len c && (g || decide (mn < len + 1000))
  | .gfixed c _ _ _ => smallMin len c
  | .rfixed c _ _ _ => smallMin len c
  | .unamb c _ _ => (match c with | .atom cs => !cs.isEmpty | .cls _ => true | _ => false)
  | _ => true
termination_by structural o => o
def smallMinL (len : Nat) : List Op → Bool
  | [] => true
  | o :: os => smallMin len o && smallMinL len os
termination_by structural l => l
end

/-- "no divergence so far": the marker does not record non-termination -/
def NoDivMark (st : St) : Prop := st.panic ≠ some panicDiverge

/-- the shape of every precondition `add_precondition` records: a single character (literal text /
    class) or a well-formed repeat of one — these may be evaluated beyond the end of the input -/
def simplePre : Op → Bool
  | .atom cs => !cs.isEmpty
  | .cls _ => true
  | .rep _ c mn mx g => isAtomOrClass c && simplePreChild c && decide (mn ≤ mx) && decide (0 < mx) && (g || decide (mn < 1000))
  | .gfixed c mn mx len => isAtomOrClass c && simplePreChild c && (matchLen c == some len) && decide (0 < len) && decide (len < usizeMax) && decide (mn ≤ mx) && decide (0 < mx)
  | .rfixed c mn mx len => isAtomOrClass c && simplePreChild c && (matchLen c == some len) && decide (0 < len) && decide (len < usizeMax) && decide (mn ≤ mx) && decide (0 < mx)
  | .unamb c mn mx => isAtomOrClass c && simplePreChild c && decide (mn ≤ mx) && decide (0 < mx)
  | _ => false
where simplePreChild : Op → Bool
  | .atom cs => !cs.isEmpty
  | _ => true

end Rx.C06

namespace Rx.C08
open Rx

/-- what `check_preconditions(start)` demands for one recorded precondition, in terms of the language -/
def PreOK (ctx : Ctx) (q : Pre) (start : Nat) : Prop :=
  match q.fixed with
  | some f => ∃ n, OpR ctx q.op f n
  | none => ∃ k n, start ≤ k ∧ q.minPos ≤ k ∧ k < ctx.len ∧ OpR ctx q.op k n

mutual
/-- no empty literal (the compiler never builds one outside the literal program `atom "" · end`,
    whose preconditions are never consulted because it has a prefix) -/
def noEmptyAtoms : Op → Bool
  | .atom cs => !cs.isEmpty
  | .capture _ c => noEmptyAtoms c
  | .choice bs => noEmptyAtomsL bs
  | .seq ops => noEmptyAtomsL ops
  | .rep _ c _ _ _ => noEmptyAtoms c
  | .gfixed c _ _ _ => noEmptyAtoms c
  | .rfixed c _ _ _ => noEmptyAtoms c
  | .unamb c _ _ => noEmptyAtoms c
  | _ => true
termination_by structural o => o
def noEmptyAtomsL : List Op → Bool
  | [] => true
  | o :: os => noEmptyAtoms o && noEmptyAtomsL os
termination_by structural l => l
end

mutual
/-- every class of the tree is a canonical range list and every literal character is a code point -/
def clsCanon : Op → Prop
  | .atom cs => ∀ c ∈ cs, c < cpLimit
  | .cls rs => C09.Canon rs
  | .capture _ c => clsCanon c
  | .choice bs => clsCanonL bs
  | .seq ops => clsCanonL ops
  | .rep _ c _ _ _ => clsCanon c
  | .gfixed c _ _ _ => clsCanon c
  | .rfixed c _ _ _ => clsCanon c
  | .unamb c _ _ => clsCanon c
  | _ => True
termination_by structural o => o
def clsCanonL : List Op → Prop
  | [] => True
  | o :: os => clsCanon o ∧ clsCanonL os
termination_by structural l => l
end

end Rx.C08

namespace Rx.ApiComplete
open Rx

-- the tree has a capturing group somewhere (the matcher then counts groups beyond group 0)
mutual
def hasCapNode : Op → Bool
  | .capture _ _ => true
  | .choice bs => hasCapNodeL bs
  | .seq ops => hasCapNodeL ops
  | .rep _ c _ _ _ => hasCapNode c
  | .gfixed c _ _ _ => hasCapNode c
  | .rfixed c _ _ _ => hasCapNode c
  | .unamb c _ _ => hasCapNode c
  | _ => false
termination_by structural o => o
def hasCapNodeL : List Op → Bool
  | [] => false
  | o :: os => hasCapNode o || hasCapNodeL os
termination_by structural l => l
end

end Rx.ApiComplete
