/-
  Spec/Class — character-class expressions of the XSD / XPath regular-expression grammar
  (XSD 1.1 Part 2, appendix G: charClassExpr), as data: single characters and their escapes, the
  members of a class, class expressions with negation and subtraction, their rendering to code
  points, their well-formedness, and the inversion list they denote (case-sensitively, and for
  either value of flag i).  Also the item grammar of Props/C09b (plain characters and ranges of
  plain characters) and `Canon`, what it means for an inversion list to be canonical.
-/
import RxModel.Model.Parser
namespace Rx.C09
open Rx

/-- canonical: non-empty ranges, strictly increasing, not adjacent, below `cpLimit` -/
def Canon : Ranges → Prop
  | [] => True
  | [(a, b)] => a < b ∧ b ≤ cpLimit
  | (a, b) :: (c, d) :: rs => a < b ∧ b < c ∧ Canon ((c, d) :: rs)


/-! ### syntax -/

/-- a character that stands for itself inside a class: not `\`, `[`, `]`, `-`
    (`^` is plain except directly after the `[` of a positive class, see `CExpr.ok`) -/
def plainC (x : Nat) : Bool := !(x == 92 || x == 91 || x == 93 || x == 45)

/-- the characters `e` for which `\e` is a single-character escape (inside a class and as an atom):
    `\n \r \t \\ \| \. \- \^ \? \* \+ \{ \} \( \) \[ \]`, and `\$` in the XPath dialect only -/
def escSingleOk (xsd : Bool) (e : Nat) : Bool :=
  e == 110 || e == 114 || e == 116 || e == 92 || e == 124 || e == 46 || e == 45 || e == 94 ||
  e == 63 || e == 42 || e == 43 || e == 123 || e == 125 || e == 40 || e == 41 || e == 91 ||
  e == 93 || (e == 36 && !xsd)

/-- the character `\e` stands for -/
def escVal (e : Nat) : Nat := if e == 110 then 10 else if e == 114 then 13 else if e == 116 then 9 else e

/-- a single character, written plainly or escaped -/
inductive Single where
  | plain (x : Nat)
  | esc (e : Nat)
deriving Repr, DecidableEq

def Single.render : Single → List Nat
  | .plain x => [x]
  | .esc e => [92, e]

def Single.val : Single → Nat
  | .plain x => x
  | .esc e => escVal e

def Single.ok (xsd : Bool) : Single → Bool
  | .plain x => plainC x
  | .esc e => escSingleOk xsd e

/-- the letters of the class escapes `\s \S \i \I \c \C \d \D \w \W` -/
def clsEscOk (e : Nat) : Bool :=
  e == 115 || e == 83 || e == 105 || e == 73 || e == 99 || e == 67 || e == 100 || e == 68 ||
  e == 119 || e == 87

/-- the table behind a class-escape letter (either case) -/
def clsBase (env : Env) (e : Nat) : Ranges :=
  if e == 115 || e == 83 then escapeS
  else if e == 105 || e == 73 then env.nameStart
  else if e == 99 || e == 67 then env.nameChar
  else if e == 100 || e == 68 then env.digit
  else env.word

/-- lower-case letter = the table, upper-case letter = its complement -/
def clsPos (e : Nat) : Bool := e == 115 || e == 105 || e == 99 || e == 100 || e == 119

def clsSet (env : Env) (e : Nat) : Ranges :=
  if clsPos e then clsBase env e else complR (clsBase env e)

/-- the environment lookup behind `\p{name}`: a one- or two-letter general category, or `IsBlock` -/
def propLookup (env : Env) (name : List Nat) : Option Ranges :=
  if name.length == 1 || name.length == 2 then env.category name
  else if name.take 2 == [73, 115] then env.block (name.drop 2)
  else none

def propSet (env : Env) (pos : Bool) (name : List Nat) : Ranges :=
  match propLookup env name with
  | some rs => if pos then rs else complR rs
  | none => []

/-- the members of a class expression -/
inductive Item where
  | one (a : Single)                       -- `x`, `\x`
  | range (a b : Single)                   -- `a-b`
  | hyphen                                 -- a literal `-`
  | cls (e : Nat)                          -- `\d`, `\S`, ...
  | prop (pos : Bool) (name : List Nat)    -- `\p{name}` / `\P{name}`
deriving Repr, DecidableEq

def Item.render : Item → List Nat
  | .one a => a.render
  | .range a b => a.render ++ 45 :: b.render
  | .hyphen => [45]
  | .cls e => [92, e]
  | .prop pos name => 92 :: (if pos then 112 else 80) :: 123 :: (name ++ [125])

def renderAll : List Item → List Nat
  | [] => []
  | i :: is => i.render ++ renderAll is

def Item.isHyphen : Item → Bool
  | .hyphen => true
  | _ => false

def Item.isOne : Item → Bool
  | .one _ => true
  | _ => false

/-- well-formed item; all characters are code points -/
def Item.ok (xsd : Bool) (env : Env) : Item → Bool
  | .one a => a.ok xsd && decide (a.val < cpLimit)
  | .range a b => a.ok xsd && b.ok xsd && decide (a.val ≤ b.val) && decide (b.val < cpLimit)
  | .hyphen => true
  | .cls e => clsEscOk e
  | .prop _ name => name.all (· != 125) && (propLookup env name).isSome

/-- where a literal hyphen may stand: no two hyphens in a row, and a hyphen directly after a
    single character must be the last member (otherwise `x-` starts a range).  So a hyphen is legal
    as the first member, as the last member, and (parser leniency) after a range or class escape. -/
def adjOk (i : Item) : List Item → Bool
  | [] => true
  | j :: more => !j.isHyphen || (!i.isHyphen && (!i.isOne || more.isEmpty))

def itemsOk (xsd : Bool) (env : Env) : List Item → Bool
  | [] => true
  | i :: is => i.ok xsd env && adjOk i is && itemsOk xsd env is

/-- `[items]`, `[^items]`, `[items-[sub]]`, `[^items-[sub]]` -/
inductive CExpr where
  | leaf (neg : Bool) (items : List Item)
  | minus (neg : Bool) (items : List Item) (sub : CExpr)
deriving Repr

def CExpr.neg : CExpr → Bool
  | .leaf n _ => n
  | .minus n _ _ => n

def CExpr.items : CExpr → List Item
  | .leaf _ is => is
  | .minus _ is _ => is

def CExpr.sub : CExpr → Option CExpr
  | .leaf _ _ => none
  | .minus _ _ s => some s

def CExpr.render : CExpr → List Nat
  | .leaf neg items => 91 :: ((if neg then [94] else []) ++ (renderAll items ++ [93]))
  | .minus neg items sub =>
    91 :: ((if neg then [94] else []) ++ (renderAll items ++ 45 :: (sub.render ++ [93])))

/-- the members are non-empty and well-formed; a positive class does not begin with `^` -/
def headOk (xsd : Bool) (env : Env) (neg : Bool) (items : List Item) : Bool :=
  !items.isEmpty && itemsOk xsd env items && (neg || (renderAll items).head? != some 94)

def CExpr.ok (xsd : Bool) (env : Env) : CExpr → Bool
  | .leaf neg items => headOk xsd env neg items
  | .minus neg items sub => headOk xsd env neg items && sub.ok xsd env

/-! ### denotation, in the shape the parser builds it -/

/-- effect of a member on the character builder -/
def Item.addB (b : Ranges) : Item → Ranges
  | .one a => addChar a.val b
  | .range a b' => addRange a.val (b'.val + 1) b
  | .hyphen => addChar 45 b
  | _ => b

/-- `add_set` into the (initially absent) set of class escapes -/
def addU (ad : Option Ranges) (S : Ranges) : Ranges :=
  match ad with
  | some a => unionR a S
  | none => S

/-- effect of a member on the set of class escapes -/
def Item.addA (env : Env) (ad : Option Ranges) : Item → Option Ranges
  | .cls e => some (addU ad (clsSet env e))
  | .prop pos name => some (addU ad (propSet env pos name))
  | _ => ad

def Item.step (env : Env) (k : ClsSt) (i : Item) : ClsSt :=
  { k with builder := i.addB k.builder, addend := i.addA env k.addend }

/-- the inversion list of a class expression: (characters ∪ class escapes), complemented for `^`,
    minus the subtrahend -/
def CExpr.denote (env : Env) : CExpr → Ranges
  | .leaf neg items => (items.foldl (Item.step env) { positive := !neg }).finish
  | .minus neg items sub =>
    ({ items.foldl (Item.step env) { positive := !neg } with
        subtrahend := some (sub.denote env) }).finish

/-! ### the builder operations, on the environment -/

/-- `addClosureRange` on the environment: the closure of every non-surrogate `y` with
    `a ≤ y ≤ b` (and `y < a + fuel`) is added -/
def closRange (env : Env) : (fuel : Nat) → (a b : Nat) → Ranges → Ranges
  | 0, _, _, rs => rs
  | f+1, a, b, rs =>
    if a > b then rs
    else closRange env f (a + 1) b (if isSurrogate a then rs else addChars (env.closure a) rs)

/-- `addCharCI` with the flag as a parameter -/
def addCharG (env : Env) (ci : Bool) (ch : Nat) (rs : Ranges) : Ranges :=
  if ci then addChars (env.closure ch) (addChar ch rs) else addChar ch rs

/-- what `clsSimple` does to the builder at the end of a range `a-b` -/
def addRangeG (env : Env) (ci : Bool) (a b : Nat) (rs : Ranges) : Ranges :=
  if ci then closRange env (b - a + 2) a b (addRange a (b + 1) rs) else addRange a (b + 1) rs

/-- effect of a member on the character builder (either flag) -/
def Item.addBG (env : Env) (ci : Bool) (b : Ranges) : Item → Ranges
  | .one a => addCharG env ci a.val b
  | .range a b' => addRangeG env ci a.val b'.val b
  | .hyphen => addCharG env ci 45 b
  | _ => b

def Item.stepG (env : Env) (ci : Bool) (k : ClsSt) (i : Item) : ClsSt :=
  { k with builder := i.addBG env ci k.builder, addend := i.addA env k.addend }

/-- the inversion list the parser builds, for either value of flag i -/
def CExpr.denoteG (env : Env) (ci : Bool) : CExpr → Ranges
  | .leaf neg items => (items.foldl (Item.stepG env ci) { positive := !neg }).finish
  | .minus neg items sub =>
    ({ items.foldl (Item.stepG env ci) { positive := !neg } with
        subtrahend := some (sub.denoteG env ci) }).finish

/-! ### the item grammar (statement-level definitions of Props/C09b) -/

inductive CItem where
  | chr (c : Nat)
  | range (a b : Nat)
deriving Repr, DecidableEq

/-- a character that stands for itself inside a class: not `\`, `[`, `]`, `-`, `^` -/
def plainCh (c : Nat) : Bool := !(c == 92 || c == 91 || c == 93 || c == 45 || c == 94)

def CItem.ok : CItem → Bool
  | .chr c => plainCh c
  | .range a b => plainCh a && plainCh b && decide (a ≤ b)

def CItem.render : CItem → List Nat
  | .chr c => [c]
  | .range a b => [a, 45, b]

def renderItems : List CItem → List Nat
  | [] => []
  | i :: is => i.render ++ renderItems is

def CItem.addTo (rs : Ranges) : CItem → Ranges
  | .chr c => addChar c rs
  | .range a b => addRange a (b + 1) rs

/-- the set a list of items denotes: the union, built left to right -/
def denoteItems (items : List CItem) : Ranges := items.foldl CItem.addTo []

end Rx.C09
