/-
  Spec/InputPreds — the predicates on case data and inputs with which the hypotheses of the properties are
  written; each stands in the namespace of the property whose statements use it.
    * `C08.CaseOK`, `C08.CaseOKOn`, `InputOK`, `Clean2End.Setting`, `InputOKFor`, `ScalarInput`, `GoodInput`
      the case data are adequate for the comparison the matcher uses, closures are code points, the input
      consists of scalar values; that the standard tables meet them is in Proofs/StdInput and Props/EnvStd
    * `C11b.CaseEquivInputs`, `CaseEquivOps`, `clsClosed(On)`, `allCls`, `Over`, `NewlineCaseless`, `SameSettings`
      two inputs, or two trees, that differ in case only, and what the case-invariance theorems assume of the
      classes of a tree and of U+000A
-/
import RxModel.Spec.OpLang
import RxModel.Model.Search
namespace Rx.C08
open Rx

/-- the case data are adequate for the comparison the matcher uses: whatever `equal_case_blind`
    identifies with `a` is `a` itself or in `a`'s closure, and closures are code points -/
def CaseOK (env : Env) (lower : Nat → Nat) : Prop :=
  (∀ a x, eqCB lower x a = true → x = a ∨ x ∈ env.closure a) ∧ (∀ a x, x ∈ env.closure a → x < cpLimit)

/-- `CaseOK` for the characters of the alphabet `A`: whatever `equal_case_blind` identifies with `a`
    is `a` itself or in `a`'s closure — for `a` and the other character in `A` — and closures are
    code points -/
def CaseOKOn (A : Nat → Bool) (env : Env) (lower : Nat → Nat) : Prop :=
  (∀ a x, A a = true → A x = true → eqCB lower x a = true → x = a ∨ x ∈ env.closure a) ∧
  (∀ a x, x ∈ env.closure a → x < cpLimit)

end Rx.C08

namespace Rx
open Rx.C08 (CaseOK)

/-- the hypotheses on case data and input of the completeness theorems (the four that
    `C08.disjoint_maxmunch_wf` takes one by one): the case data are adequate when matching is
    case-blind (vacuous otherwise), closures are code points, the input consists of scalar values -/
structure InputOK (env : Env) (ctx : Ctx) : Prop where
  hcase : ctx.caseBlind = true → CaseOK env ctx.lower
  hce : ∀ a x, x ∈ env.closure a → x < cpLimit
  hin : ∀ c ∈ ctx.input, c < cpLimit
  hsc : ∀ c ∈ ctx.input, isSurrogate c = false

end Rx

namespace Rx.Clean2End
open Rx

structure Setting (env : Env) (fl : CFlags) (ctx : Ctx) : Prop where
  ok : InputOK env ctx
  hcb : ctx.caseBlind = fl.caseBlind
  hml : ctx.multiLine = fl.multiLine

end Rx.Clean2End

namespace Rx.SearchComplete
open Rx

/-- the hypotheses on case data and input, for the context of a program with flags `fl` -/
structure InputOKFor (env : Env) (fl : CFlags) (lower : Nat → Nat) (input : List Nat) : Prop where
  hcase : fl.caseBlind = true → C08.CaseOK env lower
  hce : ∀ a x, x ∈ env.closure a → x < cpLimit
  hin : ∀ c ∈ input, c < cpLimit
  hsc : ∀ c ∈ input, isSurrogate c = false

end Rx.SearchComplete

namespace Rx.Clean2Api
open Rx Rx.SearchComplete

/-- every input code point is a Unicode scalar value (what a Rust `&str` guarantees) -/
def ScalarInput (input : List Nat) : Prop := ∀ c ∈ input, c < cpLimit ∧ isSurrogate c = false

end Rx.Clean2Api

namespace Rx.ApiComplete
open Rx Rx.SearchComplete

/-- the data hypotheses on one input -/
structure GoodInput (env : Env) (fl : Flags) (input : List Nat) : Prop where
  ok : InputOKFor env fl.core env.lower input
  len : input.length < usizeMax

end Rx.ApiComplete

namespace Rx.C11b
open Rx

/-- two inputs (or two literals) of the same length, pointwise equal up to case -/
def CaseEquivInputs (lower : Nat → Nat) (xs ys : List Nat) : Prop :=
  xs.length = ys.length ∧ ∀ k (h1 : k < xs.length) (h2 : k < ys.length), eqCB lower xs[k] ys[k] = true

/-- a class closed under case: case-blind equal characters are both in or both out -/
def clsClosed (lower : Nat → Nat) (rs : Ranges) : Prop :=
  ∀ a b, eqCB lower a b = true → clsContains rs a = clsContains rs b

/-- … for characters of the alphabet `A` -/
def clsClosedOn (A : Nat → Bool) (lower : Nat → Nat) (rs : Ranges) : Prop :=
  ∀ a b, A a = true → A b = true → eqCB lower a b = true → clsContains rs a = clsContains rs b

mutual
/-- every class node of the tree satisfies `P` -/
def allCls (P : Ranges → Prop) : Op → Prop
  | .cls rs => P rs
  | .capture _ c => allCls P c
  | .choice bs => allClsL P bs
  | .seq ops => allClsL P ops
  | .rep _ c _ _ _ => allCls P c
  | .gfixed c _ _ _ => allCls P c
  | .rfixed c _ _ _ => allCls P c
  | .unamb c _ _ => allCls P c
  | _ => True
termination_by structural o => o
def allClsL (P : Ranges → Prop) : List Op → Prop
  | [] => True
  | o :: os => allCls P o ∧ allClsL P os
termination_by structural l => l
end

/-- every class node of the tree is closed under case -/
def allClsClosed (lower : Nat → Nat) (op : Op) : Prop := allCls (clsClosed lower) op
/-- … on the alphabet `A` -/
def allClsClosedOn (A : Nat → Bool) (lower : Nat → Nat) (op : Op) : Prop := allCls (clsClosedOn A lower) op

/-- all characters of the list are in the alphabet -/
def Over (A : Nat → Bool) (xs : List Nat) : Prop := ∀ x ∈ xs, A x = true

/-- no other character is a case counterpart of U+000A -/
def NewlineCaseless (lower : Nat → Nat) : Prop := ∀ a, eqCB lower a 10 = true → a = 10

mutual
/-- two trees of the same shape, with the same classes, bounds and ids, whose literals have equal
    lengths and are pointwise equal up to case -/
def CaseEquivOps (lower : Nat → Nat) : Op → Op → Prop
  | .bol, o => match o with | .bol => True | _ => False
  | .eol, o => match o with | .eol => True | _ => False
  | .nothing, o => match o with | .nothing => True | _ => False
  | .endProgram, o => match o with | .endProgram => True | _ => False
  | .atom cs, o => match o with | .atom ds => CaseEquivInputs lower cs ds | _ => False
  | .cls rs, o => match o with | .cls rs' => rs = rs' | _ => False
  | .backref g, o => match o with | .backref g' => g = g' | _ => False
  | .capture g c, o => match o with | .capture g' c' => g = g' ∧ CaseEquivOps lower c c' | _ => False
  | .choice bs, o => match o with | .choice bs' => CaseEquivOpsL lower bs bs' | _ => False
  | .seq ops, o => match o with | .seq ops' => CaseEquivOpsL lower ops ops' | _ => False
  | .rep id c mn mx gr, o =>
    match o with
    | .rep id' c' mn' mx' gr' => id = id' ∧ mn = mn' ∧ mx = mx' ∧ gr = gr' ∧ CaseEquivOps lower c c'
    | _ => False
  | .gfixed c mn mx len, o =>
    match o with
    | .gfixed c' mn' mx' len' => mn = mn' ∧ mx = mx' ∧ len = len' ∧ CaseEquivOps lower c c'
    | _ => False
  | .rfixed c mn mx len, o =>
    match o with
    | .rfixed c' mn' mx' len' => mn = mn' ∧ mx = mx' ∧ len = len' ∧ CaseEquivOps lower c c'
    | _ => False
  | .unamb c mn mx, o =>
    match o with
    | .unamb c' mn' mx' => mn = mn' ∧ mx = mx' ∧ CaseEquivOps lower c c'
    | _ => False
termination_by structural o => o
def CaseEquivOpsL (lower : Nat → Nat) : List Op → List Op → Prop
  | [], l => match l with | [] => True | _ => False
  | o :: os, l => match l with | o' :: os' => CaseEquivOps lower o o' ∧ CaseEquivOpsL lower os os' | _ => False
termination_by structural l => l
end

/-- the two contexts agree on everything `OpR` reads except the input -/
structure SameSettings (ctx ctx' : Ctx) : Prop where
  caseBlind : ctx'.caseBlind = ctx.caseBlind
  multiLine : ctx'.multiLine = ctx.multiLine
  lower : ctx'.lower = ctx.lower

end Rx.C11b
