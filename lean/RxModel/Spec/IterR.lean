/-
  Spec/IterR — k-fold composition of a relation on positions: what `{n,m}` means in Spec/OpLang.
-/
namespace Rx

/-- k-fold composition of a relation -/
inductive IterR (R : Nat → Nat → Prop) : Nat → Nat → Nat → Prop
  | zero (p) : IterR R 0 p p
  | succ {k p q r} : IterR R k p q → R q r → IterR R (k+1) p r

end Rx
