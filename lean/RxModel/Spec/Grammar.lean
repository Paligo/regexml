/-
  Spec/Grammar — the XPath 3.1 / XSD 1.1 regular-expression grammar as an abstract syntax tree, its
  rendering to code points, and the well-formedness side conditions (F&O 3.1 §5.6.1 on top of
  XSD 1.1 Part 2, appendix G).  Independent of the parser: nothing here mentions `parseExpr`.

      regExp     ::= branch ('|' branch)*
      branch     ::= piece*
      piece      ::= atom quantifier?
      quantifier ::= ('?' | '*' | '+' | '{n}' | '{n,}' | '{n,m}') '?'?      -- trailing '?': reluctant, XPath only
      atom       ::= normal character | '.' | '^' | '$'                      -- '^' '$': XPath only
                   | '\' single-char escape                                   -- n r t \ | . - ^ ? * + { } ( ) [ ]  ($: XPath)
                   | '\' [sSiIcCdDwW] | '\p{' name '}' | '\P{' name '}'
                   | '\' [1-9][0-9]*                                          -- back-reference, XPath only
                   | charClassExpr                                            -- `C09.CExpr` (Spec/Class)
                   | '(' regExp ')' | '(?:' regExp ')'                        -- '(?:': XPath only

  The tree is three mutually inductive types `Atom` / `Branch` / `RegExp` (a branch is a list of
  pieces, a piece is an atom with an optional quantifier; a regExp is a non-empty list of
  branches).  `Ast` is `RegExp`.

  Side conditions (`ok`), all taken from the two specifications:
    * normal character: not one of `. \ ? * + { } ( ) | [ ]`, and in XPath not `^` `$`
      (in the XSD dialect `^` and `$` ARE normal characters and `Atom.bol` / `Atom.eol` do not exist);
    * quantity numerals are non-empty digit runs, and `n ≤ m` in `{n,m}`;
    * reluctant quantifiers, `(?:`, back-references and `\$` only in the XPath dialect;
    * category / block names of `\p{…}` are known to the environment (`C09.propLookup`);
    * a back-reference `\N`: `N ≥ 1` without leading zero, group `N` has been OPENED before
      (`N ≤ n`, `n` = number of capturing `(` to the left) and is already CLOSED at this point
      (`N ∈ cl`); multi-digit rule: the numeral is the longest one that does not exceed `n`, so the
      text after `\N` must not start with a digit `d` with `10·N + d ≤ n`.
  The groups opened (`n`) and closed (`cl`) so far are threaded left to right by `ok`
  (`groups`, `closed`).

  `inLimit` is NOT part of the grammar: it is the implementation limit of the parser
  (quantity ≤ 2^64 − 1), kept separate so that the deviation stays visible
  (`ParserQuirkFree` in Props/C07b).
-/
import RxModel.Model.Parser
import RxModel.Spec.Repl
import RxModel.Spec.Class
namespace Rx.Grammar
open Rx

/-! ### quantifiers -/

/-- a quantity numeral: a non-empty run of ASCII digits (leading zeros allowed) -/
def numeral (ds : List Nat) : Bool := !ds.isEmpty && ds.all isDigit

inductive QKind where
  | opt                          -- `?`
  | star                         -- `*`
  | plus                         -- `+`
  | exact (n : List Nat)         -- `{n}`
  | atLeast (n : List Nat)       -- `{n,}`
  | range (n m : List Nat)       -- `{n,m}`
deriving Repr, DecidableEq

structure Quant where
  kind : QKind
  reluctant : Bool := false      -- trailing `?`
deriving Repr, DecidableEq

def QKind.render : QKind → List Nat
  | .opt => [63]
  | .star => [42]
  | .plus => [43]
  | .exact n => 123 :: (n ++ [125])
  | .atLeast n => 123 :: (n ++ [44, 125])
  | .range n m => 123 :: (n ++ 44 :: (m ++ [125]))

def Quant.render (q : Quant) : List Nat := q.kind.render ++ (if q.reluctant then [63] else [])

def qRender : Option Quant → List Nat
  | none => []
  | some q => q.render

/-- numerals well formed, `n ≤ m` -/
def QKind.ok : QKind → Bool
  | .exact n => numeral n
  | .atLeast n => numeral n
  | .range n m => numeral n && numeral m && decide (Spec.digitsVal n ≤ Spec.digitsVal m)
  | _ => true

/-- the reluctant marker exists in the XPath dialect only -/
def Quant.ok (xsd : Bool) (q : Quant) : Bool := q.kind.ok && !(q.reluctant && xsd)

def qOk (xsd : Bool) : Option Quant → Bool
  | none => true
  | some q => q.ok xsd

/-- implementation limit of the parser (NOT grammar): quantities fit in a `usize` -/
def QKind.inLimit : QKind → Bool
  | .exact n => decide (Spec.digitsVal n ≤ usizeMax)
  | .atLeast n => decide (Spec.digitsVal n ≤ usizeMax)
  | .range n m => decide (Spec.digitsVal n ≤ usizeMax) && decide (Spec.digitsVal m ≤ usizeMax)
  | _ => true

def qInLimit : Option Quant → Bool
  | none => true
  | some q => q.kind.inLimit

/-! ### the tree -/

mutual
inductive Atom where
  | chr (x : Nat)                           -- a normal character
  | dot                                     -- `.`
  | bol                                     -- `^`   (XPath)
  | eol                                     -- `$`   (XPath)
  | esc (e : Nat)                           -- `\e`, single-character escape
  | clsEsc (e : Nat)                        -- `\d \D \s \S \w \W \i \I \c \C`
  | prop (pos : Bool) (name : List Nat)     -- `\p{name}` / `\P{name}`
  | backref (ds : List Nat)                 -- `\N`, `ds` the digits of `N`   (XPath)
  | cls (e : C09.CExpr)                     -- `[...]`
  | group (r : RegExp)                      -- `( r )`
  | ncgroup (r : RegExp)                    -- `(?: r )`   (XPath)
inductive Branch where
  | nil
  | cons (a : Atom) (q : Option Quant) (b : Branch)      -- piece `a q`, then the rest of the branch
inductive RegExp where
  | one (b : Branch)
  | alt (b : Branch) (r : RegExp)                        -- `b | r`
end

abbrev Ast := RegExp

mutual
def Atom.render : Atom → List Nat
  | .chr x => [x]
  | .dot => [46]
  | .bol => [94]
  | .eol => [36]
  | .esc e => [92, e]
  | .clsEsc e => [92, e]
  | .prop pos name => 92 :: (if pos then 112 else 80) :: 123 :: (name ++ [125])
  | .backref ds => 92 :: ds
  | .cls e => e.render
  | .group r => 40 :: (r.render ++ [41])
  | .ncgroup r => 40 :: 63 :: 58 :: (r.render ++ [41])
def Branch.render : Branch → List Nat
  | .nil => []
  | .cons a q b => a.render ++ (qRender q ++ b.render)
def RegExp.render : RegExp → List Nat
  | .one b => b.render
  | .alt b r => b.render ++ 124 :: r.render
end

/- number of capturing groups -/
mutual
def Atom.groups : Atom → Nat
  | .group r => r.groups + 1
  | .ncgroup r => r.groups
  | _ => 0
def Branch.groups : Branch → Nat
  | .nil => 0
  | .cons a _ b => a.groups + b.groups
def RegExp.groups : RegExp → Nat
  | .one b => b.groups
  | .alt b r => b.groups + r.groups
end

/- the capturing groups that are closed after the tree, given `n` groups opened and the groups
    `cl` closed before it (groups are numbered 1, 2, … by their opening parenthesis) -/
mutual
def Atom.closed (n : Nat) (cl : List Nat) : Atom → List Nat
  | .group r => (n + 1) :: r.closed (n + 1) cl
  | .ncgroup r => r.closed n cl
  | _ => cl
def Branch.closed (n : Nat) (cl : List Nat) : Branch → List Nat
  | .nil => cl
  | .cons a _ b => b.closed (n + a.groups) (a.closed n cl)
def RegExp.closed (n : Nat) (cl : List Nat) : RegExp → List Nat
  | .one b => b.closed n cl
  | .alt b r => r.closed (n + b.groups) (b.closed n cl)
end

/-- a character that stands for itself: not a metacharacter -/
def normalChar (xsd : Bool) (x : Nat) : Bool :=
  !(x == 46 || x == 92 || x == 63 || x == 42 || x == 43 || x == 123 || x == 125 || x == 40 ||
    x == 41 || x == 124 || x == 91 || x == 93) && (xsd || !(x == 94 || x == 36))

/-- the digits of a back-reference: non-empty, all digits, no leading zero -/
def backrefNumeral (ds : List Nat) : Bool :=
  match ds with
  | [] => false
  | d :: _ => ds.all isDigit && d != 48

/-- multi-digit rule: with `n` groups opened, `\N` (value `v`) does not continue into `next` -/
def backrefFollowOk (n v : Nat) (next : List Nat) : Bool :=
  match next with
  | [] => true
  | d :: _ => !(isDigit d && decide (v * 10 + (d - 48) ≤ n))

/-- the condition an atom puts on the text that follows it in its branch -/
def Atom.followOk (n : Nat) (a : Atom) (next : List Nat) : Bool :=
  match a with
  | .backref ds => backrefFollowOk n (Spec.digitsVal ds) next
  | _ => true

/- well-formedness, with `n` capturing groups opened and the groups `cl` closed to the left -/
mutual
def Atom.ok (xsd : Bool) (env : Env) (n : Nat) (cl : List Nat) : Atom → Bool
  | .chr x => normalChar xsd x
  | .dot => true
  | .bol => !xsd
  | .eol => !xsd
  | .esc e => C09.escSingleOk xsd e
  | .clsEsc e => C09.clsEscOk e
  | .prop _ name => name.all (· != 125) && (C09.propLookup env name).isSome
  | .backref ds =>
    !xsd && backrefNumeral ds && decide (Spec.digitsVal ds ≤ n) && decide (Spec.digitsVal ds ∈ cl)
  | .cls e => e.ok xsd env
  | .group r => r.ok xsd env (n + 1) cl
  | .ncgroup r => !xsd && r.ok xsd env n cl
def Branch.ok (xsd : Bool) (env : Env) (n : Nat) (cl : List Nat) : Branch → Bool
  | .nil => true
  | .cons a q b =>
    a.ok xsd env n cl && qOk xsd q && a.followOk n (qRender q ++ b.render) &&
      b.ok xsd env (n + a.groups) (a.closed n cl)
def RegExp.ok (xsd : Bool) (env : Env) (n : Nat) (cl : List Nat) : RegExp → Bool
  | .one b => b.ok xsd env n cl
  | .alt b r => b.ok xsd env n cl && r.ok xsd env (n + b.groups) (b.closed n cl)
end

/- parser limit (not grammar): every quantity is at most `usize::MAX` -/
mutual
def Atom.inLimit : Atom → Bool
  | .group r => r.inLimit
  | .ncgroup r => r.inLimit
  | _ => true
def Branch.inLimit : Branch → Bool
  | .nil => true
  | .cons a q b => a.inLimit && qInLimit q && b.inLimit
def RegExp.inLimit : RegExp → Bool
  | .one b => b.inLimit
  | .alt b r => b.inLimit && r.inLimit
end

/-- a whole pattern is well formed for the dialect and environment of the compiler context `c`:
    no group is open or closed at the start -/
def Ast.ok (a : Ast) (c : PC) : Bool := RegExp.ok c.fl.xsd c.env 0 [] a

def Ast.okFor (a : Ast) (xsd : Bool) (env : Env) : Bool := RegExp.ok xsd env 0 [] a

/-- pattern text from a string literal (for examples) -/
def cps (s : String) : List Nat := s.toList.map Char.toNat

end Rx.Grammar

