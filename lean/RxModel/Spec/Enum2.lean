/-
  Spec/Enum2 — the clean fragment (Spec/Enum) enlarged by the optimiser's `UnambiguousRepeat`.

  `Sequence::optimize` (Model/Optimize `optimizeSeq`) replaces an element `X{mn,mx}` of a sequence, X a
  single literal or class, by `.unamb X mn mx` — take the maximal run of X, never give back — when
      (1) `mn = mx`, or
      (2) `no_ambiguity(X, next)` holds for the NEXT element of the sequence:
          (2a) `next` is `$` (not multi-line), (2b) `next` is EndProgram (greedy quantifier),
          (2c) the first sets of X and of `next` are disjoint (and `next` is not a `{0,…}` repeat).
  `.unamb` has the full language `X^k, mn ≤ k ≤ mx` (Spec/OpLang), of which the engine yields only the
  maximal-munch member; what makes that complete is the context:

    * `cleanOp2F env cb ml top F op` : `op` is in the enlarged fragment when it stands in front of the
      siblings `F` of a sequence (`F = []` : not inside a sequence / last element).  A node
      `.unamb x mn mx` is allowed exactly when `x` is one literal / class (`isAtomOrClass`) and
      (1), (2a) or (2c) holds w.r.t. the head of `F` — or, only in the ROOT sequence (`top = true`),
      (2b) `F = [EndProgram]`.
    * `cleanOp2`  (`top = false`, `F = []`): the COMPOSITIONAL fragment — `enum2` lists exactly `OpR`.
    * `cleanProg2`: a whole program; additionally (2b) in the root sequence — there `enum2` lists
      only the greedy-first end of the final repeat, and what holds is the existence form
      "the language has a member from p  ⇒  enum2 … p ≠ []" (and `enum2.head?` is the reported end).
    * `shape2`    : the shape only (clean + `.unamb` over one literal / class), enough for the stream
      theorem: `unambGen` is deterministic whatever follows.

  `enum2` : as `enum`, with `.unamb x mn mx ↦ [maximal-munch end]` if the run has ≥ mn members, else [].

  Side conditions kept OUT of these predicates and carried by the theorems as decidable hypotheses:
  `C08.noEmptyAtoms op` (no empty literal) and `clsCanonB op` (classes canonical, literals code
  points) — both hold of compiler output.
-/
import RxModel.Spec.Enum
namespace Rx

/-! ### canonical classes, as a Boolean (`C09.Canon` / `C08.clsCanon` are Props) -/

def canonB : Ranges → Bool
  | [] => true
  | [(a, b)] => decide (a < b) && decide (b ≤ cpLimit)
  | (a, b) :: (c, d) :: rs => decide (a < b) && decide (b < c) && canonB ((c, d) :: rs)

mutual
/-- every class of the tree is a canonical range list and every literal character a code point -/
def clsCanonB : Op → Bool
  | .atom cs => cs.all (fun c => decide (c < cpLimit))
  | .cls rs => canonB rs
  | .capture _ c => clsCanonB c
  | .choice bs => clsCanonBL bs
  | .seq ops => clsCanonBL ops
  | .rep _ c _ _ _ => clsCanonB c
  | .gfixed c _ _ _ => clsCanonB c
  | .rfixed c _ _ _ => clsCanonB c
  | .unamb c _ _ => clsCanonB c
  | _ => true
termination_by structural o => o
def clsCanonBL : List Op → Bool
  | [] => true
  | o :: os => clsCanonB o && clsCanonBL os
termination_by structural l => l
end

/-! ### the fragment -/

def isEol : Op → Bool
  | .eol => true
  | _ => false

def isEnd : Op → Bool
  | .endProgram => true
  | _ => false

/-- why the maximal run of `x` loses nothing in front of the siblings `F`: (2a) a `$` that only
    matches at the end of the input, (2b) EndProgram closing the root sequence, (2c) disjoint first sets -/
def unambJust (env : Env) (cb ml top : Bool) (x : Op) : List Op → Bool
  | [] => false
  | nxt :: rest =>
    (isEol nxt && !ml) || (isEnd nxt && rest.isEmpty && top) ||
    isDisjoint (initialClass env cb x) (initialClass env cb nxt)

mutual
def cleanOp2F (env : Env) (cb ml : Bool) : Bool → List Op → Op → Bool
  | _, _, .bol | _, _, .eol | _, _, .nothing | _, _, .endProgram | _, _, .atom _ | _, _, .cls _ => true
  | top, F, .unamb x mn mx => isAtomOrClass x && (mn == mx || unambJust env cb ml top x F)
  | _, _, .capture _ c => cleanOp2F env cb ml false [] c
  | _, _, .choice bs => cleanAll2 env cb ml bs
  | _, _, .seq ops => cleanSeq2 env cb ml false ops
  | _, _, .gfixed c _ _ _ => cleanOp2F env cb ml false [] c
  | _, _, .rfixed c _ _ _ => cleanOp2F env cb ml false [] c
  | _, _, .backref _ | _, _, .rep _ _ _ _ _ => false
termination_by structural _ _ o => o
def cleanAll2 (env : Env) (cb ml : Bool) : List Op → Bool
  | [] => true
  | o :: os => cleanOp2F env cb ml false [] o && cleanAll2 env cb ml os
termination_by structural l => l
/-- the elements of a sequence, each judged against its followers -/
def cleanSeq2 (env : Env) (cb ml : Bool) : Bool → List Op → Bool
  | _, [] => true
  | top, o :: os => cleanOp2F env cb ml top os o && cleanSeq2 env cb ml top os
termination_by structural _ l => l
end

/-- the compositional fragment: `enum2` lists exactly the language -/
def cleanOp2 (env : Env) (cb ml : Bool) (op : Op) : Bool := cleanOp2F env cb ml false [] op

/-- a whole program: the root sequence may end in `X{mn,mx} · EndProgram` -/
def cleanProg2 (env : Env) (cb ml : Bool) : Op → Bool
  | .seq ops => cleanSeq2 env cb ml true ops
  | o => cleanOp2 env cb ml o

mutual
/-- the shape alone: the clean fragment plus `.unamb` over one literal / class -/
def shape2 : Op → Bool
  | .bol | .eol | .nothing | .endProgram | .atom _ | .cls _ => true
  | .unamb x _ _ => isAtomOrClass x
  | .capture _ c => shape2 c
  | .choice bs => shape2L bs
  | .seq ops => shape2L ops
  | .gfixed c _ _ _ => shape2 c
  | .rfixed c _ _ _ => shape2 c
  | .backref _ | .rep _ _ _ _ _ => false
termination_by structural o => o
def shape2L : List Op → Bool
  | [] => true
  | o :: os => shape2 o && shape2L os
termination_by structural l => l
end

/-! ### the enumeration -/

/-- the maximal run: (number of iterations, end), at most `b` iterations, each from the body's
    first end -/
def munch (e : Nat → List Nat) : (b : Nat) → (p : Nat) → Nat × Nat
  | 0, p => (0, p)
  | b+1, p =>
    match e p with
    | [] => (0, p)
    | q :: _ => ((munch e b q).1 + 1, (munch e b q).2)

mutual
/-- end positions of `op` from `p`, in priority order; `.unamb` contributes its maximal-munch end -/
def enum2 (ctx : Ctx) : Op → Nat → List Nat
  | .bol, p =>
      if p = 0 ∨ (ctx.multiLine = true ∧ ctx.input[p - 1]? = some 10 ∧ p < ctx.len) then [p] else []
  | .eol, p =>
      if p ≥ ctx.len ∨ (ctx.multiLine = true ∧ ctx.input[p]? = some 10) then [p] else []
  | .nothing, p => [p]
  | .endProgram, p => [p]
  | .atom cs, p =>
      if p + cs.length ≤ ctx.len ∧ prefixMatch ctx cs (ctx.input.drop p) = true then [p + cs.length] else []
  | .cls rs, p =>
      match ctx.input[p]? with
      | some c => if clsContains rs c = true then [p + 1] else []
      | none => []
  | .capture _ c, p => enum2 ctx c p
  | .choice bs, p => enumAny2 ctx bs p
  | .seq ops, p => enumSeq2 ctx ops p
  | .gfixed c mn mx _, p => greedyIter (enum2 ctx c) mn mx 0 p
  | .rfixed c mn mx _, p => reluctIter (enum2 ctx c) mn mx 0 p
  | .unamb c mn mx, p => if mn ≤ (munch (enum2 ctx c) mx p).1 then [(munch (enum2 ctx c) mx p).2] else []
  | .backref _, _ => []          -- outside the fragment
  | .rep _ _ _ _ _, _ => []      -- outside the fragment
termination_by structural o => o
def enumAny2 (ctx : Ctx) : List Op → Nat → List Nat
  | [], _ => []
  | b :: bs, p => enum2 ctx b p ++ enumAny2 ctx bs p
termination_by structural l => l
def enumSeq2 (ctx : Ctx) : List Op → Nat → List Nat
  | [], p => [p]
  | o :: os, p => (enum2 ctx o p).flatMap (enumSeq2 ctx os)
termination_by structural l => l
end

end Rx
