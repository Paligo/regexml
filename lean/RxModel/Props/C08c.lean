/-
  Props/C08c — the first-set analysis behind the non-backtracking rewrite is sound.

  `Sequence::optimize` replaces `X{m,n}` (X a single literal / class) by a repeat that never gives
  characters back when `no_ambiguity` judges the first sets of X and of the following term
  disjoint.  Here, in terms of the language `OpR`:
    * `get_initial_character_class` over-approximates: the first character of every NON-EMPTY
      member of a term's language is in the term's first set;
    * a term that can match the empty string has the universal first set, so it is never judged
      disjoint from anything (this is what the fix of `Repeat::get_initial_character_class` restored);
    * hence, when the first sets are disjoint, every match of `X{m,n} · next · rest` uses the
      MAXIMAL run of X: the position after the repeat is not followed by another X (or the count
      is `n`) — giving characters back can never produce a match, so nothing is lost.

  Two of the four statements are FALSE without a hypothesis on sequences (`nullable_first_all`,
  `disjoint_maxmunch`: `def … : Prop` with machine-checked refutations): the EMPTY SEQUENCE `.seq []`
  matches the empty string but `initialClassSeq [] = []`, the empty first set.  `wfOp` excludes
  empty sequences (the compiler never builds one), so the `_partial` variants add the hypothesis
  `noEmptySeq` (implied by `wfOp`, see `noEmptySeq_of_wfOp`).  `disjoint_maxmunch_partial` also
  assumes that the input consists of scalar values (Rust `char`s): `is_disjoint` enumerates
  `other` with `iter_chars`, which skips surrogates.
-/
import RxModel.Spec.OpLang
import RxModel.Model.Optimize
import RxModel.Proofs.FirstSetLemmas
namespace Rx.C08
open Rx

/-! `clsCanon` / `clsCanonL` (every class of the tree is a canonical range list and every literal
    character is a code point) are defined in Spec/Preds, `CaseOK` (the case data are adequate for
    the comparison the matcher uses) in Spec/InputPreds, and `noEmptySeq` / `noEmptySeqL` (no empty
    sequence anywhere in the tree) in Proofs/FirstSetLemmas, because the helper lemmas need them. -/

/-- well-formed trees (what the compiler builds) contain no empty sequence -/
theorem noEmptySeq_of_wfOp (op : Op) (hwf : wfOp op = true) : noEmptySeq op = true :=
  FirstL.nes_of_wf_both.1 op hwf

/-- the first set is canonical -/
theorem initialClass_canon (env : Env) (cb : Bool) (hce : ∀ a x, x ∈ env.closure a → x < cpLimit)
    (op : Op) (hc : clsCanon op) : C09.Canon (initialClass env cb op) :=
  FirstL.ic_canon env cb hce op hc

/-- over-approximation: a non-empty member of the language starts with a character of the first set -/
theorem initialClass_sound (env : Env) (ctx : Ctx) (hcase : ctx.caseBlind = true → CaseOK env ctx.lower)
    (hce : ∀ a x, x ∈ env.closure a → x < cpLimit)
    (hin : ∀ c ∈ ctx.input, c < cpLimit)
    (op : Op) (hc : clsCanon op) (p q : Nat) (hp : p ≤ ctx.len) (h : OpR ctx op p q) (hpq : p < q) :
    ∃ c, ctx.input[p]? = some c ∧ clsContains (initialClass env ctx.caseBlind op) c = true :=
  FirstL.sound_op env ctx hcase hce hin op hc p q hp h hpq

/-! ### `nullable_first_all` -/

/-- the unrestricted statement "a term that can match the empty string has the universal first set" —
    FALSE (refuted below: the empty sequence is nullable and has the empty first set); the true statement,
    under `noEmptySeq`, is `nullable_first_all_partial` -/
def nullable_first_all : Prop :=
  ∀ (env : Env) (ctx : Ctx) (_hce : ∀ a x, x ∈ env.closure a → x < cpLimit)
    (op : Op) (_hc : clsCanon op) (_hne : noEmptyAtoms op = true) (p : Nat) (_hp : p ≤ ctx.len)
    (_h : OpR ctx op p p) (c : Nat) (_hcl : c < cpLimit),
    clsContains (initialClass env ctx.caseBlind op) c = true

/-- the data of the counterexamples: no case closure, the input `"a"` -/
def cexEnv : Env := ⟨id, fun _ => [], fun _ => none, fun _ => none, [], [], [], []⟩
def cexCtx : Ctx := ⟨[97], false, false, false, 0, id⟩

/-- counterexample: `op = .seq []`, `p = 0`, `c = 0` -/
theorem nullable_first_all_refuted : ¬ nullable_first_all := by
  intro h
  have := h cexEnv cexCtx (fun _ _ hx => by simp [cexEnv] at hx) (.seq [])
    (by simp only [clsCanon, clsCanonL]) (by decide) 0 (Nat.zero_le _)
    (by simp only [OpR, OpRSeq]) 0 (by decide)
  revert this
  decide

/-- a term without empty sequences that can match the empty string has the universal first set -/
theorem nullable_first_all_partial (env : Env) (ctx : Ctx) (hce : ∀ a x, x ∈ env.closure a → x < cpLimit)
    (op : Op) (hc : clsCanon op) (hne : noEmptyAtoms op = true) (hns : noEmptySeq op = true)
    (p : Nat) (hp : p ≤ ctx.len) (h : OpR ctx op p p)
    (c : Nat) (hcl : c < cpLimit) : clsContains (initialClass env ctx.caseBlind op) c = true :=
  FirstL.null_op env ctx hce op hc hne hns p hp h c hcl

/-- the same for well-formed trees -/
theorem nullable_first_all_wf (env : Env) (ctx : Ctx) (hce : ∀ a x, x ∈ env.closure a → x < cpLimit)
    (op : Op) (hc : clsCanon op) (hne : noEmptyAtoms op = true) (hwf : wfOp op = true)
    (p : Nat) (hp : p ≤ ctx.len) (h : OpR ctx op p p)
    (c : Nat) (hcl : c < cpLimit) : clsContains (initialClass env ctx.caseBlind op) c = true :=
  nullable_first_all_partial env ctx hce op hc hne (noEmptySeq_of_wfOp op hwf) p hp h c hcl

/-! ### `disjoint_maxmunch` -/

/-- the unrestricted statement "with disjoint first sets every match of `X{mn,mx} · next · rest` takes the
    maximal run of X: after the `k` iterations used, either `k = mx` or X does not match again" — FALSE
    (refuted below for `next = .seq []`, whose first set is empty and therefore disjoint from everything
    although `next` matches the empty string); the true statement, under `noEmptySeq next` and for inputs of
    scalar values, is `disjoint_maxmunch_partial` -/
def disjoint_maxmunch : Prop :=
  ∀ (env : Env) (ctx : Ctx) (_hcase : ctx.caseBlind = true → CaseOK env ctx.lower)
    (_hce : ∀ a x, x ∈ env.closure a → x < cpLimit) (_hin : ∀ c ∈ ctx.input, c < cpLimit)
    (x next : Op) (_hx : isAtomOrClass x = true) (_hcx : clsCanon x) (_hcn : clsCanon next)
    (_hnx : noEmptyAtoms x = true) (_hnn : noEmptyAtoms next = true)
    (_hdis : isDisjoint (initialClass env ctx.caseBlind x) (initialClass env ctx.caseBlind next) = true)
    (k p m q : Nat) (_hp : p ≤ ctx.len)
    (_hiter : IterR (fun a b => OpR ctx x a b) k p m) (_hnext : OpR ctx next m q) (mx : Nat) (_hk : k ≤ mx),
    k = mx ∨ ¬ ∃ m', OpR ctx x m m'

/-- counterexample: input `"a"`, `x = [a]`, `next = .seq []`, `k = 0`, `p = m = q = 0`, `mx = 1`:
    the run of zero X's followed by the empty `next` is a match, but X matches again at 0 -/
theorem disjoint_maxmunch_refuted : ¬ disjoint_maxmunch := by
  intro h
  have := h cexEnv cexCtx (fun hcb => by simp [cexCtx] at hcb) (fun _ _ hx => by simp [cexEnv] at hx)
    (by decide) (.cls [(97, 98)]) (.seq []) (by decide)
    (by simp only [clsCanon, C09.Canon]; decide) (by simp only [clsCanon, clsCanonL])
    (by decide) (by decide) (by decide) 0 0 0 0 (Nat.zero_le _) (IterR.zero 0)
    (by simp only [OpR, OpRSeq]) 1 (by decide)
  rcases this with h0 | h1
  · cases h0
  · exact h1 ⟨1, by simp [OpR, cexCtx, clsContains]⟩

/-- with disjoint first sets, a follower without empty sequences and an input of scalar values,
    every match of `X{mn,mx} · next · rest` takes the maximal run of X: after the `k` iterations
    used, either `k = mx` or X does not match again -/
theorem disjoint_maxmunch_partial (env : Env) (ctx : Ctx) (hcase : ctx.caseBlind = true → CaseOK env ctx.lower)
    (hce : ∀ a x, x ∈ env.closure a → x < cpLimit) (hin : ∀ c ∈ ctx.input, c < cpLimit)
    (hsc : ∀ c ∈ ctx.input, isSurrogate c = false)
    (x next : Op) (hx : isAtomOrClass x = true) (hcx : clsCanon x) (hcn : clsCanon next)
    (hnx : noEmptyAtoms x = true) (hnn : noEmptyAtoms next = true) (hns : noEmptySeq next = true)
    (hdis : isDisjoint (initialClass env ctx.caseBlind x) (initialClass env ctx.caseBlind next) = true)
    (k p m q : Nat) (hp : p ≤ ctx.len)
    (hiter : IterR (fun a b => OpR ctx x a b) k p m) (hnext : OpR ctx next m q) (mx : Nat) (_hk : k ≤ mx) :
    k = mx ∨ ¬ ∃ m', OpR ctx x m m' :=
  .inr (FirstL.maxmunch env ctx hcase hce hin hsc x next hx hcx hcn hnx hnn hns hdis k p m q hp hiter hnext)

/-- the same for a well-formed follower -/
theorem disjoint_maxmunch_wf (env : Env) (ctx : Ctx) (hcase : ctx.caseBlind = true → CaseOK env ctx.lower)
    (hce : ∀ a x, x ∈ env.closure a → x < cpLimit) (hin : ∀ c ∈ ctx.input, c < cpLimit)
    (hsc : ∀ c ∈ ctx.input, isSurrogate c = false)
    (x next : Op) (hx : isAtomOrClass x = true) (hcx : clsCanon x) (hcn : clsCanon next)
    (hnx : noEmptyAtoms x = true) (hnn : noEmptyAtoms next = true) (hwf : wfOp next = true)
    (hdis : isDisjoint (initialClass env ctx.caseBlind x) (initialClass env ctx.caseBlind next) = true)
    (k p m q : Nat) (hp : p ≤ ctx.len)
    (hiter : IterR (fun a b => OpR ctx x a b) k p m) (hnext : OpR ctx next m q) (mx : Nat) (hk : k ≤ mx) :
    k = mx ∨ ¬ ∃ m', OpR ctx x m m' :=
  disjoint_maxmunch_partial env ctx hcase hce hin hsc x next hx hcx hcn hnx hnn
    (noEmptySeq_of_wfOp next hwf) hdis k p m q hp hiter hnext mx hk

end Rx.C08
