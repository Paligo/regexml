/-
  Props/Findings — the engine is NOT complete w.r.t. the language `OpR` of its program, and the
  incompleteness is the implementation's, not only the model's: kernel-checked witnesses for the
  catalogued findings K2, K3, K4, K9 (KNOWN_FINDINGS.json).  For each: the program is the one the
  crate compiles for the witness pattern (compared textually on every run, `dump`), the model's
  `is_match` answers `false` (by computation in the kernel) although some substring is in the
  language of the program (K2, K3, K4: explicit derivation; K9: the program with the body of the
  choice written once has the same language and is answered `true`).  Every run replays the same
  witnesses on the crate.  These are the "third case" theorems: model and implementation agree and
  the (completeness half of the) property is false of both.  Last, K1, a finding of the compiler:
  the model's compiler on the pattern text, and the answer of what it builds.
-/
import RxModel.Model.Compile
import RxModel.Spec.OpLang
namespace Rx.Findings

def a : Op := .atom [97]
def b : Op := .atom [98]
def c : Op := .atom [99]
def x : Op := .atom [120]

/-! ### K2 — a reluctant variable-length repeat takes only the body's first match: `(?:a|ab)+?c` on "abc" -/
def progK2 : Prog :=
  { op := .seq [.rep 1 (.choice [a, .atom [97, 98]]) 1 usizeMax false, c, .endProgram],
    minLen := 2, pres := [{ op := c, fixed := none, minPos := 1 }] }

theorem K2_isMatch : progK2.isMatch id [97, 98, 99] = .ok false := by decide +kernel

theorem K2_member : OpR (progK2.ctx id [97, 98, 99]) progK2.op 0 3 := by
  have h02 : OpR (progK2.ctx id [97, 98, 99]) (.choice [a, .atom [97, 98]]) 0 2 :=
    .inr (.inl ⟨rfl, by decide, by decide⟩)
  exact ⟨2, ⟨1, by decide, by decide, .succ (.zero 0) h02⟩, 3, ⟨rfl, by decide, by decide⟩, 3, rfl, rfl⟩

theorem K2_wf : wfOp progK2.op = true := by decide

/-! ### K4 — greedy re-extension stops one iteration short: `^(?:a|ab|b){0,2}$` on "abb" -/
def progK4 : Prog :=
  { op := .seq [.bol, .rep 1 (.choice [a, .atom [97, 98], b]) 0 2 true, .eol, .endProgram], hasBol := true }

theorem K4_isMatch : progK4.isMatch id [97, 98, 98] = .ok false := by decide +kernel

theorem K4_member : OpR (progK4.ctx id [97, 98, 98]) progK4.op 0 3 := by
  have h02 : OpR (progK4.ctx id [97, 98, 98]) (.choice [a, .atom [97, 98], b]) 0 2 :=
    .inr (.inl ⟨rfl, by decide, by decide⟩)
  have h23 : OpR (progK4.ctx id [97, 98, 98]) (.choice [a, .atom [97, 98], b]) 2 3 :=
    .inr (.inr (.inl ⟨rfl, by decide, by decide⟩))
  exact ⟨0, ⟨rfl, .inl rfl⟩, 3, ⟨2, by decide, by decide, .succ (.succ (.zero 0) h02) h23⟩, 3, ⟨rfl, .inl (by decide)⟩, 3, rfl, rfl⟩

/-! ### K3 — the zero-length-match memo suppresses a zero-iteration alternative: `^(?:(?:xx|x)(?:ab|c)*){2}$` on "xx" -/
def progK3 : Prog :=
  { op := .seq [.bol, .rep 1 (.seq [.choice [.atom [120, 120], x], .rep 2 (.choice [.atom [97, 98], c]) 0 usizeMax true]) 2 2 true,
                .eol, .endProgram],
    hasBol := true, minLen := 2 }

theorem K3_isMatch : progK3.isMatch id [120, 120] = .ok false := by decide +kernel

theorem K3_member : OpR (progK3.ctx id [120, 120]) progK3.op 0 2 := by
  have body : ∀ p, p < 2 → OpR (progK3.ctx id [120, 120])
      (.seq [.choice [.atom [120, 120], x], .rep 2 (.choice [.atom [97, 98], c]) 0 usizeMax true]) p (p + 1) := by
    intro p hp
    refine ⟨p + 1, .inr (.inl ⟨rfl, ?_, ?_⟩), p + 1, ⟨0, by decide, by decide, .zero _⟩, rfl⟩
    · simp [Prog.ctx, Ctx.len]; omega
    · match p, hp with
      | 0, _ => decide
      | 1, _ => decide
  refine ⟨0, ⟨rfl, .inl rfl⟩, 2, ⟨2, by decide, by decide, .succ (.succ (.zero 0) (body 0 (by decide))) (body 1 (by decide))⟩,
    2, ⟨rfl, .inl (by decide)⟩, 2, rfl, rfl⟩

/-! ### K9 — the five-in-a-row cut of `ForceProgressIterator`: `(?:a+b?|a+b?){3}a` on "aaaaba" -/
def ab? : Op := .seq [.gfixed a 1 usizeMax 1, .gfixed b 0 1 1]
def progK9 : Prog :=
  { op := .seq [.rep 1 (.choice [ab?, ab?]) 3 3 true, a, .endProgram],
    minLen := 4, pres := [{ op := a, fixed := none, minPos := 3 }] }

theorem K9_isMatch : progK9.isMatch id [97, 97, 97, 97, 98, 97] = .ok false := by decide +kernel

/-- the same program with the body written once matches: `(?:a+b?){3}a` -/
def progK9' : Prog :=
  { op := .seq [.rep 1 ab? 3 3 true, a, .endProgram],
    minLen := 4, pres := [{ op := .gfixed a 1 usizeMax 1, fixed := none, minPos := 0 }, { op := a, fixed := none, minPos := 3 }] }
theorem K9'_isMatch : progK9'.isMatch id [97, 97, 97, 97, 98, 97] = .ok true := by decide +kernel

/-- … and both have the same language (C20's law r|r = r), so the first answer contradicts completeness -/
theorem K9_same_language (ctx : Ctx) (p q : Nat) : OpR ctx progK9.op p q ↔ OpR ctx progK9'.op p q := by
  simp only [progK9, progK9', OpR, OpRSeq, OpRAny, or_false, or_self]

/-- the converse of `C01.isMatch_sound` is false: completeness of the engine w.r.t. `OpR` does not hold -/
theorem completeness_false :
    ¬ ∀ (pr : Prog) (lower : Nat → Nat) (input : List Nat), wfOp pr.op = true →
        (∃ i j, OpR (pr.ctx lower input) pr.op i j) → pr.isMatch lower input = .ok true := by
  intro h
  have := h progK2 id [97, 98, 99] K2_wf ⟨0, 3, K2_member⟩
  rw [K2_isMatch] at this
  exact absurd this (by decide)

/-! ### K1 — a counted quantifier over a nullable body is compiled to `*`: `^(?:a?){2}$` matches "aaa" -/
def env0 : Env :=
  { lower := id, closure := fun _ => [], category := fun _ => none, block := fun _ => none,
    digit := [], word := [], nameStart := [], nameChar := [] }

/-- the model's compiler applied to the pattern text (no table is consulted for this pattern) -/
def compiledK1 : Out Prog := compileCore env0 {} [94, 40, 63, 58, 97, 63, 41, 123, 50, 125, 36] true

theorem K1_isMatch :
    (match compiledK1 with | .ok pr => pr.isMatch id [97, 97, 97] | _ => .diverge) = .ok true := by decide +kernel

/-- … while the two-fold concatenation `^(?:a?)(?:a?)$` does not -/
def compiledK1' : Out Prog :=
  compileCore env0 {} [94, 40, 63, 58, 97, 63, 41, 40, 63, 58, 97, 63, 41, 36] true
theorem K1'_isMatch :
    (match compiledK1' with | .ok pr => pr.isMatch id [97, 97, 97] | _ => .diverge) = .ok false := by decide +kernel

end Rx.Findings
