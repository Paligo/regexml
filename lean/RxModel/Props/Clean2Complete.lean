/-
  Props/Clean2Complete — the search-loop theorems (Props/SearchComplete) on the clean
  fragment ENLARGED by the optimiser's `UnambiguousRepeat` (Spec/Enum2, Props/Clean2).  This covers
  the optimised programs of patterns such as `a*b`, `[0-9]+x`, `a*b(c|d)+e`, `a*$`, `a*`.

  For `pr := mkProgram pat op mp fl false`, `ctx := pr.ctx lower input` the hypotheses are
      decidable, about the tree:  `cleanProg2 env fl.caseBlind fl.multiLine op`, `wfOp op`,
                                  `C08.noEmptyAtoms op`, `clsCanonB op`, (`C02.capsPos op` for spans)
      about the data:             `InputOKFor env fl lower input` — case data adequate IF the program is
                                  case-blind (vacuous otherwise: the `_cs` corollaries), closures are
                                  code points, the input consists of scalar values; `input.length < usizeMax`.

    0  `clean2_progOK` (Proofs/Clean4SearchLemmas): the fragment is inside that of Spec/Enum4, and `enum4` is `enum2`
       on it; sections 2–4 are the theorems of Proofs/ProgOK at it
    1  `completeAt_clean2'`, `pres_completeAt2'`   the engine test is complete on the main tree and on
       every precondition tree.  `add_precondition` records for `.unamb x 1 m` the node itself
       (`completeAt_unambLeaf`, Proofs/PreComplete: a standalone maximal-munch repeat over one character is complete
       for EXISTENCE), for `.unamb x n m`, n ≥ 2, the general repeat `rep 0 x n n true` (as for `gfixed` / `rfixed`).
    2  `clean2_isMatch_iff` / `clean2_isMatch_false`     C01 both directions, never panic / diverge
    3  `clean2_match_is_leftmost_first`                  C02: least start; end = `(enum2 …).head?`
    4  `clean2_opt_eq_noopt` / `clean2_opt_eq_bare`      shortcuts on/off, SAME tree: Boolean, start, end
    5  `clean2_opt_eq_unopt`   the optimised tree `op' = optimize env fl op` against the UN-optimised
       tree `op` (which has `gfixed`/`rfixed` where `op'` has `.unamb`): same Boolean, same START.
       The END is equal as well: Props/Clean2End `clean2_opt_eq_unopt_full`.
    (the example `a*b(c|d)+e` is in Props/Clean2Api)
-/
import RxModel.Props.Clean4
import RxModel.Props.CleanComplete
namespace Rx.Clean2Complete
open Rx Rx.SearchComplete
open Rx.C08 (noEmptyAtoms)

/-! ## 1. completeness of the engine test -/

theorem completeAt_clean2' (env : Env) (pat : List Nat) (op : Op) (mp : Nat) (fl : CFlags)
    (lower : Nat → Nat) (input : List Nat) (hI : InputOKFor env fl lower input)
    (hc : cleanProg2 env fl.caseBlind fl.multiLine op = true) (hwf : wfOp op = true)
    (hne : noEmptyAtoms op = true) (hcan : clsCanonB op = true) :
    CompleteAt ((mkProgram pat op mp fl false).ctx lower input) (mkProgram pat op mp fl false).op := by
  -- the main tree of the program IS the tree handed to `ReProgram::new` (no general repeat to number)
  rw [mkProgram_op_shape2 pat op mp fl false (shape_of_cleanProg2 env _ _ op hc)]
  exact Clean4L.completeAt_clean4 env _ (hI.ctx pat op mp false) _
    (by rw [MkProgram.ctx]; exact Clean4.cleanProg4_of_cleanProg2 env _ _ op hc) hwf hne hcan

/-- every precondition tree is of a shape on which the engine test is complete -/
theorem pres_completeAt2' (env : Env) (pat : List Nat) (op : Op) (mp : Nat) (fl : CFlags) (ctx : Ctx)
    (hc : cleanProg2 env fl.caseBlind fl.multiLine op = true) (hwf : wfOp op = true)
    (hne : noEmptyAtoms op = true) :
    ∀ q ∈ (mkProgram pat op mp fl false).pres, CompleteAt ctx q.op :=
  mkProgram_pres_completeAt pat op mp fl false ctx hwf hne

/-! ## 2. C01 in both directions -/

theorem clean2_isMatch_iff (env : Env) (pat : List Nat) (op : Op) (mp : Nat) (fl : CFlags)
    (lower : Nat → Nat) (input : List Nat) (hI : InputOKFor env fl lower input)
    (hc : cleanProg2 env fl.caseBlind fl.multiLine op = true) (hwf : wfOp op = true)
    (hne : noEmptyAtoms op = true) (hcan : clsCanonB op = true) (hlen : input.length < usizeMax) :
    (mkProgram pat op mp fl false).isMatch lower input = .ok true ↔
      ∃ j q, j ≤ input.length ∧
        OpR ((mkProgram pat op mp fl false).ctx lower input) (mkProgram pat op mp fl false).op j q :=
  (clean2_progOK env pat op mp fl lower input hI hc hwf hne hcan hlen).isMatch_iff

theorem clean2_isMatch_false (env : Env) (pat : List Nat) (op : Op) (mp : Nat) (fl : CFlags)
    (lower : Nat → Nat) (input : List Nat) (hI : InputOKFor env fl lower input)
    (hc : cleanProg2 env fl.caseBlind fl.multiLine op = true) (hwf : wfOp op = true)
    (hne : noEmptyAtoms op = true) (hcan : clsCanonB op = true) (hlen : input.length < usizeMax)
    (hno : ¬ ∃ j q, j ≤ input.length ∧
        OpR ((mkProgram pat op mp fl false).ctx lower input) (mkProgram pat op mp fl false).op j q) :
    (mkProgram pat op mp fl false).isMatch lower input = .ok false :=
  (clean2_progOK env pat op mp fl lower input hI hc hwf hne hcan hlen).isMatch_false hno

/-! ## 3. C02: leftmost start, first end of the engine's enumeration -/

/-- when `matches(i)` succeeds, group 0 of the resulting state is `(j, n)`: `j` the LEAST start `≥ i`
    from which the language has any member, `n` the FIRST element of `enum2` from `j` (ordered choice,
    greedy-longest, reluctant-shortest, maximal munch at every `.unamb`) -/
theorem clean2_match_is_leftmost_first (env : Env) (pat : List Nat) (op : Op) (mp : Nat) (fl : CFlags)
    (lower : Nat → Nat) (input : List Nat) (hI : InputOKFor env fl lower input)
    (hc : cleanProg2 env fl.caseBlind fl.multiLine op = true) (hwf : wfOp op = true)
    (hne : noEmptyAtoms op = true) (hcan : clsCanonB op = true) (hcp : C02.capsPos op = true)
    (hlen : input.length < usizeMax)
    (i : Nat) (hi : i ≤ input.length) (st st' : St) (hst : st.panic = none)
    (h : matchesFrom ((mkProgram pat op mp fl false).ctx lower input) (mkProgram pat op mp fl false) i st
      = (true, st')) :
    ∃ j n, getParenStart st' 0 = some j ∧ getParenEnd st' 0 = some n ∧
      (enum2 ((mkProgram pat op mp fl false).ctx lower input) (mkProgram pat op mp fl false).op j).head? = some n ∧
      i ≤ j ∧ j ≤ n ∧ n ≤ input.length ∧
      OpR ((mkProgram pat op mp fl false).ctx lower input) (mkProgram pat op mp fl false).op j n ∧
      ∀ k q, i ≤ k → k < j →
        ¬ OpR ((mkProgram pat op mp fl false).ctx lower input) (mkProgram pat op mp fl false).op k q :=
  (clean2_progOK env pat op mp fl lower input hI hc hwf hne hcan hlen).leftmost_first
    ((mkProgram_tree pat op mp fl false).2.2.trans hcp) i hi st st' hst h

/-! ## 4. shortcuts on / off on the SAME tree: full result equality -/

theorem clean2_opt_eq_noopt (env : Env) (pat : List Nat) (op : Op) (mp : Nat) (fl : CFlags)
    (lower : Nat → Nat) (input : List Nat) (hI : InputOKFor env fl lower input)
    (hc : cleanProg2 env fl.caseBlind fl.multiLine op = true) (hwf : wfOp op = true)
    (hne : noEmptyAtoms op = true) (hcan : clsCanonB op = true) (hcp : C02.capsPos op = true)
    (hlen : input.length < usizeMax)
    (i : Nat) (hi : i ≤ input.length) (st1 st2 : St) (h1 : st1.panic = none) (h2 : st2.panic = none) :
    let pr := mkProgram pat op mp fl false
    let ctx := pr.ctx lower input
    (matchesFrom ctx pr i st1).1 = (matchesNaive ctx pr.op i st2).1 ∧
    ((matchesFrom ctx pr i st1).1 = true →
      getParenStart (matchesFrom ctx pr i st1).2 0 = getParenStart (matchesNaive ctx pr.op i st2).2 0 ∧
      getParenEnd (matchesFrom ctx pr i st1).2 0 = getParenEnd (matchesNaive ctx pr.op i st2).2 0) :=
  (clean2_progOK env pat op mp fl lower input hI hc hwf hne hcan hlen).opt_eq_noopt
    ((mkProgram_tree pat op mp fl false).2.2.trans hcp) i hi st1 st2 h1 h2

/-- the program against the bare program (no shortcuts) over the same tree -/
theorem clean2_opt_eq_bare (env : Env) (pat : List Nat) (op : Op) (mp : Nat) (fl : CFlags)
    (lower : Nat → Nat) (input : List Nat) (hI : InputOKFor env fl lower input)
    (hc : cleanProg2 env fl.caseBlind fl.multiLine op = true) (hwf : wfOp op = true)
    (hne : noEmptyAtoms op = true) (hcan : clsCanonB op = true) (hcp : C02.capsPos op = true)
    (hlen : input.length < usizeMax)
    (i : Nat) (hi : i ≤ input.length) (st1 st2 : St) (h1 : st1.panic = none) (h2 : st2.panic = none) :
    let pr := mkProgram pat op mp fl false
    let bare := mkBareProgram pat op mp fl false
    (matchesFrom (pr.ctx lower input) pr i st1).1 = (matchesFrom (bare.ctx lower input) bare i st2).1 ∧
    ((matchesFrom (pr.ctx lower input) pr i st1).1 = true →
      getParenStart (matchesFrom (pr.ctx lower input) pr i st1).2 0 =
        getParenStart (matchesFrom (bare.ctx lower input) bare i st2).2 0 ∧
      getParenEnd (matchesFrom (pr.ctx lower input) pr i st1).2 0 =
        getParenEnd (matchesFrom (bare.ctx lower input) bare i st2).2 0) := by
  intro pr bare
  rw [bare_matchesFrom pat op op mp fl false lower input i hi st2]
  exact clean2_opt_eq_noopt env pat op mp fl lower input hI hc hwf hne hcan hcp hlen i hi st1 st2 h1 h2

/-! ## 5. the optimised tree against the UN-optimised tree

  `compileCore … true` builds `mkProgram pat (optimize env fl op) …`, the verification hook
  (`compileCore … false`) builds `mkBareProgram pat op …` from the parser's tree `op`, which has
  `gfixed` / `rfixed` where the optimised tree has `.unamb`: two different trees with the same language
  (`C08.optimize_preserves`), on both of which the engine test is complete — `op` is in the fragment of
  Spec/Enum (Props/CleanComplete), `optimize env fl op` in that of Spec/Enum2. -/

/-- optimised program vs. the bare program of the UN-optimised tree: the same Boolean and, on success,
    the same start of group 0.  `op` is the parser's tree (fragment of Spec/Enum), `optimize env fl op` must be in
    the fragment of Spec/Enum2 (decidable; `Clean2Opt.optimize_clean2` derives it from `cleanOp op` for trees
    whose only EndProgram closes the root sequence; Props/Clean2End removes the hypothesis). -/
theorem clean2_opt_eq_unopt (env : Env) (pat : List Nat) (op : Op) (mp : Nat) (fl : CFlags)
    (lower : Nat → Nat) (input : List Nat) (hI : InputOKFor env fl lower input)
    (hc0 : cleanOp op = true) (hwf0 : wfOp op = true) (hcp0 : C02.capsPos op = true)
    (hc : cleanProg2 env fl.caseBlind fl.multiLine (optimize env fl op) = true)
    (hne : noEmptyAtoms (optimize env fl op) = true) (hcan : clsCanonB (optimize env fl op) = true)
    (hlen : input.length < usizeMax)
    (i : Nat) (hi : i ≤ input.length) (st1 st2 : St) (h1 : st1.panic = none) (h2 : st2.panic = none) :
    let pr := mkProgram pat (optimize env fl op) mp fl false
    let bare := mkBareProgram pat op mp fl false
    (matchesFrom (pr.ctx lower input) pr i st1).1 = (matchesFrom (bare.ctx lower input) bare i st2).1 ∧
    ((matchesFrom (pr.ctx lower input) pr i st1).1 = true →
      getParenStart (matchesFrom (pr.ctx lower input) pr i st1).2 0 =
        getParenStart (matchesFrom (bare.ctx lower input) bare i st2).2 0) := by
  intro pr bare
  -- the bare program runs the naive search on the numbered un-optimised tree, under the optimised program's context
  rw [bare_matchesFrom pat op (optimize env fl op) mp fl false lower input i hi st2]
  have S := clean2_progOK env pat (optimize env fl op) mp fl lower input hI hc (WF.optimize_wf env fl op hwf0)
    hne hcan hlen
  obtain ⟨hcN, hwN, hcpN⟩ := clean_prog pat op mp fl false hc0 hwf0
  have T := clean_treeOK (pr.ctx lower input) (MkProgram.hasBackrefs pat _ mp fl false) _ hcN hwN
  have hlang : ∀ p q, p ≤ (pr.ctx lower input).len →
      (OpR (pr.ctx lower input) pr.op p q ↔ OpR (pr.ctx lower input) (mkProgram pat op mp fl false).op p q) := by
    intro p q hp
    show OpR _ (mkProgram pat (optimize env fl op) mp fl false).op p q ↔ _
    rw [MkProgram.op, MkProgram.op, C08.numberReps_preserves, C08.numberReps_preserves]
    exact C08.optimize_preserves env fl _ op hwf0 p q hp
  exact ⟨(S.outcome i hi st1 h1).found_congr rfl hlang (T.naive i st2 h2),
    (S.outcome i hi st1 h1).start_congr rfl hlang S.tree.wf hwN
      ((mkProgram_tree pat _ mp fl false).2.2.trans (WF.optimize_caps env fl op hcp0)) (hcpN hcp0) (T.naive i st2 h2)⟩

/-- hence the two `is_match` answers coincide -/
theorem clean2_isMatch_eq_unopt (env : Env) (pat : List Nat) (op : Op) (mp : Nat) (fl : CFlags)
    (lower : Nat → Nat) (input : List Nat) (hI : InputOKFor env fl lower input)
    (hc0 : cleanOp op = true) (hwf0 : wfOp op = true) (hcp0 : C02.capsPos op = true)
    (hne0 : noEmptyAtoms op = true)
    (hc : cleanProg2 env fl.caseBlind fl.multiLine (optimize env fl op) = true)
    (hcan : clsCanonB (optimize env fl op) = true) (hlen : input.length < usizeMax) :
    (mkProgram pat (optimize env fl op) mp fl false).isMatch lower input =
      (mkBareProgram pat op mp fl false).isMatch lower input := by
  have hne := optimize_NE env fl op hne0
  have hwf := WF.optimize_wf env fl op hwf0
  refine isMatch_congr
    (clean2_opt_eq_unopt env pat op mp fl lower input hI hc0 hwf0 hcp0 hc hne hcan hlen 0 (Nat.zero_le _) {} {} rfl rfl).1
    ((clean2_progOK env pat (optimize env fl op) mp fl lower input hI hc hwf hne hcan hlen).outcome 0 (Nat.zero_le _) {} rfl).clean
    ?_
  rw [bare_matchesFrom pat op op mp fl false lower input 0 (Nat.zero_le _) {}]
  exact ((clean_progOK pat op mp fl lower input hc0 hwf0 hne0 hlen).tree.naive 0 {} rfl).clean

/-! ### the END of the un-optimised program

  The optimised program reports `(enum2 ctx (optimize env fl op) j).head?`, the un-optimised one
  `(enum ctx op j).head?`, both from the same least start `j`.  They coincide: Props/Clean2End proves
  `optimize_enum_eq` (sub-trees: the two enumerations are equal AS LISTS — at a justified `.unamb` every
  count but the maximal one is followed by nothing), `optimize_enum_head` (whole programs: the same head;
  at the final `x{mn,mx} · EndProgram` the lists differ, `[m*]` against `[m*, m*-1, …]`) and
  `clean2_opt_eq_unopt_full` (Boolean, start AND end), with hypotheses on the parser's tree only. -/

/-! ## case-sensitive programs: no hypothesis on the case tables -/

theorem clean2_isMatch_iff_cs (env : Env) (pat : List Nat) (op : Op) (mp : Nat) (fl : CFlags)
    (lower : Nat → Nat) (input : List Nat) (hcb : fl.caseBlind = false)
    (hce : ∀ a x, x ∈ env.closure a → x < cpLimit)
    (hin : ∀ c ∈ input, c < cpLimit) (hsc : ∀ c ∈ input, isSurrogate c = false)
    (hc : cleanProg2 env false fl.multiLine op = true) (hwf : wfOp op = true)
    (hne : noEmptyAtoms op = true) (hcan : clsCanonB op = true) (hlen : input.length < usizeMax) :
    (mkProgram pat op mp fl false).isMatch lower input = .ok true ↔
      ∃ j q, j ≤ input.length ∧
        OpR ((mkProgram pat op mp fl false).ctx lower input) (mkProgram pat op mp fl false).op j q :=
  clean2_isMatch_iff env pat op mp fl lower input (.of_caseSensitive hcb hce hin hsc)
    (by rw [hcb]; exact hc) hwf hne hcan hlen

theorem clean2_match_is_leftmost_first_cs (env : Env) (pat : List Nat) (op : Op) (mp : Nat) (fl : CFlags)
    (lower : Nat → Nat) (input : List Nat) (hcb : fl.caseBlind = false)
    (hce : ∀ a x, x ∈ env.closure a → x < cpLimit)
    (hin : ∀ c ∈ input, c < cpLimit) (hsc : ∀ c ∈ input, isSurrogate c = false)
    (hc : cleanProg2 env false fl.multiLine op = true) (hwf : wfOp op = true)
    (hne : noEmptyAtoms op = true) (hcan : clsCanonB op = true) (hcp : C02.capsPos op = true)
    (hlen : input.length < usizeMax)
    (i : Nat) (hi : i ≤ input.length) (st st' : St) (hst : st.panic = none)
    (h : matchesFrom ((mkProgram pat op mp fl false).ctx lower input) (mkProgram pat op mp fl false) i st
      = (true, st')) :
    ∃ j n, getParenStart st' 0 = some j ∧ getParenEnd st' 0 = some n ∧
      (enum2 ((mkProgram pat op mp fl false).ctx lower input) (mkProgram pat op mp fl false).op j).head? = some n ∧
      i ≤ j ∧ j ≤ n ∧ n ≤ input.length ∧
      OpR ((mkProgram pat op mp fl false).ctx lower input) (mkProgram pat op mp fl false).op j n ∧
      ∀ k q, i ≤ k → k < j →
        ¬ OpR ((mkProgram pat op mp fl false).ctx lower input) (mkProgram pat op mp fl false).op k q :=
  clean2_match_is_leftmost_first env pat op mp fl lower input (.of_caseSensitive hcb hce hin hsc)
    (by rw [hcb]; exact hc) hwf hne hcan hcp hlen i hi st st' hst h

end Rx.Clean2Complete
