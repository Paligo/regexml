/-
  Props/Clean3MemoEnd — the END reported by `matches` for programs of the memo fragment (`Memo.cleanProg3m`:
  a root sequence with skippable greedy repeats `x*`, `x{0,n}` over deterministic bodies, Props/Clean3Memo) is
  the PRIORITY-FIRST end: the head of the state-free enumeration `enum3` (greedy = most iterations first) from
  the reported start — whatever the memo contains, as long as it satisfies the invariant.

  Props/Clean3Memo / Clean3MemoScan show that the start is the leftmost one and the end A member of the
  language; here:

    `clean3m_match_end_first`          under the absolute invariant `HR st`: span `[j, n)` reported ⇒
                                        `(enum3 ctx prog.op j).head? = some n`
    `clean3m_match_is_leftmost_first`  … together with: `j` is the least start `≥ i` with a match, `[j, n)` is
                                        in the language
    `clean3m_match_end_first_from`, `clean3m_match_is_leftmost_first_from`
                                        the same under the RELATIVE scan invariant `HRfrom i st` (the one that
                                        survives successful `matches` calls, Props/Clean3MemoScan)
    `clean3m_end_state_free`           two searches from `i`, from ANY two states satisfying the invariant
                                        (e.g. the threaded one and a fresh one) report the same span

  Why it holds (`Memo.Elem`, Proofs/MemoLemmas; `Memo.seqGood`, Proofs/MemoSeqLemmas): the memo entry `(id, p)`
  only removes the zero-iteration end `p` — the LAST element of the repeat's enumeration — and the invariant
  says the followers are dead from `p`.  The list of ends the repeat's iterator yields therefore leads to the
  same first end of the whole as `enum3` does, the followers (entered with the invariant) yield first the head
  of their own enumeration, and a failed attempt of the followers leaves the invariant intact.
-/
import RxModel.Props.Clean3MemoScan
namespace Rx.Clean3MemoEnd
open Rx Rx.SearchComplete Rx.Memo Rx.MemoScan Rx.Clean3MemoScan
open Rx.C08 (noEmptyAtoms)

section
variable {env : Env} {pat : List Nat} {op : Op} {mp : Nat} {fl : CFlags} {lower : Nat → Nat}
  {input : List Nat} {l : List Op}

theorem pair_true {r : Bool × St} (h : r.1 = true) : r = (true, r.2) := Prod.ext h rfl

/-- SCAN VERSION, combined: least start, member of the language, and the end is the priority-first one -/
theorem clean3m_match_is_leftmost_first_from (P : Prog3m env pat op mp fl lower input l)
    (i : Nat) (hi : i ≤ input.length) (st st' : St) (hp : st.panic = none)
    (hm : HRfrom ((mkProgram pat op mp fl false).ctx lower input) l i st)
    (h : matchesFrom ((mkProgram pat op mp fl false).ctx lower input) (mkProgram pat op mp fl false) i st
      = (true, st')) :
    ∃ j n, getParenStart st' 0 = some j ∧ getParenEnd st' 0 = some n ∧ i ≤ j ∧ j ≤ n ∧ n ≤ input.length ∧
      OpR ((mkProgram pat op mp fl false).ctx lower input) (mkProgram pat op mp fl false).op j n ∧
      (∀ k q, i ≤ k → k < j →
        ¬ OpR ((mkProgram pat op mp fl false).ctx lower input) (mkProgram pat op mp fl false).op k q) ∧
      (enum3 ((mkProgram pat op mp fl false).ctx lower input) (mkProgram pat op mp fl false).op j).head? = some n := by
  obtain ⟨T, F, hP⟩ := program_facts env pat op mp fl lower input P.inp l P.hop P.clean P.wf P.ne P.can P.len
  obtain ⟨j, n, hs, he, hij, hjn, hnl, hopr, hleft, hh, _⟩ :=
    matchesFrom_span P.hop T F P.len (prog_wf P).2 hP i hi st hp hm h
  rw [P.hop]
  exact ⟨j, n, hs, he, hij, hjn, hnl, hopr, hleft, by simpa only [enum3] using hh⟩

/-- SCAN VERSION: the reported end is the head of the enumeration from the reported start -/
theorem clean3m_match_end_first_from (P : Prog3m env pat op mp fl lower input l)
    (i : Nat) (hi : i ≤ input.length) (st st' : St) (hp : st.panic = none)
    (hm : HRfrom ((mkProgram pat op mp fl false).ctx lower input) l i st)
    (h : matchesFrom ((mkProgram pat op mp fl false).ctx lower input) (mkProgram pat op mp fl false) i st
      = (true, st')) :
    ∃ j n, getParenStart st' 0 = some j ∧ getParenEnd st' 0 = some n ∧
      (enum3 ((mkProgram pat op mp fl false).ctx lower input) (mkProgram pat op mp fl false).op j).head? = some n := by
  obtain ⟨j, n, h1, h2, _, _, _, _, _, h3⟩ := clean3m_match_is_leftmost_first_from P i hi st st' hp hm h
  exact ⟨j, n, h1, h2, h3⟩

/-- the reported span does not depend on the memo: any two states satisfying the invariant (the threaded one
    and a fresh one, say) give the same answer and, on success, the same span -/
theorem clean3m_end_state_free (P : Prog3m env pat op mp fl lower input l)
    (i : Nat) (hi : i ≤ input.length) (st1 st2 : St) (hp1 : st1.panic = none) (hp2 : st2.panic = none)
    (hm1 : HRfrom ((mkProgram pat op mp fl false).ctx lower input) l i st1)
    (hm2 : HRfrom ((mkProgram pat op mp fl false).ctx lower input) l i st2) :
    (matchesFrom ((mkProgram pat op mp fl false).ctx lower input) (mkProgram pat op mp fl false) i st1).1 =
      (matchesFrom ((mkProgram pat op mp fl false).ctx lower input) (mkProgram pat op mp fl false) i st2).1 ∧
    ((matchesFrom ((mkProgram pat op mp fl false).ctx lower input) (mkProgram pat op mp fl false) i st1).1 = true →
      getParenStart (matchesFrom ((mkProgram pat op mp fl false).ctx lower input) (mkProgram pat op mp fl false) i st1).2 0 =
        getParenStart (matchesFrom ((mkProgram pat op mp fl false).ctx lower input) (mkProgram pat op mp fl false) i st2).2 0 ∧
      getParenEnd (matchesFrom ((mkProgram pat op mp fl false).ctx lower input) (mkProgram pat op mp fl false) i st1).2 0 =
        getParenEnd (matchesFrom ((mkProgram pat op mp fl false).ctx lower input) (mkProgram pat op mp fl false) i st2).2 0) := by
  have ho1 := clean3m_outcome_from P i hi st1 hp1 hm1
  have ho2 := clean3m_outcome_from P i hi st2 hp2 hm2
  obtain ⟨hwT, hcT⟩ := prog_wf P
  obtain ⟨hb, hs⟩ := Outcome.agree hwT hcT ho1.1 ho2.1
  refine ⟨hb, fun ht => ?_⟩
  obtain ⟨hst, j, hj⟩ := hs ht
  refine ⟨hst, ?_⟩
  -- both ends are the head of the enumeration from the common start
  obtain ⟨T, F, hP⟩ := program_facts env pat op mp fl lower input P.inp l P.hop P.clean P.wf P.ne P.can P.len
  obtain ⟨j1, n1, s1, e1, _, _, _, _, _, h1, _⟩ :=
    matchesFrom_span P.hop T F P.len hcT hP i hi st1 hp1 hm1 (pair_true ht)
  obtain ⟨j2, n2, s2, e2, _, _, _, _, _, h2, _⟩ :=
    matchesFrom_span P.hop T F P.len hcT hP i hi st2 hp2 hm2 (pair_true (hb ▸ ht))
  have hjj : j1 = j2 := Option.some.inj (by rw [← s1, ← s2, hst])
  subst hjj
  rw [e1, e2, ← h1, ← h2]

end

/-! ### under the absolute invariant `HR` of Props/Clean3Memo (hypotheses as in `clean3m_match_is_leftmost`) -/

/-- COMBINED: on success group 0 starts at the LEAST start `≥ i` that has a match and ends at the
    PRIORITY-FIRST end from there (the head of `enum3`), which is a member of the language -/
theorem clean3m_match_is_leftmost_first (env : Env) (pat : List Nat) (op : Op) (mp : Nat) (fl : CFlags)
    (lower : Nat → Nat) (input : List Nat) (hI : InputOKFor env fl lower input) (l : List Op)
    (hop : (mkProgram pat op mp fl false).op = .seq l)
    (hc : cleanProg3m env fl.caseBlind fl.multiLine (.seq l) = true)
    (hwf : wfOp op = true) (hne : noEmptyAtoms op = true) (hcan : clsCanonB (.seq l) = true)
    (hcp : C02.capsPos op = true) (hlen : input.length < usizeMax)
    (i : Nat) (hi : i ≤ input.length) (st st' : St) (hp : st.panic = none)
    (hm : HR ((mkProgram pat op mp fl false).ctx lower input) l st)
    (h : matchesFrom ((mkProgram pat op mp fl false).ctx lower input) (mkProgram pat op mp fl false) i st
      = (true, st')) :
    ∃ j n, getParenStart st' 0 = some j ∧ getParenEnd st' 0 = some n ∧ i ≤ j ∧ j ≤ n ∧ n ≤ input.length ∧
      OpR ((mkProgram pat op mp fl false).ctx lower input) (mkProgram pat op mp fl false).op j n ∧
      (∀ k q, i ≤ k → k < j →
        ¬ OpR ((mkProgram pat op mp fl false).ctx lower input) (mkProgram pat op mp fl false).op k q) ∧
      (enum3 ((mkProgram pat op mp fl false).ctx lower input) (mkProgram pat op mp fl false).op j).head? = some n :=
  clean3m_match_is_leftmost_first_from ⟨hI, hop, hc, hwf, hne, hcan, hcp, hlen⟩ i hi st st' hp
    (HRG_of_HR _ l _ st hm) h

/-- the reported END is the first element of `enum3` of the program from the reported start -/
theorem clean3m_match_end_first (env : Env) (pat : List Nat) (op : Op) (mp : Nat) (fl : CFlags)
    (lower : Nat → Nat) (input : List Nat) (hI : InputOKFor env fl lower input) (l : List Op)
    (hop : (mkProgram pat op mp fl false).op = .seq l)
    (hc : cleanProg3m env fl.caseBlind fl.multiLine (.seq l) = true)
    (hwf : wfOp op = true) (hne : noEmptyAtoms op = true) (hcan : clsCanonB (.seq l) = true)
    (hcp : C02.capsPos op = true) (hlen : input.length < usizeMax)
    (i : Nat) (hi : i ≤ input.length) (st st' : St) (hp : st.panic = none)
    (hm : HR ((mkProgram pat op mp fl false).ctx lower input) l st)
    (h : matchesFrom ((mkProgram pat op mp fl false).ctx lower input) (mkProgram pat op mp fl false) i st
      = (true, st')) :
    ∃ j n, getParenStart st' 0 = some j ∧ getParenEnd st' 0 = some n ∧
      (enum3 ((mkProgram pat op mp fl false).ctx lower input) (mkProgram pat op mp fl false).op j).head? = some n := by
  obtain ⟨j, n, h1, h2, _, _, _, _, _, h3⟩ :=
    clean3m_match_is_leftmost_first env pat op mp fl lower input hI l hop hc hwf hne hcan hcp hlen i hi st st' hp hm h
  exact ⟨j, n, h1, h2, h3⟩

/-! ## example: `(?:ab|c)*c` — the repeat must give back its last iteration -/
section examples
open Rx.Clean3Memo (exEnv exInputOK)

/-- `(?:ab|c)*c`, as handed to `ReProgram::new` -/
def starcTree : Op :=
  .seq [.rep 0 (.choice [.atom [97, 98], .atom [99]]) 0 usizeMax true, .atom [99], .endProgram]
/-- … and numbered -/
def starcList : List Op :=
  [.rep 1 (.choice [.atom [97, 98], .atom [99]]) 0 usizeMax true, .atom [99], .endProgram]
def starcProg : Prog := mkProgram [] starcTree 1 {} false

theorem starc_op : starcProg.op = .seq starcList := rfl

/-- the decidable hypotheses -/
theorem starc_ok :
    cleanProg3m exEnv false false (.seq starcList) = true ∧ wfOp starcTree = true ∧
    noEmptyAtoms starcTree = true ∧ clsCanonB (.seq starcList) = true ∧ C02.capsPos starcTree = true := by
  refine ⟨?_, ?_, ?_, ?_, ?_⟩ <;> decide +kernel

/-- the compiler's output for the pattern text `(?:ab|c)*c` is this program (compared on the tree's behaviour) -/
theorem starc_compiled :
    (match compileCore exEnv {} [40, 63, 58, 97, 98, 124, 99, 41, 42, 99] true with
     | .ok pr => cleanProg3m exEnv false false pr.op &&
         (enum3 (pr.ctx id [97, 98, 99, 99]) pr.op 0 == enum3 (starcProg.ctx id [97, 98, 99, 99]) starcProg.op 0) &&
         ((matchesFrom (pr.ctx id [97, 98, 99, 99]) pr 0 {}).1 ==
          (matchesFrom (starcProg.ctx id [97, 98, 99, 99]) starcProg 0 {}).1)
     | _ => false) = true := by decide +kernel

/-- `clean3m_match_is_leftmost_first` instantiated: for EVERY input of scalar values, every start, every
    state satisfying the invariant -/
theorem starc_leftmost_first (input : List Nat) (hin : ∀ c ∈ input, c < cpLimit)
    (hsc : ∀ c ∈ input, isSurrogate c = false) (hlen : input.length < usizeMax)
    (i : Nat) (hi : i ≤ input.length) (st st' : St) (hp : st.panic = none)
    (hm : HR (starcProg.ctx id input) starcList st)
    (h : matchesFrom (starcProg.ctx id input) starcProg i st = (true, st')) :
    ∃ j n, getParenStart st' 0 = some j ∧ getParenEnd st' 0 = some n ∧ i ≤ j ∧ j ≤ n ∧ n ≤ input.length ∧
      OpR (starcProg.ctx id input) starcProg.op j n ∧
      (∀ k q, i ≤ k → k < j → ¬ OpR (starcProg.ctx id input) starcProg.op k q) ∧
      (enum3 (starcProg.ctx id input) starcProg.op j).head? = some n :=
  clean3m_match_is_leftmost_first exEnv [] starcTree 1 {} id input (exInputOK input hin hsc) starcList starc_op
    starc_ok.1 starc_ok.2.1 starc_ok.2.2.1 starc_ok.2.2.2.1 starc_ok.2.2.2.2 hlen i hi st st' hp hm h

/-- computed (kernel evaluation) on "abcc": the enumeration from 0 is `[4, 3]` — three iterations `ab·c·c`
    leave nothing for the final `c`, two iterations and `c` end at 4 (the head), one iteration (`ab`, then `c`)
    ends at 3 — and the engine reports (0, 4) from a fresh matcher -/
theorem starc_computed :
    enum3 (starcProg.ctx id [97, 98, 99, 99]) starcProg.op 0 = [4, 3] ∧
    (matchesFrom (starcProg.ctx id [97, 98, 99, 99]) starcProg 0 {}).1 = true ∧
    getParenStart (matchesFrom (starcProg.ctx id [97, 98, 99, 99]) starcProg 0 {}).2 0 = some 0 ∧
    getParenEnd (matchesFrom (starcProg.ctx id [97, 98, 99, 99]) starcProg 0 {}).2 0 = some 4 := by decide +kernel

theorem starcList_ok : wfOp (.seq starcList) = true ∧ noEmptyAtoms (.seq starcList) = true := by
  refine ⟨?_, ?_⟩ <;> decide +kernel

/-- the headline theorem in a state with a NON-EMPTY memo: the state a FAILED `match_at(0)` leaves behind
    satisfies the invariant (`matchAt_complete`), so a later successful search from it reports the
    priority-first end -/
theorem starc_after_fail (input : List Nat) (hin : ∀ c ∈ input, c < cpLimit)
    (hsc : ∀ c ∈ input, isSurrogate c = false) (hlen : input.length < usizeMax) (i : Nat) (hi : i ≤ input.length)
    (hfail : (matchAt (starcProg.ctx id input) (.seq starcList) 0 {}).1 = false)
    (hp : (matchAt (starcProg.ctx id input) (.seq starcList) 0 {}).2.panic = none)
    (ht : (matchesFrom (starcProg.ctx id input) starcProg i
      (matchAt (starcProg.ctx id input) (.seq starcList) 0 {}).2).1 = true) :
    HR (starcProg.ctx id input) starcList (matchAt (starcProg.ctx id input) (.seq starcList) 0 {}).2 ∧
    ∃ j n,
      getParenStart (matchesFrom (starcProg.ctx id input) starcProg i
        (matchAt (starcProg.ctx id input) (.seq starcList) 0 {}).2).2 0 = some j ∧
      getParenEnd (matchesFrom (starcProg.ctx id input) starcProg i
        (matchAt (starcProg.ctx id input) (.seq starcList) 0 {}).2).2 0 = some n ∧
      (enum3 (starcProg.ctx id input) starcProg.op j).head? = some n := by
  have hIn : InputOK exEnv (starcProg.ctx id input) := (exInputOK input hin hsc).ctx [] starcTree 1 false
  have hHR := (Clean3Memo.matchAt_complete exEnv (starcProg.ctx id input) hIn starcList starc_ok.1 starcList_ok.1
      starcList_ok.2 starc_ok.2.2.2.1 0 (Nat.zero_le _) {} (Clean3Memo.HR_fresh _ starcList)).2 hfail
  generalize (matchAt (starcProg.ctx id input) (.seq starcList) 0 {}).2 = st1 at hp ht hHR ⊢
  refine ⟨hHR, ?_⟩
  have hpe := pair_true ht
  generalize (matchesFrom (starcProg.ctx id input) starcProg i st1).2 = st' at hpe ⊢
  exact clean3m_match_end_first exEnv [] starcTree 1 {} id input (exInputOK input hin hsc) starcList starc_op
    starc_ok.1 starc_ok.2.1 starc_ok.2.2.1 starc_ok.2.2.2.1 starc_ok.2.2.2.2 hlen i hi st1 st' hp hHR hpe

/-- on "abxabcc": the failed attempt at 0 leaves memo entries; the search from 1 in that state succeeds -/
theorem starc_after_fail_facts :
    (matchAt (starcProg.ctx id [97, 98, 120, 97, 98, 99, 99]) (.seq starcList) 0 {}).1 = false ∧
    (matchAt (starcProg.ctx id [97, 98, 120, 97, 98, 99, 99]) (.seq starcList) 0 {}).2.panic = none ∧
    (matchesFrom (starcProg.ctx id [97, 98, 120, 97, 98, 99, 99]) starcProg 1
      (matchAt (starcProg.ctx id [97, 98, 120, 97, 98, 99, 99]) (.seq starcList) 0 {}).2).1 = true ∧
    (matchAt (starcProg.ctx id [97, 98, 120, 97, 98, 99, 99]) (.seq starcList) 0 {}).2.hist ≠ [] ∧
    getParenEnd (matchesFrom (starcProg.ctx id [97, 98, 120, 97, 98, 99, 99]) starcProg 1
      (matchAt (starcProg.ctx id [97, 98, 120, 97, 98, 99, 99]) (.seq starcList) 0 {}).2).2 0 = some 7 := by
  refine ⟨?_, ?_, ?_, ?_, ?_⟩ <;> decide +kernel

/-- the hypotheses of the headline theorems are satisfiable on a concrete instance with a non-empty memo -/
example := starc_after_fail [97, 98, 120, 97, 98, 99, 99] (by decide +kernel) (by decide +kernel) (by decide) 1
  (by decide) starc_after_fail_facts.1 starc_after_fail_facts.2.1 starc_after_fail_facts.2.2.1

/-- … and the relative invariant of the scan loops holds of a fresh matcher -/
example : HRfrom (starcProg.ctx id [97, 98, 99, 99]) starcList 0 {} := HRfrom_fresh _ _ 0

end examples

end Rx.Clean3MemoEnd
