/-
  Props/C06b — C06 (termination) after fix abfdb8a, WITHOUT the bound on reluctant minima.

  The crate hung at construction on `(?:…|^|…){18446744073709551615}?`: `ReluctantRepeatIterator::next`
  ran every mandatory iteration even when they were zero-width.  The fix (model: `iterMinZ`): a
  mandatory iteration that returns the position it started from completes the minimum.  Hence every
  mandatory iteration but the last advances the position, at most `len + 1` run, and the model's fuel
  `loopFuel ctx min = min (min+1) (len+1000)` suffices for EVERY `min` (`iterMinZ_sat`, `repReluctantGen_sat` of Proofs/SatGen).

  `smallMin len op` (C06) says two things: (1) a reluctant variable repeat has `min < len + 1000`,
  (2) a non-backtracking repeat `.unamb` is over a single non-empty character.  Termination needs (2)
  only — `unambLeaf` — (`unambGen` is only known to terminate over a body that advances; the compiler
  builds `.unamb` over an atom or a class only).
-/
import RxModel.Props.C06
import RxModel.Model.Compile
namespace Rx.C06b
open Rx Rx.C06

/-! the generic form: `sem_termG` (Proofs/TermLemmas), the reluctant repeat by `repReluctantGen_sat` -/
theorem sem_term_all (ctx : Ctx) (b : Bool) (op : Op) (hwf : wfOp op = true) (hs : unambLeaf op = true) :
    ∀ p, p ≤ ctx.len → ∀ st, MarkOk b st → (sem ctx op p st).Term (MarkOk b) :=
  sem_termG ctx b op hwf (fun _ => hs)

theorem sem_term_all_choice (ctx : Ctx) (b : Bool) : (bs : List Op) → wfOps bs = true →
    unambLeafL bs = true →
    ∀ p, p ≤ ctx.len → ∀ st, MarkOk b st → (choiceGen (semL ctx bs) p st).Term (MarkOk b) :=
  fun bs hwf hs => sem_termG_choice ctx b bs hwf (fun _ => hs)

theorem sem_term_all_seq (ctx : Ctx) (b : Bool) : (ops : List Op) → wfOps ops = true →
    unambLeafL ops = true →
    ∀ p, p ≤ ctx.len → ∀ st, MarkOk b st → (seqGo (semL ctx ops) p st).Term (MarkOk b) :=
  fun ops hwf hs => sem_termG_seq ctx b ops hwf (fun _ => hs)

/-- no iterator of a well-formed tree ever diverges, whatever its consumer does, and it never
    raises the divergence marker — for EVERY minimum of a reluctant repeat -/
theorem sem_no_diverge_all (ctx : Ctx) (op : Op) (hwf : wfOp op = true) (hs : unambLeaf op = true)
    (p : Nat) (hp : p ≤ ctx.len) (st : St) (h : NoDivMark st) :
    (sem ctx op p st).NoDiv ∧ (sem ctx op p st).Inv NoDivMark :=
  term_pack (fun b => sem_term_all ctx b op hwf hs p hp st (fun _ => h))

/-- `match_at` terminates -/
theorem matchAt_no_diverge_all (ctx : Ctx) (op : Op) (hwf : wfOp op = true) (hs : unambLeaf op = true)
    (j : Nat) (hj : j ≤ ctx.len) (st : St) (h : NoDivMark st) :
    NoDivMark (matchAt ctx op j st).2 :=
  matchAt_mk ctx op j (fun st h => sem_term_all ctx true op hwf hs j hj st h) st (fun _ => h) rfl

/-- `is_match` terminates -/
theorem isMatch_no_diverge_all (pr : Prog) (lower : Nat → Nat) (input : List Nat)
    (hwf : wfOp pr.op = true) (hs : unambLeaf pr.op = true)
    (hpre : ∀ q ∈ pr.pres, simplePre q.op = true) :
    pr.isMatch lower input ≠ .diverge :=
  isMatch_no_diverge_pre pr lower input hwf hs (fun q hq p st h => pre_term _ true q.op (hpre q hq) p st h)

/-! ### regression witnesses of fix abfdb8a -/

private def env0 : Env :=
  { lower := id, closure := fun _ => [], category := fun _ => none, block := fun _ => none,
    digit := [], word := [], nameStart := [], nameChar := [] }

private def progOf (c : Out Prog) : Prog :=
  match c with
  | .ok pr => pr
  | _ => default

private def isOk (c : Out Prog) : Bool :=
  match c with
  | .ok _ => true
  | _ => false

/-- `(?:^|a){18446744073709551615}?` -/
def hangPat : List Nat :=
  [40, 63, 58, 94, 124, 97, 41, 123, 49, 56, 52, 52, 54, 55, 52, 52, 48, 55, 51, 55, 48, 57, 53, 53, 49, 54, 49, 53, 125, 63]

/-- the program the compiler produces for it:
    `(seq (rep 1 (choice bol (atom 97)) usizeMax usizeMax reluctant) (end))` -/
def hangProg : Prog := progOf (compileCore env0 {} hangPat true)

theorem hang_compiles : isOk (compileCore env0 {} hangPat true) = true := by decide +kernel

theorem hang_shape : wfOp hangProg.op = true ∧ unambLeaf hangProg.op = true ∧ hangProg.pres = [] ∧
    smallMin 0 hangProg.op = false := by
  refine ⟨by decide +kernel, by decide +kernel, by decide +kernel, by decide +kernel⟩

/-- the construction probe `is_match("")` returns (it used to spin through 2^64 zero-width iterations;
    in the model: `.diverge`) -/
theorem hang_probe_ok : hangProg.isMatch id [] = .ok true := by decide +kernel

/-- `is_match("ba")` -/
theorem hang_isMatch_ba : hangProg.isMatch id [98, 97] = .ok true := by decide +kernel

/-- … and the theorem applies: no input makes it diverge (C06 could not say this: `smallMin` fails) -/
theorem hang_never_diverges (input : List Nat) : hangProg.isMatch id input ≠ .diverge :=
  isMatch_no_diverge_all hangProg id input hang_shape.1 hang_shape.2.1
    (fun q hq => by rw [hang_shape.2.2.1] at hq; cases hq)

end Rx.C06b
