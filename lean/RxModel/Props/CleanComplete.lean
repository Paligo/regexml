/-
  Props/CleanComplete — the search-loop theorems (Props/SearchComplete) on the CLEAN
  fragment (Spec/Enum: anchors, literals, classes, captures, alternation, sequence, the two
  fixed-length-body quantifiers), on which Props/Clean proves the iterators to be exact,
  priority-ordered enumerators.  No hypothesis about the engine is left: for
  `pr := mkProgram pat op mp fl false`, `ctx := pr.ctx lower input` the hypotheses are the decidable
      `cleanOp op`, `wfOp op`, `C08.noEmptyAtoms op`, (`C02.capsPos op` where the recorded span is
      mentioned), `input.length < usizeMax`.

    1  `completeAt_clean`            the engine test is complete on the fragment
    2  `pres_clean` is FALSE (`pres_clean_false`): `add_precondition` records `x{n}`, n ≥ 2, as the
       GENERAL greedy repeat `rep 0 x n n true`, which is outside the fragment.  True and sufficient:
       `pres_clean_partial` — every precondition tree is clean + well-formed or of that one shape,
       `pres_completeAt` — and the engine test is complete on both (on every recorded operation of every
       well-formed tree without empty literal: `mkProgram_pres_completeAt`, Proofs/PreComplete).
    3a `clean_isMatch_iff` / `clean_isMatch_false`    C01, both directions, never panic / diverge
    3b `clean_match_is_leftmost_first`                C02: leftmost start, ordered-choice-first end
    3c `clean_opt_eq_noopt` / `clean_opt_eq_bare`     C08 with FULL equality (Boolean, start, end)
    3d `clean_same_language_same_answer`              C20 at engine level
    3e `clean_no_zero_length`, `clean_goodFind`, `clean_tokenize_spec`   C16 ⇒ C04's hypothesis
    4  non-vacuity: `(a|ab)(c|bcd)(d*)` on "xabcdd"
    5  from the pattern text: `new_clean`, `api_clean_*` (over `new_prog`, Proofs/NewProg)
-/
import RxModel.Proofs.ProgOK
import RxModel.Props.C04
import RxModel.Props.C16
import RxModel.Props.Api
import RxModel.Proofs.NewProg
namespace Rx.CleanComplete
open Rx Rx.SearchComplete

/-! ## 1. the engine test is complete on the fragment

  (`completeAt_clean`, `cleanOp_numberReps`, `pres_completeAt` and in §5 `parse_noEmptyAtoms`,
  `compile_noEmptyAtoms` restate lemmas of Proofs/CleanSearchLemmas and Proofs/NewProg under the names the
  property list refers to.) -/

theorem completeAt_clean (ctx : Ctx) (op : Op) (hc : cleanOp op = true) (hwf : wfOp op = true) :
    CompleteAt ctx op :=
  SearchComplete.completeAt_clean ctx op hc hwf

/-- numbering of the repeat nodes keeps the fragment -/
theorem cleanOp_numberReps (op : Op) (n : Nat) : cleanOp (numberReps op n).1 = cleanOp op :=
  SearchComplete.cleanOp_numberReps op n

/-- the main tree of the program is the numbered tree: still clean, well-formed, `capsPos` -/
theorem prog_clean (pat : List Nat) (op : Op) (mp : Nat) (fl : CFlags) (hb : Bool)
    (hc : cleanOp op = true) (hwf : wfOp op = true) :
    (mkProgram pat op mp fl hb).op = (numberReps op 0).1 ∧
    cleanOp (mkProgram pat op mp fl hb).op = true ∧ wfOp (mkProgram pat op mp fl hb).op = true ∧
    (C02.capsPos op = true → C02.capsPos (mkProgram pat op mp fl hb).op = true) :=
  ⟨MkProgram.op pat op mp fl hb, clean_prog pat op mp fl hb hc hwf⟩

/-! ## 2. the precondition trees -/

/-- FALSE: "every precondition tree of a program built from a clean
    well-formed tree is itself clean and well-formed".  `add_precondition` turns `x{n}` / `x{n,m}`
    with n ≥ 2 over a literal or class `x` into the general greedy repeat `rep 0 x n n true`
    (Model/Program `addPre`, `gfixed` / `rfixed` arms), and `rep` is not in the fragment.
    Refuted by `pres_clean_false`; what is true — and all the search theorems need — is
    `pres_clean_partial` + `pres_completeAt`. -/
def pres_clean : Prop :=
  ∀ (pat : List Nat) (op : Op) (mp : Nat) (fl : CFlags), cleanOp op = true → wfOp op = true →
    ∀ q ∈ (mkProgram pat op mp fl false).pres, cleanOp q.op = true ∧ wfOp q.op = true

/-- `a{2,3}` : the recorded precondition is `rep 0 a 2 2 true`, in the program with the id `numberPres` gives it:
    `rep 1001 a 2 2 true` -/
theorem pres_clean_false : ¬ pres_clean := by
  intro h
  have hp : (mkProgram [] (.seq [.gfixed (.atom [97]) 2 3 1, .endProgram]) 1 {} false).pres =
      [{ op := .rep 1001 (.atom [97]) 2 2 true, fixed := none, minPos := 0 }] := rfl
  have := (h [] (.seq [.gfixed (.atom [97]) 2 3 1, .endProgram]) 1 {} rfl rfl _
    (by rw [hp]; exact List.mem_cons_self)).1
  exact absurd this (by decide)

/-- the closest true statement: every precondition tree is clean and well-formed, OR it is
    `rep id x n n true` with `x` a non-empty literal / a class and `n ≥ 1` (`noEmptyAtoms` is needed: without it
    `x` could be the empty literal) -/
theorem pres_clean_partial (pat : List Nat) (op : Op) (mp : Nat) (fl : CFlags)
    (hc : cleanOp op = true) (hwf : wfOp op = true) (hne : C08.noEmptyAtoms op = true) :
    ∀ q ∈ (mkProgram pat op mp fl false).pres,
      (cleanOp q.op = true ∧ wfOp q.op = true) ∨
      ∃ id x n, q.op = .rep id x n n true ∧ isAtomOrClass x = true ∧ C08.noEmptyAtoms x = true ∧ 1 ≤ n := by
  intro q hq
  have h := mkProgram_pres_preShape pat op mp fl false hc hwf hne q hq
  unfold preShape at h
  rcases Bool.or_eq_true_iff.1 h with h | h
  · simp only [Bool.and_eq_true] at h; exact .inl h
  · right
    cases hop : q.op with
    | rep id c mn mx g =>
      rw [hop] at h
      simp only [Bool.and_eq_true, beq_iff_eq, decide_eq_true_eq] at h
      obtain ⟨⟨⟨⟨rfl, hac⟩, hne'⟩, rfl⟩, hmn⟩ := h
      exact ⟨id, c, mn, rfl, hac, hne', hmn⟩
    | _ => rw [hop] at h; simp at h

/-- the engine test is complete on every precondition tree (`mkProgram_pres_completeAt`: the fragment of the tree
    plays no part) -/
theorem pres_completeAt (pat : List Nat) (op : Op) (mp : Nat) (fl : CFlags) (ctx : Ctx)
    (hc : cleanOp op = true) (hwf : wfOp op = true) (hne : C08.noEmptyAtoms op = true) :
    ∀ q ∈ (mkProgram pat op mp fl false).pres, CompleteAt ctx q.op :=
  mkProgram_pres_completeAt pat op mp fl false ctx hwf hne

/-! ## 3a. C01 in both directions -/

/-- `is_match` answers `.ok b` with `b` = "some substring is in the language" -/
theorem clean_isMatch_ok (pat : List Nat) (op : Op) (mp : Nat) (fl : CFlags)
    (lower : Nat → Nat) (input : List Nat)
    (hc : cleanOp op = true) (hwf : wfOp op = true) (hne : C08.noEmptyAtoms op = true)
    (hlen : input.length < usizeMax) :
    ∃ b, (mkProgram pat op mp fl false).isMatch lower input = .ok b ∧
      (b = true ↔ ∃ j q, j ≤ input.length ∧
        OpR ((mkProgram pat op mp fl false).ctx lower input) (mkProgram pat op mp fl false).op j q) :=
  (clean_progOK pat op mp fl lower input hc hwf hne hlen).isMatch_ok

theorem clean_isMatch_iff (pat : List Nat) (op : Op) (mp : Nat) (fl : CFlags)
    (lower : Nat → Nat) (input : List Nat)
    (hc : cleanOp op = true) (hwf : wfOp op = true) (hne : C08.noEmptyAtoms op = true)
    (hlen : input.length < usizeMax) :
    (mkProgram pat op mp fl false).isMatch lower input = .ok true ↔
      ∃ j q, j ≤ input.length ∧
        OpR ((mkProgram pat op mp fl false).ctx lower input) (mkProgram pat op mp fl false).op j q :=
  (clean_progOK pat op mp fl lower input hc hwf hne hlen).isMatch_iff

/-- … and `.ok false` otherwise: never a panic, never divergence -/
theorem clean_isMatch_false (pat : List Nat) (op : Op) (mp : Nat) (fl : CFlags)
    (lower : Nat → Nat) (input : List Nat)
    (hc : cleanOp op = true) (hwf : wfOp op = true) (hne : C08.noEmptyAtoms op = true)
    (hlen : input.length < usizeMax)
    (hno : ¬ ∃ j q, j ≤ input.length ∧
        OpR ((mkProgram pat op mp fl false).ctx lower input) (mkProgram pat op mp fl false).op j q) :
    (mkProgram pat op mp fl false).isMatch lower input = .ok false :=
  (clean_progOK pat op mp fl lower input hc hwf hne hlen).isMatch_false hno

/-! ## 3b. C02: leftmost start, ordered-choice-preferred end -/

/-- when `matches(i)` succeeds, group 0 of the resulting state is `(j, n)` where `j` is the LEAST
    start `≥ i` from which the language has any member, and `n` is the FIRST element of the
    priority-ordered enumeration from `j` (ordered choice, greedy-longest, reluctant-shortest) -/
theorem clean_match_is_leftmost_first (pat : List Nat) (op : Op) (mp : Nat) (fl : CFlags)
    (lower : Nat → Nat) (input : List Nat)
    (hc : cleanOp op = true) (hwf : wfOp op = true) (hne : C08.noEmptyAtoms op = true)
    (hcp : C02.capsPos op = true) (hlen : input.length < usizeMax)
    (i : Nat) (hi : i ≤ input.length) (st st' : St) (hst : st.panic = none)
    (h : matchesFrom ((mkProgram pat op mp fl false).ctx lower input) (mkProgram pat op mp fl false) i st
      = (true, st')) :
    ∃ j n, getParenStart st' 0 = some j ∧ getParenEnd st' 0 = some n ∧
      (enum ((mkProgram pat op mp fl false).ctx lower input) (mkProgram pat op mp fl false).op j).head? = some n ∧
      i ≤ j ∧ j ≤ n ∧ n ≤ input.length ∧
      OpR ((mkProgram pat op mp fl false).ctx lower input) (mkProgram pat op mp fl false).op j n ∧
      ∀ k q, i ≤ k → k < j →
        ¬ OpR ((mkProgram pat op mp fl false).ctx lower input) (mkProgram pat op mp fl false).op k q :=
  (clean_progOK pat op mp fl lower input hc hwf hne hlen).leftmost_first
    ((mkProgram_tree pat op mp fl false).2.2.trans hcp) i hi st st' hst h

/-! ## 3c. C08 with full result equality -/

/-- shortcuts on / off: the same Boolean and, on success, the same start AND the same end of
    group 0 — from any two clean states (on the fragment the end is `enum.head?` whatever the
    state, so the zero-length-match memo cannot make a difference) -/
theorem clean_opt_eq_noopt (pat : List Nat) (op : Op) (mp : Nat) (fl : CFlags)
    (lower : Nat → Nat) (input : List Nat)
    (hc : cleanOp op = true) (hwf : wfOp op = true) (hne : C08.noEmptyAtoms op = true)
    (hcp : C02.capsPos op = true) (hlen : input.length < usizeMax)
    (i : Nat) (hi : i ≤ input.length) (st1 st2 : St) (h1 : st1.panic = none) (h2 : st2.panic = none) :
    let pr := mkProgram pat op mp fl false
    let ctx := pr.ctx lower input
    (matchesFrom ctx pr i st1).1 = (matchesNaive ctx pr.op i st2).1 ∧
    ((matchesFrom ctx pr i st1).1 = true →
      getParenStart (matchesFrom ctx pr i st1).2 0 = getParenStart (matchesNaive ctx pr.op i st2).2 0 ∧
      getParenEnd (matchesFrom ctx pr i st1).2 0 = getParenEnd (matchesNaive ctx pr.op i st2).2 0) :=
  (clean_progOK pat op mp fl lower input hc hwf hne hlen).opt_eq_noopt
    ((mkProgram_tree pat op mp fl false).2.2.trans hcp) i hi st1 st2 h1 h2

/-- optimised program vs. the bare program the verification hook builds -/
theorem clean_opt_eq_bare (pat : List Nat) (op : Op) (mp : Nat) (fl : CFlags)
    (lower : Nat → Nat) (input : List Nat)
    (hc : cleanOp op = true) (hwf : wfOp op = true) (hne : C08.noEmptyAtoms op = true)
    (hcp : C02.capsPos op = true) (hlen : input.length < usizeMax)
    (i : Nat) (hi : i ≤ input.length) (st1 st2 : St) (h1 : st1.panic = none) (h2 : st2.panic = none) :
    let pr := mkProgram pat op mp fl false
    let bare := mkBareProgram pat op mp fl false
    (matchesFrom (pr.ctx lower input) pr i st1).1 = (matchesFrom (bare.ctx lower input) bare i st2).1 ∧
    ((matchesFrom (pr.ctx lower input) pr i st1).1 = true →
      getParenStart (matchesFrom (pr.ctx lower input) pr i st1).2 0 =
        getParenStart (matchesFrom (bare.ctx lower input) bare i st2).2 0 ∧
      getParenEnd (matchesFrom (pr.ctx lower input) pr i st1).2 0 =
        getParenEnd (matchesFrom (bare.ctx lower input) bare i st2).2 0) := by
  intro pr bare
  rw [bare_matchesFrom pat op op mp fl false lower input i hi st2]
  exact clean_opt_eq_noopt pat op mp fl lower input hc hwf hne hcp hlen i hi st1 st2 h1 h2

/-- the bare program's `is_match` is the optimised program's -/
theorem clean_isMatch_eq_bare (pat : List Nat) (op : Op) (mp : Nat) (fl : CFlags)
    (lower : Nat → Nat) (input : List Nat)
    (hc : cleanOp op = true) (hwf : wfOp op = true) (hne : C08.noEmptyAtoms op = true)
    (hcp : C02.capsPos op = true) (hlen : input.length < usizeMax) :
    (mkProgram pat op mp fl false).isMatch lower input = (mkBareProgram pat op mp fl false).isMatch lower input := by
  refine isMatch_congr
    (clean_opt_eq_bare pat op mp fl lower input hc hwf hne hcp hlen 0 (Nat.zero_le _) {} {} rfl rfl).1
    ((clean_progOK pat op mp fl lower input hc hwf hne hlen).outcome 0 (Nat.zero_le _) {} rfl).clean ?_
  rw [bare_matchesFrom pat op op mp fl false lower input 0 (Nat.zero_le _) {}]
  exact ((clean_progOK pat op mp fl lower input hc hwf hne hlen).tree.naive 0 {} rfl).clean

/-! ## 3d. C20 at engine level: equivalent spellings give the same answers -/

/-- two clean well-formed trees whose compiled programs denote the same language on an input
    (same flags) have the same `is_match` answer, and `matches(i)` reports the same Boolean and the
    same leftmost start.  (The laws that produce such pairs are the `OpR` equalities of Props/C20.) -/
theorem clean_same_language_same_answer
    (pat1 pat2 : List Nat) (op1 op2 : Op) (mp1 mp2 : Nat) (fl : CFlags)
    (lower : Nat → Nat) (input : List Nat)
    (hc1 : cleanOp op1 = true) (hwf1 : wfOp op1 = true) (hne1 : C08.noEmptyAtoms op1 = true)
    (hc2 : cleanOp op2 = true) (hwf2 : wfOp op2 = true) (hne2 : C08.noEmptyAtoms op2 = true)
    (hlen : input.length < usizeMax)
    (hlang : ∀ p q,
      OpR ((mkProgram pat1 op1 mp1 fl false).ctx lower input) (mkProgram pat1 op1 mp1 fl false).op p q ↔
      OpR ((mkProgram pat2 op2 mp2 fl false).ctx lower input) (mkProgram pat2 op2 mp2 fl false).op p q) :
    (mkProgram pat1 op1 mp1 fl false).isMatch lower input = (mkProgram pat2 op2 mp2 fl false).isMatch lower input ∧
    ∀ (i : Nat), i ≤ input.length → ∀ (st1 st2 : St), st1.panic = none → st2.panic = none →
      (matchesFrom ((mkProgram pat1 op1 mp1 fl false).ctx lower input) (mkProgram pat1 op1 mp1 fl false) i st1).1 =
      (matchesFrom ((mkProgram pat2 op2 mp2 fl false).ctx lower input) (mkProgram pat2 op2 mp2 fl false) i st2).1 ∧
      (C02.capsPos op1 = true → C02.capsPos op2 = true →
        (matchesFrom ((mkProgram pat1 op1 mp1 fl false).ctx lower input) (mkProgram pat1 op1 mp1 fl false) i st1).1 = true →
        getParenStart (matchesFrom ((mkProgram pat1 op1 mp1 fl false).ctx lower input) (mkProgram pat1 op1 mp1 fl false) i st1).2 0 =
        getParenStart (matchesFrom ((mkProgram pat2 op2 mp2 fl false).ctx lower input) (mkProgram pat2 op2 mp2 fl false) i st2).2 0) := by
  have out1 := (clean_progOK pat1 op1 mp1 fl lower input hc1 hwf1 hne1 hlen).outcome
  have out2 := (clean_progOK pat2 op2 mp2 fl lower input hc2 hwf2 hne2 hlen).outcome
  have hl : ∀ p q, p ≤ ((mkProgram pat1 op1 mp1 fl false).ctx lower input).len → _ := fun p q _ => hlang p q
  have hn : ((mkProgram pat1 op1 mp1 fl false).ctx lower input).len =
      ((mkProgram pat2 op2 mp2 fl false).ctx lower input).len := rfl
  refine ⟨isMatch_congr ((out1 0 (Nat.zero_le _) {} rfl).found_congr hn hl (out2 0 (Nat.zero_le _) {} rfl))
    (out1 0 (Nat.zero_le _) {} rfl).clean (out2 0 (Nat.zero_le _) {} rfl).clean, ?_⟩
  intro i hi st1 st2 h1 h2
  obtain ⟨_, hw1, hcp1'⟩ := clean_prog pat1 op1 mp1 fl false hc1 hwf1
  obtain ⟨_, hw2, hcp2'⟩ := clean_prog pat2 op2 mp2 fl false hc2 hwf2
  exact ⟨(out1 i hi st1 h1).found_congr hn hl (out2 i hi st2 h2), fun hcp1 hcp2 ht =>
    (out1 i hi st1 h1).start_congr hn hl hw1 hw2 (hcp1' hcp1) (hcp2' hcp2) (out2 i hi st2 h2) ht⟩

/-! ## 3e. towards C04 / C16: a non-nullable clean program reports only non-empty spans -/

/-- if the program does not match the empty string (`is_match "" = false`: it passes the API gate of
    C16), every span `matches` reports, on any input, from any position, is NON-EMPTY -/
theorem clean_no_zero_length (pat : List Nat) (op : Op) (mp : Nat) (fl : CFlags) (lower : Nat → Nat)
    (hc : cleanOp op = true) (hwf : wfOp op = true) (hne : C08.noEmptyAtoms op = true)
    (hcp : C02.capsPos op = true)
    (hnull : (mkProgram pat op mp fl false).isMatch lower [] = .ok false)
    (input : List Nat) (hlen : input.length < usizeMax)
    (i : Nat) (hi : i ≤ input.length) (st st' : St) (hst : st.panic = none)
    (h : matchesFrom ((mkProgram pat op mp fl false).ctx lower input) (mkProgram pat op mp fl false) i st
      = (true, st')) :
    ∃ j n, getParenStart st' 0 = some j ∧ getParenEnd st' 0 = some n ∧ i ≤ j ∧ j < n ∧ n ≤ input.length :=
  (clean_progOK pat op mp fl lower input hc hwf hne hlen).no_zero_length
    (clean_progOK pat op mp fl lower [] hc hwf hne (by decide))
    ((mkProgram_tree pat op mp fl false).2.2.trans hcp) hnull i hi st st' hst h

/-- hence the concrete matcher of such a program satisfies the hypothesis `GoodFind` of every C04
    theorem, with the invariant "panic marker clear" -/
theorem clean_goodFind (pat : List Nat) (op : Op) (mp : Nat) (fl : CFlags) (lower : Nat → Nat)
    (hc : cleanOp op = true) (hwf : wfOp op = true) (hne : C08.noEmptyAtoms op = true)
    (hcp : C02.capsPos op = true)
    (hnull : (mkProgram pat op mp fl false).isMatch lower [] = .ok false)
    (input : List Nat) (hlen : input.length < usizeMax) :
    C04.GoodFind ((mkProgram pat op mp fl false).matcher lower input) input.length
      (fun st => st.panic = none) :=
  (clean_progOK pat op mp fl lower input hc hwf hne hlen).goodFind
    (clean_progOK pat op mp fl lower [] hc hwf hne (by decide))
    ((mkProgram_tree pat op mp fl false).2.2.trans hcp) hnull

/-- … and the matcher never fails from a clean state (the premise C04 uses besides `GoodFind`,
    restricted to the states the scan loops actually pass) -/
theorem clean_find_clean (pat : List Nat) (op : Op) (mp : Nat) (fl : CFlags) (lower : Nat → Nat)
    (hc : cleanOp op = true) (hwf : wfOp op = true) (hne : C08.noEmptyAtoms op = true)
    (input : List Nat) (hlen : input.length < usizeMax)
    (st : St) (hst : st.panic = none) (pos : Nat) (hpos : pos ≤ input.length) :
    ((mkProgram pat op mp fl false).matcher lower input).failed
      (((mkProgram pat op mp fl false).matcher lower input).find st pos).2 = none :=
  ((clean_progOK pat op mp fl lower input hc hwf hne hlen).outcome pos hpos st hst).clean

/-- C04 applied, no sampled hypothesis left: the tokens produced by the scan loop over a clean
    non-nullable program are exactly the pieces between the spans of the common span sequence -/
theorem clean_tokenize_spec (pat : List Nat) (op : Op) (mp : Nat) (fl : CFlags) (lower : Nat → Nat)
    (hc : cleanOp op = true) (hwf : wfOp op = true) (hne : C08.noEmptyAtoms op = true)
    (hcp : C02.capsPos op = true)
    (hnull : (mkProgram pat op mp fl false).isMatch lower [] = .ok false)
    (input : List Nat) (hlen : input.length < usizeMax)
    (limit : Nat) (hl : input.length + 1 ≤ limit) (toks : List (List Nat)) (more : Bool)
    (h : tokenLoop ((mkProgram pat op mp fl false).matcher lower input) input limit (some 0) {} [] = .ok (toks, more)) :
    toks = Spec.pieces input 0 (C04.spanPairs (C04.spansOf ((mkProgram pat op mp fl false).matcher lower input)
      input.length (input.length + 2) 0 {})) ∧ more = false :=
  C04.tokenize_spec _ _ input (clean_goodFind pat op mp fl lower hc hwf hne hcp hnull input hlen)
    {} rfl limit hl toks more h

/-! ## 4. non-vacuity: `(a|ab)(c|bcd)(d*)` on "xabcdd" -/

section example_

/-- the tree the model's compiler builds for `(a|ab)(c|bcd)(d*)` (Props/Clean, examples) -/
def exTree : Op :=
  .seq [.capture 1 (.choice [.atom [97], .atom [97, 98]]),
        .capture 2 (.choice [.atom [99], .atom [98, 99, 100]]),
        .capture 3 (.gfixed (.atom [100]) 0 usizeMax 1),
        .endProgram]

/-- "xabcdd" -/
def exInput : List Nat := [120, 97, 98, 99, 100, 100]

def exProg : Prog := mkProgram [] exTree 4 {} false

theorem exTree_ok : cleanOp exTree = true ∧ wfOp exTree = true ∧ C08.noEmptyAtoms exTree = true ∧
    C02.capsPos exTree = true := by decide

/-- what the engine computes (kernel evaluation of the model): `is_match` is true; `matches(0)`
    reports the span (1, 6); the priority-ordered enumeration from 1 starts with 6
    (`a`·`bcd`·`d`), and there is nothing from 0 -/
theorem ex_computed :
    exProg.isMatch id exInput = .ok true ∧
    (matchesFrom (exProg.ctx id exInput) exProg 0 {}).1 = true ∧
    getParenStart (matchesFrom (exProg.ctx id exInput) exProg 0 {}).2 0 = some 1 ∧
    getParenEnd (matchesFrom (exProg.ctx id exInput) exProg 0 {}).2 0 = some 6 ∧
    enum (exProg.ctx id exInput) exProg.op 1 = [6, 5, 6, 5, 4] ∧
    enum (exProg.ctx id exInput) exProg.op 0 = [] := by decide +kernel

/-- 3a instantiated: the right-hand side holds — and it agrees with the computed answer -/
theorem ex_isMatch : ∃ j q, j ≤ exInput.length ∧ OpR (exProg.ctx id exInput) exProg.op j q :=
  (clean_isMatch_iff [] exTree 4 {} id exInput exTree_ok.1 exTree_ok.2.1 exTree_ok.2.2.1 (by decide)).1
    ex_computed.1

/-- 3b instantiated: the span the theorem predicts — least start with a match, first end of the
    priority order — is the computed span (1, 6): 1 is the least start, `enum … 1` begins with 6 -/
theorem ex_leftmost_first :
    ∃ j n, getParenStart (matchesFrom (exProg.ctx id exInput) exProg 0 {}).2 0 = some j ∧
      getParenEnd (matchesFrom (exProg.ctx id exInput) exProg 0 {}).2 0 = some n ∧
      j = 1 ∧ n = 6 ∧ (enum (exProg.ctx id exInput) exProg.op j).head? = some n ∧
      OpR (exProg.ctx id exInput) exProg.op j n ∧
      ∀ k q, k < j → ¬ OpR (exProg.ctx id exInput) exProg.op k q := by
  obtain ⟨j, n, hs, he, hh, _, _, _, hopr, hmin⟩ :=
    clean_match_is_leftmost_first [] exTree 4 {} id exInput exTree_ok.1 exTree_ok.2.1 exTree_ok.2.2.1
      exTree_ok.2.2.2 (by decide) 0 (Nat.zero_le _) {} (matchesFrom (exProg.ctx id exInput) exProg 0 {}).2 rfl
      (by
        have := ex_computed.2.1
        show matchesFrom (exProg.ctx id exInput) exProg 0 {} = _
        rw [← this])
  obtain ⟨_, _, hcs, hce, _, _⟩ := ex_computed
  have hj : j = 1 := by rw [hcs] at hs; exact (Option.some.inj hs).symm
  have hn : n = 6 := by rw [hce] at he; exact (Option.some.inj he).symm
  exact ⟨j, n, hs, he, hj, hn, hh, hopr, fun k q hk => hmin k q (Nat.zero_le _) hk⟩

/-- 3c instantiated and computed: the bare program reports the same span -/
theorem ex_bare :
    (matchesFrom ((mkBareProgram [] exTree 4 {} false).ctx id exInput) (mkBareProgram [] exTree 4 {} false) 0 {}).1 = true ∧
    getParenStart (matchesFrom ((mkBareProgram [] exTree 4 {} false).ctx id exInput) (mkBareProgram [] exTree 4 {} false) 0 {}).2 0 = some 1 ∧
    getParenEnd (matchesFrom ((mkBareProgram [] exTree 4 {} false).ctx id exInput) (mkBareProgram [] exTree 4 {} false) 0 {}).2 0 = some 6 := by
  have h := clean_opt_eq_bare [] exTree 4 {} id exInput exTree_ok.1 exTree_ok.2.1 exTree_ok.2.2.1
    exTree_ok.2.2.2 (by decide) 0 (Nat.zero_le _) {} {} rfl rfl
  obtain ⟨_, hb, hcs, hce, _, _⟩ := ex_computed
  have h1 := h.1
  have h2 := h.2 hb
  exact ⟨by rw [← h1]; exact hb, by rw [← h2.1]; exact hcs, by rw [← h2.2]; exact hce⟩

/-- 3e instantiated: the pattern is not nullable, so its matcher satisfies `GoodFind` on every input -/
theorem ex_goodFind (input : List Nat) (hlen : input.length < usizeMax) :
    C04.GoodFind (exProg.matcher id input) input.length (fun st => st.panic = none) :=
  clean_goodFind [] exTree 4 {} id exTree_ok.1 exTree_ok.2.1 exTree_ok.2.2.1 exTree_ok.2.2.2
    (by decide +kernel) input hlen

end example_

/-! ## 5. from the pattern text

  `parse_noEmptyAtoms` / `compile_noEmptyAtoms`: the model's compiler never builds an empty literal
  for a non-literal pattern (nor for a non-empty literal one), so the hypothesis `noEmptyAtoms`
  disappears; `wfOp` and `capsPos` come from `Api.new_wf` (`new_prog`, Proofs/NewProg).  What remains, for a regex accepted by
  `Regex::new`: `NoSat` (Props/Api), `cleanOp r.prog.op`, and two decidable facts these proofs
  still need — `r.prog.hasBackrefs = false` (it does NOT follow from `cleanOp`: the parser raises
  the flag for a back-reference that the quantifier `{0}` then deletes, e.g. `(a)\1{0}`,
  `flag_without_backref`; the tree is clean but the matcher runs with the back-reference arrays
  switched on, which the C05 no-panic theorems do not cover) and "not the empty pattern under flag
  `q`" (the one compiled tree with an empty literal; see Proofs/LiteralLemmas). -/

section api

private def env0 : Env :=
  { lower := id, closure := fun _ => [], category := fun _ => none, block := fun _ => none,
    digit := [], word := [], nameStart := [], nameChar := [] }

/-- `(a)\1{0}` compiles to a clean tree (the back-reference is deleted) with OPT_HASBACKREFS set -/
theorem flag_without_backref :
    (match compileCore env0 {} [40, 97, 41, 92, 49, 123, 48, 125] true with
     | .ok pr => cleanOp pr.op && pr.hasBackrefs
     | _ => false) = true := by decide +kernel

/-- the parser never builds an empty literal -/
theorem parse_noEmptyAtoms (c : PC) (fuel : Nat) (s : PS) (top : Bool) (op : Op) (s' : PS)
    (h : parseExpr c fuel s top = .ok op s') : C08.noEmptyAtoms op = true :=
  (parse_NE c fuel).1 s top op s' h

/-- hence no compiled program has an empty literal, except the literal program for "" -/
theorem compile_noEmptyAtoms (env : Env) (fl : CFlags) (pat : List Nat) (pr : Prog)
    (h : compileCore env fl pat true = .ok pr) (hlit : fl.literal = true → pat ≠ []) :
    C08.noEmptyAtoms pr.op = true :=
  SearchComplete.compile_noEmptyAtoms env fl pat pr h hlit

/-- a regex accepted by `Regex::new` whose program is clean: the program is `mkProgram` of a tree
    satisfying every hypothesis of the theorems of this file -/
theorem new_clean (env : Env) (p fs : List Nat) (xsd : Bool) (fl : Flags) (r : Regex)
    (hf : parseFlags fs xsd = some fl) (h : Regex.new env p fs xsd true = .ok r) (hns : Api.NoSat env fl p)
    (hclean : cleanOp r.prog.op = true) (hnb : r.prog.hasBackrefs = false)
    (hlit : fl.literal = true → p ≠ []) :
    ∃ pat' op' mp, r.prog = mkProgram pat' op' mp fl.core false ∧ cleanOp op' = true ∧ wfOp op' = true ∧
      C08.noEmptyAtoms op' = true ∧ C02.capsPos op' = true := by
  obtain ⟨pat', op', mp, heq, hwf, hne, hcp⟩ := new_prog env p fs xsd fl r hf h hns hnb hlit
  rw [heq, MkProgram.op, SearchComplete.cleanOp_numberReps] at hclean
  exact ⟨pat', op', mp, heq, hclean, hwf, hne, hcp⟩

/-- 3a from the pattern text: C01 in both directions -/
theorem api_clean_isMatch_iff (env : Env) (p fs : List Nat) (xsd : Bool) (fl : Flags) (r : Regex)
    (hf : parseFlags fs xsd = some fl) (h : Regex.new env p fs xsd true = .ok r) (hns : Api.NoSat env fl p)
    (hclean : cleanOp r.prog.op = true) (hnb : r.prog.hasBackrefs = false)
    (hlit : fl.literal = true → p ≠ [])
    (input : List Nat) (hlen : input.length < usizeMax) :
    (r.prog.isMatch env.lower input = .ok true ↔
      ∃ j q, j ≤ input.length ∧ OpR (r.prog.ctx env.lower input) r.prog.op j q) ∧
    ((¬ ∃ j q, j ≤ input.length ∧ OpR (r.prog.ctx env.lower input) r.prog.op j q) →
      r.prog.isMatch env.lower input = .ok false) := by
  obtain ⟨pat', op', mp, heq, hc, hw, hne, _⟩ := new_clean env p fs xsd fl r hf h hns hclean hnb hlit
  rw [heq]
  exact ⟨clean_isMatch_iff pat' op' mp fl.core env.lower input hc hw hne hlen,
    clean_isMatch_false pat' op' mp fl.core env.lower input hc hw hne hlen⟩

/-- 3b from the pattern text: C02, leftmost start and ordered-choice-first end -/
theorem api_clean_match_is_leftmost_first (env : Env) (p fs : List Nat) (xsd : Bool) (fl : Flags) (r : Regex)
    (hf : parseFlags fs xsd = some fl) (h : Regex.new env p fs xsd true = .ok r) (hns : Api.NoSat env fl p)
    (hclean : cleanOp r.prog.op = true) (hnb : r.prog.hasBackrefs = false)
    (hlit : fl.literal = true → p ≠ [])
    (input : List Nat) (hlen : input.length < usizeMax)
    (i : Nat) (hi : i ≤ input.length) (st st' : St) (hst : st.panic = none)
    (hm : matchesFrom (r.prog.ctx env.lower input) r.prog i st = (true, st')) :
    ∃ j n, getParenStart st' 0 = some j ∧ getParenEnd st' 0 = some n ∧
      (enum (r.prog.ctx env.lower input) r.prog.op j).head? = some n ∧
      i ≤ j ∧ j ≤ n ∧ n ≤ input.length ∧ OpR (r.prog.ctx env.lower input) r.prog.op j n ∧
      ∀ k q, i ≤ k → k < j → ¬ OpR (r.prog.ctx env.lower input) r.prog.op k q := by
  obtain ⟨pat', op', mp, heq, hc, hw, hne, hcp⟩ := new_clean env p fs xsd fl r hf h hns hclean hnb hlit
  rw [heq] at hm ⊢
  exact clean_match_is_leftmost_first pat' op' mp fl.core env.lower input hc hw hne hcp hlen i hi st st' hst hm

/-- 3c from the pattern text: C08 with full result equality, against the search without shortcuts -/
theorem api_clean_opt_eq_noopt (env : Env) (p fs : List Nat) (xsd : Bool) (fl : Flags) (r : Regex)
    (hf : parseFlags fs xsd = some fl) (h : Regex.new env p fs xsd true = .ok r) (hns : Api.NoSat env fl p)
    (hclean : cleanOp r.prog.op = true) (hnb : r.prog.hasBackrefs = false)
    (hlit : fl.literal = true → p ≠ [])
    (input : List Nat) (hlen : input.length < usizeMax)
    (i : Nat) (hi : i ≤ input.length) (st1 st2 : St) (h1 : st1.panic = none) (h2 : st2.panic = none) :
    (matchesFrom (r.prog.ctx env.lower input) r.prog i st1).1 =
      (matchesNaive (r.prog.ctx env.lower input) r.prog.op i st2).1 ∧
    ((matchesFrom (r.prog.ctx env.lower input) r.prog i st1).1 = true →
      getParenStart (matchesFrom (r.prog.ctx env.lower input) r.prog i st1).2 0 =
        getParenStart (matchesNaive (r.prog.ctx env.lower input) r.prog.op i st2).2 0 ∧
      getParenEnd (matchesFrom (r.prog.ctx env.lower input) r.prog i st1).2 0 =
        getParenEnd (matchesNaive (r.prog.ctx env.lower input) r.prog.op i st2).2 0) := by
  obtain ⟨pat', op', mp, heq, hc, hw, hne, hcp⟩ := new_clean env p fs xsd fl r hf h hns hclean hnb hlit
  rw [heq]
  exact clean_opt_eq_noopt pat' op' mp fl.core env.lower input hc hw hne hcp hlen i hi st1 st2 h1 h2

/-- 3e from the pattern text: a regex that passes the nullability gate (`r.nullable = false`)
    drives the scan loops with a matcher satisfying C04's `GoodFind` -/
theorem api_clean_goodFind (env : Env) (p fs : List Nat) (xsd : Bool) (fl : Flags) (r : Regex)
    (hf : parseFlags fs xsd = some fl) (h : Regex.new env p fs xsd true = .ok r) (hns : Api.NoSat env fl p)
    (hclean : cleanOp r.prog.op = true) (hnb : r.prog.hasBackrefs = false)
    (hlit : fl.literal = true → p ≠ []) (hnull : r.nullable = false)
    (input : List Nat) (hlen : input.length < usizeMax) :
    C04.GoodFind (r.prog.matcher env.lower input) input.length (fun st => st.panic = none) := by
  obtain ⟨pat', op', mp, heq, hc, hw, hne, hcp⟩ := new_clean env p fs xsd fl r hf h hns hclean hnb hlit
  have hn := C16.new_nullable env p fs xsd true r h
  rw [hnull, heq] at hn
  rw [heq]
  exact clean_goodFind pat' op' mp fl.core env.lower hc hw hne hcp hn input hlen

end api

end Rx.CleanComplete
