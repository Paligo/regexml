/-
  Props/C13 — flag q turns pattern and replacement into plain literal strings.
-/
import RxModel.Model.Compile
import RxModel.Props.C03
import RxModel.Props.C11
import RxModel.Proofs.LiteralLemmas
import RxModel.Proofs.ScanRun
namespace Rx.C13
open Rx Rx.Spec

/-- the program the compiler emits for a literal pattern: one atom and the end marker, whatever
    metacharacters the pattern contains and whatever the other flags are -/
theorem literal_program (env : Env) (fl : CFlags) (hq : fl.literal = true) (pat : List Nat) :
    compileCore env fl pat true = .ok (mkProgram pat (.seq [.atom pat, .endProgram]) 1 fl false) :=
  compileCore_lit hq

theorem literal_facts (fl : CFlags) (pat : List Nat) (hlen : pat.length < usizeMax) :
    let pr := mkProgram pat (.seq [.atom pat, .endProgram]) 1 fl false
    pr.op = .seq [.atom pat, .endProgram] ∧ pr.prefix_ = some pat ∧ pr.minLen = pat.length ∧
    pr.hasBol = false ∧ pr.hasBackrefs = false ∧ pr.maxParens = 1 ∧ pr.icc = none ∧
    pr.caseBlind = fl.caseBlind ∧ pr.literal = fl.literal := by
  obtain ⟨pres, e⟩ := Lit.mkProgram_lit fl pat hlen
  simp only [Lit.litOp] at e
  rw [e]
  exact ⟨rfl, rfl, rfl, rfl, rfl, rfl, rfl, rfl, rfl⟩

/-! ### occurrences of the pattern, position by position -/

theorem infix_iff_drop (pat s : List Nat) :
    (∃ j, j + pat.length ≤ s.length ∧ pat <+: s.drop j) ↔ pat <:+: s := by
  constructor
  · rintro ⟨j, _, h⟩
    exact h.isInfix.trans (List.drop_suffix j s).isInfix
  · rintro ⟨a, b, rfl⟩
    refine ⟨a.length, by simp, ?_⟩
    simp [List.append_assoc]

theorem ci_iff_drop (ctx : Ctx) (hcb : ctx.caseBlind = true) (pat s : List Nat) (j : Nat)
    (hj : j + pat.length ≤ s.length) :
    prefixMatch ctx pat (s.drop j) = true ↔
      ∀ k (hk : k < pat.length), ∃ x, s[j + k]? = some x ∧ eqCB ctx.lower x pat[k] = true := by
  rw [C11.atom_ci ctx hcb]
  simp only [List.length_drop, List.getElem_drop]
  constructor
  · rintro ⟨_, h⟩ k hk
    have hx : j + k < s.length := by omega
    exact ⟨s[j + k], by simp [hx], h k hk (by omega)⟩
  · intro h
    refine ⟨by omega, fun k hk hx => ?_⟩
    obtain ⟨x, h1, h2⟩ := h k hk
    have hx' : j + k < s.length := by omega
    rw [List.getElem?_eq_getElem hx'] at h1
    cases h1
    exact h2

/-- is_match on a literal regex: true iff the pattern occurs as a contiguous substring -/
theorem literal_is_match (fl : CFlags) (hcb : fl.caseBlind = false) (pat : List Nat) (hlen : pat.length < usizeMax)
    (lower : Nat → Nat) (s : List Nat) :
    (mkProgram pat (.seq [.atom pat, .endProgram]) 1 fl false).isMatch lower s = .ok (decide (pat <:+: s)) := by
  obtain ⟨b, ctx, h1, _, hm, hb⟩ := Lit.isMatch_lit fl pat hlen lower s
  simp only [Lit.litOp] at hm
  rw [hm]
  simp only [C11.atom_exact ctx (h1.trans hcb), infix_iff_drop] at hb
  congr 1
  rw [Bool.eq_iff_iff, hb, decide_eq_true_iff]

/-- with flag i as well: true iff some substring equals the pattern up to case -/
theorem literal_is_match_ci (fl : CFlags) (hcb : fl.caseBlind = true) (pat : List Nat) (hlen : pat.length < usizeMax)
    (lower : Nat → Nat) (s : List Nat) :
    ∃ b, (mkProgram pat (.seq [.atom pat, .endProgram]) 1 fl false).isMatch lower s = .ok b ∧
      (b = true ↔ ∃ j, j + pat.length ≤ s.length ∧
            ∀ k (hk : k < pat.length), ∃ x, s[j + k]? = some x ∧ eqCB lower x pat[k] = true) := by
  obtain ⟨b, ctx, h1, h2, hm, hb⟩ := Lit.isMatch_lit fl pat hlen lower s
  refine ⟨b, hm, hb.trans ?_⟩
  subst h2
  constructor
  · rintro ⟨j, hj, h⟩
    exact ⟨j, hj, (ci_iff_drop ctx (h1.trans hcb) pat s j hj).1 h⟩
  · rintro ⟨j, hj, h⟩
    exact ⟨j, hj, (ci_iff_drop ctx (h1.trans hcb) pat s j hj).2 h⟩

/-- the result does not depend on the flags m, s (nor on x, which q switches off: C14.q_ignores_x) -/
theorem literal_ignores_ms (fl : CFlags) (pat : List Nat) (hlen : pat.length < usizeMax) (lower : Nat → Nat) (s : List Nat)
    (m1 s1 : Bool) :
    (mkProgram pat (.seq [.atom pat, .endProgram]) 1 { fl with multiLine := m1, singleLine := s1 } false).isMatch lower s =
    (mkProgram pat (.seq [.atom pat, .endProgram]) 1 fl false).isMatch lower s := by
  rcases Bool.eq_false_or_eq_true fl.caseBlind with hcb | hcb
  rotate_left
  · rw [literal_is_match fl hcb pat hlen, literal_is_match _ (by exact hcb) pat hlen]
  · obtain ⟨b1, e1, h1⟩ := literal_is_match_ci fl hcb pat hlen lower s
    obtain ⟨b2, e2, h2⟩ := literal_is_match_ci { fl with multiLine := m1, singleLine := s1 } (by exact hcb)
      pat hlen lower s
    rw [e1, e2]
    congr 1
    rw [Bool.eq_iff_iff, h1, h2]

/-- the replacement string is used verbatim: with a substitution that hands it back as it is while
    `simple_replacement` is set (the model's does, whatever `$` and `\` it contains:
    C15.subst_literal) the result is the pieces between matches joined by the replacement -/
theorem literal_replace_verbatim {σ : Type} (M : MatcherI σ) (Inv : σ → Prop) (input repl : List Nat)
    (subst : Subst σ) (hM : C04.GoodFind M input.length Inv)
    (hsub : ∀ st, subst st true = some (repl, true))
    (st0 : σ) (h0 : Inv st0) (r : List Nat)
    (hr : replaceWith M subst input true st0 = .ok r) :
    r = joinWith repl (pieces input 0 (C04.spanPairs (C04.spansOf M input.length (input.length + 2) 0 st0))) := by
  rw [(C04.replaceWith_ok input hM.findAt true subst (fun _ => repl) (· = true)
    (fun st _ _ _ hs _ _ _ => ⟨true, hs ▸ hsub st, rfl⟩) rfl st0 h0 r hr).1,
    C04.replaced_const input repl _ 0 (fun x hx => by obtain ⟨y, _, rfl⟩ := List.mem_map.1 hx; rfl),
    C04.spanPairs_map_spans]

/-- with flag q, replace_all never reports InvalidReplacementString -/
theorem literal_replace_no_error {σ : Type} (M : MatcherI σ) (input repl : List Nat)
    (subst : Subst σ) (hsub : ∀ st, subst st true = some (repl, true)) (st0 : σ) :
    replaceWith M subst input true st0 ≠ .err .invalidReplacement :=
  C04.replaceLoop_no_error M subst (· = true) (fun st _ hs => ⟨repl, true, hs ▸ hsub st, rfl⟩)
    input true _ 0 st0 true false [] rfl

/-- there are no capture groups: a match entry of analyze is one string -/
theorem literal_no_groups (tbl : List (Nat × Nat)) (st : St) (cur : List Nat) (h : st.cap.parenCount = 1) :
    processMatch tbl st cur = .ok [.str cur] :=
  C03.processMatch_plain tbl st cur h

/-- analyze on a literal regex does not look at the pattern's parentheses -/
theorem literal_analyze_no_scan (r : Regex) (hq : r.prog.literal = true) (hn : r.nullable = false)
    (lower : Nat → Nat) (input : List Nat) (limit : Nat) :
    r.analyze lower input limit =
      analyzeLoop (r.prog.matcher lower input) (processMatch []) input limit { st := ({} : St) } [] := by
  simp [Regex.analyze, hq, hn]

end Rx.C13
