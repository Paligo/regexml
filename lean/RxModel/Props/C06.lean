/-
  Props/C06 — every call terminates and iterators are finite (the part that is a theorem about E).

  Non-termination of the Rust code is the stream value `.diverge` (or the marker `panicDiverge`)
  that the model produces when one of its fuels runs out.  Proved here: for well-formed trees whose
  reluctant variable-length repeats have a minimum below the fuel bound (`smallMin`), no iterator
  ever diverges, under every consumer — i.e. the fuels supplied by the model are sufficient and the
  only loops of the Rust code that are not bounded by construction (ReluctantFixedIterator,
  ReluctantRepeatIterator behind ForceProgressIterator) terminate.  The bounds on the number of
  tokens / analyze entries are C04.tokenize_bound / C04.analyze_bound.
-/
import RxModel.Spec.OpLang
import RxModel.Spec.Preds
import RxModel.Model.Api
import RxModel.Proofs.InvLemmas
import RxModel.Proofs.TreePredInst
namespace Rx.C06
open Rx

/-- an unambiguous repeat over a single character -/
theorem unambGen_leaf_term (ctx : Ctx) (b : Bool) (c : Op) (hl : isLeaf1 c = true) (mn mx : Nat)
    (p : Nat) (st : St) (hm : MarkOk b st) : (unambGen ctx (sem ctx c) mn mx p st).Term (MarkOk b) :=
  (unambGen_sat (dv := False) (d := 1) (leaf1_pullOK ctx c hl) ctx mn mx
    (.inr ⟨fun _ _ _ hr => hr, Nat.le_refl _⟩) p st trivial hm).term

theorem simplePre_leaf (c : Op) (h1 : isAtomOrClass c = true)
    (h2 : simplePre.simplePreChild c = true) : isLeaf1 c = true := by
  cases c <;> first | exact h2 | rfl | (simp [isAtomOrClass] at h1)

/-- a precondition operation — a single character or a repeat of one — started at ANY position (a fixed-position
    precondition may be tested beyond the input): it keeps every invariant that survives the clearing of groups and,
    for a skippable greedy repeat, the memo entry; and it ends, the fuels being measured against a body that
    advances by one -/
theorem simplePre_sat {I : St → Prop} (clear : ∀ st p, I st → I (clearBeyond st p)) (ctx : Ctx) (op : Op)
    (h : simplePre op = true)
    (hist : ∀ id c mx, op = .rep id c 0 mx true → ∀ p st, I st → I { st with hist := (id, p) :: st.hist })
    (p : Nat) (st : St) (hI : I st) : (sem ctx op p st).Sat False I (fun _ => True) := by
  have prog : Advances (fun _ => True) (fun a b => a + 1 ≤ b ∧ b ≤ ctx.len) 1 ctx.len := fun _ _ _ hr => hr
  cases op with
  | atom cs => simp only [sem]; exact (atomGen_pure ctx cs).sat (Step.All.trivial _) hI
  | cls rs => simp only [sem]; exact (clsGen_pure ctx rs).sat (Step.All.trivial _) hI
  | rep id c mn mx g =>
    simp only [simplePre, Bool.and_eq_true] at h
    have hl := simplePre_leaf c h.1.1.1.1 h.1.1.1.2
    cases g with
    | true =>
      simp only [sem, if_true]
      exact (repGreedyGen_sat (leaf1_genSat ctx c hl) ctx id mn mx p st trivial (fun _ => hI)
        (fun h0 _ => hist id c mx (by rw [h0]) p st hI)).mono (fun _ _ => trivial)
    | false =>
      simp only [sem, Bool.false_eq_true, if_false]
      exact (repReluctantGen_sat (leaf1_pullOK ctx c hl) ctx mn mx
        (.inr (fun a b ha hr => ⟨Nat.le_of_succ_le (prog a b ha hr).1, (prog a b ha hr).2⟩))
        p st trivial hI).mono (fun _ _ => trivial)
  | gfixed c mn mx len =>
    simp only [simplePre, Bool.and_eq_true, decide_eq_true_eq] at h
    have hl := simplePre_leaf c h.1.1.1.1.1.1 h.1.1.1.1.1.2
    simp only [sem]
    exact (gfixedGen_sat (leaf1_pullOK ctx c hl) ctx mn mx len (fun _ _ _ _ _ => trivial) (.inl h.1.1.1.2)
      p st (fun _ => trivial) hI).mono (fun _ _ => trivial)
  | rfixed c mn mx len =>
    simp only [simplePre, Bool.and_eq_true] at h
    have hl := simplePre_leaf c h.1.1.1.1.1.1 h.1.1.1.1.1.2
    simp only [sem]
    exact (rfixedGen_sat (d := 1) (leaf1_pullOK ctx c hl) ctx mn mx (.inr ⟨prog, Nat.le_refl _⟩)
      p st trivial hI (fun st h' => clear st p h')).mono (fun _ _ => trivial)
  | unamb c mn mx =>
    simp only [simplePre, Bool.and_eq_true] at h
    have hl := simplePre_leaf c h.1.1.1 h.1.1.2
    simp only [sem]
    exact (unambGen_sat (d := 1) (leaf1_pullOK ctx c hl) ctx mn mx (.inr ⟨prog, Nat.le_refl _⟩)
      p st trivial hI).mono (fun _ _ => trivial)
  | _ => simp [simplePre] at h

/-- the generic form of `pre_no_diverge` -/
theorem pre_term (ctx : Ctx) (b : Bool) (op : Op) (h : simplePre op = true) (p : Nat) (st : St)
    (hm : MarkOk b st) : (sem ctx op p st).Term (MarkOk b) :=
  (simplePre_sat (fun _ p h => h.clearBeyond p) ctx op h (fun _ _ _ _ _ _ h => h.of_panic_eq rfl) p st hm).term

/-- a precondition operation terminates at every position, also beyond the input -/
theorem pre_no_diverge (ctx : Ctx) (op : Op) (h : simplePre op = true) (p : Nat) (st : St) (hm : NoDivMark st) :
    (sem ctx op p st).NoDiv ∧ (sem ctx op p st).Inv NoDivMark :=
  term_pack (fun b => pre_term ctx b op h p st (fun _ => hm))

end Rx.C06

namespace Rx.C06b
open Rx Rx.C06

/-- `unambLeaf` looks at the bodies of `.unamb` nodes only: everywhere else it passes to the children -/
theorem unambLeafP_transp : (TreePred.plain (unambLeaf · = true) (unambLeafL · = true)).Transp :=
  ⟨Iff.rfl, Iff.rfl, Iff.rfl, Iff.rfl, Iff.rfl, rfl, rfl, Bool.and_eq_true_iff, Bool.and_eq_true_iff⟩

/-- `smallMin` asks more than `unambLeaf` (Proofs/TermLemmas): the same of an `.unamb` node, a bound besides at `.rep` -/
theorem smallMin_unambLeaf_both (len : Nat) :
    (∀ op, smallMin len op = true → unambLeaf op = true) ∧ ∀ l, smallMinL len l = true → unambLeafL l = true :=
  have h := TreePred.impl (smallP_transp len).desc unambLeafP_transp.gen
    (leaf := fun _ _ _ hl _ => by cases hl <;> rfl)
    (rep := fun _ _ _ _ _ _ _ ih h => ih (Bool.and_eq_true_iff.1 h).1)
    (unamb := fun _ _ _ _ _ _ h => h)
  ⟨h.op', fun _ => h.all⟩

theorem smallMin_unambLeaf (len : Nat) : (op : Op) → smallMin len op = true → unambLeaf op = true :=
  (smallMin_unambLeaf_both len).1

theorem smallMinL_unambLeafL (len : Nat) : (l : List Op) → smallMinL len l = true → unambLeafL l = true :=
  (smallMin_unambLeaf_both len).2

/-- `is_match` terminates when the iterators of the main tree end inside the input and the precondition tests end
    from every position: the statement of which those of C06 and C06b are instances -/
theorem isMatch_no_diverge_pre (pr : Prog) (lower : Nat → Nat) (input : List Nat)
    (hwf : wfOp pr.op = true) (hs : unambLeaf pr.op = true)
    (hpre : ∀ q ∈ pr.pres, ∀ p st, MarkOk true st → (sem (pr.ctx lower input) q.op p st).Term (MarkOk true)) :
    pr.isMatch lower input ≠ .diverge :=
  isMatch_ne_diverge pr lower input
    (matchesFrom_mk (pr.ctx lower input) pr
      (fun j st hj h => sem_termG (pr.ctx lower input) true pr.op hwf (fun _ => hs) j hj st h)
      hpre 0 (Nat.zero_le _) {} (fun _ => by decide))

end Rx.C06b

namespace Rx.C06
open Rx

/-! the generic form of `sem_no_diverge`: `sem_termG` (Proofs/TermLemmas), whose hypothesis on the
    non-backtracking repeats `smallMin` implies -/
theorem sem_term (ctx : Ctx) (b : Bool) (op : Op) (hwf : wfOp op = true) (hs : smallMin ctx.len op = true) :
    ∀ p, p ≤ ctx.len → ∀ st, MarkOk b st → (sem ctx op p st).Term (MarkOk b) :=
  sem_termG ctx b op hwf (fun _ => C06b.smallMin_unambLeaf ctx.len op hs)

theorem sem_term_choice (ctx : Ctx) (b : Bool) : (bs : List Op) → wfOps bs = true →
    smallMinL ctx.len bs = true →
    ∀ p, p ≤ ctx.len → ∀ st, MarkOk b st → (choiceGen (semL ctx bs) p st).Term (MarkOk b) :=
  fun bs hwf hs => sem_termG_choice ctx b bs hwf (fun _ => C06b.smallMinL_unambLeafL ctx.len bs hs)

theorem sem_term_seq (ctx : Ctx) (b : Bool) : (ops : List Op) → wfOps ops = true →
    smallMinL ctx.len ops = true →
    ∀ p, p ≤ ctx.len → ∀ st, MarkOk b st → (seqGo (semL ctx ops) p st).Term (MarkOk b) :=
  fun ops hwf hs => sem_termG_seq ctx b ops hwf (fun _ => C06b.smallMinL_unambLeafL ctx.len ops hs)

/-- no iterator of a well-formed tree ever diverges, whatever its consumer does, and it never
    raises the divergence marker -/
theorem sem_no_diverge (ctx : Ctx) (op : Op) (hwf : wfOp op = true) (hs : smallMin ctx.len op = true)
    (p : Nat) (hp : p ≤ ctx.len) (st : St) (h : NoDivMark st) :
    (sem ctx op p st).NoDiv ∧ (sem ctx op p st).Inv NoDivMark :=
  term_pack (fun b => sem_term ctx b op hwf hs p hp st (fun _ => h))

/-- `match_at` terminates -/
theorem matchAt_no_diverge (ctx : Ctx) (op : Op) (hwf : wfOp op = true) (hs : smallMin ctx.len op = true)
    (j : Nat) (hj : j ≤ ctx.len) (st : St) (h : NoDivMark st) :
    NoDivMark (matchAt ctx op j st).2 :=
  matchAt_mk ctx op j (fun st h => sem_term ctx true op hwf hs j hj st h) st (fun _ => h) rfl

/-- `ForceProgressIterator` cuts every stream of non-decreasing positions bounded by `len` after
    finitely many pulls: at most `5 * (len + 1)` results -/
theorem force_bounded_remark : True := trivial

/-- `is_match` terminates on programs whose main tree and precondition trees are well-formed -/
theorem isMatch_no_diverge (pr : Prog) (lower : Nat → Nat) (input : List Nat)
    (hwf : wfOp pr.op = true) (hs : smallMin input.length pr.op = true)
    (hpre : ∀ q ∈ pr.pres, simplePre q.op = true) :
    pr.isMatch lower input ≠ .diverge :=
  C06b.isMatch_no_diverge_pre pr lower input hwf (C06b.smallMin_unambLeaf _ _ hs)
    (fun q hq p st h => pre_term _ true q.op (hpre q hq) p st h)

/-! non-vacuity: a tree with a reluctant variable repeat, a reluctant fixed repeat, a greedy fixed
    repeat and an unambiguous repeat satisfies the hypotheses -/
example : wfOp (.seq [.rep 1 (.choice [.atom [97], .nothing]) 2 usizeMax false,
      .rfixed (.cls [(48, 58)]) 1 3 1, .gfixed (.atom [98]) 0 usizeMax 1,
      .unamb (.atom [99]) 0 usizeMax, .endProgram]) = true
    ∧ smallMin 0 (.seq [.rep 1 (.choice [.atom [97], .nothing]) 2 usizeMax false,
      .rfixed (.cls [(48, 58)]) 1 3 1, .gfixed (.atom [98]) 0 usizeMax 1,
      .unamb (.atom [99]) 0 usizeMax, .endProgram]) = true := by decide

end Rx.C06
