/-
  Props/C07e — C07 for the real constructor `Regex::new(pattern, flags, language)`:

    new_iff      the constructor succeeds IFF the flag string is valid and — unless flag q — the
                 pattern (after x-stripping) is the rendering of a well-formed grammar tree with
                 quantities below 2^64
    new_errors   otherwise: `Error::InvalidFlags` when the flag string is invalid (checked FIRST, whatever
                 the pattern), `Error::Syntax` when the flags are valid, q is off and the pattern is
                 not in the grammar; no other error

  Side conditions of `new_iff` (right-to-left only — they concern the nullability probe
  `is_match("")` that `Regex::new` runs on the compiled program; `Regex.new` passes a panic or a
  non-termination of that probe on as `.panic` / `.diverge`):
    * `hns` — no fixed-length repeat body whose length saturates `usize` (`Api.NoSat`, the side
      condition of `WF.compile_wf` / `C05b.api_new_no_panic`): gives "the probe does not panic";
    * `NoHugeReluctantMin` — on the compiled program, `C06.smallMin 0` (every reluctant variable repeat
      has a minimum below 1000; a non-backtracking repeat is over one character) and the recorded
      preconditions are of the simple shape: gives "the probe terminates within the model's fuel".
      It holds of every compiled program, because the reluctant minimum loop stops at a zero-width
      iteration: `probe_ok_all`, `api_isMatch_no_diverge`.  So `new_iff` does not use it, and
      `new_iff_all` is `new_iff` with `NoSat` as the only side condition.
  `new_errors` and the left-to-right half of `new_iff` need neither.
-/
import RxModel.Props.C07d
import RxModel.Props.C05b
import RxModel.Proofs.ProbeLemmas
import RxModel.Props.C07
import RxModel.Proofs.NestingLemmas
import RxModel.Props.C14
namespace Rx.C07e
open Rx Rx.Grammar
open Rx.C07b (ParserQuirkFree)
open Rx.ApiL (effPat)

/-- the probe hypotheses on whatever the compiler produces for this pattern and flag string -/
def NoHugeReluctantMin (env : Env) (p fs : List Nat) (xsd : Bool) : Prop :=
  ∀ fl pr, parseFlags fs xsd = some fl → compileProg env fl p true = .ok pr →
    C06.smallMin 0 pr.op = true ∧ ∀ q ∈ pr.pres, C06.simplePre q.op = true

/-- the nullability probe `is_match("")` returns once it neither panics (C05b) nor diverges -/
theorem probe_of (pr : Prog) (lower : Nat → Nat) (hok : progOK pr = true)
    (hnd : pr.isMatch lower [] ≠ .diverge) : ∃ n, pr.nullable lower = .ok n := by
  unfold Prog.nullable
  cases h : pr.isMatch lower [] with
  | ok n => exact ⟨n, rfl⟩
  | err e => exact absurd h (isMatch_ne_err _ _ _ _)
  | panic c => exact absurd h (C05b.isMatch_no_panic_backrefs pr lower [] hok (by decide) c)
  | diverge => exact absurd h hnd

/-- what the compiler does with valid flags: q → always a program; otherwise the grammar decides -/
theorem compileProg_iff (env : Env) (fl : Flags) (p : List Nat) (hps : ∀ x ∈ p, x < cpLimit) :
    (∃ pr, compileProg env fl p true = .ok pr) ↔
      (fl.literal = true ∨ ∃ a : Ast, a.okFor fl.xsd env = true ∧ ParserQuirkFree a ∧
        (if fl.allowWs then stripWs p 0 false else p) = a.render) := by
  cases hlit : fl.literal with
  | true =>
    exact ⟨fun _ => .inl rfl, fun _ => ⟨_, compileCore_lit (fl := fl.core) hlit⟩⟩
  | false =>
    have hl : fl.core.literal = false := hlit
    have heff : effPat fl p = (if fl.allowWs then stripWs p 0 false else p) := by
      simp [effPat, hlit]
    have hiff := C07d.compile_iff_full env fl.core hl (effPat fl p) (C14.effPat_scalar fl p hps) true
    rw [heff] at hiff
    have hcp : compileProg env fl p true =
        compileCore env fl.core (if fl.allowWs then stripWs p 0 false else p) true := by
      rw [← heff]; rfl
    rw [hcp]
    constructor
    · intro h; exact .inr (hiff.1 h)
    · rintro (h | h)
      · cases h
      · exact hiff.2 h

/-- left to right needs no side condition -/
theorem new_ok_grammar (env : Env) (p fs : List Nat) (xsd : Bool) (hps : ∀ x ∈ p, x < cpLimit)
    (r : Regex) (h : Regex.new env p fs xsd true = .ok r) :
    ∃ fl, parseFlags fs xsd = some fl ∧
      (fl.literal = true ∨ ∃ a : Ast, a.okFor xsd env = true ∧ ParserQuirkFree a ∧
        (if fl.allowWs then stripWs p 0 false else p) = a.render) := by
  obtain ⟨fl, hf, hc, _⟩ := Regex.new_ok h
  have := (compileProg_iff env fl p hps).1 ⟨_, hc⟩
  rw [(C07.flags_values fs xsd fl hf).1] at this
  exact ⟨fl, hf, this⟩

/-- the nullability probe returns for EVERY compiled program: it does not panic
    (`C05b.compile_progOK`) and the reluctant minimum loop stops at a zero-width iteration
    (`compile_no_diverge`) — no `NoHugeReluctantMin` -/
theorem probe_ok_all (env : Env) (fl : Flags) (p : List Nat) (pr : Prog)
    (hc : compileProg env fl p true = .ok pr) (hns : Api.NoSat env fl p) (lower : Nat → Nat) :
    ∃ n, pr.nullable lower = .ok n :=
  probe_of pr lower (C05b.compile_progOK env fl.core _ pr hc hns)
    (Rx.compile_no_diverge env fl.core _ pr hc hns lower [])

/-- **C07 for `Regex::new`, without the probe hypothesis**: `NoSat` is the only side condition left -/
theorem new_iff_all (env : Env) (p fs : List Nat) (xsd : Bool) (hps : ∀ x ∈ p, x < cpLimit)
    (hns : ∀ fl, parseFlags fs xsd = some fl → Api.NoSat env fl p) :
    (∃ r, Regex.new env p fs xsd true = .ok r) ↔
      ∃ fl, parseFlags fs xsd = some fl ∧
        (fl.literal = true ∨ ∃ a : Ast, a.okFor xsd env = true ∧ ParserQuirkFree a ∧
          (if fl.allowWs then stripWs p 0 false else p) = a.render) := by
  constructor
  · rintro ⟨r, h⟩
    exact new_ok_grammar env p fs xsd hps r h
  · rintro ⟨fl, hf, h⟩
    have hx : fl.xsd = xsd := (C07.flags_values fs xsd fl hf).1
    rw [← hx] at h
    obtain ⟨pr, hc⟩ := (compileProg_iff env fl p hps).2 h
    obtain ⟨n, hn⟩ := probe_ok_all env fl p pr hc (hns fl hf) env.lower
    exact ⟨{ prog := pr, nullable := n }, by rw [Regex.new_some hf, hc, Out.bind_ok, hn]; rfl⟩

/-- **C07 for `Regex::new`.**  (`hnh` is not needed: `new_iff_all`.) -/
theorem new_iff (env : Env) (p fs : List Nat) (xsd : Bool) (hps : ∀ x ∈ p, x < cpLimit)
    (hns : ∀ fl, parseFlags fs xsd = some fl → Api.NoSat env fl p)
    (hnh : NoHugeReluctantMin env p fs xsd) :
    (∃ r, Regex.new env p fs xsd true = .ok r) ↔
      ∃ fl, parseFlags fs xsd = some fl ∧
        (fl.literal = true ∨ ∃ a : Ast, a.okFor xsd env = true ∧ ParserQuirkFree a ∧
          (if fl.allowWs then stripWs p 0 false else p) = a.render) :=
  new_iff_all env p fs xsd hps hns

/-- `is_match` never diverges on whatever `Regex::new` accepts: C06 from the pattern text, for every
    accepted pattern and every input -/
theorem api_isMatch_no_diverge (env : Env) (p fs : List Nat) (xsd : Bool) (fl : Flags) (r : Regex)
    (hf : parseFlags fs xsd = some fl) (h : Regex.new env p fs xsd true = .ok r) (hns : Api.NoSat env fl p)
    (input : List Nat) : r.prog.isMatch env.lower input ≠ .diverge :=
  Rx.compile_no_diverge env fl.core _ r.prog (C05b.new_compiled env p fs xsd fl r hf h) hns env.lower input

/-- **the errors, and their causes.**  The flag string is checked first: an invalid one gives
    `InvalidFlags` whatever the pattern; with valid flags (q off) a pattern outside the grammar gives
    `Syntax`; and these are the only errors `Regex::new` reports. -/
theorem new_errors (env : Env) (p fs : List Nat) (xsd : Bool) (hps : ∀ x ∈ p, x < cpLimit) :
    (C07.flagsOK xsd fs = false → Regex.new env p fs xsd true = .err .invalidFlags) ∧
    (∀ fl, parseFlags fs xsd = some fl → fl.literal = false →
      (¬ ∃ a : Ast, a.okFor xsd env = true ∧ ParserQuirkFree a ∧
          (if fl.allowWs then stripWs p 0 false else p) = a.render) →
      Regex.new env p fs xsd true = .err .syntax) ∧
    (∀ e, Regex.new env p fs xsd true = .err e →
      (e = .invalidFlags ∧ C07.flagsOK xsd fs = false) ∨
      (e = .syntax ∧ ∃ fl, parseFlags fs xsd = some fl ∧ fl.literal = false ∧
        ¬ ∃ a : Ast, a.okFor xsd env = true ∧ ParserQuirkFree a ∧
          (if fl.allowWs then stripWs p 0 false else p) = a.render)) := by
  refine ⟨fun h => (C07.new_invalid_flags env p fs xsd true).2 h, ?_, ?_⟩
  · intro fl hf hlit hno
    have hx : fl.xsd = xsd := (C07.flags_values fs xsd fl hf).1
    have hl : fl.core.literal = false := hlit
    have heff : effPat fl p = (if fl.allowWs then stripWs p 0 false else p) := by simp [effPat, hlit]
    have hrej := C07d.reject_syntax_full env fl.core hl (effPat fl p) (C14.effPat_scalar fl p hps) true
      (by rw [heff]; show ¬ ∃ a : Ast, a.okFor fl.xsd env = true ∧ _; rw [hx]; exact hno)
    have hc : compileProg env fl p true = .err .syntax := hrej
    rw [Regex.new_some hf, hc]
    rfl
  · intro e h
    rcases Rx.Regex.new_err_cases h with ⟨rfl, hn⟩ | ⟨rfl, fl, hf, hc⟩
    · exact .inl ⟨rfl, by rw [← C07.flags_spec, hn]; rfl⟩
    · right
      have hx : fl.xsd = xsd := (C07.flags_values fs xsd fl hf).1
      have hnone : ¬ ∃ pr, compileProg env fl p true = .ok pr := by
        rintro ⟨pr, hp⟩; rw [hp] at hc; cases hc
      have hcases := fun hh => hnone ((compileProg_iff env fl p hps).2 hh)
      rw [hx] at hcases
      refine ⟨rfl, fl, hf, ?_, fun ha => hcases (.inr ha)⟩
      cases hl : fl.literal with
      | false => rfl
      | true => exact absurd (.inl hl) hcases

/-! ### examples (environment `C09.envT`) -/

/-- 0 = ok, 1 = `Syntax`, 2 = `InvalidFlags`, 3 = anything else -/
def outcome (r : Out Regex) : Nat :=
  match r with
  | .ok _ => 0
  | .err .syntax => 1
  | .err .invalidFlags => 2
  | _ => 3

/-- `Regex::new("(a", "")` is a syntax error; `Regex::new("a", "z")` has invalid flags (also with a
    bad pattern: flags first); `Regex::new("( a )", "x")` succeeds, `"( a )"` without x as well (a
    space is a normal character), `"(a"` with q succeeds -/
example : outcome (Regex.new C09.envT (cps "(a") (cps "") false true) = 1 ∧
    outcome (Regex.new C09.envT (cps "a") (cps "z") false true) = 2 ∧
    outcome (Regex.new C09.envT (cps "(a") (cps "z") false true) = 2 ∧
    outcome (Regex.new C09.envT (cps "( a )") (cps "x") false true) = 0 ∧
    outcome (Regex.new C09.envT (cps "( a )") (cps "") false true) = 0 ∧
    outcome (Regex.new C09.envT (cps "(a") (cps "q") false true) = 0 := by decide +kernel

/-- the tree behind `"( a )"` with flag x: the stripped text `(a)` -/
example : stripWs (cps "( a )") 0 false =
    (RegExp.one (.cons (.group (.one (.cons (.chr 97) none .nil))) none .nil)).render := by decide

/-- non-vacuity of the probe hypothesis: `(a|b)*?c` (a reluctant variable repeat with minimum 0) -/
example : NoHugeReluctantMin C09.envT (cps "(a|b)*?c") (cps "") false := by
  intro fl pr hf hc
  have hfl : parseFlags (cps "") false = some {} := by decide
  rw [hfl] at hf
  simp only [Option.some.injEq] at hf
  subst hf
  have hpr : C03d.progOf (compileProg C09.envT {} (cps "(a|b)*?c") true) = pr := by rw [hc]; rfl
  rw [← hpr]
  have h1 : C06.smallMin 0 (C03d.progOf (compileProg C09.envT {} (cps "(a|b)*?c") true)).op = true := by
    decide +kernel
  have h2 : (C03d.progOf (compileProg C09.envT {} (cps "(a|b)*?c") true)).pres.all
      (fun q => C06.simplePre q.op) = true := by decide +kernel
  exact ⟨h1, fun q hq => List.all_eq_true.1 h2 q hq⟩

end Rx.C07e
