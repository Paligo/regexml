/-
  Props/C09 — character class expressions denote exactly their set algebra.

  `Ranges` (canonical lists of half-open ranges) is the model of ICU's inversion lists; the builder
  operations used by the class parser are `addRange`/`addChar` (add_range/add_char), `unionR`
  (add_set), `complR` (complement), `diffR` (remove_set).  Here: each of them denotes the set
  operation it is named after and keeps lists canonical; `ClsSt.finish` (the last lines of
  `parse_character_class`) denotes (members ∪ class escapes), complemented for `[^…]`, minus the
  subtrahend; `[c]` and the literal `c` match the same characters; what `.` and `\s` contain; when
  `is_disjoint` answers `true` the two lists share no character.
-/
import RxModel.Model.Parser
import RxModel.Proofs.CharSetLemmas
namespace Rx.C09
open Rx

theorem contains_addRange (rs : Ranges) (h : Canon rs) (a b c : Nat) :
    clsContains (addRange a b rs) c = ((decide (a ≤ c) && decide (c < b)) || clsContains rs c) := by
  exact chain_contains_addRange rs (chain_of_canon rs h) a b c

theorem canon_addRange (rs : Ranges) (h : Canon rs) (a b : Nat) (hb : b ≤ cpLimit) :
    Canon (addRange a b rs) := by
  exact canon_of_chain _ 0 (chain_addRange rs (chain_of_canon rs h) a b (Nat.zero_le _) hb)

theorem contains_addChar (rs : Ranges) (h : Canon rs) (x c : Nat) :
    clsContains (addChar x rs) c = (decide (c = x) || clsContains rs c) := by
  exact sorted_contains_addChar rs (sorted_of_canon h) x c

/-- union (`add_set`) -/
theorem contains_unionR (a b : Ranges) (ha : Canon a) (hb : Canon b) (c : Nat) :
    clsContains (unionR a b) c = (clsContains a c || clsContains b c) := by
  exact (chain_unionR_both a b (chain_of_canon a ha) (chain_of_canon b hb)).2 c

theorem canon_unionR (a b : Ranges) (ha : Canon a) (hb : Canon b) : Canon (unionR a b) := by
  exact canon_of_chain _ 0 (chain_unionR_both a b (chain_of_canon a ha) (chain_of_canon b hb)).1

/-- complement within all code points -/
theorem contains_complR (a : Ranges) (ha : Canon a) (c : Nat) (hc : c < cpLimit) :
    clsContains (complR a) c = !clsContains a c := by
  unfold complR
  rw [chain_contains_complFrom a (chain_of_canon a ha) c]
  simp [hc]

theorem canon_complR (a : Ranges) (ha : Canon a) : Canon (complR a) := by
  exact canon_of_chain _ 0 (chain_complFrom a (chain_of_canon a ha))

/-- nothing outside the code point range is ever a member -/
theorem contains_lt_limit (a : Ranges) (ha : Canon a) (c : Nat) (h : clsContains a c = true) : c < cpLimit := by
  exact chain_contains_limit (chain_of_canon a ha) h

theorem contains_interR (a b : Ranges) (ha : Canon a) (hb : Canon b) (c : Nat) :
    clsContains (interR a b) c = (clsContains a c && clsContains b c) := by
  unfold interR
  have hca := canon_complR a ha
  have hcb := canon_complR b hb
  have hu := canon_unionR _ _ hca hcb
  by_cases hc : c < cpLimit
  · rw [contains_complR _ hu c hc, contains_unionR _ _ hca hcb, contains_complR a ha c hc,
      contains_complR b hb c hc]
    cases clsContains a c <;> cases clsContains b c <;> rfl
  · have h1 : clsContains (complR (unionR (complR a) (complR b))) c = false := by
      cases h : clsContains (complR (unionR (complR a) (complR b))) c
      · rfl
      · exact absurd (contains_lt_limit _ (canon_complR _ hu) c h) hc
    have h2 : clsContains a c = false := by
      cases h : clsContains a c
      · rfl
      · exact absurd (contains_lt_limit a ha c h) hc
    rw [h1, h2]; rfl

/-- difference (`remove_set`): `A - B` -/
theorem contains_diffR (a b : Ranges) (ha : Canon a) (hb : Canon b) (c : Nat) :
    clsContains (diffR a b) c = (clsContains a c && !clsContains b c) := by
  unfold diffR
  rw [contains_interR a _ ha (canon_complR b hb)]
  by_cases hc : c < cpLimit
  · rw [contains_complR b hb c hc]
  · have h2 : clsContains a c = false := by
      cases h : clsContains a c
      · rfl
      · exact absurd (contains_lt_limit a ha c h) hc
    rw [h2]; rfl

theorem canon_diffR (a b : Ranges) (ha : Canon a) (hb : Canon b) : Canon (diffR a b) := by
  unfold diffR interR
  exact canon_complR _ (canon_unionR _ _ (canon_complR a ha) (canon_complR _ (canon_complR b hb)))

/-- the last two steps of `ClsSt.finish` (complement for `[^…]`, then subtraction) on a canonical `r` -/
theorem finish_tail (r : Ranges) (hr : Canon r) (positive : Bool) (subtrahend : Option Ranges)
    (hs : ∀ s, subtrahend = some s → Canon s) (c : Nat) (hc : c < cpLimit) :
    clsContains
        (match (generalizing := false) subtrahend with
         | some sub => diffR (if positive then r else complR r) sub
         | none => if positive then r else complR r) c =
      ((if positive then clsContains r c else !clsContains r c)
       && !((subtrahend.map (clsContains · c)).getD false)) := by
  have h2 : Canon (if positive = true then r else complR r) ∧
      clsContains (if positive = true then r else complR r) c =
        (if positive = true then clsContains r c else !clsContains r c) := by
    cases positive with
    | true => exact ⟨hr, by simp⟩
    | false => exact ⟨canon_complR r hr, by simp [contains_complR r hr c hc]⟩
  generalize (if positive = true then r else complR r) = r' at h2
  obtain ⟨hr', hrc'⟩ := h2
  rw [← hrc']
  cases subtrahend with
  | none => simp
  | some sub => simp [contains_diffR _ _ hr' (hs sub rfl)]

/-- what a finished class expression denotes: (builder ∪ addend), complemented when negative,
    minus the subtrahend -/
theorem finish_denotes (k : ClsSt) (hb : Canon k.builder)
    (ha : ∀ a, k.addend = some a → Canon a) (hs : ∀ s, k.subtrahend = some s → Canon s)
    (c : Nat) (hc : c < cpLimit) :
    clsContains k.finish c =
      ((if k.positive then (clsContains k.builder c || (k.addend.map (clsContains · c)).getD false)
        else !(clsContains k.builder c || (k.addend.map (clsContains · c)).getD false))
       && !((k.subtrahend.map (clsContains · c)).getD false)) := by
  obtain ⟨positive, definingRange, rangeStart, builder, addend, subtrahend⟩ := k
  simp only at hb ha hs ⊢
  unfold ClsSt.finish
  simp only
  cases addend with
  | none =>
    simp only [Option.map_none, Option.getD_none, Bool.or_false]
    exact finish_tail builder hb positive subtrahend hs c hc
  | some a =>
    have hu := canon_unionR _ _ hb (ha a rfl)
    simp only [Option.map_some, Option.getD_some, ← contains_unionR _ _ hb (ha a rfl)]
    exact finish_tail _ hu positive subtrahend hs c hc

/-- a one-character class matches exactly that character, like the literal -/
theorem single_char_class (x c : Nat) : clsContains (addChar x []) c = decide (c = x) := by
  simp only [addChar, addRange, Nat.lt_succ_self, if_true, clsContains, Bool.or_false]
  rw [Bool.eq_iff_iff]
  simp only [Bool.and_eq_true, decide_eq_true_eq]
  omega

/-- the class generator and the one-character atom generator agree (case-sensitive matching) -/
theorem single_char_class_eq_atom (ctx : Ctx) (hcb : ctx.caseBlind = false) (x p : Nat) (st : St) :
    clsGen ctx (addChar x []) p st = atomGen ctx [x] p st := by
  unfold clsGen atomGen
  simp only [List.length_cons, List.length_nil, Nat.zero_add, Ctx.len]
  cases hp : ctx.input[p]? with
  | none =>
    have : ctx.input.length ≤ p := List.getElem?_eq_none_iff.1 hp
    simp only
    rw [if_pos (by omega)]
  | some y =>
    obtain ⟨hlt, hy⟩ := List.getElem?_eq_some_iff.1 hp
    have h1 : ¬ (p + 1 > ctx.input.length) := by omega
    have h2 : prefixMatch ctx [x] (List.drop p ctx.input) = (y == x) := by
      rw [List.drop_eq_getElem_cons hlt, hy]
      simp [prefixMatch, Ctx.eqAt, hcb]
    have h3 : clsContains (addChar x []) y = (y == x) := by rw [single_char_class, Bool.beq_eq_decide_eq]
    simp only [h1, h2, h3, if_false]

/-- `.` without flag s -/
theorem dot_set (c : Nat) (hc : c < cpLimit) :
    clsContains (complR (addChars [10, 13] [])) c = (decide (c ≠ 10) && decide (c ≠ 13)) := by
  have : complR (addChars [10, 13] []) = [(0, 10), (11, 13), (14, 1114112)] := by decide
  rw [this]
  simp only [cpLimit] at hc
  simp only [clsContains]
  grind

/-- `.` with flag s -/
theorem dot_all (c : Nat) (hc : c < cpLimit) : clsContains allR c = true := by
  simp only [allR, clsContains, Bool.or_false, Bool.and_eq_true, decide_eq_true_eq]
  omega

/-- `\s` = {tab, LF, CR, space} -/
theorem escape_s (c : Nat) : clsContains escapeS c = (c == 9 || c == 10 || c == 13 || c == 32) := by
  have : escapeS = [(9, 11), (13, 14), (32, 33)] := by decide
  rw [this]
  simp only [clsContains]
  grind

/-- `CharacterClass::is_disjoint`: a `true` answer is always right — no non-surrogate character
    of `other` is in `self` (C08 relies on this direction; the converse is not claimed) -/
theorem isDisjoint_sound (self other : Ranges) (ho : Canon other)
    (h : isDisjoint self other = true) (c : Nat) (hs : isSurrogate c = false)
    (hc : clsContains other c = true) : clsContains self c = false := by
  unfold isDisjoint at h
  obtain ⟨hlen, hmem⟩ := isDisjointGo_true self _ 0 (by omega) h
  apply hmem c
  apply takeChars_complete _ 101 other _ (by omega) c hs hc
  have := costs_le other
  omega

example : Canon (addChars [98, 97, 100] []) ∧ addChars [98, 97, 100] [] = [(97, 99), (100, 101)] := by
  refine ⟨?_, by decide⟩
  show Canon [(97, 99), (100, 101)]
  simp [Canon, cpLimit]
example : diffR (addRange 97 123 []) (addChar 98 []) = [(97, 98), (99, 123)] := by decide

end Rx.C09
