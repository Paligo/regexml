/-
  Props/C18 — a compiled Regex is a pure, reusable value (the part that is a theorem about the
  executable model, `Model/World`).

  `World.run` executes a history of calls — is_match, replace_all, opening tokenize / analyze
  iterators, `next` on any live iterator in any interleaving, drops — against shared objects.
  `specRun` answers every call from freshly made objects only: a call's answer is a function of
  (pattern object, arguments), and the k-th `next` of an iterator is the k-th step of a fresh
  iterator over the same regex and input.  The theorem: the two coincide for every history.
  What the model cannot exhibit — real thread interleavings, the process-wide block table, RefCell
  re-entrancy — is explored by the harness (histories run sequentially and from several OS threads
  on shared objects, every answer compared with the fresh single call); `Regex: Send + Sync` is a
  compile-time assertion in the harness.
-/
import RxModel.Model.World
import RxModel.Proofs.WorldLemmas
namespace Rx.C18
open Rx

/-- history independence: starting with no live iterators, every answer in every history is the
    answer computed from scratch -/
theorem history_independence (lower : Nat → Nat) (objs : Nat → Option Regex) (ops : List HOp) :
    World.run lower { objs := objs, its := fun _ => none } ops = specRun lower objs [] ops :=
  run_eq_specRun lower objs ops _ [] (agree_init lower objs)

/-- the compiled objects are never modified by any call -/
theorem objs_immutable (lower : Nat → Nat) (w : World) (op : HOp) : (w.step lower op).1.objs = w.objs :=
  World.step_objs lower w op

/-- a call touches at most the one iterator it names: all others are left exactly as they were -/
theorem other_iterators_untouched (lower : Nat → Nat) (w : World) (op : HOp) (i : Nat)
    (hi : match op with
          | .openTok _ j _ => i ≠ j | .openAna _ j _ => i ≠ j | .next j => i ≠ j | .drop j => i ≠ j | _ => True) :
    (w.step lower op).1.its i = w.its i := by
  rcases World.step_fst lower w op with h | ⟨j, it, hj, h⟩
  · rw [h]
  · have hij : i ≠ j := by
      cases op with
      | openTok _ _ _ | openAna _ _ _ | next _ | drop _ => cases hj; exact hi
      | isMatch _ _ | replace _ _ _ => cases hj
    rw [h, World.setIt_its_ne w it hij]

/-- re-running `is_match` gives the same answer, whatever calls were made in between -/
theorem stateless_calls_repeatable (lower : Nat → Nat) (w : World) (mid : List HOp) (k : Nat) (input : List Nat) :
    (w.step lower (.isMatch k input)).2 =
      (((mid.foldl (fun w' op => (w'.step lower op).1) w)).step lower (.isMatch k input)).2 := by
  have key : ∀ w₁ w₂ : World, w₁.objs = w₂.objs →
      (w₁.step lower (.isMatch k input)).2 = (w₂.step lower (.isMatch k input)).2 := by
    intro w₁ w₂ h
    simp only [World.step, h]
    split <;> rfl
  exact key _ _ (World.foldl_step_objs lower mid w).symm

/-- `is_match` gives the same answer on two slots that hold the same object -/
theorem same_pattern_same_answers (lower : Nat → Nat) (objs : Nat → Option Regex) (k1 k2 : Nat)
    (h : objs k1 = objs k2) (past : List HOp) (input : List Nat) :
    specAnswer lower objs past (.isMatch k1 input) = specAnswer lower objs past (.isMatch k2 input) := by
  simp only [specAnswer, h]

end Rx.C18
