/-
  Props/C08b — positional preconditions are sound (the fifth search shortcut).

  `ReProgram::add_precondition` records, for the elements of the top-level sequence, operations
  that must match at a fixed position (after `^` outside multi-line mode) or somewhere at or after
  a minimum position.  `check_preconditions(start)` refuses to search when one of them cannot be
  met.  Here: whenever a member of the program's language starts at or after `start`, every
  recorded precondition can be met — so the check never discards a match.
-/
import RxModel.Spec.OpLang
import RxModel.Model.Program
import RxModel.Proofs.PreLemmas
namespace Rx.C08
open Rx

/-- a fixed match length in terms of the language -/
theorem OpR_matchLen (ctx : Ctx) (op : Op) (hwf : wfOp op = true) (l : Nat) (hl : matchLen op = some l)
    (hlt : l < usizeMax) (x y : Nat) (h : OpR ctx op x y) : y = x + l :=
  (PreL.ML_op ctx op hwf l hl x y h).2 hlt

/-- the general step: an operation matched from `x`, where `x` is the recorded fixed position (if
    any), at least the recorded minimum position and at least `start`, satisfies every
    precondition recorded for it -/
theorem addPre_sound (ctx : Ctx) (hlen : ctx.len < usizeMax) (op : Op) (hwf : wfOp op = true)
    (hne : noEmptyAtoms op = true)
    (fp : Option Nat) (mp start x y : Nat)
    (h : OpR ctx op x y) (hx : x ≤ ctx.len) (hfp : ∀ f, fp = some f → x = f) (hmp : mp ≤ x) (hst : start ≤ x) :
    ∀ q ∈ addPre ctx.multiLine op fp mp, PreOK ctx q start :=
  fun q hq => (PreL.addPre_op ctx hlen op hwf hne fp mp start x y h hx hfp hmp hst q hq).1

/-- hence `check_preconditions(start)` can be met whenever a member of the program's language
    starts at or after `start` -/
theorem preconditions_sound (ctx : Ctx) (hlen : ctx.len < usizeMax) (op : Op) (hwf : wfOp op = true)
    (hne : noEmptyAtoms op = true)
    (start a b : Nat) (hsa : start ≤ a) (ha : a ≤ ctx.len) (h : OpR ctx op a b) :
    ∀ q ∈ addPre ctx.multiLine op none 0, PreOK ctx q start :=
  addPre_sound ctx hlen op hwf hne none 0 start a b h ha (fun _ hf => by cases hf) (Nat.zero_le _) hsa

end Rx.C08
