/-
  Props/C12b — anchors and dot: the position sets, "anchors consume nothing", and the engine-level
  consequences on the proved fragment (`cleanProg2`, Props/Clean2Complete).

  1. `OpR_bol_iff`, `OpR_eol_iff`, `OpR_dot_iff`: the language clauses of `^`, `$` and of the class
     the compiler builds for `.` (`dot_compiles'`), in the property's wording: without m, `^` only
     at offset 0 and `$` only at the end; with m, `^` also right after a newline that is not the
     last character, `$` also right before a newline; `.` = everything but U+000A / U+000D, with s
     everything.
  2. `anchor_consumes_nothing_*`: an anchor inside a sequence is a pure test of the position where it
     stands (first, or after any prefix of terms); removing it keeps every span.
  3. for ANY `cleanProg2` program (`Clean2Hyps`, the hypotheses of `clean2_match_is_leftmost_first`):
     the span `matches(i)` reports is in the language (`reported_span`), so for `^X…` the reported
     start and for `…X$` the reported end obey the clauses (`bol_first_start`, `eol_last_end`, and
     their `_no_m` forms); `bol_isMatch_iff_no_m`: without m, `^X…` matches iff `X…` matches from 0.
  4. kernel-checked runs of the compiled programs (`compileCore Env.std`) that agree.
-/
import RxModel.Props.C12
import RxModel.Props.Clean2Complete
import RxModel.Model.Unicode
namespace Rx.C12
open Rx Rx.SearchComplete
open Rx.C08 (noEmptyAtoms)

/-! ### 1. the position sets -/

/-- where `^` holds: offset 0, or (flag m) right after a newline that is not the last character -/
def bolHolds (ctx : Ctx) (p : Nat) : Prop :=
  p = 0 ∨ (ctx.multiLine = true ∧ ctx.input[p - 1]? = some 10 ∧ p < ctx.len)

/-- where `$` holds: the end of the input, or (flag m) right before a newline -/
def eolHolds (ctx : Ctx) (p : Nat) : Prop :=
  p ≥ ctx.len ∨ (ctx.multiLine = true ∧ ctx.input[p]? = some 10)

theorem OpR_bol_iff (ctx : Ctx) (p q : Nat) : OpR ctx .bol p q ↔ q = p ∧ bolHolds ctx p := by
  simp only [OpR, bolHolds]

theorem OpR_eol_iff (ctx : Ctx) (p q : Nat) : OpR ctx .eol p q ↔ q = p ∧ eolHolds ctx p := by
  simp only [OpR, eolHolds]

/-- without m, `^` holds only at offset 0 -/
theorem bolHolds_no_m (ctx : Ctx) (hm : ctx.multiLine = false) (p : Nat) : bolHolds ctx p ↔ p = 0 := by
  simp [bolHolds, hm]

/-- with m: offset 0, or the previous character is a newline and `p` is not the end -/
theorem bolHolds_m (ctx : Ctx) (hm : ctx.multiLine = true) (p : Nat) :
    bolHolds ctx p ↔ p = 0 ∨ (ctx.input[p - 1]? = some 10 ∧ p < ctx.len) := by
  simp [bolHolds, hm]

/-- with m, `^` never holds at the end of a non-empty input (so not after a final newline) -/
theorem not_bolHolds_end (ctx : Ctx) (p : Nat) (hp : p ≠ 0) (hend : p = ctx.len) : ¬ bolHolds ctx p := by
  simp only [bolHolds]; omega

/-- without m, `$` holds (inside the input) only at the end -/
theorem eolHolds_no_m (ctx : Ctx) (hm : ctx.multiLine = false) (p : Nat) (hp : p ≤ ctx.len) :
    eolHolds ctx p ↔ p = ctx.len := by
  simp only [eolHolds, hm, Bool.false_eq_true, false_and, or_false]; omega

/-- with m: the end, or the character at `p` is a newline -/
theorem eolHolds_m (ctx : Ctx) (hm : ctx.multiLine = true) (p : Nat) (hp : p ≤ ctx.len) :
    eolHolds ctx p ↔ p = ctx.len ∨ ctx.input[p]? = some 10 := by
  simp only [eolHolds, hm, true_and]
  constructor
  · rintro (h | h)
    · exact .inl (by omega)
    · exact .inr h
  · rintro (h | h)
    · exact .inl (by omega)
    · exact .inr h

/-- the class the compiler builds for `.` -/
def dotClass (singleLine : Bool) : Ranges := if singleLine then allR else complR (addChars [10, 13] [])

theorem dot_compiles' (c : PC) (f : Nat) (s : PS) (h : c.at s.idx = 46) :
    parseTerminal c (f + 1) s = .ok (.cls (dotClass c.fl.singleLine)) { s with idx := s.idx + 1 } :=
  dot_compiles c f s h

/-- `.` matches exactly one character: any but U+000A and U+000D, or any at all with flag s -/
theorem OpR_dot_iff (ctx : Ctx) (hin : ∀ c ∈ ctx.input, c < cpLimit) (sl : Bool) (p q : Nat) :
    OpR ctx (.cls (dotClass sl)) p q ↔
      q = p + 1 ∧ ∃ c, ctx.input[p]? = some c ∧ (sl = true ∨ (c ≠ 10 ∧ c ≠ 13)) := by
  simp only [OpR]
  refine and_congr Iff.rfl (exists_congr fun c => and_congr_right fun hc => ?_)
  have hlt := hin c (List.mem_of_getElem? hc)
  cases sl with
  | true => simp [dotClass, C09.dot_all c hlt]
  | false => simp [dotClass, C09.dot_set c hlt]

/-! ### 2. anchors consume nothing -/

theorem OpRSeq_append (ctx : Ctx) : ∀ (xs ys : List Op) (p q : Nat),
    OpRSeq ctx (xs ++ ys) p q ↔ ∃ m, OpRSeq ctx xs p m ∧ OpRSeq ctx ys m q
  | [], ys, p, q => by simp [OpRSeq]
  | x :: xs, ys, p, q => by
    simp only [List.cons_append, OpRSeq, OpRSeq_append ctx xs ys]
    constructor
    · rintro ⟨m, h1, k, h2, h3⟩; exact ⟨k, ⟨m, h1, h2⟩, h3⟩
    · rintro ⟨k, ⟨m, h1, h2⟩, h3⟩; exact ⟨m, h1, k, h2, h3⟩

/-- a leading `^` is a test of the start position and nothing else -/
theorem anchor_consumes_nothing_bol (ctx : Ctx) (rest : List Op) (p q : Nat) :
    OpRSeq ctx (.bol :: rest) p q ↔ bolHolds ctx p ∧ OpRSeq ctx rest p q := by
  simp only [OpRSeq, OpR_bol_iff]
  constructor
  · rintro ⟨m, ⟨rfl, hb⟩, h⟩; exact ⟨hb, h⟩
  · rintro ⟨hb, h⟩; exact ⟨p, ⟨rfl, hb⟩, h⟩

theorem anchor_consumes_nothing_eol (ctx : Ctx) (rest : List Op) (p q : Nat) :
    OpRSeq ctx (.eol :: rest) p q ↔ eolHolds ctx p ∧ OpRSeq ctx rest p q := by
  simp only [OpRSeq, OpR_eol_iff]
  constructor
  · rintro ⟨m, ⟨rfl, hb⟩, h⟩; exact ⟨hb, h⟩
  · rintro ⟨hb, h⟩; exact ⟨p, ⟨rfl, hb⟩, h⟩

/-- an anchor after other terms tests the position the terms before it have reached -/
theorem anchor_consumes_nothing_bol_mid (ctx : Ctx) (pre rest : List Op) (p q : Nat) :
    OpRSeq ctx (pre ++ .bol :: rest) p q ↔ ∃ m, OpRSeq ctx pre p m ∧ bolHolds ctx m ∧ OpRSeq ctx rest m q := by
  simp only [OpRSeq_append, anchor_consumes_nothing_bol]

theorem anchor_consumes_nothing_eol_mid (ctx : Ctx) (pre rest : List Op) (p q : Nat) :
    OpRSeq ctx (pre ++ .eol :: rest) p q ↔ ∃ m, OpRSeq ctx pre p m ∧ eolHolds ctx m ∧ OpRSeq ctx rest m q := by
  simp only [OpRSeq_append, anchor_consumes_nothing_eol]

/-- removing an anchor keeps every span (the anchor only restricts) … -/
theorem anchor_removal (ctx : Ctx) (pre rest : List Op) (a : Op) (ha : a = .bol ∨ a = .eol) (p q : Nat)
    (h : OpRSeq ctx (pre ++ a :: rest) p q) : OpRSeq ctx (pre ++ rest) p q := by
  rcases ha with rfl | rfl
  · obtain ⟨m, h1, _, h2⟩ := (anchor_consumes_nothing_bol_mid ctx pre rest p q).1 h
    exact (OpRSeq_append ctx pre rest p q).2 ⟨m, h1, h2⟩
  · obtain ⟨m, h1, _, h2⟩ := (anchor_consumes_nothing_eol_mid ctx pre rest p q).1 h
    exact (OpRSeq_append ctx pre rest p q).2 ⟨m, h1, h2⟩

/-- … and inserting `^` where it holds changes neither start nor end -/
theorem anchor_insertion_bol (ctx : Ctx) (pre rest : List Op) (p m q : Nat) (h1 : OpRSeq ctx pre p m)
    (hb : bolHolds ctx m) (h2 : OpRSeq ctx rest m q) : OpRSeq ctx (pre ++ .bol :: rest) p q :=
  (anchor_consumes_nothing_bol_mid ctx pre rest p q).2 ⟨m, h1, hb, h2⟩

theorem anchor_insertion_eol (ctx : Ctx) (pre rest : List Op) (p m q : Nat) (h1 : OpRSeq ctx pre p m)
    (hb : eolHolds ctx m) (h2 : OpRSeq ctx rest m q) : OpRSeq ctx (pre ++ .eol :: rest) p q :=
  (anchor_consumes_nothing_eol_mid ctx pre rest p q).2 ⟨m, h1, hb, h2⟩

/-! ### 3. engine level, on the proved fragment -/

/-- the hypotheses of `Clean2Complete.clean2_match_is_leftmost_first`, bundled: decidable facts of the
    tree, and `InputOKFor` (scalar input; case data adequate if the program is case-blind) -/
structure Clean2Hyps (env : Env) (op : Op) (fl : CFlags) (lower : Nat → Nat) (input : List Nat) : Prop where
  inputOK : InputOKFor env fl lower input
  clean : cleanProg2 env fl.caseBlind fl.multiLine op = true
  wf : wfOp op = true
  noEmpty : noEmptyAtoms op = true
  canon : clsCanonB op = true
  caps : C02.capsPos op = true
  len : input.length < usizeMax

section engine
variable {env : Env} {op : Op} {fl : CFlags} {lower : Nat → Nat} {input : List Nat}

abbrev ctxOf (pat : List Nat) (op : Op) (mp : Nat) (fl : CFlags) (lower : Nat → Nat) (input : List Nat) : Ctx :=
  (mkProgram pat op mp fl false).ctx lower input

theorem ctxOf_input (pat : List Nat) (mp : Nat) : (ctxOf pat op mp fl lower input).input = input := rfl
theorem ctxOf_len (pat : List Nat) (mp : Nat) : (ctxOf pat op mp fl lower input).len = input.length := rfl
theorem ctxOf_multiLine (pat : List Nat) (mp : Nat) : (ctxOf pat op mp fl lower input).multiLine = fl.multiLine :=
  MkProgram.multiLine pat op mp fl false

/-- **anchors are position tests, engine level**: whatever span `matches(i)` reports is in the
    language of the tree — so every anchor in it held at the position where it stands -/
theorem reported_span (H : Clean2Hyps env op fl lower input) (pat : List Nat) (mp : Nat)
    (i : Nat) (hi : i ≤ input.length) (st st' : St) (hst : st.panic = none)
    (h : matchesFrom (ctxOf pat op mp fl lower input) (mkProgram pat op mp fl false) i st = (true, st')) :
    ∃ j n, getParenStart st' 0 = some j ∧ getParenEnd st' 0 = some n ∧ i ≤ j ∧ j ≤ n ∧ n ≤ input.length ∧
      OpR (ctxOf pat op mp fl lower input) op j n := by
  obtain ⟨j, n, h1, h2, _, h4, h5, h6, h7, _⟩ :=
    Clean2Complete.clean2_match_is_leftmost_first env pat op mp fl lower input H.inputOK H.clean H.wf
      H.noEmpty H.canon H.caps H.len i hi st st' hst h
  rw [mkProgram_op_shape2 pat op mp fl false (shape_of_cleanProg2 env _ _ _ H.clean)] at h7
  exact ⟨j, n, h1, h2, h4, h5, h6, h7⟩

/-- a program beginning with `^` reports only starts where `^` holds: offset 0, or (flag m) right
    after a newline that is not the last character -/
theorem bol_first_start (rest : List Op) (H : Clean2Hyps env (.seq (.bol :: rest)) fl lower input)
    (pat : List Nat) (mp : Nat) (i : Nat) (hi : i ≤ input.length) (st st' : St) (hst : st.panic = none)
    (h : matchesFrom (ctxOf pat (.seq (.bol :: rest)) mp fl lower input)
      (mkProgram pat (.seq (.bol :: rest)) mp fl false) i st = (true, st')) :
    ∃ j, getParenStart st' 0 = some j ∧
      (j = 0 ∨ (fl.multiLine = true ∧ input[j - 1]? = some 10 ∧ j < input.length)) := by
  obtain ⟨j, n, h1, _, _, _, _, h6⟩ := reported_span H pat mp i hi st st' hst h
  simp only [OpR] at h6
  have hb := ((anchor_consumes_nothing_bol _ rest j n).1 h6).1
  simp only [bolHolds, ctxOf_multiLine, ctxOf_input, ctxOf_len] at hb
  exact ⟨j, h1, hb⟩

/-- without m: only start 0 -/
theorem bol_first_start_no_m (rest : List Op) (H : Clean2Hyps env (.seq (.bol :: rest)) fl lower input)
    (hm : fl.multiLine = false)
    (pat : List Nat) (mp : Nat) (i : Nat) (hi : i ≤ input.length) (st st' : St) (hst : st.panic = none)
    (h : matchesFrom (ctxOf pat (.seq (.bol :: rest)) mp fl lower input)
      (mkProgram pat (.seq (.bol :: rest)) mp fl false) i st = (true, st')) :
    getParenStart st' 0 = some 0 := by
  obtain ⟨j, h1, hj⟩ := bol_first_start rest H pat mp i hi st st' hst h
  rcases hj with rfl | ⟨h0, _⟩
  · exact h1
  · rw [hm] at h0; cases h0

/-- a program ending with `$` reports only ends where `$` holds: the end of the input, or (flag m)
    right before a newline -/
theorem eol_last_end (xs : List Op) (H : Clean2Hyps env (.seq (xs ++ [.eol, .endProgram])) fl lower input)
    (pat : List Nat) (mp : Nat) (i : Nat) (hi : i ≤ input.length) (st st' : St) (hst : st.panic = none)
    (h : matchesFrom (ctxOf pat (.seq (xs ++ [.eol, .endProgram])) mp fl lower input)
      (mkProgram pat (.seq (xs ++ [.eol, .endProgram])) mp fl false) i st = (true, st')) :
    ∃ n, getParenEnd st' 0 = some n ∧
      (n = input.length ∨ (fl.multiLine = true ∧ input[n]? = some 10)) := by
  obtain ⟨j, n, _, h2, _, _, h5, h6⟩ := reported_span H pat mp i hi st st' hst h
  simp only [OpR] at h6
  obtain ⟨m, _, he, hr⟩ := (anchor_consumes_nothing_eol_mid _ xs [.endProgram] j n).1 h6
  simp only [OpRSeq, OpR] at hr
  obtain ⟨_, rfl, rfl⟩ := hr
  simp only [eolHolds, ctxOf_multiLine, ctxOf_input, ctxOf_len] at he
  refine ⟨n, h2, ?_⟩
  rcases he with he | he
  · exact .inl (by omega)
  · exact .inr he

/-- without m: only the end of the input -/
theorem eol_last_end_no_m (xs : List Op) (H : Clean2Hyps env (.seq (xs ++ [.eol, .endProgram])) fl lower input)
    (hm : fl.multiLine = false)
    (pat : List Nat) (mp : Nat) (i : Nat) (hi : i ≤ input.length) (st st' : St) (hst : st.panic = none)
    (h : matchesFrom (ctxOf pat (.seq (xs ++ [.eol, .endProgram])) mp fl lower input)
      (mkProgram pat (.seq (xs ++ [.eol, .endProgram])) mp fl false) i st = (true, st')) :
    getParenEnd st' 0 = some input.length := by
  obtain ⟨n, h1, hn⟩ := eol_last_end xs H pat mp i hi st st' hst h
  rcases hn with rfl | ⟨h0, _⟩
  · exact h1
  · rw [hm] at h0; cases h0

/-- without m, `^X…` matches somewhere iff `X…` matches from offset 0 (both directions, on the engine) -/
theorem bol_isMatch_iff_no_m (rest : List Op) (H : Clean2Hyps env (.seq (.bol :: rest)) fl lower input)
    (hm : fl.multiLine = false) (pat : List Nat) (mp : Nat) :
    (mkProgram pat (.seq (.bol :: rest)) mp fl false).isMatch lower input = .ok true ↔
      ∃ q, OpRSeq (ctxOf pat (.seq (.bol :: rest)) mp fl lower input) rest 0 q := by
  rw [Clean2Complete.clean2_isMatch_iff env pat _ mp fl lower input H.inputOK H.clean H.wf H.noEmpty H.canon H.len,
    mkProgram_op_shape2 pat _ mp fl false (shape_of_cleanProg2 env _ _ _ H.clean)]
  simp only [OpR, anchor_consumes_nothing_bol]
  constructor
  · rintro ⟨j, q, _, hb, hr⟩
    rw [bolHolds_no_m _ (by rw [ctxOf_multiLine]; exact hm)] at hb
    subst hb
    exact ⟨q, hr⟩
  · rintro ⟨q, hr⟩
    exact ⟨0, q, Nat.zero_le _, .inl rfl, hr⟩

end engine

/-! ### 4. the compiled programs, run by the kernel -/

/-- answer and span of group 0 of `matches(0)` for `pat` compiled with the real tables -/
def run (fl : CFlags) (pat input : List Nat) : Option (Bool × Option Nat × Option Nat) :=
  match compileCore Env.std fl pat true with
  | .ok pr =>
    let r := matchesFrom (pr.ctx Env.std.lower input) pr 0 {}
    if r.2.panic.isSome then none else some (r.1, getParenStart r.2 0, getParenEnd r.2 0)
  | _ => none

/-- `^a`: with m it matches "b\na" at (2, 3) (after the newline) and "a\n" at (0, 1); without m not
    "b\na" -/
example : run { multiLine := true } [94, 97] [98, 10, 97] = some (true, some 2, some 3) ∧
    run { multiLine := true } [94, 97] [97, 10] = some (true, some 0, some 1) ∧
    (run {} [94, 97] [98, 10, 97]).map (·.1) = some false := by decide +kernel

/-- `a$`: with m it matches "a\nb" at (0, 1) (before the newline), without m it does not;
    without m it matches "ba" at (1, 2) -/
example : run { multiLine := true } [97, 36] [97, 10, 98] = some (true, some 0, some 1) ∧
    (run {} [97, 36] [97, 10, 98]).map (·.1) = some false ∧
    run {} [97, 36] [98, 97] = some (true, some 1, some 2) := by decide +kernel

/-- `^$`: matches "" with and without m; "\n" only with m, at (0, 0) — `$` before the newline; `^` does
    not hold after the final newline -/
example : run {} [94, 36] [] = some (true, some 0, some 0) ∧
    run { multiLine := true } [94, 36] [] = some (true, some 0, some 0) ∧
    (run {} [94, 36] [10]).map (·.1) = some false ∧
    run { multiLine := true } [94, 36] [10] = some (true, some 0, some 0) := by decide +kernel

/-- `.` on "\r" and "\n": no match without s, a match with s; on "x" always -/
example : (run {} [46] [13]).map (·.1) = some false ∧ (run {} [46] [10]).map (·.1) = some false ∧
    run { singleLine := true } [46] [13] = some (true, some 0, some 1) ∧
    run { singleLine := true } [46] [10] = some (true, some 0, some 1) ∧
    run {} [46] [120] = some (true, some 0, some 1) := by decide +kernel

/-- the compiled `^a` (flag m) and `a$` are of the shapes of `bol_first_start` / `eol_last_end` and meet
    the decidable hypotheses -/
example : (match compileCore Env.std { multiLine := true } [94, 97] true with
    | .ok pr => (match pr.op with
        | .seq (.bol :: rest) => cleanProg2 Env.std false true pr.op && wfOp pr.op && noEmptyAtoms pr.op &&
            clsCanonB pr.op && C02.capsPos pr.op && !rest.isEmpty
        | _ => false)
    | _ => false) = true ∧
    (match compileCore Env.std {} [97, 36] true with
    | .ok pr => (match pr.op with
        | .seq [.atom a, .eol, .endProgram] => cleanProg2 Env.std false false pr.op && wfOp pr.op &&
            noEmptyAtoms pr.op && clsCanonB pr.op && C02.capsPos pr.op && a == [97]
        | _ => false)
    | _ => false) = true := by decide +kernel

end Rx.C12
