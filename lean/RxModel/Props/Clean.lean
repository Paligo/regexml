/-
  Props/Clean — on the clean fragment the engine is an exact, priority-ordered enumerator.

  Fragment (`cleanOp`, Spec/Enum): anchors, atoms, classes, captures, alternation, sequence and the
  two fixed-length-body quantifiers `gfixed` (greedy) / `rfixed` (reluctant).  Excluded: `backref`,
  the general repeat `rep`, `unamb`.  The bodies of `gfixed` / `rfixed` are unrestricted within the
  fragment: captures, alternations, nested fixed quantifiers.

  Proved here (over the model E; `wfOp` = what the compiler builds; start position inside the input):
    a. `enum_iff_OpR`   the pure enumeration `enum` lists exactly the compositional language `OpR`
    b. `sem_seq_enum`   the iterator `sem ctx op p st` yields exactly the list `enum ctx op p` — the
                        same positions, the same multiplicities, the same order — and then ends,
                        whatever states its consumer hands back (`I = anySt = fun _ => True`, the
                        weakest possible consumer assumption: the positions an iterator of this
                        fragment yields do not depend on the matcher state at all).  Soundness,
                        completeness, priority order and termination in one statement.
    c. `matchAt_iff`    `match_at(i)` is a correct and complete test for "some match starts at `i`"
       `matchAt_end`    … and the end it records for group 0 is the FIRST element of the priority
                        order: the ordered-choice / greedy-longest / reluctant-shortest match.
                        Both are read off `Enumerates ctx op (enum ctx op)` (Proofs/Enumerates): the iterator yields
                        exactly the list, which is sound and non-empty when the language has a member
    d. `matchesNaive_iff`, `matchesNaive_which`: the search with every shortcut off finds a
                        match iff the language has a member starting at or after `i`, and then reports
                        the LEFTMOST start and, from it, the FIRST end of the priority order.
    e. examples         `(a|ab)(c|bcd)(d*)` as the model's compiler builds it, on "abcd".

  Remark (multiplicities).  `enum` for `gfixed` / `rfixed` continues an iteration from the body's
  first end only, so each end of the quantifier is listed once, although a body such as `(a|a)` has
  two derivations of the same end.  A backtracking matcher that re-enters the body's alternatives
  would list such ends repeatedly (`(a|a){0,2}` on "aa": 2,2,1,2,2,1,0 instead of 2,1,0).  Since the
  body has a fixed length, all its ends from a given start coincide, and on this fragment nothing to
  the right can tell the derivations apart (no back-references): the order of first occurrences, the
  set of ends, and therefore every answer of `match_at`, are the same.  The engine (and `enum`)
  simply do not repeat.  See the examples at the end.
-/
import RxModel.Proofs.CleanSearchLemmas
import RxModel.Model.Compile
import RxModel.Props.C02
import RxModel.Props.C05
import RxModel.Props.C06
namespace Rx.Clean
open Rx

/-! ### a. the enumeration is the language -/

/-- `enum` lists exactly the members of the compositional language -/
theorem enum_iff_OpR (ctx : Ctx) (op : Op) (hc : cleanOp op = true) (hwf : wfOp op = true)
    (p q : Nat) (hp : p ≤ ctx.len) : q ∈ enum ctx op p ↔ OpR ctx op p q :=
  ⟨fun h => enum_sound ctx op hc hwf hp h, fun h => enum_complete_op ctx op hc hwf p q hp h⟩

/-! ### b. the iterator yields exactly the enumeration, in order

  `Step.Seq I s l` (Spec/Enum): `s` yields exactly `l` and then ends, whatever state satisfying `I`
  the consumer hands back at each resumption; a diverging stream satisfies no `Step.Seq`. -/

/-- soundness + completeness + order + termination, under every consumer -/
theorem sem_seq_enum (ctx : Ctx) (op : Op) (hc : cleanOp op = true) (hwf : wfOp op = true)
    (p : Nat) (hp : p ≤ ctx.len) (st : St) (_ : anySt st) :
    Step.Seq anySt (sem ctx op p st) (enum ctx op p) :=
  sem_ex_op ctx op hc hwf p hp st

/-- … a fortiori under the consumers that respect any given invariant `I` -/
theorem sem_seq_enum_of (I : St → Prop) (ctx : Ctx) (op : Op) (hc : cleanOp op = true) (hwf : wfOp op = true)
    (p : Nat) (hp : p ≤ ctx.len) (st : St) : Step.Seq I (sem ctx op p st) (enum ctx op p) :=
  (sem_ex_op ctx op hc hwf p hp st).weaken

/-- the list is determined by the iterator: `Step.Seq anySt s` holds of at most one list -/
theorem seq_unique {s : Step} {l l' : List Nat} (h : Step.Seq anySt s l) (h' : Step.Seq anySt s l') :
    l = l' :=
  Step.Ex.unique h h'

/-- in particular an iterator of the fragment never diverges -/
theorem sem_noDiv (ctx : Ctx) (op : Op) (hc : cleanOp op = true) (hwf : wfOp op = true)
    (p : Nat) (hp : p ≤ ctx.len) (st : St) : (sem ctx op p st).NoDiv :=
  (sem_ex_op ctx op hc hwf p hp st).noDiv

/-- the first pull of a fresh iterator returns the head of the enumeration -/
theorem first1_enum (ctx : Ctx) (op : Op) (hc : cleanOp op = true) (hwf : wfOp op = true)
    (p : Nat) (hp : p ≤ ctx.len) (st : St) :
    (first1 (sem ctx op p st)).1.map (·.1) = (enum ctx op p).head? :=
  (sem_ex_op ctx op hc hwf p hp st).first1_head

/-! ### c. `match_at` -/

/-- `match_at(i)` succeeds iff some member of the language starts at `i` — from every state -/
theorem matchAt_iff (ctx : Ctx) (op : Op) (hc : cleanOp op = true) (hwf : wfOp op = true)
    (i : Nat) (hi : i ≤ ctx.len) (st : St) :
    (matchAt ctx op i st).1 = true ↔ ∃ j, OpR ctx op i j :=
  (enumerates_clean ctx op hc hwf).matchAt_iff i hi st

/-- when `match_at(i)` succeeds, the end it records for group 0 is the first element of the priority
    order -/
theorem matchAt_end (ctx : Ctx) (op : Op) (hc : cleanOp op = true) (hwf : wfOp op = true)
    (i : Nat) (hi : i ≤ ctx.len) (st : St) (h : (matchAt ctx op i st).1 = true) :
    getParenEnd (matchAt ctx op i st).2 0 = (enum ctx op i).head? :=
  (enumerates_clean ctx op hc hwf).matchAt_end i hi st h

/-- … and `match_at(i)` fails cleanly (no panic marker is added, no divergence) otherwise:
    the answer `false` means the language has no member starting at `i` -/
theorem matchAt_false_iff (ctx : Ctx) (op : Op) (hc : cleanOp op = true) (hwf : wfOp op = true)
    (i : Nat) (hi : i ≤ ctx.len) (st : St) :
    (matchAt ctx op i st).1 = false ↔ ¬ ∃ j, OpR ctx op i j := by
  rw [← matchAt_iff ctx op hc hwf i hi st]
  cases (matchAt ctx op i st).1 <;> simp

/-! ### d. the search with every shortcut off: leftmost start, first end of the priority order -/

/-- the search with every shortcut off succeeds iff the language has a member starting at or after
    `i` (inside the input) -/
theorem matchesNaive_iff (ctx : Ctx) (op : Op) (hc : cleanOp op = true) (hwf : wfOp op = true)
    (hb : ctx.hasBackrefs = false) (i : Nat) (st : St) (hst : st.panic = none) :
    (matchesNaive ctx op i st).1 = true ↔ ∃ a b, i ≤ a ∧ a ≤ ctx.len ∧ OpR ctx op a b := by
  rcases (SearchComplete.matchesNaive_outcome (SearchComplete.completeAt_clean ctx op hc hwf)
    (SearchComplete.quiet_clean ctx hb op hc hwf) i st hst).2 with ⟨ht, a, _, h1, h2, ⟨b, h3⟩, _⟩ | ⟨hf, hno⟩
  · exact ⟨fun _ => ⟨a, b, h1, h2, h3⟩, fun _ => ht⟩
  · exact ⟨fun h => (by rw [hf] at h; cases h), fun ⟨a, b, h1, h2, h3⟩ => absurd ⟨b, h3⟩ (hno a h1 h2)⟩

/-- … and when it succeeds it reports the LEFTMOST start `a ≥ i` from which the language has a
    member, and as end the FIRST element of the priority order from `a` -/
theorem matchesNaive_which (ctx : Ctx) (op : Op) (hc : cleanOp op = true) (hwf : wfOp op = true)
    (hcp : C02.capsPos op = true) (hb : ctx.hasBackrefs = false) (i : Nat) (st st' : St)
    (hst : st.panic = none) (h : matchesNaive ctx op i st = (true, st')) :
    ∃ a, i ≤ a ∧ a ≤ ctx.len ∧ (∀ a', i ≤ a' → a' < a → ¬ ∃ b, OpR ctx op a' b) ∧
      getParenStart st' 0 = some a ∧ getParenEnd st' 0 = (enum ctx op a).head? := by
  have ho := SearchComplete.matchesNaive_outcome (SearchComplete.completeAt_clean ctx op hc hwf)
    (SearchComplete.quiet_clean ctx hb op hc hwf) i st hst
  rw [h] at ho
  obtain ⟨a, n, hs, he, hh, h1, h2, h3, _, hmin⟩ := ho.span_of_ex (enumerates_clean ctx op hc hwf) hwf hcp rfl
  exact ⟨a, h1, by omega, fun a' h4 h5 ⟨b, hb'⟩ => hmin a' b h4 h5 hb', hs, he.trans hh.symm⟩

/-! ### e. non-vacuity -/
section examples

private def env0 : Env :=
  { lower := id, closure := fun _ => [], category := fun _ => none, block := fun _ => none,
    digit := [], word := [], nameStart := [], nameChar := [] }

/-- `(a|ab)(c|bcd)(d*)` -/
private def pat : List Nat := [40, 97, 124, 97, 98, 41, 40, 99, 124, 98, 99, 100, 41, 40, 100, 42, 41]

/-- the model's compiler applied to the pattern text -/
private def compiled : Out Prog := compileCore env0 {} pat true

/-- the tree it builds -/
private def tree : Op :=
  .seq [.capture 1 (.choice [.atom [97], .atom [97, 98]]),
        .capture 2 (.choice [.atom [99], .atom [98, 99, 100]]),
        .capture 3 (.gfixed (.atom [100]) 0 usizeMax 1),
        .endProgram]

private def ctxOf (input : List Nat) : Ctx :=
  { input := input, caseBlind := false, multiLine := false, hasBackrefs := false, maxParens := 4, lower := id }

/-- the compiled program is in the fragment and well-formed -/
example : (match compiled with | .ok pr => cleanOp pr.op && wfOp pr.op | _ => false) = true := by
  decide +kernel
example : cleanOp tree = true ∧ wfOp tree = true ∧ C02.capsPos tree = true := by decide

/-- "abcd": `a`·`bcd`·`` ends at 4; then `ab`·`c`·`d` at 4, `ab`·`c`·`` at 3 — in this order -/
example : enum (ctxOf [97, 98, 99, 100]) tree 0 = [4, 4, 3] := by decide +kernel
example : (match compiled with | .ok pr => enum (pr.ctx id [97, 98, 99, 100]) pr.op 0 | _ => []) = [4, 4, 3] := by
  decide +kernel
/-- "abcdd": the greedy `d*` prefers the longer end -/
example : enum (ctxOf [97, 98, 99, 100, 100]) tree 0 = [5, 4, 5, 4, 3] := by decide +kernel
/-- the reluctant `d*?` prefers the shorter one -/
example : enum (ctxOf [97, 98, 99, 100, 100])
    (.seq [.capture 1 (.choice [.atom [97], .atom [97, 98]]),
           .capture 2 (.choice [.atom [99], .atom [98, 99, 100]]),
           .capture 3 (.rfixed (.atom [100]) 0 usizeMax 1), .endProgram]) 0 = [4, 5, 3, 4, 5] := by
  decide +kernel
/-- the engine on the same input: `match_at(0)` answers `true` and records the first of these -/
example : (matchAt (ctxOf [97, 98, 99, 100, 100]) tree 0 {}).1 = true ∧
    getParenEnd (matchAt (ctxOf [97, 98, 99, 100, 100]) tree 0 {}).2 0 = some 5 := by decide +kernel
/-- no match starts at 1 -/
example : enum (ctxOf [97, 98, 99, 100]) tree 1 = [] ∧ (matchAt (ctxOf [97, 98, 99, 100]) tree 1 {}).1 = false := by
  decide +kernel

/-- multiplicities: the body `(a|a)` has two derivations of its end … -/
example : enum (ctxOf [97, 97]) (.choice [.atom [97], .atom [97]]) 0 = [1, 1] := by decide +kernel
/-- … but the quantifier `(a|a){0,2}` lists each of its ends once (and so does the engine, by
    `sem_seq_enum`) -/
example : enum (ctxOf [97, 97]) (.gfixed (.choice [.atom [97], .atom [97]]) 0 2 1) 0 = [2, 1, 0] := by
  decide +kernel
example : enum (ctxOf [97, 97]) (.rfixed (.choice [.atom [97], .atom [97]]) 0 2 1) 0 = [0, 1, 2] := by
  decide +kernel

end examples

end Rx.Clean
