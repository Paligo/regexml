/-
  Props/WF — the compiler establishes the hypotheses of the engine theorems.

  C01 / C02 / C05 / C06 / C08 assume decidable predicates of the compiled program (`wfOp`,
  `capsPos`, `FactsOK`, "back-reference ⇒ OPT_HASBACKREFS").  Here: every program `compileCore`
  produces satisfies them, provided no recorded body length is saturated (`noSat`: quantifier
  bounds whose products stay below 2^64 — the driver counts the exceptions at run time).
-/
import RxModel.Model.Compile
import RxModel.Spec.OpLang
import RxModel.Props.C05
import RxModel.Proofs.WFLemmas
import RxModel.Proofs.CompileLemmas
namespace Rx.WF
open Rx

/- `noSat` / `noSatL` ("no recorded body length of a fixed-length repeat is saturated") are defined in
   Proofs/WFLemmas (the helper lemmas need them). -/

/-- what the parser builds is well-formed, numbers its groups from 1 upward, and raises the
    back-reference flag whenever it emits a back-reference -/
theorem parse_wf (c : PC) (fuel : Nat) (s : PS) (top : Bool) (op : Op) (s' : PS)
    (h : parseExpr c fuel s top = .ok op s') (hs : 1 ≤ s.parens) (hns : noSat op = true) :
    wfOp op = true ∧ C02.capsPos op = true ∧ (hasBackref op = true → s'.hasBackrefs = true) := by
  have g := parse_G c fuel s top hs op s' h
  exact ⟨g.1 hns, g.2.1, g.2.2⟩

/-- `optimize` keeps trees well-formed … -/
theorem optimize_wf (env : Env) (fl : CFlags) (op : Op) (h : wfOp op = true) : wfOp (optimize env fl op) = true :=
  (wm_optimize env fl op h).1

/-- The unrestricted statement "`optimize` keeps a fixed match length", as a proposition: it is FALSE
    (`optimize_matchLen_false`).  It fails at saturation: `matchLen (.seq [o])` is
    `satAdd (matchLen o) 0`, which is `usizeMax` for an atom of more than `usizeMax` characters,
    and `optimize` rewrites `.seq [o]` to `o`, whose `matchLen` is the unsaturated length.
    True for every length below `usizeMax`: `optimize_matchLen_partial`. -/
def optimize_matchLen : Prop :=
  ∀ (env : Env) (fl : CFlags) (op : Op), wfOp op = true → ∀ (l : Nat),
    matchLen op = some l → matchLen (optimize env fl op) = some l

theorem optimize_matchLen_false : ¬ optimize_matchLen := by
  intro h
  let env : Env :=
    { lower := id, closure := fun _ => [], category := fun _ => none, block := fun _ => none,
      digit := [], word := [], nameStart := [], nameChar := [] }
  obtain ⟨h1, h2, h3⟩ := optimize_matchLen_cex env {}
  have h4 := h env {} _ h1 _ h2
  rw [h3] at h4
  simp only [Option.some.injEq] at h4
  omega

/-- … keeps a fixed match length that is not saturated … -/
theorem optimize_matchLen_partial (env : Env) (fl : CFlags) (op : Op) (h : wfOp op = true) (l : Nat)
    (hlt : l < usizeMax) (hl : matchLen op = some l) : matchLen (optimize env fl op) = some l :=
  (wm_optimize env fl op h).2 l hlt hl

/-- … keeps group numbers positive and introduces no back-reference -/
theorem optimize_caps (env : Env) (fl : CFlags) (op : Op) (h : C02.capsPos op = true) :
    C02.capsPos (optimize env fl op) = true :=
  capsPos_hered.optimize env fl op h

theorem optimize_backref (env : Env) (fl : CFlags) (op : Op) (h : hasBackref (optimize env fl op) = true) :
    hasBackref op = true :=
  introduces_none (noBackref_hered.optimize env fl op) h

/-- numbering the repeat nodes changes none of the predicates -/
theorem numberReps_wf (op : Op) (n : Nat) :
    wfOp (numberReps op n).1 = wfOp op ∧ C02.capsPos (numberReps op n).1 = C02.capsPos op ∧
    hasBackref (numberReps op n).1 = hasBackref op :=
  ⟨wfOp_numberReps op n, capsPos_numberReps op n, hasBackref_numberReps op n⟩

/-- every optimised program the compiler produces satisfies the hypotheses of the engine theorems -/
theorem compile_wf (env : Env) (fl : CFlags) (pat : List Nat) (pr : Prog)
    (h : compileCore env fl pat true = .ok pr)
    (hns : ∀ op s, parseExpr { pat := pat, fl := fl, env := env } (4 * pat.length + 16) {} true = .ok op s →
              noSat (optimize env fl op) = true ∧ noSat op = true) :
    wfOp pr.op = true ∧ C02.capsPos pr.op = true ∧ (hasBackref pr.op = true → pr.hasBackrefs = true) ∧
    (hasBackref pr.op = false → C05.FactsOK pr) := by
  rcases compileCore_ok h with ⟨_, rfl⟩ | ⟨_, op, s, hp, _, rfl⟩
  · rw [if_pos rfl]
    obtain ⟨n1, n2, n3⟩ := numberReps_wf (makeSequence (.atom pat) .endProgram) 0
    rw [MkProgram.op, MkProgram.hasBackrefs, n1, n2, n3]
    have hb : hasBackref (makeSequence (.atom pat) .endProgram) = false := by
      simp [makeSequence, hasBackref, hasBackrefL]
    refine ⟨by simp [makeSequence, wfOp, wfOps], by simp [makeSequence, C02.capsPos, C02.capsPosL],
      ?_, fun _ => C05.mkProgram_factsOK _ _ _ _ hb⟩
    intro hh
    rw [hb] at hh
    cases hh
  · rw [if_pos rfl]
    obtain ⟨_, hns2⟩ := hns op s hp
    obtain ⟨w1, w2, w3⟩ := parse_wf _ _ _ _ _ _ hp (Nat.le_refl 1) hns2
    obtain ⟨n1, n2, n3⟩ := numberReps_wf (optimize env fl op) 0
    rw [MkProgram.op, MkProgram.hasBackrefs, n1, n2, n3]
    exact ⟨optimize_wf env fl op w1, optimize_caps env fl op w2,
      fun hb => w3 (optimize_backref env fl op hb),
      fun hb => mkProgram_factsOK_any _ _ _ _ _ hb⟩

end Rx.WF
