/-
  Props/Clean3 — the GENERAL greedy repeat `.rep id c mn mx true` (variable-length body) enters the
  fragment on which the engine is an exact, priority-ordered enumerator — as far as that is true.

  THE FRAGMENT (`cleanOp3` / `cleanProg3`, Spec/Enum3) = the fragment of Spec/Enum2 plus `.rep id c mn mx true` with
      1 ≤ mn,  body `c` ∈ `cleanOp2` (rep-free),  `nonNull c`,  `detB env cb c`  (end-deterministic:
      alternations with pairwise disjoint first sets, exact inner quantifiers).

  PROVED on it (hypotheses as in Props/Clean2: `wfOp`, `noEmptyAtoms`, `clsCanonB`, `InputOK env ctx`):
    a. `sem_seq_enum3`   the iterator yields EXACTLY `enum3 ctx op p` under every consumer, from EVERY state
                         (with `mn ≥ 1` the zero-length-match memo is neither read nor written);
                         for the repeat: the ends for the iteration counts from the maximal one down to `mn`
                         — strictly decreasing, so the force-progress cut (K9) never fires, and the DFS
                         never leaves its primed path, so the `len < bound` re-extension limit (K4) is
                         never consulted
    b. `enumerates3`     the same with what the listed ends are (`Enumerates`, Proofs/Enumerates): `.sound` listed
                         ends are in the language, `.compl` existence form of completeness on whole programs
                         `cleanProg3` (closing `x{m,n} · EndProgram`)
    c. `enum3_iff_OpR`   FULL equivalence on the compositional fragment `cleanOp3` (the repeat lists the
                         ends of ALL its iteration counts, so it composes like `gfixed`)
    d. `completeAt_clean3` (`CompleteAt`, from every state), `matchAt_iff3`, `matchAt_end3`, `first1_enum3`
    e. `sem_noDiv3`      (no back-reference, loops covered by the fuel: the records `clean3_noBackref`,
                         `clean3_smallMin` of Proofs/EnumFragments)

  `min = 0` (`(?:ab|c)*`, `{0,n}`) — what is TRUE and what is not (section "min = 0"):
    * node level, exact and state-DEPENDENT: with no memo entry `(id, p)` the iterator yields the full
      list `greedyIter e 0 mx 0 p` (every count, longest first, then `p`) and then, the zero-iteration entry
      being re-extended, everything up to `bound - 1` iterations a SECOND time (`rep0_fresh`); with the
      entry it yields the list WITHOUT its last element `p` (`rep0_hit`): zero iterations are lost.
      With a deterministic body the first pass is already complete: K4 (re-extension one short) is
      harmless — it only shortens the duplicate.
    * a root sequence that STARTS with such a repeat: exact list and complete `match_at` from every state
      without the entry (`rep0_first`, `matchAt_iff3_fresh`).
    * `CompleteAt` — the hypothesis of Props/SearchComplete, quantified over ALL clean states — is FALSE
      for every such program (`completeAt_min0_false`, kernel-checked on the compiler's output for
      `(?:ab|c)*d`): the memo persists across `match_at` attempts (Model/Search never clears `hist`).
      `is_match` is nevertheless right for deterministic bodies: an entry `(id, p)` is only ever present
      when the zero-iteration alternative at `p` has been explored and has failed — an invariant on the
      memo threaded through the whole search loop, proved in Props/Clean3Memo (`Memo.HR`,
      `clean3m_isMatch_iff`) for a skippable repeat that is an element of the root sequence.

  NEGATIVE EXAMPLES delimiting the fragment (section at the end; witnesses of Props/Findings):
    determinism dropped → K9 (`(?:a+b?|a+b?){3}a`) ; nesting → K3 ; `min = 0` + ambiguous body → K4.
    `nonNull` and `detB` with `mn ≥ 1` are what the PROOF needs (progress; the DFS staying on its primed
    path), not a boundary of the engine's correctness: no losing witness is known for a nullable body or
    for an ambiguous body of different branch lengths with `mn ≥ 1` (`^(?:a|ab)+c`, `^(?:a|ab|b){1,3}$`,
    `^(?:a|aa)+b` agree with the reference on all inputs up to length 5–9).
-/
import RxModel.Props.Findings
import RxModel.Spec.MemoPreds
import RxModel.Proofs.Enum4Lemmas
import RxModel.Proofs.SearchLemmas
namespace Rx.Clean3
open Rx Rx.SearchComplete
open Rx.C08 (noEmptyAtoms noEmptyAtomsL clsCanon clsCanonL)

/-! ### a, b. the iterator yields exactly `enum3`; the record `enumerates3` -/

/-- the iterator, the language and the enumeration: everything below reads this record -/
theorem enumerates3 (env : Env) (ctx : Ctx) (hI : InputOK env ctx) (op : Op)
    (hc : cleanProg3 env ctx.caseBlind ctx.multiLine op = true) (hwf : wfOp op = true)
    (hne : noEmptyAtoms op = true) (hcan : clsCanonB op = true) : Enumerates ctx op (enum3 ctx op) :=
  enumerates_clean3 env ctx hI op hc hwf hne (clsCanon_of_B op hcan)

theorem sem_seq_enum3 (env : Env) (ctx : Ctx) (hI : InputOK env ctx) (op : Op)
    (hc : cleanProg3 env ctx.caseBlind ctx.multiLine op = true) (hwf : wfOp op = true)
    (hne : noEmptyAtoms op = true) (hcan : clsCanonB op = true) (p : Nat) (hp : p ≤ ctx.len) (st : St)
    (_ : anySt st) : Step.Seq anySt (sem ctx op p st) (enum3 ctx op p) :=
  (enumerates3 env ctx hI op hc hwf hne hcan).ex p hp st

theorem sem_seq_enum3_of (I : St → Prop) (env : Env) (ctx : Ctx) (hI : InputOK env ctx) (op : Op)
    (hc : cleanProg3 env ctx.caseBlind ctx.multiLine op = true) (hwf : wfOp op = true)
    (hne : noEmptyAtoms op = true) (hcan : clsCanonB op = true) (p : Nat) (hp : p ≤ ctx.len) (st : St) :
    Step.Seq I (sem ctx op p st) (enum3 ctx op p) :=
  ((enumerates3 env ctx hI op hc hwf hne hcan).ex p hp st).weaken

/-- the fragments of Spec/Enum2 are inside -/
theorem cleanOp3_of_cleanOp2 (env : Env) (cb ml : Bool) (op : Op) (h : cleanOp2 env cb ml op = true) :
    cleanOp3 env cb ml op = true :=
  (clean3_of_clean2 env cb ml).op h

theorem cleanProg3_of_cleanProg2 (env : Env) (cb ml : Bool) (op : Op) (h : cleanProg2 env cb ml op = true) :
    cleanProg3 env cb ml op = true :=
  cleanProg3_iff.2 ((clean3_of_clean2 env cb ml).prog (cleanProg2_iff.1 h))

/-! ### c. completeness -/

/-- the compositional fragment: `enum3` lists exactly the language -/
theorem enum3_iff_OpR (env : Env) (ctx : Ctx) (hI : InputOK env ctx) (op : Op)
    (hc : cleanOp3 env ctx.caseBlind ctx.multiLine op = true) (hwf : wfOp op = true)
    (hne : noEmptyAtoms op = true) (hcan : clsCanonB op = true) (p q : Nat) (hp : p ≤ ctx.len) :
    q ∈ enum3 ctx op p ↔ OpR ctx op p q :=
  ⟨fun h => enum3_sound_op env ctx hI op false [] hc hwf hne (clsCanon_of_B op hcan) hp h,
   fun h => comp3_op env ctx hI op hc hwf hne (clsCanon_of_B op hcan) p q hp h⟩

/-! ### d. `CompleteAt`, `match_at` -/

theorem first1_enum3 (env : Env) (ctx : Ctx) (hI : InputOK env ctx) (op : Op)
    (hc : cleanProg3 env ctx.caseBlind ctx.multiLine op = true) (hwf : wfOp op = true)
    (hne : noEmptyAtoms op = true) (hcan : clsCanonB op = true) (p : Nat) (hp : p ≤ ctx.len) (st : St) :
    (first1 (sem ctx op p st)).1.map (·.1) = (enum3 ctx op p).head? :=
  ((enumerates3 env ctx hI op hc hwf hne hcan).ex p hp st).first1_head

/-- the engine test is complete on the fragment, from EVERY state -/
theorem completeAt_clean3 (env : Env) (ctx : Ctx) (hI : InputOK env ctx) (op : Op)
    (hc : cleanProg3 env ctx.caseBlind ctx.multiLine op = true) (hwf : wfOp op = true)
    (hne : noEmptyAtoms op = true) (hcan : clsCanonB op = true) : CompleteAt ctx op :=
  fun j st hj _ => (enumerates3 env ctx hI op hc hwf hne hcan).first1_iff j hj st

theorem matchAt_iff3 (env : Env) (ctx : Ctx) (hI : InputOK env ctx) (op : Op)
    (hc : cleanProg3 env ctx.caseBlind ctx.multiLine op = true) (hwf : wfOp op = true)
    (hne : noEmptyAtoms op = true) (hcan : clsCanonB op = true) (i : Nat) (hi : i ≤ ctx.len) (st : St) :
    (matchAt ctx op i st).1 = true ↔ ∃ j, OpR ctx op i j :=
  (enumerates3 env ctx hI op hc hwf hne hcan).matchAt_iff i hi st

/-- on success the end recorded for group 0 is the head of `enum3` -/
theorem matchAt_end3 (env : Env) (ctx : Ctx) (hI : InputOK env ctx) (op : Op)
    (hc : cleanProg3 env ctx.caseBlind ctx.multiLine op = true) (hwf : wfOp op = true)
    (hne : noEmptyAtoms op = true) (hcan : clsCanonB op = true) (i : Nat) (hi : i ≤ ctx.len) (st : St)
    (h : (matchAt ctx op i st).1 = true) :
    getParenEnd (matchAt ctx op i st).2 0 = (enum3 ctx op i).head? :=
  (enumerates3 env ctx hI op hc hwf hne hcan).matchAt_end i hi st h

/-! ### e. no divergence -/

theorem sem_noDiv3 (env : Env) (ctx : Ctx) (hI : InputOK env ctx) (op : Op)
    (hc : cleanProg3 env ctx.caseBlind ctx.multiLine op = true) (hwf : wfOp op = true)
    (hne : noEmptyAtoms op = true) (hcan : clsCanonB op = true) (p : Nat) (hp : p ≤ ctx.len) (st : St) :
    (sem ctx op p st).NoDiv :=
  ((enumerates3 env ctx hI op hc hwf hne hcan).ex p hp st).noDiv

/-! ### case-sensitive matching -/

theorem completeAt_clean3_cs (env : Env) (ctx : Ctx) (hcb : ctx.caseBlind = false)
    (hce : ∀ a x, x ∈ env.closure a → x < cpLimit)
    (hin : ∀ c ∈ ctx.input, c < cpLimit) (hsc : ∀ c ∈ ctx.input, isSurrogate c = false) (op : Op)
    (hc : cleanProg3 env false ctx.multiLine op = true) (hwf : wfOp op = true)
    (hne : noEmptyAtoms op = true) (hcan : clsCanonB op = true) : CompleteAt ctx op :=
  completeAt_clean3 env ctx (.of_caseSensitive hcb hce hin hsc) op (by rw [hcb]; exact hc) hwf hne hcan

/-! ## `min = 0` -/

theorem Rep0OK.bodyOK {env : Env} {ctx : Ctx} {c : Op} {mx : Nat} (h : Rep0OK env ctx c mx) : BodyOK env ctx c :=
  ⟨h.clean, h.nn, h.det, h.wf, h.ne, h.can⟩

theorem Rep0OK.wfRep {env : Env} {ctx : Ctx} {c : Op} {mx : Nat} (h : Rep0OK env ctx c mx) (id : Nat) :
    wfOp (.rep id c 0 mx true) = true := by
  simp only [wfOp, h.wf, Bool.true_and, Bool.and_eq_true, decide_eq_true_eq]
  exact ⟨Nat.zero_le _, h.mx0⟩

theorem Rep0OK.body {env : Env} {ctx : Ctx} {c : Op} {mx : Nat} (hI : InputOK env ctx) (h : Rep0OK env ctx c mx) :
    DetBody (sem ctx c) (enum3 ctx c) ctx.len := by
  rw [← enum4_eq_enum3 ctx c h.bodyOK.shape]
  exact h.bodyOK.detBody hI

/-- no memo entry: every iteration count longest-first, then the start itself — and then once more,
    up to one iteration below the bound (the re-extended zero-iteration entry) -/
theorem rep0_fresh (env : Env) (ctx : Ctx) (hI : InputOK env ctx) (id : Nat) (c : Op) (mx : Nat)
    (h : Rep0OK env ctx c mx) (p : Nat) (hp : p ≤ ctx.len) (st : St) (hm : memPair st.hist id p = false) :
    Step.Seq anySt (sem ctx (.rep id c 0 mx true) p st)
      (greedyIter (enum3 ctx c) 0 (Nat.min mx (ctx.len + 1 - p)) 0 p ++
       greedyIter (enum3 ctx c) 0 (Nat.min mx (ctx.len + 1 - p) - 1) 0 p) := by
  simp only [sem, if_true]
  exact repGreedy0_fresh_ex ctx (h.body hI) id mx p hp st hm

/-- the first pass is `enum3` of the repeat: all of the language, in priority order -/
theorem rep0_first_pass (env : Env) (ctx : Ctx) (hI : InputOK env ctx) (id : Nat) (c : Op) (mx : Nat)
    (h : Rep0OK env ctx c mx) (p : Nat) (hp : p ≤ ctx.len) :
    greedyIter (enum3 ctx c) 0 (Nat.min mx (ctx.len + 1 - p)) 0 p = enum3 ctx (.rep id c 0 mx true) p := by
  simp only [enum3]
  by_cases hle : mx ≤ ctx.len + 1 - p
  · rw [show Nat.min mx (ctx.len + 1 - p) = mx from Nat.min_eq_left hle]
  · rw [show Nat.min mx (ctx.len + 1 - p) = ctx.len + 1 - p from Nat.min_eq_right (by omega)]
    exact greedyIter_budget2 (h.body hI).prog 0 p hp 0 _ _ (by omega) (by omega)

/-- … and it is complete for the language of the repeat -/
theorem rep0_complete (env : Env) (ctx : Ctx) (hI : InputOK env ctx) (id : Nat) (c : Op) (mx : Nat)
    (h : Rep0OK env ctx c mx) (p q : Nat) (hp : p ≤ ctx.len) (hq : OpR ctx (.rep id c 0 mx true) p q) :
    q ∈ enum3 ctx (.rep id c 0 mx true) p := by
  simp only [OpR] at hq
  obtain ⟨k, _, hk2, hi⟩ := hq
  simp only [enum3]
  have hd : HeadDet (fun a b => OpR ctx c a b) (enum3 ctx c) ctx.len := by
    rw [← enum4_eq_enum3 ctx c h.bodyOK.shape]
    exact h.bodyOK.headDet hI
  exact greedyIter_complete hd 0 mx 0 p k q hp hi hk2 (Nat.zero_le _)

/-- the memo has the entry: one or more iterations only — the start itself is NOT yielded -/
theorem rep0_hit (env : Env) (ctx : Ctx) (hI : InputOK env ctx) (id : Nat) (c : Op) (mx : Nat)
    (h : Rep0OK env ctx c mx) (p : Nat) (hp : p ≤ ctx.len) (st : St) (hm : memPair st.hist id p = true) :
    Step.Seq anySt (sem ctx (.rep id c 0 mx true) p st)
      ((enum3 ctx c p).flatMap (fun q => greedyIter (enum3 ctx c) 0 (Nat.min mx (ctx.len + 1 - p) - 1) 0 q)) := by
  simp only [sem, if_true]
  exact repGreedy0_hit_ex ctx (h.body hI) id mx h.mx0 p hp st hm

/-- every end it then yields is strictly to the right of the start -/
theorem rep0_hit_misses_start (env : Env) (ctx : Ctx) (hI : InputOK env ctx) (c : Op) (mx : Nat)
    (h : Rep0OK env ctx c mx) (p : Nat) (hp : p ≤ ctx.len) :
    p ∉ (enum3 ctx c p).flatMap (fun q => greedyIter (enum3 ctx c) 0 (Nat.min mx (ctx.len + 1 - p) - 1) 0 q) := by
  intro hmem
  obtain ⟨q, hq, hx⟩ := List.mem_flatMap.1 hmem
  obtain ⟨h1, h2⟩ := (h.body hI).prog p hp q hq
  have := (greedyIter_nodup (h.body hI).prog 0 (Nat.min mx (ctx.len + 1 - p) - 1) 0 q h2).1 p hx
  omega

theorem matchStart_hist (ctx : Ctx) (j : Nat) (st : St) : (matchStart ctx j st).hist = st.hist := by
  unfold matchStart
  simp only
  split <;> rfl

/-- a root sequence that STARTS with a skippable repeat: the exact list, from a state without the entry -/
theorem rep0_first (env : Env) (ctx : Ctx) (hI : InputOK env ctx) (id : Nat) (c : Op) (mx : Nat)
    (o2 : Op) (os : List Op) (h : Rep0OK env ctx c mx)
    (hcr : cleanSeq3 env ctx.caseBlind ctx.multiLine true (o2 :: os) = true) (hwr : wfOps (o2 :: os) = true)
    (hnr : noEmptyAtomsL (o2 :: os) = true) (hcanr : clsCanonBL (o2 :: os) = true)
    (p : Nat) (hp : p ≤ ctx.len) (st : St) (hm : memPair st.hist id p = false) :
    Step.Seq anySt (sem ctx (.seq (.rep id c 0 mx true :: o2 :: os)) p st)
      ((greedyIter (enum3 ctx c) 0 (Nat.min mx (ctx.len + 1 - p)) 0 p ++
        greedyIter (enum3 ctx c) 0 (Nat.min mx (ctx.len + 1 - p) - 1) 0 p).flatMap (enumSeq3 ctx (o2 :: os))) := by
  have hccr := clsCanonL_of_B _ hcanr
  have h1 : Step.Ex (sem ctx (.rep id c 0 mx true) p st) _ := rep0_fresh env ctx hI id c mx h p hp st hm
  have hwrep := h.wfRep id
  have hb := ex_sound ctx _ hwrep hp h1
  show Step.Ex (seqGen _ (sem ctx (.rep id c 0 mx true) :: sem ctx o2 :: semL ctx os) p st) _
  unfold seqGen
  refine Step.Ex.onNil ?_
  unfold seqGo
  refine (h1.mapSt).bind (fun n hn st' => ?_)
  exact sem_ex3_seq env ctx hI (o2 :: os) true (List.cons_ne_nil _ _) hcr hwr hnr hccr n (hb n hn).2 st'

/-- … hence `match_at` is a correct and complete test from every state without the entry -/
theorem matchAt_iff3_fresh (env : Env) (ctx : Ctx) (hI : InputOK env ctx) (id : Nat) (c : Op) (mx : Nat)
    (o2 : Op) (os : List Op) (h : Rep0OK env ctx c mx)
    (hcr : cleanSeq3 env ctx.caseBlind ctx.multiLine true (o2 :: os) = true) (hwr : wfOps (o2 :: os) = true)
    (hnr : noEmptyAtomsL (o2 :: os) = true) (hcanr : clsCanonBL (o2 :: os) = true)
    (i : Nat) (hi : i ≤ ctx.len) (st : St) (hm : memPair st.hist id i = false) :
    (matchAt ctx (.seq (.rep id c 0 mx true :: o2 :: os)) i st).1 = true ↔
      ∃ j, OpR ctx (.seq (.rep id c 0 mx true :: o2 :: os)) i j := by
  have hex := rep0_first env ctx hI id c mx o2 os h hcr hwr hnr hcanr i hi (matchStart ctx i st)
    (by rw [matchStart_hist]; exact hm)
  have hwf : wfOp (.seq (.rep id c 0 mx true :: o2 :: os)) = true := by
    simp only [wfOp, wfOps, List.isEmpty_cons, Bool.not_false, Bool.true_and, Bool.and_eq_true]
    simp only [wfOps, Bool.and_eq_true] at hwr
    exact ⟨by simpa only [wfOp, Bool.and_eq_true] using h.wfRep id, hwr⟩
  refine (Clean.matchAt_of_ex ctx _ i _ st hex).1.trans ⟨fun hne => ?_, ?_⟩
  · obtain ⟨n, t, hl⟩ := List.exists_cons_of_ne_nil hne
    exact ⟨n, (ex_sound ctx _ hwf hi hex n (by rw [hl]; exact List.mem_cons_self)).1⟩
  · rintro ⟨j, hj⟩ hnil
    simp only [OpR, OpRSeq] at hj
    obtain ⟨m, hrep, m2, ho2, hrest⟩ := hj
    -- the first pass of the repeat lists `m`, and the rest has a member from there
    have hmem := rep0_complete env ctx hI id c mx h i m hi (by simpa only [OpR] using hrep)
    rw [← rep0_first_pass env ctx hI id c mx h i hi] at hmem
    have hmL := (OpR_bounds_op ctx _ i m hi (show OpR ctx (.rep id c 0 mx true) i m by simpa only [OpR] using hrep)).2
    exact exist3_seq env ctx hI (o2 :: os) hcr hwr hnr (clsCanonL_of_B _ hcanr) m j hmL
      (by simp only [OpRSeq]; exact ⟨m2, ho2, hrest⟩)
      (List.flatMap_eq_nil_iff.1 hnil m (List.mem_append_left _ hmem))

/-! ### `CompleteAt` is false for programs with a skippable general repeat -/
section min0_counterexample

private def env0 : Env :=
  { lower := id, closure := fun _ => [], category := fun _ => none, block := fun _ => none,
    digit := [], word := [], nameStart := [], nameChar := [] }

/-- the tree the model's compiler builds for `(?:ab|c)*d` -/
def starTree : Op :=
  .seq [.rep 1 (.choice [.atom [97, 98], .atom [99]]) 0 usizeMax true, .atom [100], .endProgram]

/-- `(?:ab|c)*d` = [40,63,58,97,98,124,99,41,42,100] -/
theorem starTree_compiled :
    (match compileCore env0 {} [40, 63, 58, 97, 98, 124, 99, 41, 42, 100] true with
     | .ok pr => wfOp pr.op && noEmptyAtoms pr.op && clsCanonB pr.op && !cleanProg3 env0 false false pr.op &&
         (enum3 (pr.ctx id [97, 98, 99, 100]) pr.op 0 == enum3 (pr.ctx id [97, 98, 99, 100]) starTree 0)
     | _ => false) = true := by decide +kernel

def starCtx : Ctx := { input := [100], caseBlind := false, multiLine := false, hasBackrefs := false, maxParens := 1, lower := id }

/-- on "d" the language has the member 0 → 1 (zero iterations, then `d`) … -/
theorem star_member : OpR starCtx starTree 0 1 := by
  simp only [starTree, OpR, OpRSeq]
  refine ⟨0, ⟨0, Nat.le_refl _, Nat.zero_le _, .zero 0⟩, 1, ?_, 1, rfl, rfl⟩
  decide

/-- … which the engine finds from a fresh state and does NOT find from a (panic-free) state whose memo
    has the entry (1, 0) — the state a previous `match_at(0)` attempt leaves behind -/
theorem star_engine :
    (first1 (sem starCtx starTree 0 {})).1.isSome = true ∧
    (first1 (sem starCtx starTree 0 { hist := [(1, 0)] })).1.isSome = false := by decide +kernel

/-- hence the hypothesis `CompleteAt` of Props/SearchComplete (all clean states) fails -/
theorem completeAt_min0_false : ¬ CompleteAt starCtx starTree := by
  intro h
  have := (h 0 { hist := [(1, 0)] } (by decide) rfl).2 ⟨1, star_member⟩
  rw [star_engine.2] at this
  cases this

/-- while `is_match` of the compiled program is right on this input (and on every input tried) -/
theorem star_isMatch :
    (match compileCore env0 {} [40, 63, 58, 97, 98, 124, 99, 41, 42, 100] true with
     | .ok pr => (pr.isMatch id [100] == .ok true) && (pr.isMatch id [97, 98, 99, 100] == .ok true) &&
         (pr.isMatch id [120, 97, 98, 99, 99, 100] == .ok true) && (pr.isMatch id [97, 98, 99] == .ok false)
     | _ => false) = true := by decide +kernel

end min0_counterexample

/-! ## negative examples: what each condition on the repeat excludes -/
section negative

/-- K9 (Props/Findings): `(?:a+b?|a+b?){3}a` — `mn = 3 ≥ 1`, body rep-free and not nullable, but NOT
    end-deterministic (two identical branches; inexact inner quantifiers).  The engine loses the match on
    "aaaaba" (`Findings.K9_isMatch`, `K9'_isMatch`, `K9_same_language`): the force-progress cut. -/
theorem k9_outside : cleanProg3 env0 false false Findings.progK9.op = false ∧
    (match Findings.progK9.op with
     | .seq (.rep _ c mn _ g :: _) => g && decide (1 ≤ mn) && cleanOp2 env0 false false c && nonNull c && !detB env0 false c
     | _ => false) = true := by decide +kernel

/-- K3 (Props/Findings): `^(?:(?:xx|x)(?:ab|c)*){2}$` — a general repeat nested in the body of another:
    the body is not in `cleanOp2`.  The engine loses the match on "xx" (`Findings.K3_isMatch`, `K3_member`):
    the memo suppresses the inner zero-iteration alternative in the second outer iteration. -/
theorem k3_outside : cleanProg3 env0 false false Findings.progK3.op = false ∧
    (match Findings.progK3.op with
     | .seq [_, .rep _ c _ _ _, _, _] => !cleanOp2 env0 false false c
     | _ => false) = true := by decide +kernel

/-- K4 (Props/Findings): `^(?:a|ab|b){0,2}$` — `min = 0` and an ambiguous body: the re-extension of the
    zero-iteration entry stops one iteration short and the engine loses the match on "abb"
    (`Findings.K4_isMatch`, `K4_member`).  With a DETERMINISTIC body the first pass already reaches the
    bound (`rep0_fresh`, `rep0_complete`), so the shortened second pass loses nothing. -/
theorem k4_outside : cleanProg3 env0 false false Findings.progK4.op = false ∧
    (match Findings.progK4.op with
     | .seq [_, .rep _ c mn _ _, _, _] => (mn == 0) && !detB env0 false c
     | _ => false) = true := by decide +kernel

end negative

/-! ## non-vacuity -/
section examples

/-- `x(?:a|bc)+y` and `(?:ab|c){2,3}d` as the model's compiler builds them are programs of the fragment
    (outside the fragments of Props/Clean and Props/Clean2) -/
theorem ex_compiled :
    (match compileCore env0 {} [120, 40, 63, 58, 97, 124, 98, 99, 41, 43, 121] true with
     | .ok pr => cleanProg3 env0 false false pr.op && wfOp pr.op && noEmptyAtoms pr.op && clsCanonB pr.op &&
         !cleanProg2 env0 false false pr.op
     | _ => false) = true ∧
    (match compileCore env0 {} [40, 63, 58, 97, 98, 124, 99, 41, 123, 50, 44, 51, 125, 100] true with
     | .ok pr => cleanProg3 env0 false false pr.op && wfOp pr.op && noEmptyAtoms pr.op && clsCanonB pr.op &&
         !cleanProg2 env0 false false pr.op
     | _ => false) = true := by decide +kernel

/-- `x(?:a|bc)+y` -/
def exTree : Op :=
  .seq [.atom [120], .rep 1 (.choice [.atom [97], .atom [98, 99]]) 1 usizeMax true, .atom [121], .endProgram]

private def ctxOf (input : List Nat) : Ctx :=
  { input := input, caseBlind := false, multiLine := false, hasBackrefs := false, maxParens := 1, lower := id }

/-- on "zxabcay": from 1 the only end is 7 (`x`·`a`·`bc`·`a`·`y`); the repeat alone, from 2, lists the ends
    for 3, 2, 1 iterations: 6, 5, 3 -/
example : enum3 (ctxOf [122, 120, 97, 98, 99, 97, 121]) exTree 1 = [7] ∧
    enum3 (ctxOf [122, 120, 97, 98, 99, 97, 121]) (.rep 1 (.choice [.atom [97], .atom [98, 99]]) 1 usizeMax true) 2
      = [6, 5, 3] ∧
    (matchAt (ctxOf [122, 120, 97, 98, 99, 97, 121]) exTree 1 {}).1 = true ∧
    getParenEnd (matchAt (ctxOf [122, 120, 97, 98, 99, 97, 121]) exTree 1 {}).2 0 = some 7 := by decide +kernel

/-- `(?:ab|c)*` (min = 0) from a fresh state on "abcd": the first end is 3 (`ab`·`c`) -/
example : (match sem (ctxOf [97, 98, 99, 100]) (.rep 1 (.choice [.atom [97, 98], .atom [99]]) 0 usizeMax true) 0 {} with
    | .cons n _ _ => n | _ => 0) = 3 := by decide +kernel

end examples

end Rx.Clean3
