/-
  Props/CaseTables — the generated ICU case data: `Gen.lowerTable` (simple lower-casing, 1433 rows)
  and `Gen.closureTable` (case closure, 2884 rows), behind `Env.std.lower` and `Env.std.closure`.

  Each fact is a Boolean test over the whole table run by the kernel and lifted by its lemma of
  Proofs/ClosureStdLemmas.  A generated table is a left-nested `t₀ ++ t₁ ++ … ++ tₙ` of chunks,
  through which every row would pass up to `n` appends each time it is reached; so each test is
  run on the table re-bracketed to `t₀ ++ (t₁ ++ (… ++ tₙ))` (`List.append_assoc`).
-/
import RxModel.Proofs.ClosureStdLemmas
namespace Rx.EnvStd
open Rx Rx.EnvStdL

/-- row by row: the keys of the case-closure table are strictly increasing, none is a surrogate, and
    every member of every closure is a code point -/
theorem closureTable_rows : rowsB 0 Gen.closureTable = true := by
  simp only [Gen.closureTable, List.append_assoc]
  decide +kernel

theorem closureTable_keysInc : keysInc Gen.closureTable = true := (rowsB_spec _ 0 closureTable_rows).1

/-- the symmetry-and-transitivity check of the case-closure table -/
theorem closureTable_equiv : equivCheck Gen.closureTable = true := by
  simp only [Gen.closureTable, List.append_assoc]
  decide +kernel

/-- off U+0130, the lower-case value of every key is in the key's closure -/
theorem lowerTable_in_closure :
    valueInClosureB (fun c => c != 304) Gen.lowerTable Gen.closureTable = true := by
  simp only [Gen.lowerTable, Gen.closureTable, List.append_assoc]
  decide +kernel

/-- no lower-case value is itself a key of the lower-casing table -/
theorem lowerTable_idem : mask (Gen.lowerTable.map (·.1)) &&& mask (Gen.lowerTable.map (·.2)) = 0 := by
  simp only [Gen.lowerTable, List.append_assoc]
  decide +kernel

theorem stdClosure_eq : Env.std.closure = closureOfT Gen.closureTable := rfl

/-- the keys of the lower-casing table are strictly increasing -/
theorem lowerTable_keysInc : keysInc Gen.lowerTable = true := by
  simp only [Gen.lowerTable, List.append_assoc]
  decide +kernel

/-! The keys increase, so a look-up may stop at the first key that is not smaller.  An evaluation
    that looks up a character WITHOUT an entry (`i`, U+0130 …) behind `Env.std` rewrites with these
    two before it unfolds the tables, and is spared the whole table. -/

theorem stdClosure_seek (c : Nat) :
    (lookupN Gen.closureTable c).getD [] = (headVal c (seek c Gen.closureTable)).getD [] := by
  rw [lookupN_eq_seek _ 0 closureTable_keysInc]

theorem stdLower_seek (c : Nat) :
    (lookupN Gen.lowerTable c).getD c = (headVal c (seek c Gen.lowerTable)).getD c := by
  rw [lookupN_eq_seek _ 0 lowerTable_keysInc]

/-- `hce`: the members of every case closure are code points -/
theorem closure_bound_std : ∀ a x, x ∈ Env.std.closure a → x < cpLimit :=
  closureBound_of_rows _ closureTable_rows

/-- `hidem`: simple lower-casing is idempotent -/
theorem lower_idem_std : ∀ x, Env.std.lower (Env.std.lower x) = Env.std.lower x :=
  tableLower_idem _ lowerTable_idem

end Rx.EnvStd

/-! ### a direct test of the two tables, which fails

  It asks of every entry `(k, v)` of the lower-casing table what `CaseOKOn` needs of `k` and `v`,
  from the closures of `k` and `v` alone, without using that the closure is an equivalence.  On the
  full alphabet it fails — at U+0130, whose lower case `i` has the closure `{I}`
  (`EnvStd.caseOK_std_false`); off U+0130 `EnvStd.caseOK_std_on` holds by the route above. -/

namespace Rx.EnvStdL

/-- the test on one entry `(k, v)` of the lower-casing table, given the closures of `k` and of `v`:
    `k` is in the closure of `v`, `v` in that of `k`, and whatever else is in the closure of `v` is
    in the closure of `k` — for the characters of the alphabet `A` -/
def caseEntryB (A : Nat → Bool) (k v : Nat) (ck cv : List Nat) : Bool :=
  !A k || (cv.contains k && (!A v || ck.contains v) && cv.all (fun y => y == k || !A y || ck.contains y))

/-- every entry of the lower-casing table passes the test; the two closures of each entry come from
    two merges (by `lookupAll_eq` they are `closureOfT C e.1` and `closureOfT C e.2` when the keys of
    `C` increase) -/
def caseOnFastB (A : Nat → Bool) (M : List (Nat × Nat)) (C : List (Nat × List Nat)) : Bool :=
  (lookupAll (fun r => r.1.2) C (lookupAll (fun e => e.1) C M)).all
    (fun r => caseEntryB A r.1.1.1 r.1.1.2 (r.1.2.getD []) (r.2.getD []))

end Rx.EnvStdL

namespace Rx.EnvStd
open Rx Rx.EnvStdL

theorem caseTables_not_ok_all : caseOnFastB (fun _ => true) Gen.lowerTable Gen.closureTable = false := by
  simp only [Gen.lowerTable, Gen.closureTable, List.append_assoc]
  decide +kernel

end Rx.EnvStd

namespace Rx.C11d
open Rx Rx.EnvStd Rx.EnvStdL

/-- the case closure of the real tables is symmetric -/
theorem closure_sym_std : ∀ x y, y ∈ Env.std.closure x → x ∈ Env.std.closure y :=
  fun x y hy => (equiv_entry _ closureTable_keysInc closureTable_equiv x y hy).1

/-- the case closure of the real tables is transitive (up to the character itself, which a closure
    need not list) -/
theorem closure_trans_std :
    ∀ x y z, y ∈ Env.std.closure x → z ∈ Env.std.closure y → z = x ∨ z ∈ Env.std.closure x :=
  fun x y _ hy => (equiv_entry _ closureTable_keysInc closureTable_equiv x y hy).2 _

end Rx.C11d
