/-
  Props/C04 — replace_all, tokenize and analyze partition the input consistently.

  The three scan loops of Model/Scan are *the* definitions the driver executes (instantiated with
  the concrete matcher in Model/Api).  Every theorem here holds for an arbitrary matcher `M` and an
  invariant `Inv` of its state such that, while the matcher does not fail, a successful
  `find st pos` reports a span `(a, b)` with `pos ≤ a < b ≤ len` and keeps `Inv` (`GoodFind`,
  Props/C04Defs, with `spansOf`, `spanPairs`, `entryD`, `Ordered`).  For the concrete matcher this
  hypothesis is proved for the non-nullable regexes of the clean fragments only:
  `CleanComplete.clean_goodFind`, `Clean4Api.clean4_goodFind` / `api_clean4_goodFind` with their
  instances `Clean3Api.clean3_goodFind` and `Clean2Api.clean2_goodFind`, `ApiComplete.api_goodFind`.
  Outside the fragments it is false: the accepted regex `(?:a|^){2,}` reports a zero-length match
  (finding K1).

  "All three APIs are driven by one and the same sequence of match spans": each loop is shown
  equal to a specification function (Spec/Pieces) of the *same* list `spansOf M len fuel 0 st₀`.
-/
import RxModel.Spec.Pieces
import RxModel.Props.C04Defs
import RxModel.Proofs.ScanRun
namespace Rx.C04
open Rx Rx.Spec
variable {σ : Type}

/-! ### the span sequence is strictly left to right, non-empty, inside the input -/

theorem spans_ordered (M : MatcherI σ) (len : Nat) (Inv : σ → Prop) (hM : GoodFind M len Inv)
    (hfail : ∀ st pos, M.failed (M.find st pos).2 = none)
    (fuel pos : Nat) (st : σ) (h0 : Inv st) (hp : pos ≤ len) :
    Ordered len pos (spanPairs (spansOf M len fuel pos st)) :=
  (hM.findAt.spansAt (fun c ⟨pos', st', _, _, h⟩ => by rw [hfail] at h; cases h) fuel pos st hp h0).1

theorem spans_count (M : MatcherI σ) (len : Nat) (Inv : σ → Prop) (hM : GoodFind M len Inv)
    (hfail : ∀ st pos, M.failed (M.find st pos).2 = none)
    (fuel pos : Nat) (st : σ) (h0 : Inv st) (hp : pos ≤ len) :
    (spansOf M len fuel pos st).length ≤ len - pos := by
  have := ordered_length len _ pos hp (spans_ordered M len Inv hM hfail fuel pos st h0 hp)
  rwa [spanPairs_length] at this

/-! ### replace -/

/-- `replace` is the input with every span of the common span sequence replaced by the text the
    substitution yields in the state of that match -/
theorem replace_spec (M : MatcherI σ) (Inv : σ → Prop) (input : List Nat) (lit : Bool)
    (subst : Subst σ) (txt : σ → List Nat)
    (hM : GoodFind M input.length Inv)
    (hsub : ∀ st simple, Inv st → ∃ s', subst st simple = some (txt st, s'))
    (st0 : σ) (h0 : Inv st0) (r : List Nat)
    (hr : replaceWith M subst input lit st0 = .ok r) :
    r = replaced input 0
          ((spansOf M input.length (input.length + 2) 0 st0).map (fun x => (x.1, x.2.1, txt x.2.2))) :=
  (replaceWith_ok input hM.findAt lit subst txt (fun _ => True)
    (fun st simple _ _ _ hI _ _ => (hsub st simple hI).imp fun _ h => ⟨h, trivial⟩)
    trivial st0 h0 r hr).1

/-- replacement `$0` (the substitution yields the matched text): the input comes back unchanged -/
theorem replace_dollar0 (M : MatcherI σ) (Inv : σ → Prop) (input : List Nat) (lit : Bool)
    (subst : Subst σ)
    (hM : GoodFind M input.length Inv)
    (hsub : ∀ st simple a b, Inv st → M.start0 st = some a → M.end0 st = some b →
              ∃ s', subst st simple = some (slice input a b, s'))
    (st0 : σ) (h0 : Inv st0) (r : List Nat)
    (hr : replaceWith M subst input lit st0 = .ok r) :
    r = input := by
  let txt : σ → List Nat := fun st => slice input ((M.start0 st).getD 0) ((M.end0 st).getD 0)
  obtain ⟨h1, h2⟩ := replaceWith_ok input hM.findAt lit subst txt (fun _ => True)
    (fun st simple a b _ hI ha hb => by
      obtain ⟨s', hs⟩ := hsub st simple a b hI ha hb
      refine ⟨s', ?_, trivial⟩
      rw [hs, show txt st = slice input a b by simp only [txt, ha, hb, Option.getD_some]])
    trivial st0 h0 r hr
  rw [h1, replaced_self input input.length _ 0 (by rw [spanPairs_map_spans]; exact h2) (fun x hx => by
    obtain ⟨y, hy, rfl⟩ := List.mem_map.1 hx
    obtain ⟨ha, hb⟩ := spansOf_mem M _ _ _ _ y hy
    simp only [txt, ha, hb, Option.getD_some])]
  rfl

/-- a replacement that is used verbatim: the result is the tokens joined by it -/
theorem replace_plain (M : MatcherI σ) (Inv : σ → Prop) (input : List Nat) (lit : Bool)
    (subst : Subst σ) (R : List Nat)
    (hM : GoodFind M input.length Inv)
    (hsub : ∀ st simple, Inv st → ∃ s', subst st simple = some (R, s'))
    (st0 : σ) (h0 : Inv st0) (r : List Nat)
    (hr : replaceWith M subst input lit st0 = .ok r) :
    r = joinWith R (pieces input 0 (spanPairs (spansOf M input.length (input.length + 2) 0 st0))) := by
  rw [(replaceWith_ok input hM.findAt lit subst (fun _ => R) (fun _ => True)
    (fun st simple _ _ _ hI _ _ => (hsub st simple hI).imp fun _ h => ⟨h, trivial⟩)
    trivial st0 h0 r hr).1,
    replaced_const input R _ 0 (fun x hx => by obtain ⟨y, _, rfl⟩ := List.mem_map.1 hx; rfl),
    spanPairs_map_spans]

/-- `replace` never runs out of fuel by itself: `.diverge` only if the matcher reports it -/
theorem replace_fuel (M : MatcherI σ) (Inv : σ → Prop) (input : List Nat) (lit : Bool)
    (subst : Subst σ)
    (hM : GoodFind M input.length Inv)
    (hfail : ∀ st pos, M.failed (M.find st pos).2 = none)
    (st0 : σ) (h0 : Inv st0) :
    replaceWith M subst input lit st0 ≠ .diverge := by
  intro h
  rcases replaceLoop_run input hM.findAt subst lit (input.length + 2) (input.length + 2) 0 st0 true false [] h0
      (Nat.zero_le _) (by omega) (by omega) (fun _ => ⟨rfl, rfl⟩) with ⟨c, ⟨pos, st, _, _, hc⟩, -⟩ | ⟨hr, -⟩
  · rw [hfail] at hc
    cases hc
  · rw [replaceWith] at h
    rw [h] at hr
    cases hs : substAll subst (if true = true then lit else false)
        (spansOf M input.length (input.length + 2) 0 st0) with
    | none => rw [hs] at hr; cases hr
    | some T => rw [hs] at hr; cases hr

/-! ### tokenize -/

/-- the tokens are exactly the pieces between the spans of the common span sequence (including
    empty leading / trailing / adjacent pieces), and then the iterator is exhausted -/
theorem tokenize_spec (M : MatcherI σ) (Inv : σ → Prop) (input : List Nat)
    (hM : GoodFind M input.length Inv)
    (st0 : σ) (h0 : Inv st0) (limit : Nat) (hl : input.length + 1 ≤ limit)
    (toks : List (List Nat)) (more : Bool)
    (h : tokenLoop M input limit (some 0) st0 [] = .ok (toks, more)) :
    toks = pieces input 0 (spanPairs (spansOf M input.length (input.length + 2) 0 st0)) ∧ more = false :=
  tokenLoop_ok input hM.findAt st0 h0 limit hl toks more h

/-- at most `len + 1` tokens -/
theorem tokenize_bound (M : MatcherI σ) (Inv : σ → Prop) (input : List Nat)
    (hM : GoodFind M input.length Inv)
    (st0 : σ) (h0 : Inv st0) (limit : Nat)
    (toks : List (List Nat)) (more : Bool)
    (h : tokenLoop M input limit (some 0) st0 [] = .ok (toks, more)) :
    toks.length ≤ input.length + 1 :=
  tokenLoop_bound input hM.findAt st0 h0 limit toks more h

/-- after exhaustion `next` keeps returning `None` -/
theorem token_none_stays (M : MatcherI σ) (input : List Nat) (st : σ) :
    tokenNext M input none st = (.ok none, none, st) := by
  rfl

/-! ### analyze -/

/-- the analyze entries are the alternating non-match / match entries over the common span
    sequence, and then the iterator is exhausted -/
theorem analyze_spec (M : MatcherI σ) (Inv : σ → Prop) (input : List Nat)
    (entry : σ → List Nat → Out (List MEntry))
    (hM : GoodFind M input.length Inv)
    (st0 : σ) (h0 : Inv st0) (limit : Nat) (hl : 2 * input.length + 1 ≤ limit)
    (es : List AEntry) (more : Bool)
    (h : analyzeLoop M entry input limit { st := st0 } [] = .ok (es, more)) :
    es = entries input 0
          ((spansOf M input.length (input.length + 2) 0 st0).map
            (fun x => (x.1, x.2.1, entryD entry x.2.2 (slice input x.1 x.2.1)))) ∧ more = false := by
  obtain ⟨h1, h2, -⟩ := analyzeLoop_ok input hM.findAt entry st0 h0 limit hl es more h
  exact ⟨h1, h2⟩

/-- the texts of all analyze entries, concatenated in order, are the input -/
theorem analyze_concat (M : MatcherI σ) (Inv : σ → Prop) (input : List Nat)
    (entry : σ → List Nat → Out (List MEntry))
    (hM : GoodFind M input.length Inv)
    (hentry : ∀ st t es, entry st t = .ok es → mTextL es = t)
    (st0 : σ) (h0 : Inv st0) (limit : Nat) (hl : 2 * input.length + 1 ≤ limit)
    (es : List AEntry) (more : Bool)
    (h : analyzeLoop M entry input limit { st := st0 } [] = .ok (es, more)) :
    aTextL es = input := by
  obtain ⟨h1, -, h3, h4⟩ := analyzeLoop_ok input hM.findAt entry st0 h0 limit hl es more h
  rw [h1, entries_text input _ 0 (by rw [spanPairs_map_spans]; exact h3) (fun x hx => by
    obtain ⟨y, hy, rfl⟩ := List.mem_map.1 hx
    obtain ⟨es', he⟩ := h4 y hy
    exact (entryD_ok he).symm ▸ hentry _ _ _ he)]
  rfl

/-- at most `2 * len + 1` entries -/
theorem analyze_bound (M : MatcherI σ) (Inv : σ → Prop) (input : List Nat)
    (entry : σ → List Nat → Out (List MEntry))
    (hM : GoodFind M input.length Inv)
    (st0 : σ) (h0 : Inv st0) (limit : Nat)
    (es : List AEntry) (more : Bool)
    (h : analyzeLoop M entry input limit { st := st0 } [] = .ok (es, more)) :
    es.length ≤ 2 * input.length + 1 :=
  analyzeLoop_bound input hM.findAt entry st0 h0 limit es more h

/-! ### the loops evaluated on a small matcher that finds two spans -/

/-- finds the literal 7 (one character) — state is unused -/
def demoM : MatcherI (Option (Nat × Nat)) :=
  { find := fun _ pos =>
      let input := [7, 1, 7, 2]
      match (List.range input.length).find? (fun j => decide (j ≥ pos) && input[j]? == some 7) with
      | some j => (true, some (j, j + 1))
      | none => (false, none),
    start0 := fun st => st.map (·.1),
    end0 := fun st => st.map (·.2),
    failed := fun _ => none }

example : spanPairs (spansOf demoM 4 6 0 none) = [(0, 1), (2, 3)] := by decide
example : tokenLoop demoM [7, 1, 7, 2] 10 (some 0) none [] = .ok ([[], [1], [2]], false) := by decide

end Rx.C04
