/-
  Props/C09c — the class parser builds the denoted set, for the FULL class grammar (case-sensitive):
  plain and escaped single characters, ranges with plain or escaped end points, literal hyphens in
  the positions the parser allows, class escapes `\d \D \s \S \w \W \i \I \c \C \p{..} \P{..}`,
  negation `[^…]` and (nested) subtraction `[A-[B]]`, `[^A-[B]]` = complement(A) minus B.

  `parse_character_class` (`parseClass`) applied to the rendered text of a well-formed class
  expression `e` returns exactly the inversion list `e.denote` — (characters ∪ class escapes),
  complemented for `^`, minus the subtrahend — consumes exactly the expression, and that list is
  canonical and contains `x` iff `x` is a member in the set-algebra reading `e.Member`.

  Syntax and denotation are defined in `Spec/Class.lean`, the set-algebra reading `Item.Mem` /
  `CExpr.Member` in `Proofs/ClassCaseLemmas.lean`.  In short:

     inductive Single | plain (x : Nat) | esc (e : Nat)          -- `x`, `\e`
       plainC x        := x ∉ { `\`, `[`, `]`, `-` }
       escSingleOk xsd e := e ∈ { n r t \ | . - ^ ? * + { } ( ) [ ] }  or  (e = `$` and not xsd)
       Single.val      := the character (`\n` ↦ 10, `\r` ↦ 13, `\t` ↦ 9, otherwise `e`)

     inductive Item
       | one (a : Single) | range (a b : Single) | hyphen
       | cls (e : Nat)                      -- e ∈ { s S i I c C d D w W }
       | prop (pos : Bool) (name : List Nat)  -- `\p{name}` / `\P{name}`, `name` without `}`,
                                              --   `propLookup env name` defined
       Item.ok: end points well-formed, `a.val ≤ b.val`, characters below `cpLimit`
       adjOk / itemsOk: no two hyphens in a row; a hyphen directly after a single character is the
         last member.  (So `-` is a literal as first member `[-a]`, as last member `[a-]`,
         `[a--[b]]`, and — parser leniency — after a range or class escape: `[a-z-9]`, `[\d-x]`.)

     inductive CExpr | leaf (neg) (items) | minus (neg) (items) (sub : CExpr)
       CExpr.ok: members non-empty and `itemsOk`; a positive class does not begin with `^`
       CExpr.render: `[`, `^`?, members, (`-` render sub)?, `]`
       CExpr.denote env: ClsSt.finish of { positive := !neg, builder := chars/ranges added left to
         right with addChar/addRange, addend := class-escape sets joined left to right with unionR,
         subtrahend := sub.denote }
         = diffR (if neg then complR U else U) (sub.denote),  U = unionR builder addend
-/
import RxModel.Model.Parser
import RxModel.Proofs.ClassCaseLemmas
namespace Rx.C09
open Rx

/-! ### the parser returns the denoted list, and the list is the set algebra -/

/-- literal form: the parser returns exactly `e.denote` and consumes exactly `e.render`.
    Fuel: one unit per character of the expression is enough. -/
theorem parse_class_denote (c : PC) (hci : c.fl.caseBlind = false) (e : CExpr)
    (hok : e.ok c.fl.xsd c.env = true) (s : PS) (rest : List Nat)
    (hpat : c.pat.drop s.idx = e.render ++ rest) (fuel : Nat) (hfuel : e.render.length ≤ fuel) :
    parseClass c fuel s = .ok (e.denote c.env) { s with idx := s.idx + e.render.length } :=
  parseClass_render hci e s rest fuel hok hpat hfuel

/-- `e.denote` is the set algebra: canonical, and `x` is in it iff `x` is (a member of some item
    XOR the class is negated) and not in the subtrahend -/
theorem denote_member (env : Env) (henv : EnvCanon env) (xsd : Bool) (e : CExpr)
    (hok : e.ok xsd env = true) :
    Canon (e.denote env) ∧
      ∀ x, x < cpLimit → (clsContains (e.denote env) x = true ↔ e.Member env x) := by
  have hc : false = true → ClosureOK env := nofun
  rw [← denoteG_false]
  have h := denoteG_den henv hc e hok
  exact ⟨h.canon, fun x hx => ((h.mem x).trans (and_iff_right hx)).trans (CExpr.memberG_false env x e)⟩

/-- the same with `diffR`/`complR` spelled out on the members' union `U` -/
theorem denote_eq (env : Env) (neg : Bool) (items : List Item) (sub : CExpr) :
    let k := items.foldl (Item.step env) { positive := !neg }
    let U := match k.addend with | some a => unionR k.builder a | none => k.builder
    (CExpr.leaf neg items).denote env = (if neg then complR U else U) ∧
    (CExpr.minus neg items sub).denote env = diffR (if neg then complR U else U) (sub.denote env) := by
  have hp := (foldl_step_fields env items { positive := !neg }).2.2.1
  have hs := (foldl_step_fields env items { positive := !neg }).2.2.2
  simp only [CExpr.denote, ClsSt.finish, hp, hs]
  cases neg <;> exact ⟨rfl, rfl⟩

/-- MAIN THEOREM.  If the pattern text at `s.idx` is the rendering of a well-formed class
    expression, `parse_character_class` succeeds, consumes exactly the expression, and the
    resulting class is the canonical inversion list of the denoted set. -/
theorem parse_class_full (c : PC) (hci : c.fl.caseBlind = false) (henv : EnvCanon c.env) (e : CExpr)
    (hok : e.ok c.fl.xsd c.env = true) (s : PS) (rest : List Nat)
    (hpat : c.pat.drop s.idx = e.render ++ rest) (fuel : Nat) (hfuel : e.render.length ≤ fuel) :
    ∃ R, parseClass c fuel s = .ok R { s with idx := s.idx + e.render.length } ∧
      R = e.denote c.env ∧ Canon R ∧
      ∀ x, x < cpLimit → (clsContains R x = true ↔ e.Member c.env x) := by
  obtain ⟨h1, h2⟩ := denote_member c.env henv c.fl.xsd e hok
  exact ⟨_, parse_class_denote c hci e hok s rest hpat fuel hfuel, rfl, h1, h2⟩

/-- the fuel `parse_terminal` passes (`c.len + 2`) is always enough -/
theorem parse_class_full_terminal (c : PC) (hci : c.fl.caseBlind = false) (e : CExpr)
    (hok : e.ok c.fl.xsd c.env = true) (s : PS) (rest : List Nat)
    (hpat : c.pat.drop s.idx = e.render ++ rest) :
    parseClass c (c.len + 2) s = .ok (e.denote c.env) { s with idx := s.idx + e.render.length } := by
  apply parse_class_denote c hci e hok s rest hpat
  have := PC.drop_len hpat
  simp only [List.length_append] at this
  omega

/-! ### the two dialects

  The only place where the dialect (`c.fl.xsd`) enters the class parser is the escape `\$`: it is a
  single-character escape in the XPath dialect and a syntax error in the XSD dialect.  A class
  expression that is well-formed for XSD is well-formed for XPath and parses to the same list. -/

theorem Single.ok_xsd_iff (a : Single) :
    a.ok true = true ↔ (a.ok false = true ∧ a ≠ .esc 36) := by
  cases a with
  | plain x => simp [Single.ok]
  | esc e =>
    by_cases h : e = 36
    · subst h; decide
    · simp [Single.ok, escSingleOk, h]

theorem Single.ok_mono {a : Single} (h : a.ok true = true) (xsd : Bool) : a.ok xsd = true := by
  cases xsd
  · exact ((Single.ok_xsd_iff a).1 h).1
  · exact h

theorem Item.ok_mono {env : Env} {i : Item} (h : i.ok true env = true) (xsd : Bool) :
    i.ok xsd env = true := by
  cases i with
  | one a =>
    simp only [Item.ok, Bool.and_eq_true] at h ⊢
    exact ⟨Single.ok_mono h.1 xsd, h.2⟩
  | range a b =>
    simp only [Item.ok, Bool.and_eq_true] at h ⊢
    exact ⟨⟨⟨Single.ok_mono h.1.1.1 xsd, Single.ok_mono h.1.1.2 xsd⟩, h.1.2⟩, h.2⟩
  | hyphen => rfl
  | cls e => exact h
  | prop pos name => exact h

theorem itemsOk_mono {env : Env} : ∀ {items : List Item}, itemsOk true env items = true →
    ∀ xsd, itemsOk xsd env items = true := by
  intro items
  induction items with
  | nil => intro _ _; rfl
  | cons i more ih =>
    intro h xsd
    simp only [itemsOk, Bool.and_eq_true] at h ⊢
    exact ⟨⟨Item.ok_mono h.1.1 xsd, h.1.2⟩, ih h.2 xsd⟩

theorem CExpr.ok_mono {env : Env} : ∀ {e : CExpr}, e.ok true env = true → ∀ xsd, e.ok xsd env = true := by
  intro e
  induction e with
  | leaf neg items =>
    intro h xsd
    simp only [CExpr.ok, headOk, Bool.and_eq_true] at h ⊢
    exact ⟨⟨h.1.1, itemsOk_mono h.1.2 xsd⟩, h.2⟩
  | minus neg items sub ih =>
    intro h xsd
    simp only [CExpr.ok, headOk, Bool.and_eq_true] at h ⊢
    exact ⟨⟨⟨h.1.1.1, itemsOk_mono h.1.1.2 xsd⟩, h.1.2⟩, ih h.2 xsd⟩

/-- both dialects: an expression that is well-formed for XSD (no `\$`) parses, in either dialect,
    to the same inversion list -/
theorem parse_class_full_xsd_xpath (c : PC) (hci : c.fl.caseBlind = false) (henv : EnvCanon c.env)
    (e : CExpr) (hok : e.ok true c.env = true) (s : PS) (rest : List Nat)
    (hpat : c.pat.drop s.idx = e.render ++ rest) (fuel : Nat) (hfuel : e.render.length ≤ fuel) :
    parseClass c fuel s = .ok (e.denote c.env) { s with idx := s.idx + e.render.length } ∧
    Canon (e.denote c.env) ∧
    ∀ x, x < cpLimit → (clsContains (e.denote c.env) x = true ↔ e.Member c.env x) := by
  have hok' := CExpr.ok_mono hok c.fl.xsd
  obtain ⟨h1, h2⟩ := denote_member c.env henv c.fl.xsd e hok'
  exact ⟨parse_class_denote c hci e hok' s rest hpat fuel hfuel, h1, h2⟩

/-- where the dialect matters: `\$` is rejected by `escape` in the XSD dialect -/
theorem escape_dollar_xsd {c : PC} {s : PS} {tl : List Nat} (b : Bool) (hx : c.fl.xsd = true)
    (h : c.pat.drop s.idx = 92 :: 36 :: tl) : escape c s b = .err .syntax := by
  rw [escape_text b h, hx]
  rfl

/-! ### rejections -/

/-- `[]`, `[^]`, `[-[…`, `[^-[…`: a class (or minuend) without members is a syntax error -/
theorem empty_class_rejected (c : PC) (fuel : Nat) (hf : 0 < fuel) (s : PS) (rest : List Nat)
    (h : c.pat.drop s.idx = 91 :: 93 :: rest ∨ c.pat.drop s.idx = 91 :: 94 :: 93 :: rest ∨
         c.pat.drop s.idx = 91 :: 45 :: 91 :: rest ∨ c.pat.drop s.idx = 91 :: 94 :: 45 :: 91 :: rest) :
    parseClass c fuel s = .err .syntax := by
  obtain ⟨f, rfl⟩ : ∃ f, fuel = f + 1 := ⟨fuel - 1, by omega⟩
  rcases h with h | h | h | h <;> rw [parseClass_text h]
  · cases rest <;> rfl
  all_goals rfl

/-- `[b-a…`, `[^b-a…` with the end points (plain or escaped) in the wrong order -/
theorem reversed_range_rejected (c : PC) (fuel : Nat) (hf : 4 ≤ fuel) (s : PS) (neg : Bool)
    (a b : Single) (rest : List Nat)
    (h : c.pat.drop s.idx = 91 :: ((if neg then [94] else []) ++ ((a.render ++ 45 :: b.render) ++ rest)))
    (ha : a.ok c.fl.xsd = true) (hb : b.ok c.fl.xsd = true) (hab : b.val < a.val)
    (h94 : neg = false → a ≠ .plain 94) :
    parseClass c fuel s = .err .syntax := by
  obtain ⟨f, rfl⟩ : ∃ f, fuel = f + 4 := ⟨fuel - 4, by omega⟩
  exact parseClass_reversed h ha hb hab h94

/-- a reversed range after any prefix of the member list: the loop fails (from any state outside a
    range) -/
theorem reversed_range_rejected_loop (c : PC) (f : Nat) (st : PS) (k : ClsSt) (a b : Single)
    (nxt : List Nat) (h : c.pat.drop st.idx = (a.render ++ 45 :: b.render) ++ nxt)
    (ha : a.ok c.fl.xsd = true) (hb : b.ok c.fl.xsd = true) (hab : b.val < a.val)
    (hk : k.definingRange = false) : classLoop c (f + 3) st k = .err .syntax :=
  classLoop_range_rev h ha hb hab hk

/-- unclosed class: the pattern ends at most one character after `[`, or the loop reaches the end
    of the pattern -/
theorem unclosed_class_rejected (c : PC) (f : Nat) :
    (∀ (s : PS) (tl : List Nat), c.pat.drop s.idx = 91 :: tl → tl.length ≤ 1 →
        parseClass c (f + 1) s = .err .syntax) ∧
    (∀ (st : PS) (k : ClsSt), st.idx = c.len → classLoop c (f + 1) st k = .err .syntax) :=
  ⟨fun s tl h hl => by
      rw [parseClass_text h]
      obtain _ | ⟨y, _ | ⟨z, tl⟩⟩ := tl
      · rfl
      · rfl
      · simp at hl,
   fun st k h => classLoop_end (Nat.le_of_eq h) (List.drop_eq_nil_of_le (Nat.le_of_eq h.symm)) f k⟩

/-- "and only these", structurally: whatever `parse_character_class` accepts (from any text, with
    any fuel) ends with a `]` strictly after the start and inside the pattern -/
theorem accepted_class_closed (c : PC) (fuel : Nat) (s s' : PS) (R : Ranges)
    (h : parseClass c fuel s = .ok R s') :
    s.idx < s'.idx ∧ s'.idx ≤ c.len ∧ c.at (s'.idx - 1) = 93 :=
  (parseClass_ok h).2

/-- an unclosed class — no `]` anywhere from the `[` on — is never accepted -/
theorem unclosed_class_never_accepted (c : PC) (fuel : Nat) (s : PS)
    (h : 93 ∉ c.pat.drop s.idx) (R : Ranges) (s' : PS) : parseClass c fuel s ≠ .ok R s' := by
  intro hp
  obtain ⟨h1, h2, h3⟩ := accepted_class_closed c fuel s s' R hp
  exact h (PC.mem_drop_of_at (j := s'.idx - 1) (by omega) (by omega) h3)

/-! ### non-vacuity: concrete class expressions against a small hand-made environment -/

/-- digits `0-9`; word characters `0-9A-Z_a-z`; name start `A-Za-z`; name characters `0-9A-Za-z`;
    category `L` = `A-Za-z`, category `Nd` = `0-9`; block `Basic` = 0..127 -/
def envT : Env :=
  { lower := id, closure := fun _ => [],
    category := fun n => if n = [76] then some [(65, 91), (97, 123)]
                         else if n = [78, 100] then some [(48, 58)] else none,
    block := fun n => if n = [66, 97, 115, 105, 99] then some [(0, 128)] else none,
    digit := [(48, 58)], word := [(48, 58), (65, 91), (95, 96), (97, 123)],
    nameStart := [(65, 91), (97, 123)], nameChar := [(48, 58), (65, 91), (97, 123)] }

theorem envT_canon : EnvCanon envT where
  digit := by simp [envT, Canon, cpLimit]
  word := by simp [envT, Canon, cpLimit]
  nameStart := by simp [envT, Canon, cpLimit]
  nameChar := by simp [envT, Canon, cpLimit]
  category := by
    intro n rs h
    simp only [envT] at h
    split at h
    · cases h; simp [Canon, cpLimit]
    · split at h
      · cases h; simp [Canon, cpLimit]
      · cases h
  block := by
    intro n rs h
    simp only [envT] at h
    split at h
    · cases h; simp [Canon, cpLimit]
    · cases h

/-- what the parser returns, in decidable form: the list and the new index, or the error -/
inductive Res where
  | ok (R : Ranges × Nat)
  | error (e : Err)
deriving DecidableEq, Repr

def resOf (r : PRes Ranges) : Res :=
  match r with
  | .ok R s => .ok (R, s.idx)
  | .err e => .error e

/-- the class parser on a whole pattern, XPath dialect -/
def run (pat : List Nat) : Res :=
  resOf (parseClass ⟨pat, {}, envT⟩ (pat.length + 2) {})

/-- … and in the XSD dialect -/
def runXsd (pat : List Nat) : Res :=
  resOf (parseClass ⟨pat, { xsd := true }, envT⟩ (pat.length + 2) {})

/-- `[a-z-[aeiou]]` -/
def exVowels : CExpr :=
  .minus false [.range (.plain 97) (.plain 122)]
    (.leaf false [.one (.plain 97), .one (.plain 101), .one (.plain 105), .one (.plain 111),
      .one (.plain 117)])

example : exVowels.render = [91, 97, 45, 122, 45, 91, 97, 101, 105, 111, 117, 93, 93] := by decide
example : exVowels.ok true envT = true := by decide
example : run exVowels.render =
    .ok ([(98, 101), (102, 105), (106, 111), (112, 117), (118, 123)], 13) := by decide +kernel
example : exVowels.denote envT = [(98, 101), (102, 105), (106, 111), (112, 117), (118, 123)] := by
  decide +kernel
/-- the theorem applies to it (all hypotheses are met) -/
example : ∃ R, parseClass ⟨exVowels.render, {}, envT⟩ 15 {} = .ok R { idx := 13 } ∧
    R = exVowels.denote envT ∧ Canon R ∧
    ∀ x, x < cpLimit → (clsContains R x = true ↔ exVowels.Member envT x) :=
  parse_class_full ⟨exVowels.render, {}, envT⟩ rfl envT_canon exVowels (by decide) {} []
    (by decide) 15 (by decide)
example : clsContains (exVowels.denote envT) 98 = true ∧ clsContains (exVowels.denote envT) 101 = false ∧
    clsContains (exVowels.denote envT) 65 = false := by decide +kernel

/-- `[^\d-[5]]`: complement(digits) minus {5} -/
def exNotDigit : CExpr := .minus true [.cls 100] (.leaf false [.one (.plain 53)])

example : exNotDigit.render = [91, 94, 92, 100, 45, 91, 53, 93, 93] := by decide
example : exNotDigit.ok true envT = true := by decide
example : run exNotDigit.render = .ok ([(0, 48), (58, 1114112)], 9) := by decide +kernel
example : exNotDigit.denote envT = [(0, 48), (58, 1114112)] := by decide +kernel
example : clsContains (exNotDigit.denote envT) 97 = true ∧ clsContains (exNotDigit.denote envT) 53 = false ∧
    clsContains (exNotDigit.denote envT) 55 = false := by decide +kernel
/-- … whereas `[^\d-[x]]` removes `x` from the complement -/
example : run [91, 94, 92, 100, 45, 91, 120, 93, 93] = .ok ([(0, 48), (58, 120), (121, 1114112)], 9) := by
  decide +kernel

/-- `[\-a]`: an escaped hyphen and `a` -/
def exEscHyphen : CExpr := .leaf false [.one (.esc 45), .one (.plain 97)]

example : exEscHyphen.render = [91, 92, 45, 97, 93] := by decide
example : exEscHyphen.ok true envT = true := by decide
example : run exEscHyphen.render = .ok ([(45, 46), (97, 98)], 5) := by decide +kernel
example : exEscHyphen.denote envT = [(45, 46), (97, 98)] := by decide +kernel

/-- `[a--[b]]`: `a`, a literal hyphen, minus `b` -/
def exHyphenSub : CExpr := .minus false [.one (.plain 97), .hyphen] (.leaf false [.one (.plain 98)])

example : exHyphenSub.render = [91, 97, 45, 45, 91, 98, 93, 93] := by decide
example : exHyphenSub.ok true envT = true := by decide
example : run exHyphenSub.render = .ok ([(45, 46), (97, 98)], 8) := by decide +kernel
example : exHyphenSub.denote envT = [(45, 46), (97, 98)] := by decide +kernel

/-- `[-a-c\p{Nd}\P{L}-]`: leading and trailing hyphen, a range, a category and a complemented
    category; nested subtraction `[\w-[a-f-[c]]]` -/
def exMixed : CExpr :=
  .leaf false [.hyphen, .range (.plain 97) (.plain 99), .prop true [78, 100], .prop false [76], .hyphen]
def exNested : CExpr :=
  .minus false [.cls 119]
    (.minus false [.range (.plain 97) (.plain 102)] (.leaf false [.one (.plain 99)]))

example : exMixed.ok true envT = true ∧ exNested.ok true envT = true := by decide
example : run exMixed.render = .ok (exMixed.denote envT, exMixed.render.length) := by decide +kernel
example : exMixed.denote envT = [(0, 65), (91, 100), (123, 1114112)] := by decide +kernel
example : run exNested.render = .ok (exNested.denote envT, exNested.render.length) := by decide +kernel
example : exNested.denote envT = [(48, 58), (65, 91), (95, 96), (99, 100), (103, 123)] := by
  decide +kernel

/-- the dialect: `[\$]` is `{$}` in XPath and a syntax error in XSD; `[a-z]` is the same in both -/
example : run [91, 92, 36, 93] = .ok ([(36, 37)], 4) ∧ runXsd [91, 92, 36, 93] = .error .syntax := by
  decide +kernel
example : (CExpr.leaf false [.one (.esc 36)]).ok false envT = true ∧
    (CExpr.leaf false [.one (.esc 36)]).ok true envT = false := by decide
example : run [91, 97, 45, 122, 93] = .ok ([(97, 123)], 5) ∧
    runXsd [91, 97, 45, 122, 93] = .ok ([(97, 123)], 5) := by decide +kernel

/-- rejections: `[]`, `[^]`, `[z-a]`, `[a-z`, `[a`, `[--a]`, `[a--]`, `[a-\d]` -/
example : run [91, 93] = .error .syntax ∧ run [91, 94, 93] = .error .syntax ∧
    run [91, 122, 45, 97, 93] = .error .syntax ∧ run [91, 97, 45, 122] = .error .syntax ∧
    run [91, 97] = .error .syntax ∧ run [91, 45, 45, 97, 93] = .error .syntax ∧
    run [91, 97, 45, 45, 93] = .error .syntax ∧ run [91, 97, 45, 92, 100, 93] = .error .syntax := by
  decide +kernel

/-- an unescaped hyphen cannot be a range end point: `[+--]`, `[--a]`, `[---]` are syntax errors
    (write `[+-\-]`); and nothing may follow a subtraction: `[a-[b]c]` -/
example : run [91, 43, 45, 45, 93] = .error .syntax ∧ run [91, 45, 45, 45, 93] = .error .syntax ∧
    run [91, 43, 45, 92, 45, 93] = .ok ([(43, 46)], 6) ∧
    run [91, 97, 45, 91, 98, 93, 99, 93] = .error .syntax := by decide +kernel

/-- parser leniency: a hyphen after a range or a class escape is a literal
    member — `[a-c-9]` = {a,b,c,-,9}, `[\d-x]` = digits ∪ {-,x} -/
example : run [91, 97, 45, 99, 45, 57, 93] = .ok ([(45, 46), (57, 58), (97, 100)], 7) ∧
    run [91, 92, 100, 45, 120, 93] = .ok ([(45, 46), (48, 58), (120, 121)], 6) := by decide +kernel
example : (CExpr.leaf false [.range (.plain 97) (.plain 99), .hyphen, .one (.plain 57)]).ok true envT = true := by
  decide

end Rx.C09
