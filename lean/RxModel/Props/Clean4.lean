/-
  Props/Clean4 — the GENERAL RELUCTANT repeat `.rep id c mn mx false` (variable-length body: `(?:ab|c)+?`,
  `(?:a|bc){2,3}?`, `(?:ab|c)*?`) enters the fragment on which the engine is an exact, priority-ordered enumerator.

  THE FRAGMENT (`cleanOp4` / `cleanProg4`, Spec/Enum4) = the fragment of Spec/Enum3 plus `.rep id c mn mx false` with
      body `c` ∈ `cleanOp2` (rep-free),  `nonNull c`,  `detB env cb c`  — for ANY `mn`, including 0:
  the reluctant iterator neither reads nor writes the zero-length-match memo, so (unlike the greedy node,
  Props/Clean3 "min = 0") nothing depends on the matcher state.

  PROVED on it (hypotheses as in Props/Clean3: `wfOp`, `noEmptyAtoms`, `clsCanonB`, `InputOK env ctx`):
    1. `reluctant_node`      node level: the iterator yields EXACTLY `reluctIter (enum4 c) mn mx 0 p` — the ends for
                             `mn, mn+1, …` iterations, fewest first, strictly increasing (`reluctant_sorted`): the
                             zero-width rule of `iterMinZ` never fires, the fuels `loopFuel ctx mn` and
                             `6 * (len + 3)` suffice (each iteration advances), the force-progress cut never fires
    2. `sem_seq_enum4`       the iterator of every tree of the fragment yields EXACTLY `enum4`, under every
                             consumer, from EVERY state
    3. `enum4_sound`, `enum4_iff_OpR` (compositional fragment), `enum4_complete` (whole programs),
       `completeAt_clean4`, `matchAt_iff4`, `matchAt_end4`, `first1_enum4`, `sem_noDiv4`
    4. through the search loop (Props/SearchComplete): `clean4_isMatch_iff`, `clean4_isMatch_false`,
       `clean4_matchesFrom_iff`, `clean4_match_is_leftmost_first`, `clean4_opt_eq_noopt`.
       No bound on the reluctant minimum is needed: `Quiet` comes from Props/C06b (`unambLeaf`), not from
       `C06.smallMin` (which demands `mn < len + 1000` of a reluctant repeat).
    5. `k2_outside`: the K2 witness `(?:a|ab)+?c` (ambiguous body: the iterator never backtracks into the body)
       is NOT in the fragment — exactly `detB` fails; `ex_compiled`, `ex_*`: `(?:ab|c)+?c` and `(?:ab|c)*?d` as
       the model's compiler builds them ARE, with the theorems applied.
  `max` is handled as in `reluctIter` (`count < max`), and with a non-nullable body the zero-width rule of
  `iterMinZ` is dead code.
  The fragments of Spec/Enum2, Spec/Enum3 are inside (`cleanProg4_of_cleanProg3`), and `enum4 = enum3` there
  (`enum4_eq_enum3`).
-/
import RxModel.Proofs.Clean4SearchLemmas
import RxModel.Props.Clean3
import RxModel.Props.Findings
namespace Rx.Clean4
open Rx Rx.SearchComplete
open Rx.C08 (noEmptyAtoms noEmptyAtomsL clsCanon clsCanonL)

/-! ### 1. the reluctant node -/

/-- NODE LEVEL, for ANY `mn` (including 0) and from EVERY state: the ends for `mn, mn+1, …` iterations -/
theorem reluctant_node (env : Env) (ctx : Ctx) (hI : InputOK env ctx) (id : Nat) (c : Op) (mn mx : Nat)
    (hc : cleanOp4 env ctx.caseBlind ctx.multiLine (.rep id c mn mx false) = true)
    (hwf : wfOp (.rep id c mn mx false) = true) (hne : noEmptyAtoms (.rep id c mn mx false) = true)
    (hcan : clsCanonB (.rep id c mn mx false) = true) (p : Nat) (hp : p ≤ ctx.len) (st : St) (_ : anySt st) :
    Step.Seq anySt (sem ctx (.rep id c mn mx false) p st) (reluctIter (enum4 ctx c) mn mx 0 p) := by
  have h := sem_ex4_op env ctx hI _ false [] hc hwf hne (clsCanon_of_B _ hcan) p hp st
  simpa only [enum4, Bool.false_eq_true, if_false] using h

/-- … strictly increasing: the head is the SHORTEST match of the node -/
theorem reluctant_sorted (env : Env) (ctx : Ctx) (hI : InputOK env ctx) (id : Nat) (c : Op) (mn mx : Nat)
    (hc : cleanOp4 env ctx.caseBlind ctx.multiLine (.rep id c mn mx false) = true)
    (hwf : wfOp (.rep id c mn mx false) = true) (hne : noEmptyAtoms (.rep id c mn mx false) = true)
    (hcan : clsCanonB (.rep id c mn mx false) = true) (p : Nat) (hp : p ≤ ctx.len) :
    (enum4 ctx (.rep id c mn mx false) p).Pairwise (· < ·) := by
  have hr := repOK4_of (top := false) (F := []) hc hwf hne (clsCanon_of_B _ hcan)
  simp only [enum4, Bool.false_eq_true, if_false]
  exact (reluctIter_sorted (hr.toBodyOK.detBody hI).prog mn mx 0 p hp).2

/-! ### 2. the iterator yields exactly `enum4` -/

theorem sem_seq_enum4 (env : Env) (ctx : Ctx) (hI : InputOK env ctx) (op : Op)
    (hc : cleanProg4 env ctx.caseBlind ctx.multiLine op = true) (hwf : wfOp op = true)
    (hne : noEmptyAtoms op = true) (hcan : clsCanonB op = true) (p : Nat) (hp : p ≤ ctx.len) (st : St)
    (h : anySt st) : Step.Seq anySt (sem ctx op p st) (enum4 ctx op p) :=
  Clean4L.sem_seq_enum4 env ctx hI op hc hwf hne hcan p hp st h

theorem sem_seq_enum4_of (I : St → Prop) (env : Env) (ctx : Ctx) (hI : InputOK env ctx) (op : Op)
    (hc : cleanProg4 env ctx.caseBlind ctx.multiLine op = true) (hwf : wfOp op = true)
    (hne : noEmptyAtoms op = true) (hcan : clsCanonB op = true) (p : Nat) (hp : p ≤ ctx.len) (st : St) :
    Step.Seq I (sem ctx op p st) (enum4 ctx op p) :=
  ((enumerates_clean4 env ctx hI op hc hwf hne (clsCanon_of_B op hcan)).ex p hp st).weaken

/-- the fragments of Spec/Enum2 and Spec/Enum3 are inside, and on them `enum4` is their enumeration -/
theorem cleanOp4_of_cleanOp3 (env : Env) (cb ml : Bool) (op : Op) (h : cleanOp3 env cb ml op = true) :
    cleanOp4 env cb ml op = true :=
  (clean4_of_clean3 env cb ml).op h

theorem cleanProg4_of_cleanProg3 (env : Env) (cb ml : Bool) (op : Op) (h : cleanProg3 env cb ml op = true) :
    cleanProg4 env cb ml op = true :=
  cleanProg4_of_prog3 env cb ml op h

theorem cleanProg4_of_cleanProg2 (env : Env) (cb ml : Bool) (op : Op) (h : cleanProg2 env cb ml op = true) :
    cleanProg4 env cb ml op = true :=
  cleanProg4_of_prog2 env cb ml op h

theorem enum4_eq_enum3 (env : Env) (ctx : Ctx) (op : Op) (h : cleanProg3 env ctx.caseBlind ctx.multiLine op = true) :
    enum4 ctx op = enum3 ctx op :=
  enum4_eq_enum3_shape ctx op (shape3_of_cleanProg3 env _ _ op h)

/-! ### 3. soundness, completeness, `CompleteAt`, `match_at` -/

theorem enum4_sound (env : Env) (ctx : Ctx) (hI : InputOK env ctx) (op : Op)
    (hc : cleanProg4 env ctx.caseBlind ctx.multiLine op = true) (hwf : wfOp op = true)
    (hne : noEmptyAtoms op = true) (hcan : clsCanonB op = true) (p q : Nat) (hp : p ≤ ctx.len)
    (h : q ∈ enum4 ctx op p) : OpR ctx op p q :=
  (enumerates_clean4 env ctx hI op hc hwf hne (clsCanon_of_B op hcan)).sound p q hp h

/-- the compositional fragment: `enum4` lists exactly the language -/
theorem enum4_iff_OpR (env : Env) (ctx : Ctx) (hI : InputOK env ctx) (op : Op)
    (hc : cleanOp4 env ctx.caseBlind ctx.multiLine op = true) (hwf : wfOp op = true)
    (hne : noEmptyAtoms op = true) (hcan : clsCanonB op = true) (p q : Nat) (hp : p ≤ ctx.len) :
    q ∈ enum4 ctx op p ↔ OpR ctx op p q :=
  Clean4L.enum4_iff_OpR env ctx hI op hc hwf hne hcan p q hp

/-- whole programs: if the language has a member from `p`, the enumeration is non-empty -/
theorem enum4_complete (env : Env) (ctx : Ctx) (hI : InputOK env ctx) (op : Op)
    (hc : cleanProg4 env ctx.caseBlind ctx.multiLine op = true) (hwf : wfOp op = true)
    (hne : noEmptyAtoms op = true) (hcan : clsCanonB op = true) (p : Nat) (hp : p ≤ ctx.len)
    (h : ∃ q, OpR ctx op p q) : enum4 ctx op p ≠ [] :=
  (enumerates_clean4 env ctx hI op hc hwf hne (clsCanon_of_B op hcan)).compl p hp h

theorem first1_enum4 (env : Env) (ctx : Ctx) (hI : InputOK env ctx) (op : Op)
    (hc : cleanProg4 env ctx.caseBlind ctx.multiLine op = true) (hwf : wfOp op = true)
    (hne : noEmptyAtoms op = true) (hcan : clsCanonB op = true) (p : Nat) (hp : p ≤ ctx.len) (st : St) :
    (first1 (sem ctx op p st)).1.map (·.1) = (enum4 ctx op p).head? :=
  ((enumerates_clean4 env ctx hI op hc hwf hne (clsCanon_of_B op hcan)).ex p hp st).first1_head

/-- the engine test is complete on the fragment, from EVERY state -/
theorem completeAt_clean4 (env : Env) (ctx : Ctx) (hI : InputOK env ctx) (op : Op)
    (hc : cleanProg4 env ctx.caseBlind ctx.multiLine op = true) (hwf : wfOp op = true)
    (hne : noEmptyAtoms op = true) (hcan : clsCanonB op = true) : CompleteAt ctx op :=
  Clean4L.completeAt_clean4 env ctx hI op hc hwf hne hcan

theorem matchAt_iff4 (env : Env) (ctx : Ctx) (hI : InputOK env ctx) (op : Op)
    (hc : cleanProg4 env ctx.caseBlind ctx.multiLine op = true) (hwf : wfOp op = true)
    (hne : noEmptyAtoms op = true) (hcan : clsCanonB op = true) (i : Nat) (hi : i ≤ ctx.len) (st : St) :
    (matchAt ctx op i st).1 = true ↔ ∃ j, OpR ctx op i j :=
  (Clean4L.enumerates4 env ctx hI op hc hwf hne hcan).matchAt_iff i hi st

/-- on success the end recorded for group 0 is the head of `enum4` (reluctant ⇒ fewest iterations first) -/
theorem matchAt_end4 (env : Env) (ctx : Ctx) (hI : InputOK env ctx) (op : Op)
    (hc : cleanProg4 env ctx.caseBlind ctx.multiLine op = true) (hwf : wfOp op = true)
    (hne : noEmptyAtoms op = true) (hcan : clsCanonB op = true) (i : Nat) (hi : i ≤ ctx.len) (st : St)
    (h : (matchAt ctx op i st).1 = true) :
    getParenEnd (matchAt ctx op i st).2 0 = (enum4 ctx op i).head? :=
  Clean4L.matchAt_end4 env ctx hI op hc hwf hne hcan i hi st h

theorem sem_noDiv4 (env : Env) (ctx : Ctx) (hI : InputOK env ctx) (op : Op)
    (hc : cleanProg4 env ctx.caseBlind ctx.multiLine op = true) (hwf : wfOp op = true)
    (hne : noEmptyAtoms op = true) (hcan : clsCanonB op = true) (p : Nat) (hp : p ≤ ctx.len) (st : St) :
    (sem ctx op p st).NoDiv :=
  ((enumerates_clean4 env ctx hI op hc hwf hne (clsCanon_of_B op hcan)).ex p hp st).noDiv

/-! ### 4. through the search loop: the theorems of Proofs/ProgOK at `clean4_progOK` -/

theorem clean4_isMatch_iff (env : Env) (pat : List Nat) (op : Op) (mp : Nat) (fl : CFlags)
    (lower : Nat → Nat) (input : List Nat) (hI : InputOKFor env fl lower input)
    (hc : cleanProg4 env fl.caseBlind fl.multiLine (mkProgram pat op mp fl false).op = true)
    (hwf : wfOp op = true) (hne : noEmptyAtoms op = true)
    (hcan : clsCanonB (mkProgram pat op mp fl false).op = true) (hlen : input.length < usizeMax) :
    (mkProgram pat op mp fl false).isMatch lower input = .ok true ↔
      ∃ j q, j ≤ input.length ∧
        OpR ((mkProgram pat op mp fl false).ctx lower input) (mkProgram pat op mp fl false).op j q :=
  (clean4_progOK env pat op mp fl lower input hI hc hwf hne hcan hlen).isMatch_iff

theorem clean4_isMatch_false (env : Env) (pat : List Nat) (op : Op) (mp : Nat) (fl : CFlags)
    (lower : Nat → Nat) (input : List Nat) (hI : InputOKFor env fl lower input)
    (hc : cleanProg4 env fl.caseBlind fl.multiLine (mkProgram pat op mp fl false).op = true)
    (hwf : wfOp op = true) (hne : noEmptyAtoms op = true)
    (hcan : clsCanonB (mkProgram pat op mp fl false).op = true) (hlen : input.length < usizeMax)
    (hno : ¬ ∃ j q, j ≤ input.length ∧
        OpR ((mkProgram pat op mp fl false).ctx lower input) (mkProgram pat op mp fl false).op j q) :
    (mkProgram pat op mp fl false).isMatch lower input = .ok false :=
  (clean4_progOK env pat op mp fl lower input hI hc hwf hne hcan hlen).isMatch_false hno

theorem clean4_matchesFrom_iff (env : Env) (pat : List Nat) (op : Op) (mp : Nat) (fl : CFlags)
    (lower : Nat → Nat) (input : List Nat) (hI : InputOKFor env fl lower input)
    (hc : cleanProg4 env fl.caseBlind fl.multiLine (mkProgram pat op mp fl false).op = true)
    (hwf : wfOp op = true) (hne : noEmptyAtoms op = true)
    (hcan : clsCanonB (mkProgram pat op mp fl false).op = true) (hlen : input.length < usizeMax)
    (i : Nat) (hi : i ≤ input.length) (st : St) (hst : st.panic = none) :
    ((matchesFrom ((mkProgram pat op mp fl false).ctx lower input) (mkProgram pat op mp fl false) i st).1 = true ↔
      ∃ j q, i ≤ j ∧ j ≤ input.length ∧
        OpR ((mkProgram pat op mp fl false).ctx lower input) (mkProgram pat op mp fl false).op j q) ∧
    (matchesFrom ((mkProgram pat op mp fl false).ctx lower input) (mkProgram pat op mp fl false) i st).2.panic = none :=
  (clean4_progOK env pat op mp fl lower input hI hc hwf hne hcan hlen).matchesFrom_iff i hi st hst

/-- when `matches(i)` succeeds, group 0 is `(j, n)`: `j` the LEAST start `≥ i` from which the language has
    a member, `n` the FIRST element of `enum4` from `j` (ordered choice; greedy = more iterations first) -/
theorem clean4_match_is_leftmost_first (env : Env) (pat : List Nat) (op : Op) (mp : Nat) (fl : CFlags)
    (lower : Nat → Nat) (input : List Nat) (hI : InputOKFor env fl lower input)
    (hc : cleanProg4 env fl.caseBlind fl.multiLine (mkProgram pat op mp fl false).op = true)
    (hwf : wfOp op = true) (hne : noEmptyAtoms op = true)
    (hcan : clsCanonB (mkProgram pat op mp fl false).op = true) (hcp : C02.capsPos op = true)
    (hlen : input.length < usizeMax)
    (i : Nat) (hi : i ≤ input.length) (st st' : St) (hst : st.panic = none)
    (h : matchesFrom ((mkProgram pat op mp fl false).ctx lower input) (mkProgram pat op mp fl false) i st
      = (true, st')) :
    ∃ j n, getParenStart st' 0 = some j ∧ getParenEnd st' 0 = some n ∧
      (enum4 ((mkProgram pat op mp fl false).ctx lower input) (mkProgram pat op mp fl false).op j).head? = some n ∧
      i ≤ j ∧ j ≤ n ∧ n ≤ input.length ∧
      OpR ((mkProgram pat op mp fl false).ctx lower input) (mkProgram pat op mp fl false).op j n ∧
      ∀ k q, i ≤ k → k < j →
        ¬ OpR ((mkProgram pat op mp fl false).ctx lower input) (mkProgram pat op mp fl false).op k q :=
  (clean4_progOK env pat op mp fl lower input hI hc hwf hne hcan hlen).leftmost_first
    ((mkProgram_tree pat op mp fl false).2.2.trans hcp) i hi st st' hst h

/-- shortcuts on / off on the same tree: Boolean, start and end -/
theorem clean4_opt_eq_noopt (env : Env) (pat : List Nat) (op : Op) (mp : Nat) (fl : CFlags)
    (lower : Nat → Nat) (input : List Nat) (hI : InputOKFor env fl lower input)
    (hc : cleanProg4 env fl.caseBlind fl.multiLine (mkProgram pat op mp fl false).op = true)
    (hwf : wfOp op = true) (hne : noEmptyAtoms op = true)
    (hcan : clsCanonB (mkProgram pat op mp fl false).op = true) (hcp : C02.capsPos op = true)
    (hlen : input.length < usizeMax)
    (i : Nat) (hi : i ≤ input.length) (st1 st2 : St) (h1 : st1.panic = none) (h2 : st2.panic = none) :
    let pr := mkProgram pat op mp fl false
    let ctx := pr.ctx lower input
    (matchesFrom ctx pr i st1).1 = (matchesNaive ctx pr.op i st2).1 ∧
    ((matchesFrom ctx pr i st1).1 = true →
      getParenStart (matchesFrom ctx pr i st1).2 0 = getParenStart (matchesNaive ctx pr.op i st2).2 0 ∧
      getParenEnd (matchesFrom ctx pr i st1).2 0 = getParenEnd (matchesNaive ctx pr.op i st2).2 0) :=
  (clean4_progOK env pat op mp fl lower input hI hc hwf hne hcan hlen).opt_eq_noopt
    ((mkProgram_tree pat op mp fl false).2.2.trans hcp) i hi st1 st2 h1 h2

/-! ### 5. delimiting the fragment; non-vacuity -/
section examples

def exEnv : Env :=
  { lower := id, closure := fun _ => [], category := fun _ => none, block := fun _ => none,
    digit := [], word := [], nameStart := [], nameChar := [] }

/-- K2 (Props/Findings): `(?:a|ab)+?c` — a reluctant repeat whose body is rep-free and not nullable but NOT
    end-deterministic (`a` and `ab` share their first character).  The engine loses the match on "abc"
    (`Findings.K2_isMatch`, `K2_member`): the iterator takes the body's first match and never backtracks into
    the body.  The program is outside the fragment, and `detB` is exactly the condition that fails. -/
theorem k2_outside : cleanProg4 exEnv false false Findings.progK2.op = false ∧
    (match Findings.progK2.op with
     | .seq (.rep _ c _ _ g :: _) => !g && cleanOp2 exEnv false false c && nonNull c && !detB exEnv false c
     | _ => false) = true := by decide +kernel

/-- `(?:ab|c)+?c`, `(?:ab|c)*?d` (min = 0) and `(?:a|bc){2,3}?x` as the model's compiler builds them are
    programs of the fragment (outside the fragment of Props/Clean3) -/
theorem ex_compiled :
    (match compileCore exEnv {} [40, 63, 58, 97, 98, 124, 99, 41, 43, 63, 99] true with
     | .ok pr => cleanProg4 exEnv false false pr.op && wfOp pr.op && noEmptyAtoms pr.op && clsCanonB pr.op &&
         !cleanProg3 exEnv false false pr.op
     | _ => false) = true ∧
    (match compileCore exEnv {} [40, 63, 58, 97, 98, 124, 99, 41, 42, 63, 100] true with
     | .ok pr => cleanProg4 exEnv false false pr.op && wfOp pr.op && noEmptyAtoms pr.op && clsCanonB pr.op &&
         !cleanProg3 exEnv false false pr.op
     | _ => false) = true ∧
    (match compileCore exEnv {} [40, 63, 58, 97, 124, 98, 99, 41, 123, 50, 44, 51, 125, 63, 120] true with
     | .ok pr => cleanProg4 exEnv false false pr.op && wfOp pr.op && noEmptyAtoms pr.op && clsCanonB pr.op &&
         !cleanProg3 exEnv false false pr.op
     | _ => false) = true := by decide +kernel

/-- `(?:ab|c)+?c` as handed to `ReProgram::new` (un-numbered) -/
def exTree : Op :=
  .seq [.rep 0 (.choice [.atom [97, 98], .atom [99]]) 1 usizeMax false, .atom [99], .endProgram]

/-- "xabcc" -/
def exInput : List Nat := [120, 97, 98, 99, 99]

def exProg : Prog := mkProgram [] exTree 1 {} false

theorem ex_ok : cleanProg4 exEnv false false exProg.op = true ∧ wfOp exTree = true ∧
    noEmptyAtoms exTree = true ∧ clsCanonB exProg.op = true ∧ C02.capsPos exTree = true := by
  refine ⟨?_, ?_, ?_, ?_, ?_⟩ <;> decide +kernel

/-- the compiler's output for the pattern text is this program's tree -/
theorem ex_is_compiled :
    (match compileCore exEnv {} [40, 63, 58, 97, 98, 124, 99, 41, 43, 63, 99] true with
     | .ok pr => (enum4 (pr.ctx id exInput) pr.op 1 == enum4 (exProg.ctx id exInput) exProg.op 1) &&
         (pr.isMatch id exInput == exProg.isMatch id exInput)
     | _ => false) = true := by decide +kernel

theorem exInputOK : InputOKFor exEnv {} id exInput :=
  .of_caseSensitive rfl (fun _ _ h => by cases h) (by decide) (by decide)

private def ctxOf (input : List Nat) : Ctx :=
  { input := input, caseBlind := false, multiLine := false, hasBackrefs := false, maxParens := 1, lower := id }

private theorem ctxOf_ok (input : List Nat) (h1 : ∀ c ∈ input, c < cpLimit) (h2 : ∀ c ∈ input, isSurrogate c = false) :
    InputOK exEnv (ctxOf input) :=
  .of_caseSensitive rfl (fun _ _ h => by cases h) h1 h2

/-- what the engine computes on "xabcc": `is_match` true, span (1, 4) — the SHORTEST match from 1 —,
    `enum4` from 1 is [4, 5] (one iteration `ab` then `c`; two iterations `ab`·`c` then `c`);
    the node alone, from 1, lists the ends for 1, 2, 3 iterations: 3, 4, 5 -/
theorem ex_computed :
    exProg.isMatch id exInput = .ok true ∧
    (matchesFrom (exProg.ctx id exInput) exProg 0 {}).1 = true ∧
    getParenStart (matchesFrom (exProg.ctx id exInput) exProg 0 {}).2 0 = some 1 ∧
    getParenEnd (matchesFrom (exProg.ctx id exInput) exProg 0 {}).2 0 = some 4 ∧
    enum4 (exProg.ctx id exInput) exProg.op 1 = [4, 5] ∧ enum4 (exProg.ctx id exInput) exProg.op 0 = [] ∧
    enum4 (ctxOf exInput) (.rep 1 (.choice [.atom [97, 98], .atom [99]]) 1 usizeMax false) 1 = [3, 4, 5] := by
  decide +kernel

/-- `reluctant_node` / `reluctant_sorted` instantiated: `(?:ab|c){0,2}?` (min = 0) from 1 on "xabcc" -/
example : Step.Seq anySt (sem (ctxOf exInput) (.rep 7 (.choice [.atom [97, 98], .atom [99]]) 0 2 false) 1 {})
      [1, 3, 4] ∧
    (enum4 (ctxOf exInput) (.rep 7 (.choice [.atom [97, 98], .atom [99]]) 0 2 false) 1).Pairwise (· < ·) := by
  have hI := ctxOf_ok exInput (by decide) (by decide)
  have h := reluctant_node exEnv (ctxOf exInput) hI 7 (.choice [.atom [97, 98], .atom [99]]) 0 2
    (by decide +kernel) (by decide +kernel) (by decide +kernel) (by decide +kernel) 1 (by decide) {} trivial
  have e : reluctIter (enum4 (ctxOf exInput) (.choice [.atom [97, 98], .atom [99]])) 0 2 0 1 = [1, 3, 4] := by
    decide +kernel
  rw [e] at h
  exact ⟨h, reluctant_sorted exEnv (ctxOf exInput) hI 7 _ 0 2
    (by decide +kernel) (by decide +kernel) (by decide +kernel) (by decide +kernel) 1 (by decide)⟩

/-- `sem_seq_enum4`, `enum4_iff_OpR`, `matchAt_iff4`, `matchAt_end4` instantiated on the program's tree -/
example : Step.Seq anySt (sem (exProg.ctx id exInput) exProg.op 1 {}) [4, 5] ∧
    (matchAt (exProg.ctx id exInput) exProg.op 1 {}).1 = true ∧
    getParenEnd (matchAt (exProg.ctx id exInput) exProg.op 1 {}).2 0 = some 4 ∧
    (5 ∈ enum4 (ctxOf exInput) (.rep 1 (.choice [.atom [97, 98], .atom [99]]) 1 usizeMax false) 1 ↔
      OpR (ctxOf exInput) (.rep 1 (.choice [.atom [97, 98], .atom [99]]) 1 usizeMax false) 1 5) := by
  have hI : InputOK exEnv (exProg.ctx id exInput) := exInputOK.ctx [] exTree 1 false
  have hw : wfOp exProg.op = true := by decide +kernel
  have hn : noEmptyAtoms exProg.op = true := by decide +kernel
  have h := sem_seq_enum4 exEnv _ hI exProg.op ex_ok.1 hw hn ex_ok.2.2.2.1 1 (by decide) {} trivial
  rw [ex_computed.2.2.2.2.1] at h
  have hm : (matchAt (exProg.ctx id exInput) exProg.op 1 {}).1 = true :=
    (matchAt_iff4 exEnv _ hI exProg.op ex_ok.1 hw hn ex_ok.2.2.2.1 1 (by decide) {}).2
      ⟨4, enum4_sound exEnv _ hI exProg.op ex_ok.1 hw hn ex_ok.2.2.2.1 1 4 (by decide)
        (by rw [ex_computed.2.2.2.2.1]; decide)⟩
  have he := matchAt_end4 exEnv _ hI exProg.op ex_ok.1 hw hn ex_ok.2.2.2.1 1 (by decide) {} hm
  rw [ex_computed.2.2.2.2.1] at he
  exact ⟨h, hm, he, enum4_iff_OpR exEnv (ctxOf exInput) (ctxOf_ok exInput (by decide) (by decide)) _
    (by decide +kernel) (by decide +kernel) (by decide +kernel) (by decide +kernel) 1 5 (by decide)⟩

/-- `min = 0`: `(?:ab|c)*?d` — `CompleteAt` HOLDS (from every state), in contrast with the greedy
    `(?:ab|c)*d` (`Clean3.completeAt_min0_false`): the reluctant iterator does not consult the memo -/
def starTreeR : Op :=
  .seq [.rep 1 (.choice [.atom [97, 98], .atom [99]]) 0 usizeMax false, .atom [100], .endProgram]

theorem star_reluctant_completeAt : CompleteAt Clean3.starCtx starTreeR :=
  completeAt_clean4 exEnv Clean3.starCtx (.of_caseSensitive rfl (fun _ _ h => by cases h) (by decide) (by decide))
    starTreeR (by decide +kernel) (by decide +kernel) (by decide +kernel) (by decide +kernel)

/-- … also from the state whose memo has the entry that defeats the greedy iterator -/
example : (first1 (sem Clean3.starCtx starTreeR 0 { hist := [(1, 0)] })).1.isSome = true :=
  (star_reluctant_completeAt 0 { hist := [(1, 0)] } (by decide) rfl).2 ⟨1, by
    simp only [starTreeR, OpR, OpRSeq]
    refine ⟨0, ⟨0, Nat.le_refl _, Nat.zero_le _, .zero 0⟩, 1, ?_, 1, rfl, rfl⟩
    decide⟩

/-- C01 instantiated -/
theorem ex_isMatch : ∃ j q, j ≤ exInput.length ∧ OpR (exProg.ctx id exInput) exProg.op j q :=
  (clean4_isMatch_iff exEnv [] exTree 1 {} id exInput exInputOK ex_ok.1 ex_ok.2.1 ex_ok.2.2.1 ex_ok.2.2.2.1
    (by decide)).1 ex_computed.1

/-- C02 instantiated: the predicted span is the computed one — leftmost start, SHORTEST end -/
theorem ex_leftmost_first :
    ∃ j n, getParenStart (matchesFrom (exProg.ctx id exInput) exProg 0 {}).2 0 = some j ∧
      getParenEnd (matchesFrom (exProg.ctx id exInput) exProg 0 {}).2 0 = some n ∧
      j = 1 ∧ n = 4 ∧ (enum4 (exProg.ctx id exInput) exProg.op j).head? = some n ∧
      ∀ k q, k < j → ¬ OpR (exProg.ctx id exInput) exProg.op k q := by
  obtain ⟨j, n, hs, he, hh, _, _, _, _, hmin⟩ :=
    clean4_match_is_leftmost_first exEnv [] exTree 1 {} id exInput exInputOK ex_ok.1 ex_ok.2.1 ex_ok.2.2.1
      ex_ok.2.2.2.1 ex_ok.2.2.2.2 (by decide) 0 (Nat.zero_le _) {}
      (matchesFrom (exProg.ctx id exInput) exProg 0 {}).2 rfl
      (by
        have := ex_computed.2.1
        show matchesFrom (exProg.ctx id exInput) exProg 0 {} = _
        rw [← this])
  obtain ⟨_, _, hcs, hce, _, _⟩ := ex_computed
  have hj : j = 1 := by rw [hcs] at hs; exact (Option.some.inj hs).symm
  have hn : n = 4 := by rw [hce] at he; exact (Option.some.inj he).symm
  exact ⟨j, n, hs, he, hj, hn, hh, fun k q hk => hmin k q (Nat.zero_le _) hk⟩

/-- `clean4_isMatch_false` / `clean4_matchesFrom_iff` instantiated: on "xab" there is no match, and the
    hypothesis "no member of the language" is satisfiable (here obtained from the computed answer) -/
example : exProg.isMatch id [120, 97, 98] = .ok false ∧
    ((matchesFrom (exProg.ctx id [120, 97, 98]) exProg 0 {}).1 = true ↔
      ∃ j q, 0 ≤ j ∧ j ≤ 3 ∧ OpR (exProg.ctx id [120, 97, 98]) exProg.op j q) := by
  have hI : InputOKFor exEnv {} id [120, 97, 98] :=
    .of_caseSensitive rfl (fun _ _ h => by cases h) (by decide) (by decide)
  have hno : ¬ ∃ j q, j ≤ [120, 97, 98].length ∧ OpR (exProg.ctx id [120, 97, 98]) exProg.op j q := by
    intro h
    have : exProg.isMatch id [120, 97, 98] = .ok true :=
      (clean4_isMatch_iff exEnv [] exTree 1 {} id [120, 97, 98] hI ex_ok.1 ex_ok.2.1 ex_ok.2.2.1
        ex_ok.2.2.2.1 (by decide)).2 h
    have hc : exProg.isMatch id [120, 97, 98] = .ok false := by decide +kernel
    rw [hc] at this
    cases this
  exact ⟨clean4_isMatch_false exEnv [] exTree 1 {} id [120, 97, 98] hI ex_ok.1 ex_ok.2.1 ex_ok.2.2.1
      ex_ok.2.2.2.1 (by decide) hno,
    (clean4_matchesFrom_iff exEnv [] exTree 1 {} id [120, 97, 98] hI ex_ok.1 ex_ok.2.1 ex_ok.2.2.1
      ex_ok.2.2.2.1 (by decide) 0 (Nat.zero_le _) {} rfl).1⟩

/-- shortcuts on / off instantiated -/
example : (matchesFrom (exProg.ctx id exInput) exProg 0 {}).1 = (matchesNaive (exProg.ctx id exInput) exProg.op 0 {}).1 :=
  (clean4_opt_eq_noopt exEnv [] exTree 1 {} id exInput exInputOK ex_ok.1 ex_ok.2.1 ex_ok.2.2.1
    ex_ok.2.2.2.1 ex_ok.2.2.2.2 (by decide) 0 (Nat.zero_le _) {} {} rfl rfl).1

end examples

end Rx.Clean4
