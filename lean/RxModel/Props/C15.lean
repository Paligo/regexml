/-
  Props/C15 — replacement strings follow the `$N` and backslash rules exactly.

  `expand` (Model/Api) is the transcription of the character loop of `ReMatcher::replace`;
  `Spec.expandSpec` / `Spec.wfRepl` (Spec/Repl) are the rules as the property states them.
-/
import RxModel.Spec.Repl
import RxModel.Proofs.ScanLemmas
import RxModel.Proofs.ReplLemmas
namespace Rx.C15
open Rx Rx.Spec Rx.ReplLemmas

/-- the character loop computes exactly the specified expansion -/
theorem expand_spec (maxCapture : Nat) (grp : Nat → Option (List Nat)) (repl : List Nat) :
    (expand maxCapture grp repl).map (·.1) = expandSpec maxCapture grp repl := by
  rw [expand_text, expandSpec]

/-- malformed replacement strings — and only those — are rejected, whatever the groups hold -/
theorem expand_isSome_iff_wf (maxCapture : Nat) (grp : Nat → Option (List Nat)) (repl : List Nat) :
    (expand maxCapture grp repl).isSome = wfRepl repl := by
  exact expandGo_isSome maxCapture grp _ repl [] true (Nat.lt_succ_self _)

/-- a replacement without `$` and `\` stands for itself and is flagged "simple" -/
theorem expand_plain (maxCapture : Nat) (grp : Nat → Option (List Nat)) (repl : List Nat)
    (h : plainRepl repl = true) : expand maxCapture grp repl = some (repl, true) := by
  unfold expand
  rw [expandGo_plain maxCapture grp _ repl [] true (Nat.lt_succ_self _) h]
  simp

/-- the `simple_replacement` latch is sound: the flag is raised only for a replacement without
    metacharacters, for which later expansions would return the replacement verbatim anyway -/
theorem latch_sound (maxCapture : Nat) (grp : Nat → Option (List Nat)) (repl t : List Nat)
    (h : expand maxCapture grp repl = some (t, true)) :
    plainRepl repl = true ∧ t = repl ∧ ∀ grp', expand maxCapture grp' repl = some (repl, true) := by
  have hp : plainRepl repl = true := by
    rw [expand, expandGo_tokens maxCapture grp _ repl [] true (Nat.lt_succ_self _)] at h
    cases ht : tokens maxCapture (repl.length + 1) repl with
    | none => rw [ht] at h; cases h
    | some ts =>
      rw [ht, Option.map_some, Option.some.injEq, Prod.mk.injEq, Bool.true_and] at h
      exact h.2
  have hall := fun grp' => expand_plain maxCapture grp' repl hp
  exact ⟨hp, (Prod.mk.inj (Option.some.inj ((hall grp).symm.trans h))).1.symm, hall⟩

/-! decision logic stated outright (one step of the loop) -/

theorem expand_cons_plain (mc : Nat) (grp : Nat → Option (List Nat)) (c : Nat) (rest : List Nat)
    (hc : c ≠ 92 ∧ c ≠ 36) :
    (expand mc grp (c :: rest)).map (·.1) = (expand mc grp rest).map (fun r => c :: r.1) :=
  expand_step mc grp (t := .lit c) 0 rfl (tokens_plain (mt beq_iff_eq.mp hc.1) (mt beq_iff_eq.mp hc.2))

theorem expand_backslash (mc : Nat) (grp : Nat → Option (List Nat)) (d : Nat) (rest : List Nat) :
    (expand mc grp (92 :: d :: rest)).map (·.1) =
      if d = 92 ∨ d = 36 then (expand mc grp rest).map (fun r => d :: r.1) else none := by
  have hiff : (d == 92 || d == 36) = true ↔ d = 92 ∨ d = 36 := by
    rw [Bool.or_eq_true, beq_iff_eq, beq_iff_eq]
  by_cases hd : d = 92 ∨ d = 36
  · rw [if_pos hd]
    exact expand_step mc grp (t := .lit d) 1 rfl (tokens_backslash rfl (hiff.mpr hd))
  · rw [if_neg hd, expand_text, tokens_backslash_bad rfl (mt hiff.mp hd)]
    rfl

theorem expand_backslash_end (mc : Nat) (grp : Nat → Option (List Nat)) :
    expand mc grp [92] = none := by
  simp [expand, expandGo]

theorem expand_dollar_end (mc : Nat) (grp : Nat → Option (List Nat)) :
    expand mc grp [36] = none := by
  simp [expand, expandGo]

theorem expand_dollar_nondigit (mc : Nat) (grp : Nat → Option (List Nat)) (d : Nat) (rest : List Nat)
    (hd : isDigit d = false) : expand mc grp (36 :: d :: rest) = none := by
  simp [expand, expandGo, hd]

/-- at most 9 groups: `$d` is group `d` (nothing when there is no such group), one digit only -/
theorem expand_dollar_small (mc : Nat) (grp : Nat → Option (List Nat)) (d : Nat) (rest : List Nat)
    (hd : isDigit d = true) (hmc : mc ≤ 9) :
    (expand mc grp (36 :: d :: rest)).map (·.1) =
      (expand mc grp rest).map (fun r => (if d - 48 ≤ mc then (grp (d - 48)).getD [] else []) ++ r.1) :=
  expand_step mc grp (t := .group (d - 48)) 1 rfl (tokens_dollar_small (by decide) rfl hd hmc)

/-- `$0` is the whole match -/
theorem expand_dollar0 (mc : Nat) (grp : Nat → Option (List Nat)) :
    (expand mc grp [36, 48]).map (·.1) = some ((grp 0).getD []) := by
  by_cases hmc : mc ≤ 9
  · have h := expand_dollar_small mc grp 48 [] (by decide) hmc
    rw [h]
    simp [expand, expandGo]
  · simp [expand, expandGo, isDigit, hmc, takeDigits]

/-! the API level: a malformed replacement is an error exactly when a match is found -/

/-- with a malformed replacement (and without flag q) the first match makes the call fail … -/
theorem replace_malformed_err {σ : Type} (M : MatcherI σ) (input : List Nat) (subst : Subst σ) (st0 : σ)
    (hsub : ∀ st, subst st false = none)
    (hpos : 0 < input.length)
    (st' : σ) (hfind : M.find st0 0 = (true, st')) (hok : M.failed st' = none)
    (a : Nat) (hstart : M.start0 st' = some a) :
    replaceWith M subst input false st0 = .err .invalidReplacement :=
  C04.replaceLoop_match_err hpos hfind hok hstart (Nat.zero_le a) (hsub st')

/-- … and without any match the input is returned as it is, whatever the replacement -/
theorem replace_nomatch {σ : Type} (M : MatcherI σ) (input : List Nat) (subst : Subst σ) (lit : Bool) (st0 : σ)
    (st' : σ) (hfind : M.find st0 0 = (false, st')) (hok : M.failed st' = none) :
    replaceWith M subst input lit st0 = .ok input := by
  by_cases hpos : 0 < input.length
  · exact C04.replaceLoop_nomatch hpos hfind hok
  · exact C04.replaceLoop_end hpos

/-- the concrete substitution of the model: malformed replacement ⇒ `none` (for `hsub` above) -/
theorem subst_malformed (pr : Prog) (input repl : List Nat) (st : St)
    (hmp : pr.maxParens ≠ 0) (h : wfRepl repl = false) : pr.subst input repl st false = none := by
  have hmp' : (pr.maxParens == 0) = false := by simp [hmp]
  have hs := expand_isSome_iff_wf (pr.maxParens - 1) (getParen input st) repl
  rw [h] at hs
  simp only [Prog.subst, Bool.false_eq_true, if_false, hmp']
  cases he : expand (pr.maxParens - 1) (getParen input st) repl with
  | none => rfl
  | some r => simp [he] at hs

/-- flag q: the replacement is used verbatim (`simple` starts out true) -/
theorem subst_literal (pr : Prog) (input repl : List Nat) (st : St) :
    pr.subst input repl st true = some (repl, true) := by
  simp [Prog.subst]

/-- the specification accepts the well-formed replacement strings, whatever the groups hold -/
theorem expandSpec_isSome (mc : Nat) (grp : Nat → Option (List Nat)) (repl : List Nat) :
    (expandSpec mc grp repl).isSome = wfRepl repl := by
  rw [← expand_spec, Option.isSome_map, expand_isSome_iff_wf]

theorem expandSpec_plain (mc : Nat) (grp : Nat → Option (List Nat)) (repl : List Nat)
    (h : plainRepl repl = true) : expandSpec mc grp repl = some repl := by
  rw [← expand_spec, expand_plain mc grp repl h]; rfl

/-- **the concrete substitution against the specification**: for a well-formed replacement it yields the expansion
    Spec/Repl prescribes for the groups of the state — with the `simple_replacement` latch down by running the
    character loop, with the latch up (only ever for a replacement without metacharacters) verbatim — and it
    raises the latch only for a replacement without metacharacters -/
theorem subst_spec (pr : Prog) (input repl : List Nat) (st : St) (hmp : pr.maxParens ≠ 0)
    (hwf : wfRepl repl = true) (simple : Bool) (hs : simple = true → plainRepl repl = true) :
    ∃ s', pr.subst input repl st simple =
        some ((expandSpec (pr.maxParens - 1) (getParen input st) repl).getD [], s') ∧
      (s' = true → plainRepl repl = true) := by
  cases simple with
  | true => exact ⟨true, by rw [subst_literal, expandSpec_plain _ _ _ (hs rfl)]; rfl, hs⟩
  | false =>
    have hsome := expand_isSome_iff_wf (pr.maxParens - 1) (getParen input st) repl
    rw [hwf] at hsome
    simp only [Prog.subst, Bool.false_eq_true, if_false, beq_false_of_ne hmp, ← expand_spec]
    cases he : expand (pr.maxParens - 1) (getParen input st) repl with
    | none => rw [he] at hsome; cases hsome
    | some r => exact ⟨r.2, rfl, fun h => (latch_sound _ _ _ r.1 (by rw [he, ← h])).1⟩

/-! non-vacuity / samples (kernel-evaluated) -/
example : (expand 2 (fun n => if n = 1 then some [120] else none) [97, 36, 49, 36, 50, 92, 36]).map (·.1)
    = some [97, 120, 36] := by decide
example : expand 12 (fun n => some [n]) [36, 49, 50, 51] = some ([12, 51], false) := by decide
example : expand 12 (fun n => some [n]) [36, 49, 51] = some ([1, 51], false) := by decide
example : wfRepl [36, 97] = false ∧ wfRepl [92, 97] = false ∧ wfRepl [92, 92, 36, 48] = true := by decide

end Rx.C15
