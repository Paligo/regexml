/-
  Props/C09b — the class parser builds the denoted set, for the item grammar
  "plain character | range of plain characters", optionally negated (no escapes, no subtraction,
  case-sensitive): `parse_character_class` applied to the rendered text returns exactly
  (the union of the items), complemented for `[^…]`, and consumes exactly the class.
-/
import RxModel.Model.Parser
import RxModel.Proofs.ClassFullLemmas
namespace Rx.C09
open Rx

/-- `[items]` / `[^items]` parses to the denoted set (complemented when negated) and consumes
    exactly the class expression -/
theorem parse_simple_class (c : PC) (hci : c.fl.caseBlind = false) (items : List CItem) (neg : Bool)
    (s : PS) (rest : List Nat) (hne : items ≠ []) (hok : items.all CItem.ok = true)
    (hpat : c.pat.drop s.idx = 91 :: ((if neg then [94] else []) ++ renderItems items ++ 93 :: rest))
    (fuel : Nat) (hfuel : (renderItems items).length + 2 ≤ fuel) :
    parseClass c fuel s =
      .ok (if neg then complR (denoteItems items) else denoteItems items)
          { s with idx := s.idx + 1 + (if neg then 1 else 0) + (renderItems items).length + 1 } := by
  obtain ⟨y, tl, hy, hyp⟩ := render_head_plain items hne hok
  have hsteps := stepsAll_le (items.map CItem.toItem)
  rw [renderAll_toItem] at hsteps
  obtain ⟨g, rfl⟩ : ∃ g, fuel = stepsAll (items.map CItem.toItem) + (g + 1) + 1 :=
    ⟨fuel - stepsAll (items.map CItem.toItem) - 2, by omega⟩
  obtain ⟨hgo, hst⟩ := parseClass_members (c := c) (neg := neg) (s := s) (g + 1)
    (items := items.map CItem.toItem) (fol := 93 :: rest) (by simpa using hne)
    (itemsOkS_toItem _ _ hok)
    (.inr (by rw [renderAll_toItem, hy]; simpa using ((plainCh_iff y).1 hyp).2.2.2.2))
    rfl (by rw [renderAll_toItem, hpat]; simp)
  rw [renderAll_toItem] at hgo hst
  rw [hgo, classLoop_stop hst, hci, foldl_toItem]
  cases neg <;> rfl

/-- membership in the denoted set is membership in one of the items -/
theorem denoteItems_contains (items : List CItem) (hok : items.all CItem.ok = true)
    (hlim : ∀ i ∈ items, match i with | .chr c => c < cpLimit | .range _ b => b < cpLimit) (x : Nat) :
    clsContains (denoteItems items) x =
      items.any (fun i => match i with | .chr c => decide (x = c) | .range a b => decide (a ≤ x) && decide (x ≤ b)) := by
  have h := (foldl_addTo_spec x items [] (by simp [Canon]) hok hlim).2
  rw [show clsContains ([] : Ranges) x = false from rfl, Bool.or_false] at h
  exact h

example : renderItems [.chr 97, .range 98 100] = [97, 98, 45, 100] := by decide

end Rx.C09
