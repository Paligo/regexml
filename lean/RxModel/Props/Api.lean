/-
  Props/Api — end-to-end corollaries: from the pattern TEXT to the API answer.

  The engine theorems (C01, C02, C05, C06) are stated for compiled programs satisfying decidable
  hypotheses; Props/WF shows the compiler establishes them.  Chained together they speak about
  `Regex.new` (flags → pre-pass → parser → optimize → ReProgram::new → nullability) and `is_match`
  on ANY pattern text, flag string and input.  `NoSat` (no saturated body length, i.e. quantifier bounds whose products
  stay below 2^64) is the side condition on the pattern; `isMatch_no_panic` and `isMatch_terminates` have
  decidable hypotheses on the compiled program besides.
-/
import RxModel.Props.WF
import RxModel.Props.C01
import RxModel.Props.C02
import RxModel.Props.C05
import RxModel.Props.C06
import RxModel.Proofs.ApiLemmas
namespace Rx.Api
open Rx

/-- the side condition of `WF.compile_wf` for a pattern under given flags -/
def NoSat (env : Env) (fl : Flags) (p : List Nat) : Prop :=
  ∀ op s, parseExpr { pat := (if !fl.literal && fl.allowWs then stripWs p 0 false else p), fl := fl.core, env := env }
            (4 * (if !fl.literal && fl.allowWs then stripWs p 0 false else p).length + 16) {} true = .ok op s →
          WF.noSat (optimize env fl.core op) = true ∧ WF.noSat op = true

/-- whatever `Regex::new` accepts is a program satisfying the hypotheses of the engine theorems -/
theorem new_wf (env : Env) (p fs : List Nat) (xsd : Bool) (fl : Flags) (r : Regex)
    (hf : parseFlags fs xsd = some fl) (h : Regex.new env p fs xsd true = .ok r) (hns : NoSat env fl p) :
    wfOp r.prog.op = true ∧ C02.capsPos r.prog.op = true ∧
    (hasBackref r.prog.op = true → r.prog.hasBackrefs = true) ∧
    (hasBackref r.prog.op = false → C05.FactsOK r.prog) :=
  WF.compile_wf env fl.core _ r.prog (ApiL.new_compile env p fs xsd true fl r hf h) hns

/-- C01, sound half, from pattern text: `is_match = true` only if some substring of the input is in
    the language of the compiled pattern -/
theorem isMatch_sound (env : Env) (p fs : List Nat) (xsd : Bool) (fl : Flags) (r : Regex)
    (hf : parseFlags fs xsd = some fl) (h : Regex.new env p fs xsd true = .ok r) (hns : NoSat env fl p)
    (input : List Nat) (hm : r.prog.isMatch env.lower input = .ok true) :
    ∃ i j, i ≤ j ∧ j ≤ input.length ∧ OpR (r.prog.ctx env.lower input) r.prog.op i j := by
  obtain ⟨hwf, _, _, _⟩ := new_wf env p fs xsd fl r hf h hns
  exact C01.isMatch_sound r.prog env.lower input hwf hm

/-- C05 from pattern text: for a pattern without back-references `is_match` never panics -/
theorem isMatch_no_panic (env : Env) (p fs : List Nat) (xsd : Bool) (fl : Flags) (r : Regex)
    (hf : parseFlags fs xsd = some fl) (h : Regex.new env p fs xsd true = .ok r) (hns : NoSat env fl p)
    (hnb : hasBackref r.prog.op = false) (hb : r.prog.hasBackrefs = false)
    (input : List Nat) (hlen : input.length < usizeMax) (c : Nat) :
    r.prog.isMatch env.lower input ≠ .panic c := by
  obtain ⟨_, _, _, hfo⟩ := new_wf env p fs xsd fl r hf h hns
  exact C05.isMatch_no_panic r.prog env.lower input hb hnb (hfo hnb) hlen c

/-- the preconditions `ReProgram::new` records are of the simple shape C06 needs (`ApiL.addPre_simple`, under
    the name the property list refers to; likewise `pres_simple` below) -/
theorem addPre_simple (ml : Bool) (op : Op) (hwf : wfOp op = true) (hne : C08.noEmptyAtoms op = true)
    (fp : Option Nat) (mp : Nat) : ∀ q ∈ addPre ml op fp mp, C06.simplePre q.op = true :=
  ApiL.addPre_simple ml op hwf hne fp mp

/-- C06 from pattern text: `is_match` terminates (the model's fuels suffice) for every accepted
    pattern whose reluctant variable repeats have a minimum below `len + 1000` -/
theorem isMatch_terminates (env : Env) (p fs : List Nat) (xsd : Bool) (fl : Flags) (r : Regex)
    (hf : parseFlags fs xsd = some fl) (h : Regex.new env p fs xsd true = .ok r) (hns : NoSat env fl p)
    (input : List Nat) (hsm : C06.smallMin input.length r.prog.op = true)
    (hpre : ∀ q ∈ r.prog.pres, C06.simplePre q.op = true) :
    r.prog.isMatch env.lower input ≠ .diverge := by
  obtain ⟨hwf, _, _, _⟩ := new_wf env p fs xsd fl r hf h hns
  exact C06.isMatch_no_diverge r.prog env.lower input hwf hsm hpre

/-- C02 from pattern text: a reported match is a span inside the input, at or after the requested
    position, and a member of the language of the compiled pattern -/
theorem match_span (env : Env) (p fs : List Nat) (xsd : Bool) (fl : Flags) (r : Regex)
    (hf : parseFlags fs xsd = some fl) (h : Regex.new env p fs xsd true = .ok r) (hns : NoSat env fl p)
    (input : List Nat) (i : Nat) (hi : i ≤ input.length) (st st' : St)
    (hm : matchesFrom (r.prog.ctx env.lower input) r.prog i st = (true, st')) :
    ∃ a b, getParenStart st' 0 = some a ∧ getParenEnd st' 0 = some b ∧ i ≤ a ∧ a ≤ b ∧ b ≤ input.length ∧
      OpR (r.prog.ctx env.lower input) r.prog.op a b := by
  obtain ⟨hwf, hcp, _, _⟩ := new_wf env p fs xsd fl r hf h hns
  exact C02.matchesFrom_span r.prog env.lower input hwf hcp i hi st st' hm

/-- the hypothesis `hpre` of `isMatch_terminates` holds for every program `ReProgram::new`
    builds from a well-formed tree without empty literal (`addPre_simple` through `numberPres` /
    `numberReps`) -/
theorem pres_simple (pat : List Nat) (op : Op) (mp : Nat) (fl : CFlags) (hb : Bool)
    (hwf : wfOp op = true) (hne : C08.noEmptyAtoms op = true) :
    ∀ q ∈ (mkProgram pat op mp fl hb).pres, C06.simplePre q.op = true :=
  ApiL.mkProgram_pres_simple pat op mp fl hb hwf hne

/-- the side condition `NoSat` of a pattern without flags, from a kernel-checkable Boolean -/
theorem noSat_of {env : Env} (pat : List Nat)
    (hk : (match parseExpr { pat := pat, fl := ({} : Flags).core, env := env } (4 * pat.length + 16) {} true with
      | .ok op _ => WF.noSat (optimize env ({} : Flags).core op) && WF.noSat op
      | .err _ => true) = true) : NoSat env {} pat := by
  intro op s hp
  have hp' : parseExpr { pat := pat, fl := ({} : Flags).core, env := env } (4 * pat.length + 16) {} true
      = .ok op s := hp
  rw [hp'] at hk
  simpa only [Bool.and_eq_true] using hk

end Rx.Api
