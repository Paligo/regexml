/-
  Props/EnvStd — the hypotheses about the environment, discharged for the REAL tables `Env.std`.

  Several property theorems are stated for an arbitrary `env : Env` / `lower : Nat → Nat` under
  hypotheses that are checkable facts of the library data.  Here each of them is decided for
  `Env.std` (Model/Unicode: the regenerated ICU / block / category / XML-name tables) by a Boolean
  test over the WHOLE table, run by the kernel (`decide +kernel`), lifted by a general lemma (the
  case tables: Props/CaseTables with Proofs/ClosureStdLemmas; the range tables:
  `C10.canonB_sound`, the category tables and `\w` through `C10.cat_check`); then the theorems are
  instantiated.  Nothing depends on particular table contents beyond what these tests establish: a
  regenerated table either passes them again or makes these files fail to check.  (The evaluations
  that have to scan a case table behind `Env.std` for the absent key U+0130 first unfold `Env.std`
  and re-bracket the table: see Props/CaseTables.)

    hypothesis                                             for `Env.std`
    ------------------------------------------------------------------------------------------
    `C09.EnvCanon env`                                     TRUE   `envStd_canon`
    `∀ a x, x ∈ env.closure a → x < cpLimit`  (`hce`)      TRUE   `closure_bound_std` (Props/CaseTables)
    `∀ x, lower (lower x) = lower x`          (`hidem`)    TRUE   `lower_idem_std`    (Props/CaseTables)
    `C11b.NewlineCaseless lower`              (`hnl`)      TRUE   (`C11b.newlineCaseless_std`)
    `C08.CaseOK env lower`                    (`hcase`)    FALSE  `caseOK_std_false`
        witness: U+0130 / `i` — `lower 0x130 = 'i'`, but the case closure of `i` is `{I}` and that
        of U+0130 is empty.  The closest true statement, `caseOK_std_on`: `CaseOKOn` on the alphabet
        without U+0130.

  Consequences of the FALSE one (section 3): for `Env.std` under flag i the first-set theorems of
  C08c hold only for inputs and literals avoiding U+0130 (`initialClass_sound_std_partial`,
  `disjoint_maxmunch_std_partial`); the unrestricted statements are refuted
  (`initialClass_sound_std_false`, `disjoint_maxmunch_std_false`) — and this is not an artefact of
  the statement: the non-backtracking rewrite built on the first sets LOSES MATCHES on the model
  of the real compiler (`dotted_I_unamb_finding`).
-/
import RxModel.Props.C08c
import RxModel.Props.CaseTables
import RxModel.Props.C10
import RxModel.Props.C11b
import RxModel.Props.C09c
import RxModel.Model.Compile
import RxModel.Model.Api
namespace Rx.EnvStd
open Rx Rx.EnvStdL Rx.C08 Rx.C09

/-! ### 0. the tests of the range tables -/

theorem blocks_canon :
    Gen.allBlocks.all (fun e => C10.canonB (addRange e.2.1 (e.2.2 + 1) [])) = true := by decide +kernel

theorem privateUse_canon :
    C10.canonB (rangesOfInclusive Gen.privateUseRanges) = true := by decide +kernel

/-- `\d`, `\i`, `\c` are canonical lists -/
theorem digit_canon : C10.canonB Env.std.digit = true := by decide +kernel
theorem nameStart_canon : C10.canonB Env.std.nameStart = true := by decide +kernel
theorem nameChar_canon : C10.canonB Env.std.nameChar = true := by decide +kernel

/-! ### 1. `EnvCanon` -/

theorem grpAll_canon (e : List Nat × Ranges) (he : e ∈ Gen.grpAll) : Canon e.2 :=
  canon_of_chain _ 0 (C10.grp_chain e he)

/-- `\w` is canonical: the complement of a union of canonical tables (`C10.word_isMask`).
    (Stated of a variable: the elaborator, meeting `Canon Env.std.word`, computes the set.) -/
theorem word_canon (w : Ranges) (hw : w = Env.std.word) : Canon w := by
  have h : RangeSet.IsMask _ w := (hw.trans (show Env.std.word = wordStd by simp only [Env.std])) ▸ C10.word_isMask
  exact canon_of_chain w 0 h.1

/-- three of the four fixed sets are tested, the two look-ups examined.  (For a variable `env`: with
    `Env.std` in its place the elaborator, meeting a proof of `Canon Env.std.digit`, computes the set.) -/
theorem _root_.Rx.C09.EnvCanon.of_canonB {env : Env} (hd : C10.canonB env.digit = true)
    (hw : ∀ w, w = env.word → Canon w) (hs : C10.canonB env.nameStart = true)
    (hc : C10.canonB env.nameChar = true) (hcat : ∀ n rs, env.category n = some rs → Canon rs)
    (hb : ∀ n rs, env.block n = some rs → Canon rs) : EnvCanon env :=
  ⟨C10.canonB_sound _ hd, hw _ rfl, C10.canonB_sound _ hs, C10.canonB_sound _ hc, hcat, hb⟩

/-- whatever the category look-up returns is canonical -/
theorem category_canon_std : ∀ n rs, Env.std.category n = some rs → Canon rs := by
  intro n rs h
  obtain ⟨long, hm⟩ := categoryStd_mem n rs h
  exact grpAll_canon _ hm

/-- whatever the block look-up returns is canonical -/
theorem block_canon_std : ∀ n rs, Env.std.block n = some rs → Canon rs := by
  intro n rs h
  rcases blockStd_mem n rs h with h1 | ⟨e, he, h1⟩
  · rw [h1]; exact C10.canonB_sound _ privateUse_canon
  · rw [h1]; exact C10.canonB_sound _ (List.all_eq_true.1 blocks_canon e he)

/-- every table of the real environment is a canonical inversion list -/
theorem envStd_canon : EnvCanon Env.std :=
  .of_canonB digit_canon word_canon nameStart_canon nameChar_canon category_canon_std block_canon_std

theorem denote_member_std (xsd : Bool) (e : CExpr) (hok : e.ok xsd Env.std = true) :
    Canon (e.denote Env.std) ∧
      ∀ x, x < cpLimit → (clsContains (e.denote Env.std) x = true ↔ e.Member Env.std x) :=
  denote_member Env.std envStd_canon xsd e hok

/-- `C09.parse_class_full` for a parser context over the real tables: if the pattern text at `s.idx`
    is the rendering of a well-formed class expression, `parse_character_class` succeeds, consumes
    exactly the expression, and returns the canonical inversion list of the denoted set -/
theorem parse_class_full_std (c : PC) (henv : c.env = Env.std) (hci : c.fl.caseBlind = false) (e : CExpr)
    (hok : e.ok c.fl.xsd c.env = true) (s : PS) (rest : List Nat)
    (hpat : c.pat.drop s.idx = e.render ++ rest) (fuel : Nat) (hfuel : e.render.length ≤ fuel) :
    ∃ R, parseClass c fuel s = .ok R { s with idx := s.idx + e.render.length } ∧
      R = e.denote c.env ∧ Canon R ∧
      ∀ x, x < cpLimit → (clsContains R x = true ↔ e.Member c.env x) :=
  parse_class_full c hci (henv ▸ envStd_canon) e hok s rest hpat fuel hfuel

theorem parse_class_full_xsd_xpath_std (c : PC) (henv : c.env = Env.std) (hci : c.fl.caseBlind = false)
    (e : CExpr) (hok : e.ok true c.env = true) (s : PS) (rest : List Nat)
    (hpat : c.pat.drop s.idx = e.render ++ rest) (fuel : Nat) (hfuel : e.render.length ≤ fuel) :
    parseClass c fuel s = .ok (e.denote c.env) { s with idx := s.idx + e.render.length } ∧
    Canon (e.denote c.env) ∧
    ∀ x, x < cpLimit → (clsContains (e.denote c.env) x = true ↔ e.Member c.env x) :=
  parse_class_full_xsd_xpath c hci (henv ▸ envStd_canon) e hok s rest hpat fuel hfuel

/-- `[\p{IsGreek}a-c\d-[\p{IsBasicLatin}-[b]]]` against the real tables -/
def exStd : CExpr :=
  .minus false [.prop true [73, 115, 71, 114, 101, 101, 107], .range (.plain 97) (.plain 99), .cls 100]
    (.minus false [.prop true [73, 115, 66, 97, 115, 105, 99, 76, 97, 116, 105, 110]]
      (.leaf false [.one (.plain 98)]))

theorem exStd_ok : exStd.ok true Env.std = true := by decide +kernel

/-- the theorem applies to it (all hypotheses are met) … -/
example : ∃ R, parseClass ⟨exStd.render, {}, Env.std⟩ exStd.render.length {} =
      .ok R { idx := exStd.render.length } ∧
    R = exStd.denote Env.std ∧ Canon R ∧
    ∀ x, x < cpLimit → (clsContains R x = true ↔ exStd.Member Env.std x) := by
  have h := parse_class_full_std ⟨exStd.render, {}, Env.std⟩ rfl rfl exStd
    (CExpr.ok_mono exStd_ok _) {} [] (by simp) exStd.render.length (Nat.le_refl _)
  simpa using h

/-- … and the set is what one expects: `b` stays, `a`, `c`, `5` are removed, U+03B1 and the
    Arabic-Indic digit U+0663 are in -/
example : (fun R => clsContains R 98 && !clsContains R 97 && !clsContains R 99 && !clsContains R 53 &&
    clsContains R 0x3B1 && clsContains R 0x663) (exStd.denote Env.std) = true := by
  decide +kernel

/-! ### 2. the case data -/

/-- `equal_case_blind` identifies U+0130 with `i`, its lower case (a character and its lower case
    compare equal, lower-casing being idempotent) -/
theorem dottedI_eq_i : eqCB Env.std.lower 304 105 = true := by
  obtain ⟨lower_dottedI, _, _⟩ := C11b.dotted_I_entry
  rw [← lower_dottedI, C11.eqCB_symm, C11.eqCB_lower_left _ lower_idem_std, C11.eqCB_refl]

/-- the statement of `C08.CaseOK` for the real tables (false): the case data are adequate for
    `equal_case_blind` -/
def caseOK_std : Prop := CaseOK Env.std Env.std.lower

/-- counterexample: `a = 'i'`, `x = U+0130`.  `equal_case_blind` identifies them (simple lower-casing
    maps U+0130 to `i`), but U+0130 is not in the case closure of `i`, which is `{I}` -/
theorem caseOK_std_false : ¬ caseOK_std := by
  intro h
  obtain ⟨_, closure_i, _⟩ := C11b.dotted_I_entry
  rcases h.1 105 304 dottedI_eq_i with h0 | h0
  · exact absurd h0 (by decide)
  · rw [closure_i] at h0
    simp at h0

/-- the closest true statement: on the alphabet without U+0130 (neither character is U+0130),
    whatever `equal_case_blind` identifies with `a` is `a` itself or in `a`'s closure.  The closure
    is symmetric and transitive and, off U+0130, holds the lower case of every character that has
    one. -/
theorem caseOK_std_on : CaseOKOn C11b.notDottedI Env.std Env.std.lower := by
  refine ⟨fun a x ha hx he => ?_, closure_bound_std⟩
  rw [C11.eqCB_iff_lower, C11b.stdLower_eq] at he
  exact caseOn_of_closure C11b.notDottedI Gen.lowerTable Env.std.closure C11d.closure_sym_std
    C11d.closure_trans_std (valueInClosure_of_check _ _ _ closureTable_keysInc lowerTable_in_closure)
    a x ha hx he

/-! ### 3. the first-set theorems of C08c for the real tables -/

theorem initialClass_canon_std (cb : Bool) (op : Op) (hc : clsCanon op) : Canon (initialClass Env.std cb op) :=
  initialClass_canon Env.std cb closure_bound_std op hc

theorem nullable_first_all_partial_std (ctx : Ctx)
    (op : Op) (hc : clsCanon op) (hne : noEmptyAtoms op = true) (hns : noEmptySeq op = true)
    (p : Nat) (hp : p ≤ ctx.len) (h : OpR ctx op p p)
    (c : Nat) (hcl : c < cpLimit) : clsContains (initialClass Env.std ctx.caseBlind op) c = true :=
  nullable_first_all_partial Env.std ctx closure_bound_std op hc hne hns p hp h c hcl

theorem nullable_first_all_wf_std (ctx : Ctx)
    (op : Op) (hc : clsCanon op) (hne : noEmptyAtoms op = true) (hwf : wfOp op = true)
    (p : Nat) (hp : p ≤ ctx.len) (h : OpR ctx op p p)
    (c : Nat) (hcl : c < cpLimit) : clsContains (initialClass Env.std ctx.caseBlind op) c = true :=
  nullable_first_all_wf Env.std ctx closure_bound_std op hc hne hwf p hp h c hcl

/-- the matcher context of the counterexamples: input "İ" (U+0130), flag i, the real lower-casing -/
def ctxDottedI : Ctx := ⟨[304], true, false, false, 1, Env.std.lower⟩

/-- under flag i the literal `i` matches "İ" -/
theorem i_matches_dottedI : OpR ctxDottedI (.atom [105]) 0 1 := by
  simp only [OpR]
  exact ⟨rfl, by decide, by simpa [ctxDottedI, prefixMatch, Ctx.eqAt] using dottedI_eq_i⟩

/-- … and so does the literal `İ` -/
theorem dottedI_matches_dottedI : OpR ctxDottedI (.atom [304]) 0 1 := by
  simp only [OpR]
  exact ⟨rfl, by decide, by decide +kernel⟩

/-- STATEMENT OF `C08.initialClass_sound` FOR THE REAL TABLES, without a condition on the alphabet
    (false): a non-empty member of the language starts with a character of the first set -/
def initialClass_sound_std : Prop :=
  ∀ (ctx : Ctx), ctx.lower = Env.std.lower → (∀ c ∈ ctx.input, c < cpLimit) →
    ∀ (op : Op), clsCanon op → ∀ (p q : Nat), p ≤ ctx.len → OpR ctx op p q → p < q →
      ∃ c, ctx.input[p]? = some c ∧ clsContains (initialClass Env.std ctx.caseBlind op) c = true

/-- counterexample: flag i, the literal `i`, the input "İ": the literal matches, but the first set
    of `i` under flag i is `{I, i}` -/
theorem initialClass_sound_std_false : ¬ initialClass_sound_std := by
  intro h
  obtain ⟨c, h1, h2⟩ := h ctxDottedI rfl (by decide) (.atom [105]) (by simp only [clsCanon]; decide)
    0 1 (by decide) i_matches_dottedI (by decide)
  have hc : c = 304 := by simpa [ctxDottedI] using h1.symm
  subst hc
  exact absurd h2 (by decide +kernel)

/-- the closest true statement.  The extra hypothesis `hdi`: under flag i, the input and the literals
    of the tree avoid U+0130 (without flag i it asks nothing). -/
theorem initialClass_sound_std_partial (ctx : Ctx) (hl : ctx.lower = Env.std.lower)
    (hin : ∀ c ∈ ctx.input, c < cpLimit) (op : Op) (hc : clsCanon op)
    (hdi : ctx.caseBlind = true → (∀ c ∈ ctx.input, c ≠ 304) ∧ atomsOverB C11b.notDottedI op = true)
    (p q : Nat) (hp : p ≤ ctx.len) (h : OpR ctx op p q) (hpq : p < q) :
    ∃ c, ctx.input[p]? = some c ∧ clsContains (initialClass Env.std ctx.caseBlind op) c = true := by
  cases hcb : ctx.caseBlind with
  | false =>
    have := initialClass_sound Env.std ctx (fun hb => by rw [hcb] at hb; cases hb) closure_bound_std hin op hc
      p q hp h hpq
    rwa [hcb] at this
  | true =>
    have := sound_op_on C11b.notDottedI Env.std ctx (fun _ => hl ▸ caseOK_std_on) closure_bound_std hin
      (fun c hm => by simpa [C11b.notDottedI] using (hdi hcb).1 c hm) op hc (hdi hcb).2 p q hp h hpq
    rwa [hcb] at this

/-- non-vacuity: `Hi[A-Za-z]` under flag i meets every hypothesis, for every input without U+0130: a
    non-empty member of its language starts with `H` or `h` -/
example (input : List Nat) (hin : ∀ c ∈ input, c < cpLimit) (hdi : ∀ c ∈ input, c ≠ 304) (p q : Nat)
    (hp : p ≤ input.length)
    (h : OpR ⟨input, true, false, false, 1, Env.std.lower⟩ (.seq [.atom [72, 105], .cls C11b.letters]) p q)
    (hpq : p < q) : input[p]? = some 72 ∨ input[p]? = some 104 := by
  obtain ⟨c, h1, h2⟩ := initialClass_sound_std_partial ⟨input, true, false, false, 1, Env.std.lower⟩ rfl hin
    (.seq [.atom [72, 105], .cls C11b.letters])
    (by simp only [clsCanon, clsCanonL, and_true]; exact ⟨by decide, C10.canonB_sound _ (by decide)⟩)
    (fun _ => ⟨hdi, by decide⟩) p q hp h hpq
  have hs : initialClass Env.std true (.seq [.atom [72, 105], .cls C11b.letters]) = [(72, 73), (104, 105)] := by
    decide +kernel
  rw [show (⟨input, true, false, false, 1, Env.std.lower⟩ : Ctx).caseBlind = true from rfl, hs] at h2
  simp only [clsContains, Bool.or_false, Bool.or_eq_true, Bool.and_eq_true, decide_eq_true_eq] at h2
  rcases h2 with h2 | h2
  · left; rw [h1]; congr 1; omega
  · right; rw [h1]; congr 1; omega

/-- STATEMENT OF `C08.disjoint_maxmunch_wf` FOR THE REAL TABLES, without a condition on the
    alphabet (false): with disjoint first sets every match of `X{mn,mx} · next · rest` takes the
    maximal run of X -/
def disjoint_maxmunch_std : Prop :=
  ∀ (ctx : Ctx), ctx.lower = Env.std.lower → (∀ c ∈ ctx.input, c < cpLimit) →
    (∀ c ∈ ctx.input, isSurrogate c = false) →
    ∀ (x next : Op), isAtomOrClass x = true → clsCanon x → clsCanon next →
    noEmptyAtoms x = true → noEmptyAtoms next = true → wfOp next = true →
    isDisjoint (initialClass Env.std ctx.caseBlind x) (initialClass Env.std ctx.caseBlind next) = true →
    ∀ (k p m q : Nat), p ≤ ctx.len →
    IterR (fun a b => OpR ctx x a b) k p m → OpR ctx next m q → ∀ (mx : Nat), k ≤ mx →
    k = mx ∨ ¬ ∃ m', OpR ctx x m m'

/-- counterexample: flag i, `X` = the literal `İ`, `next` = the literal `i`, the input "İ".  The first
    sets `{İ}` and `{I, i}` are disjoint, zero iterations of `X` followed by `next` is a match
    (`i` matches "İ"), but `X` matches at that position, too -/
theorem disjoint_maxmunch_std_false : ¬ disjoint_maxmunch_std := by
  intro h
  have := h ctxDottedI rfl (by decide) (by decide) (.atom [304]) (.atom [105]) (by decide)
    (by simp only [clsCanon]; decide) (by simp only [clsCanon]; decide) (by decide) (by decide) (by decide)
    (by
      simp only [Env.std, stdClosure_seek]
      simp only [Gen.closureTable, List.append_assoc]
      decide +kernel)
    0 0 0 1 (by decide) (IterR.zero 0) i_matches_dottedI 1 (by decide)
  rcases this with h0 | h1
  · cases h0
  · exact h1 ⟨1, dottedI_matches_dottedI⟩

/-- the closest true statement.  The extra hypothesis `hdi`: under flag i, the input and the literals
    of `X` and `next` avoid U+0130 (without flag i it asks nothing). -/
theorem disjoint_maxmunch_std_partial (ctx : Ctx) (hl : ctx.lower = Env.std.lower)
    (hin : ∀ c ∈ ctx.input, c < cpLimit) (hsc : ∀ c ∈ ctx.input, isSurrogate c = false)
    (x next : Op) (hx : isAtomOrClass x = true) (hcx : clsCanon x) (hcn : clsCanon next)
    (hnx : noEmptyAtoms x = true) (hnn : noEmptyAtoms next = true) (hwf : wfOp next = true)
    (hdi : ctx.caseBlind = true → (∀ c ∈ ctx.input, c ≠ 304) ∧
      atomsOverB C11b.notDottedI x = true ∧ atomsOverB C11b.notDottedI next = true)
    (hdis : isDisjoint (initialClass Env.std ctx.caseBlind x) (initialClass Env.std ctx.caseBlind next) = true)
    (k p m q : Nat) (hp : p ≤ ctx.len)
    (hiter : IterR (fun a b => OpR ctx x a b) k p m) (hnext : OpR ctx next m q) (mx : Nat) (hk : k ≤ mx) :
    k = mx ∨ ¬ ∃ m', OpR ctx x m m' := by
  cases hcb : ctx.caseBlind with
  | false =>
    exact disjoint_maxmunch_wf Env.std ctx (fun hb => by rw [hcb] at hb; cases hb) closure_bound_std hin hsc
      x next hx hcx hcn hnx hnn hwf hdis k p m q hp hiter hnext mx hk
  | true =>
    exact .inr (maxmunch_on C11b.notDottedI Env.std ctx (fun _ => hl ▸ caseOK_std_on) closure_bound_std hin
      (fun c hm => by simpa [C11b.notDottedI] using (hdi hcb).1 c hm) hsc x next hx hcx hcn
      (hdi hcb).2.1 (hdi hcb).2.2 hnx hnn (noEmptySeq_of_wfOp next hwf) hdis k p m q hp hiter hnext)

/-- non-vacuity: the class and the literal of `[a-k]*x` compiled under flag i (`C11b.compiledEx`: the
    class is `[A-Ka-k]` plus U+212A) meet every hypothesis, for every input of scalar values without
    U+0130: the run of the class before `x` is maximal -/
example (input : List Nat) (hin : ∀ c ∈ input, c < cpLimit) (hsc : ∀ c ∈ input, isSurrogate c = false)
    (hdi : ∀ c ∈ input, c ≠ 304) (k p m q : Nat) (hp : p ≤ input.length)
    (hiter : IterR (fun a b => OpR ⟨input, true, false, false, 1, Env.std.lower⟩
      (.cls [(65, 76), (97, 108), (8490, 8491)]) a b) k p m)
    (hnext : OpR ⟨input, true, false, false, 1, Env.std.lower⟩ (.atom [120]) m q) :
    ¬ ∃ m', OpR ⟨input, true, false, false, 1, Env.std.lower⟩ (.cls [(65, 76), (97, 108), (8490, 8491)]) m m' := by
  have hd : isDisjoint (initialClass Env.std true (.cls [(65, 76), (97, 108), (8490, 8491)]))
      (initialClass Env.std true (.atom [120])) = true := by decide +kernel
  have := disjoint_maxmunch_std_partial ⟨input, true, false, false, 1, Env.std.lower⟩ rfl hin hsc
    (.cls [(65, 76), (97, 108), (8490, 8491)]) (.atom [120]) (by decide)
    (by simp only [clsCanon]; exact C10.canonB_sound _ (by decide)) (by simp only [clsCanon]; decide)
    (by decide) (by decide) (by decide) (fun _ => ⟨hdi, by decide, by decide⟩) hd
    k p m q hp hiter hnext (k + 1) (Nat.le_succ k)
  rcases this with h0 | h0
  · omega
  · exact h0

/-- a compiled program under flag i whose literals avoid U+0130 (the decidable hypothesis, on the
    output of the model's compiler): `^[a-k]+x$` -/
example : (match C11b.compiledEx with
    | .ok pr => atomsOverB C11b.notDottedI pr.op
    | _ => false) = true := by decide +kernel

/-! ### ENGINE FINDING: the non-backtracking rewrite loses matches at U+0130 under flag i

  `Sequence::optimize` turns `X*` into a repeat that never gives characters back when
  `no_ambiguity` judges the first sets of `X` and of the following term disjoint.  Under flag i the
  first set of a literal is "the character and its case closure" (`CaseMapCloser`), but the matcher
  compares by simple lower-casing (`equal_case_blind`), and the two disagree at U+0130
  (`caseOK_std_false`).  So the first sets of `i` and of anything containing "İ" but not `i`/`I` are
  judged disjoint although both match "İ" (resp. `i`), the repeat is made non-backtracking, and the
  match that needs the repeat to give the character back is lost.  Kernel-checked on the model of
  the real compiler and matcher (`compileCore Env.std`, optimised vs. un-optimised, then
  `Prog.isMatch`); to replay on the Rust code: flags "i", `Regex::is_match`:

      pattern    input   un-optimised   optimised
      `İ*i`      "İ"     true           FALSE        (İ = U+0130)
      `i*İ`      "i"     true           FALSE
      `[^a-z]*i` "İ"     true           FALSE        (pattern is plain ASCII)
      `[^i]*i`   "İ"     true           FALSE        (pattern is plain ASCII)

  Replayed on the harness binary of the real crate (`rxh worker`, modes `noopt` / `opt`, api
  `is_match`): the four rows answer T / F exactly as above, and `dump` of the optimised `İ*i` shows
  `(seq (unamb (atom 304) 0 18446744073709551615) (atom 105) (end))`.
-/

/-- the answer of the compiled program (`optimizeOn`: with / without the optimiser) under flag i -/
def answer (pat input : List Nat) (optimizeOn : Bool) : Out Bool :=
  match compileCore Env.std { caseBlind := true } pat optimizeOn with
  | .ok pr => pr.isMatch Env.std.lower input
  | _ => .diverge

/-- `İ*i` on "İ" -/
theorem dotted_I_unamb_finding :
    answer [304, 42, 105] [304] false = .ok true ∧ answer [304, 42, 105] [304] true = .ok false := by
  simp only [answer, Env.std, stdClosure_seek, stdLower_seek]
  simp only [Gen.closureTable, Gen.lowerTable, List.append_assoc]
  decide +kernel

/-- `i*İ` on "i" -/
theorem dotted_I_unamb_finding_2 :
    answer [105, 42, 304] [105] false = .ok true ∧ answer [105, 42, 304] [105] true = .ok false := by
  simp only [answer, Env.std, stdClosure_seek, stdLower_seek]
  simp only [Gen.closureTable, Gen.lowerTable, List.append_assoc]
  decide +kernel

/-- `[^a-z]*i` on "İ": the pattern is plain ASCII -/
theorem dotted_I_unamb_finding_3 :
    answer [91, 94, 97, 45, 122, 93, 42, 105] [304] false = .ok true ∧
    answer [91, 94, 97, 45, 122, 93, 42, 105] [304] true = .ok false := by
  simp only [answer, Env.std, stdClosure_seek, stdLower_seek]
  simp only [Gen.closureTable, Gen.lowerTable, List.append_assoc]
  decide +kernel

/-- `[^i]*i` on "İ": the pattern is plain ASCII -/
theorem dotted_I_unamb_finding_4 :
    answer [91, 94, 105, 93, 42, 105] [304] false = .ok true ∧
    answer [91, 94, 105, 93, 42, 105] [304] true = .ok false := by
  simp only [answer, Env.std, stdClosure_seek, stdLower_seek]
  simp only [Gen.closureTable, Gen.lowerTable, List.append_assoc]
  decide +kernel

/-- what the optimiser did: the repeat became an `unamb` (UnambiguousRepeat) node -/
theorem dotted_I_unamb_program :
    (match compileCore Env.std { caseBlind := true } [304, 42, 105] true with
     | .ok pr =>
       (match pr.op with
        | .seq [.unamb (.atom a) 0 mx, .atom b, .endProgram] => a == [304] && mx == usizeMax && b == [105]
        | _ => false)
     | _ => false) = true := by
  simp only [Env.std, stdClosure_seek, stdLower_seek]
  simp only [Gen.closureTable, Gen.lowerTable, List.append_assoc]
  decide +kernel

/-- control: when neither the pattern nor the input contains U+0130 the two programs agree, e.g.
    `[^i]*i` on "xi" and on "I"; and so they do for `x*i` on "İ" (no rewrite: `x` does not match "İ") -/
example : answer [91, 94, 105, 93, 42, 105] [120, 105] false = .ok true ∧
    answer [91, 94, 105, 93, 42, 105] [120, 105] true = .ok true ∧
    answer [91, 94, 105, 93, 42, 105] [73] false = .ok true ∧
    answer [91, 94, 105, 93, 42, 105] [73] true = .ok true ∧
    answer [120, 42, 105] [304] false = .ok true ∧ answer [120, 42, 105] [304] true = .ok true := by
  simp only [answer, Env.std, stdClosure_seek, stdLower_seek]
  simp only [Gen.closureTable, Gen.lowerTable, List.append_assoc]
  decide +kernel

/-! ### 4. the other theorems that carry a hypothesis on `lower` -/

/-- `C11b.language_lowercased_input` for the real table (both table hypotheses discharged; the
    hypothesis on the classes stays: it is about the tree, `C11b.allClsClosed_of_check` decides it) -/
theorem language_lowercased_input_std (ctx : Ctx) (hl : ctx.lower = Env.std.lower) (hcb : ctx.caseBlind = true)
    (op : Op) (hc : C11b.allClsClosed ctx.lower op) :
    OpR ctx op = OpR { ctx with input := ctx.input.map ctx.lower } op :=
  C11b.language_lowercased_input ctx hcb (hl ▸ lower_idem_std) (hl ▸ C11b.newlineCaseless_std) op hc

/-- `C11b.language_case_invariant_on` for the real table on the alphabet without U+0130 (the table
    hypothesis `NewlineCaseless` discharged) -/
theorem language_case_invariant_std (ctx : Ctx) (hl : ctx.lower = Env.std.lower) (ys : List Nat)
    (hcb : ctx.caseBlind = true) (hin : C11b.CaseEquivInputs ctx.lower ctx.input ys)
    (hA : C11b.Over C11b.notDottedI ctx.input) (hA' : C11b.Over C11b.notDottedI ys)
    (op : Op) (hc : C11b.allClsClosedOn C11b.notDottedI ctx.lower op) :
    OpR ctx op = OpR { ctx with input := ys } op :=
  C11b.language_case_invariant_on C11b.notDottedI ctx ys hcb hin hA hA' (hl ▸ C11b.newlineCaseless_std) op hc

/-- non-vacuity of the last two: `^[a-h]+x$` compiled under flags i, m (`C11b.compiledEx2`, its class
    is closed on the full alphabet) has the same language on an input and on its lower-casing -/
example (pr : Prog) (hpr : C11b.compiledEx2 = .ok pr) (xs : List Nat) :
    OpR (pr.ctx Env.std.lower xs) pr.op = OpR (pr.ctx Env.std.lower (xs.map Env.std.lower)) pr.op := by
  have h2 := C11b.compiledEx2_closed
  rw [hpr] at h2
  simp only [Bool.and_eq_true] at h2
  exact language_lowercased_input_std (pr.ctx Env.std.lower xs) rfl h2.2 pr.op
    (C11b.allClsClosed_of_check pr.op h2.1)

end Rx.EnvStd
