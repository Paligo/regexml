/-
  Props/C09d — the "only if" half for character classes: the class parser accepts ONLY texts
  generated by the class grammar of Props/C09c.

  `parse_class_inv`: whenever `parse_character_class` (`parseClass`) succeeds — any flags, any fuel,
  any start position — the text it consumed is exactly the rendering of a class expression `e`
  that is well-formed (`CExpr.ok`: the grammar), and the list it returns is
  `e.denoteG c.env c.fl.caseBlind` (`parse_class_inv_any`; `e.denote` in the case-sensitive
  compiler).  Together with `parseClass_renderG` (Proofs/ClassFullLemmas, any flags) this gives
  `class_accept_iff`:
        accepted  ⇔  the text at the position begins with the rendering of a well-formed `CExpr`.

  So `CExpr.ok` — members non-empty; plain characters are anything but `\ [ ] -`; the escapes
  listed in `escSingleOk` / `clsEscOk` / `\p{..}` with a name the environment knows; ranges with
  plain or escaped end points in order; a bare hyphen anywhere except directly before another
  hyphen and except between a single character and a further member (where it would be a range
  operator); `^` first only as negation; an optional final subtraction `-[…]` — is EXACTLY the set
  of accepted class texts.  No exclusion is needed: there is no accepted text that
  no `ok` expression renders to.  The hyphen after a range or class escape (`[a-c-9]`, `[\d-x]`) is
  part of `itemsOk` (and legal in XSD 1.1).  What the parser REJECTS although XSD 1.1 allows it is
  an unescaped hyphen as a range end point (`[+--]`, `[--a]`): see the examples of C09c.

  The only hypothesis is `PatScalar c` (every pattern character is a code point `< 0x110000`, as
  for any Rust `char`): `Item.ok` asks the members to be code points.

  `parseClass_err_syntax`: called at a `[` with the fuel `parse_terminal` passes (or any fuel
  `≥ c.len + 1 - s.idx`), the class parser never reports `Error::Internal`: every failure is
  `Error::Syntax`.

-/
import RxModel.Model.Parser
import RxModel.Props.C09c
import RxModel.Proofs.ClassInvLemmas
namespace Rx.C09
open Rx

/-- INVERSION of the class parser, for either value of flag i: an accepted text is the rendering of
    a well-formed class expression, consumed exactly, and the result is the list `denoteG` builds -/
theorem parse_class_inv_any (c : PC) (hps : PatScalar c) (fuel : Nat) (s s' : PS) (R : Ranges)
    (h : parseClass c fuel s = .ok R s') :
    ∃ e : CExpr, e.ok c.fl.xsd c.env = true ∧
      (c.pat.drop s.idx).take (s'.idx - s.idx) = e.render ∧
      c.pat.drop s.idx = e.render ++ c.pat.drop s'.idx ∧
      s.idx < s'.idx ∧ s'.idx ≤ c.len ∧ s'.idx = s.idx + e.render.length ∧
      s' = { s with idx := s'.idx } ∧ R = e.denoteG c.env c.fl.caseBlind := by
  obtain ⟨e, hok, htext, hR⟩ := (class_inv_all c hps fuel).1 fuel (Nat.le_refl _) s R s' h
  obtain ⟨hs', _, hle, _⟩ := parseClass_ok h
  have hlen := congrArg List.length htext
  simp only [List.length_drop, List.length_append] at hlen
  have h2 := e.render_len_pos
  have hlen' : c.pat.length = c.len := rfl
  have hidx : s'.idx = s.idx + e.render.length := by omega
  refine ⟨e, hok, ?_, htext, by omega, hle, hidx, hs', hR⟩
  rw [htext, hidx, Nat.add_sub_cancel_left, List.take_left]

/-- INVERSION of the class parser (any flags): an accepted text is the rendering of a well-formed
    class expression, consumed exactly; case-sensitively the result is its denotation -/
theorem parse_class_inv (c : PC) (hps : PatScalar c) (fuel : Nat) (s s' : PS) (R : Ranges)
    (h : parseClass c fuel s = .ok R s') :
    ∃ e : CExpr, e.ok c.fl.xsd c.env = true ∧
      (c.pat.drop s.idx).take (s'.idx - s.idx) = e.render ∧
      c.pat.drop s.idx = e.render ++ c.pat.drop s'.idx ∧
      s.idx < s'.idx ∧ s'.idx ≤ c.len ∧ s'.idx = s.idx + e.render.length ∧
      s' = { s with idx := s'.idx } ∧
      (c.fl.caseBlind = false → R = e.denote c.env) := by
  obtain ⟨e, h1, h2, h3, h4, h5, h6, h7, hR⟩ := parse_class_inv_any c hps fuel s s' R h
  exact ⟨e, h1, h2, h3, h4, h5, h6, h7, fun hcb => by rw [hR, hcb, denoteG_false]⟩

/-- the case-sensitive compiler: the accepted text is a class expression and the class built is
    its set algebra (`denote_member` of C09c then reads the list as a set) -/
theorem parse_class_inv_cs (c : PC) (hps : PatScalar c) (hci : c.fl.caseBlind = false) (fuel : Nat)
    (s s' : PS) (R : Ranges) (h : parseClass c fuel s = .ok R s') :
    ∃ e : CExpr, e.ok c.fl.xsd c.env = true ∧
      (c.pat.drop s.idx).take (s'.idx - s.idx) = e.render ∧ s.idx < s'.idx ∧ s'.idx ≤ c.len ∧
      R = e.denote c.env := by
  obtain ⟨e, hok, ht, _, h1, h2, _, _, hR⟩ := parse_class_inv c hps fuel s s' R h
  exact ⟨e, hok, ht, h1, h2, hR hci⟩

/-- … and semantically: under canonical tables, the class returned contains exactly the members of
    the expression read off the text -/
theorem parse_class_inv_member (c : PC) (hps : PatScalar c) (hci : c.fl.caseBlind = false)
    (henv : EnvCanon c.env) (fuel : Nat) (s s' : PS) (R : Ranges)
    (h : parseClass c fuel s = .ok R s') :
    ∃ e : CExpr, e.ok c.fl.xsd c.env = true ∧
      (c.pat.drop s.idx).take (s'.idx - s.idx) = e.render ∧ Canon R ∧
      ∀ x, x < cpLimit → (clsContains R x = true ↔ e.Member c.env x) := by
  obtain ⟨e, hok, ht, _, _, hR⟩ := parse_class_inv_cs c hps hci fuel s s' R h
  obtain ⟨h1, h2⟩ := denote_member c.env henv c.fl.xsd e hok
  exact ⟨e, hok, ht, hR ▸ h1, hR ▸ h2⟩

/-- acceptance (any flags) of a rendered well-formed expression, with any sufficient fuel -/
theorem parse_class_accepts (c : PC) (e : CExpr) (hok : e.ok c.fl.xsd c.env = true) (s : PS)
    (rest : List Nat) (hpat : c.pat.drop s.idx = e.render ++ rest) (fuel : Nat)
    (hfuel : e.render.length ≤ fuel) :
    ∃ R, parseClass c fuel s = .ok R { s with idx := s.idx + e.render.length } :=
  ⟨_, parseClass_renderG e s rest fuel hok hpat hfuel⟩

/-- ACCEPTED ⇔ IN THE CLASS GRAMMAR.  At any position, with any fuel `≥ c.len` (`parse_terminal`
    passes `c.len + 2`) and any flags: the class parser succeeds iff the text at the position
    begins with the rendering of a well-formed class expression. -/
theorem class_accept_iff (c : PC) (hps : PatScalar c) (s : PS) (fuel : Nat) (hf : c.len ≤ fuel) :
    (∃ R s', parseClass c fuel s = .ok R s') ↔
      ∃ (e : CExpr) (rest : List Nat), e.ok c.fl.xsd c.env = true ∧
        c.pat.drop s.idx = e.render ++ rest := by
  constructor
  · rintro ⟨R, s', h⟩
    obtain ⟨e, hok, _, ht, _⟩ := parse_class_inv c hps fuel s s' R h
    exact ⟨e, _, hok, ht⟩
  · rintro ⟨e, rest, hok, ht⟩
    have hl := PC.drop_len ht
    simp only [List.length_append] at hl
    obtain ⟨R, h⟩ := parse_class_accepts c e hok s rest ht fuel (by omega)
    exact ⟨R, _, h⟩

/-- the same, naming the end state: the parser stops at `s'` iff the text between `s` and `s'` is
    the rendering of a well-formed class expression -/
theorem class_accept_iff_span (c : PC) (hps : PatScalar c) (s s' : PS) (fuel : Nat)
    (hf : c.len ≤ fuel) :
    (∃ R, parseClass c fuel s = .ok R s') ↔
      ∃ e : CExpr, e.ok c.fl.xsd c.env = true ∧ c.pat.drop s.idx = e.render ++ c.pat.drop s'.idx ∧
        s' = { s with idx := s.idx + e.render.length } := by
  constructor
  · rintro ⟨R, h⟩
    obtain ⟨e, hok, _, ht, _, _, hidx, hs', _⟩ := parse_class_inv c hps fuel s s' R h
    exact ⟨e, hok, ht, by rw [hs', hidx]⟩
  · rintro ⟨e, hok, ht, hs'⟩
    have hl := PC.drop_len ht
    simp only [List.length_append] at hl
    obtain ⟨R, h⟩ := parse_class_accepts c e hok s _ ht fuel (by omega)
    exact ⟨R, by rw [hs']; exact h⟩

/-- the contrapositive, as a rejection criterion: if no well-formed class expression renders to a
    prefix of the text, the parser fails -/
theorem class_rejected_of_not_grammar (c : PC) (hps : PatScalar c) (s : PS) (fuel : Nat)
    (hno : ∀ (e : CExpr) (rest : List Nat), e.ok c.fl.xsd c.env = true →
      c.pat.drop s.idx ≠ e.render ++ rest) :
    ∃ err, parseClass c fuel s = .err err := by
  cases h : parseClass c fuel s with
  | err e => exact ⟨e, rfl⟩
  | ok R s' =>
    obtain ⟨e, hok, _, ht, _⟩ := parse_class_inv c hps fuel s s' R h
    exact absurd ht (hno e _ hok)

/-! ### the error kind -/

/-- called at a `[` with enough fuel (`c.len + 1 - s.idx`; `parse_terminal` passes `c.len + 2`),
    the class parser fails only with `Error::Syntax`, never `Error::Internal` -/
theorem parseClass_err_syntax (c : PC) (fuel : Nat) (s : PS) (e : Err) (h91 : c.at s.idx = 91)
    (hf : c.len + 1 ≤ fuel + s.idx) (h : parseClass c fuel s = .err e) : e = .syntax :=
  parseClass_err h91 hf h

/-- as `parse_terminal` calls it -/
theorem parseClass_terminal_err_syntax (c : PC) (s : PS) (e : Err) (h91 : c.at s.idx = 91)
    (h : parseClass c (c.len + 2) s = .err e) : e = .syntax :=
  parseClass_err_syntax c (c.len + 2) s e h91 (by omega) h

/-- so at a `[` the outcome is a dichotomy: a well-formed class expression, or `Error::Syntax` -/
theorem class_dichotomy (c : PC) (hps : PatScalar c) (s : PS) (h91 : c.at s.idx = 91) :
    (∃ (e : CExpr) (R : Ranges), e.ok c.fl.xsd c.env = true ∧
        c.pat.drop s.idx = e.render ++ c.pat.drop (s.idx + e.render.length) ∧
        parseClass c (c.len + 2) s = .ok R { s with idx := s.idx + e.render.length }) ∨
    parseClass c (c.len + 2) s = .err .syntax := by
  cases h : parseClass c (c.len + 2) s with
  | err e =>
    right
    rw [parseClass_terminal_err_syntax c s e h91 h]
  | ok R s' =>
    left
    obtain ⟨e, hok, _, ht, _, _, hidx, hs', _⟩ := parse_class_inv c hps _ s s' R h
    refine ⟨e, R, hok, by rw [← hidx]; exact ht, ?_⟩
    rw [hs', hidx]

/-! ### examples: accepted texts and the expression read off them -/

instance (c : PC) : Decidable (PatScalar c) := by unfold PatScalar; infer_instance

/-- `[a-c-9]` (hyphen after a range), `[\d-x]` (hyphen after a class escape) -/
def exLenient1 : CExpr := .leaf false [.range (.plain 97) (.plain 99), .hyphen, .one (.plain 57)]
def exLenient2 : CExpr := .leaf false [.cls 100, .hyphen, .one (.plain 120)]

example : exLenient1.render = [91, 97, 45, 99, 45, 57, 93] ∧ exLenient1.ok true envT = true ∧
    run exLenient1.render = .ok (exLenient1.denote envT, 7) := by decide +kernel
example : exLenient2.render = [91, 92, 100, 45, 120, 93] ∧ exLenient2.ok true envT = true ∧
    run exLenient2.render = .ok (exLenient2.denote envT, 6) := by decide +kernel

/-- `[^-\--[\p{L}-[a-f]]]`: negation, leading hyphen, escaped hyphen, trailing hyphen before a
    nested subtraction -/
def exDeep : CExpr :=
  .minus true [.hyphen, .one (.esc 45), .hyphen]
    (.minus false [.prop true [76]] (.leaf false [.range (.plain 97) (.plain 102)]))

example : exDeep.render =
    [91, 94, 45, 92, 45, 45, 45, 91, 92, 112, 123, 76, 125, 45, 91, 97, 45, 102, 93, 93, 93] := by
  decide
/- the second bare hyphen stands directly after a single character (`\-`), so it must be the last
   member — it is: the subtraction follows -/
example : exDeep.ok true envT = true ∧
    run exDeep.render = .ok (exDeep.denote envT, exDeep.render.length) := by decide +kernel

theorem ok_of_resOf {r : PRes Ranges} {R : Ranges} {n : Nat} (h : resOf r = .ok (R, n)) :
    ∃ s', r = .ok R s' ∧ s'.idx = n := by
  cases r with
  | err e => simp [resOf] at h
  | ok R' s' =>
    simp only [resOf, Res.ok.injEq, Prod.mk.injEq] at h
    exact ⟨s', by rw [h.1], h.2⟩

/-- the inversion applied to a concrete accepted text: `parse_class_inv` yields a well-formed
    expression with exactly that rendering -/
example : ∃ e : CExpr, e.ok false envT = true ∧
    ([91, 97, 45, 99, 45, 57, 93] : List Nat) = e.render := by
  have hps : PatScalar ⟨[91, 97, 45, 99, 45, 57, 93], {}, envT⟩ := by decide
  have hrun : run [91, 97, 45, 99, 45, 57, 93] = .ok ([(45, 46), (57, 58), (97, 100)], 7) := by
    decide +kernel
  obtain ⟨s', hp, hidx⟩ := ok_of_resOf hrun
  obtain ⟨e, hok, ht, _⟩ := parse_class_inv _ hps _ _ _ _ hp
  refine ⟨e, hok, ?_⟩
  rw [← ht, hidx]
  rfl

/-- a rejected text has no well-formed expression: by `class_accept_iff`, from the computed
    rejection — `[+--]` -/
example : ¬ ∃ (e : CExpr) (rest : List Nat), e.ok false envT = true ∧
    ([91, 43, 45, 45, 93] : List Nat) = e.render ++ rest := by
  have hps : PatScalar ⟨[91, 43, 45, 45, 93], {}, envT⟩ := by decide
  intro hex
  obtain ⟨R, s', hp⟩ :=
    (class_accept_iff ⟨[91, 43, 45, 45, 93], {}, envT⟩ hps {} 7 (by decide)).2 hex
  have hrun : run [91, 43, 45, 45, 93] = .error .syntax := by decide +kernel
  simp [run, resOf, hp] at hrun

/-- the error kind on concrete texts -/
example : run [91, 97, 45] = .error .syntax ∧ run [91, 92] = .error .syntax ∧
    run [91, 92, 112, 123, 88, 125, 93] = .error .syntax ∧ run [91, 97, 92, 49, 93] = .error .syntax := by
  decide +kernel

end Rx.C09
