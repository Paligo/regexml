/-
  Props/Clean3Api — the fragments with the GENERAL greedy repeat (Spec/Enum3, Props/Clean3, Props/Clean3Memo)
  from the pattern text: `Regex::new`.

  The decidable hypotheses are stated on the compiled program's own tree `r.prog.op` (the numbered tree):
      `cleanProg3 env fl.caseBlind fl.multiLine r.prog.op`, `clsCanonB r.prog.op`      (`min ≥ 1` repeats)
      `Memo.cleanProg3m env fl.caseBlind fl.multiLine r.prog.op`, `clsCanonB r.prog.op` (root-level `min = 0`)
  plus `Api.NoSat`, `r.prog.hasBackrefs = false`, "not the empty pattern under flag q", `InputOKFor`.

  The fragment is inside that of Spec/Enum4: `api_clean3_isMatch_iff`, `api_clean3_opt_eq_noopt` and the scan
  level are the theorems of Props/Clean4Api through `Clean4.cleanProg4_of_cleanProg3`.

  The headline theorems of Props/ApiComplete (`api_gate_iff`, `api_tokenize_spec`, `api_replace_spec`,
  `api_analyze_spec`, `api_*_total`) for this fragment are in Props/Clean3ApiComplete.
-/
import RxModel.Props.Clean3Complete
import RxModel.Props.Clean3Memo
import RxModel.Props.Clean4Api
namespace Rx.Clean3Api
open Rx Rx.SearchComplete Rx.Clean2Api
open Rx.C08 (noEmptyAtoms)
open Rx.CleanComplete (new_prog)

/-! ## 1. from `Regex::new`: the `min ≥ 1` fragment -/

/-- C01 from the pattern text, both directions -/
theorem api_clean3_isMatch_iff (env : Env) (p fs : List Nat) (xsd : Bool) (fl : Flags) (r : Regex)
    (hf : parseFlags fs xsd = some fl) (h : Regex.new env p fs xsd true = .ok r) (hns : Api.NoSat env fl p)
    (hclean : cleanProg3 env fl.caseBlind fl.multiLine r.prog.op = true) (hcan : clsCanonB r.prog.op = true)
    (hnb : r.prog.hasBackrefs = false) (hlit : fl.literal = true → p ≠ [])
    (input : List Nat) (hI : InputOKFor env fl.core env.lower input) (hlen : input.length < usizeMax) :
    (r.prog.isMatch env.lower input = .ok true ↔
      ∃ j q, j ≤ input.length ∧ OpR (r.prog.ctx env.lower input) r.prog.op j q) ∧
    ((¬ ∃ j q, j ≤ input.length ∧ OpR (r.prog.ctx env.lower input) r.prog.op j q) →
      r.prog.isMatch env.lower input = .ok false) :=
  Clean4Api.api_clean4_isMatch_iff env p fs xsd fl r hf h hns (Clean4.cleanProg4_of_cleanProg3 env _ _ _ hclean) hcan hnb hlit input hI hlen

/-- C02 from the pattern text: least start; end = head of the engine's priority enumeration `enum3` -/
theorem api_clean3_match_is_leftmost_first (env : Env) (p fs : List Nat) (xsd : Bool) (fl : Flags) (r : Regex)
    (hf : parseFlags fs xsd = some fl) (h : Regex.new env p fs xsd true = .ok r) (hns : Api.NoSat env fl p)
    (hclean : cleanProg3 env fl.caseBlind fl.multiLine r.prog.op = true) (hcan : clsCanonB r.prog.op = true)
    (hnb : r.prog.hasBackrefs = false) (hlit : fl.literal = true → p ≠ [])
    (input : List Nat) (hI : InputOKFor env fl.core env.lower input) (hlen : input.length < usizeMax)
    (i : Nat) (hi : i ≤ input.length) (st st' : St) (hst : st.panic = none)
    (hm : matchesFrom (r.prog.ctx env.lower input) r.prog i st = (true, st')) :
    ∃ j n, getParenStart st' 0 = some j ∧ getParenEnd st' 0 = some n ∧
      (enum3 (r.prog.ctx env.lower input) r.prog.op j).head? = some n ∧
      i ≤ j ∧ j ≤ n ∧ n ≤ input.length ∧ OpR (r.prog.ctx env.lower input) r.prog.op j n ∧
      ∀ k q, i ≤ k → k < j → ¬ OpR (r.prog.ctx env.lower input) r.prog.op k q := by
  obtain ⟨pat', op', mp, heq, hw, hne, hcp⟩ := new_prog env p fs xsd fl r hf h hns hnb hlit
  rw [heq] at hclean hcan hm ⊢
  exact Clean3Complete.clean3_match_is_leftmost_first env pat' op' mp fl.core env.lower input hI hclean hw hne
    hcan hcp hlen i hi st st' hst hm

/-- shortcuts on / off on the compiled tree: Boolean, start and end -/
theorem api_clean3_opt_eq_noopt (env : Env) (p fs : List Nat) (xsd : Bool) (fl : Flags) (r : Regex)
    (hf : parseFlags fs xsd = some fl) (h : Regex.new env p fs xsd true = .ok r) (hns : Api.NoSat env fl p)
    (hclean : cleanProg3 env fl.caseBlind fl.multiLine r.prog.op = true) (hcan : clsCanonB r.prog.op = true)
    (hnb : r.prog.hasBackrefs = false) (hlit : fl.literal = true → p ≠ [])
    (input : List Nat) (hI : InputOKFor env fl.core env.lower input) (hlen : input.length < usizeMax)
    (i : Nat) (hi : i ≤ input.length) (st1 st2 : St) (h1 : st1.panic = none) (h2 : st2.panic = none) :
    (matchesFrom (r.prog.ctx env.lower input) r.prog i st1).1 =
      (matchesNaive (r.prog.ctx env.lower input) r.prog.op i st2).1 ∧
    ((matchesFrom (r.prog.ctx env.lower input) r.prog i st1).1 = true →
      getParenStart (matchesFrom (r.prog.ctx env.lower input) r.prog i st1).2 0 =
        getParenStart (matchesNaive (r.prog.ctx env.lower input) r.prog.op i st2).2 0 ∧
      getParenEnd (matchesFrom (r.prog.ctx env.lower input) r.prog i st1).2 0 =
        getParenEnd (matchesNaive (r.prog.ctx env.lower input) r.prog.op i st2).2 0) :=
  Clean4Api.api_clean4_opt_eq_noopt env p fs xsd fl r hf h hns (Clean4.cleanProg4_of_cleanProg3 env _ _ _ hclean) hcan hnb hlit input hI hlen
    i hi st1 st2 h1 h2

/-! ### the real tables, case-sensitive -/

theorem api_clean3_isMatch_iff_std_cs (p fs : List Nat) (xsd : Bool) (fl : Flags) (r : Regex)
    (hf : parseFlags fs xsd = some fl) (h : Regex.new Env.std p fs xsd true = .ok r)
    (hns : Api.NoSat Env.std fl p) (hcb : fl.caseBlind = false)
    (hclean : cleanProg3 Env.std false fl.multiLine r.prog.op = true) (hcan : clsCanonB r.prog.op = true)
    (hnb : r.prog.hasBackrefs = false) (hlit : fl.literal = true → p ≠ [])
    (input : List Nat) (hsv : ScalarInput input) (hlen : input.length < usizeMax) :
    (r.prog.isMatch Env.std.lower input = .ok true ↔
      ∃ j q, j ≤ input.length ∧ OpR (r.prog.ctx Env.std.lower input) r.prog.op j q) ∧
    ((¬ ∃ j q, j ≤ input.length ∧ OpR (r.prog.ctx Env.std.lower input) r.prog.op j q) →
      r.prog.isMatch Env.std.lower input = .ok false) :=
  api_clean3_isMatch_iff Env.std p fs xsd fl r hf h hns (by rw [hcb]; exact hclean) hcan hnb hlit input
    (inputOK_std_cs hcb hsv) hlen

theorem api_clean3_match_is_leftmost_first_std_cs (p fs : List Nat) (xsd : Bool) (fl : Flags) (r : Regex)
    (hf : parseFlags fs xsd = some fl) (h : Regex.new Env.std p fs xsd true = .ok r)
    (hns : Api.NoSat Env.std fl p) (hcb : fl.caseBlind = false)
    (hclean : cleanProg3 Env.std false fl.multiLine r.prog.op = true) (hcan : clsCanonB r.prog.op = true)
    (hnb : r.prog.hasBackrefs = false) (hlit : fl.literal = true → p ≠ [])
    (input : List Nat) (hsv : ScalarInput input) (hlen : input.length < usizeMax)
    (i : Nat) (hi : i ≤ input.length) (st st' : St) (hst : st.panic = none)
    (hm : matchesFrom (r.prog.ctx Env.std.lower input) r.prog i st = (true, st')) :
    ∃ j n, getParenStart st' 0 = some j ∧ getParenEnd st' 0 = some n ∧
      (enum3 (r.prog.ctx Env.std.lower input) r.prog.op j).head? = some n ∧
      i ≤ j ∧ j ≤ n ∧ n ≤ input.length ∧ OpR (r.prog.ctx Env.std.lower input) r.prog.op j n ∧
      ∀ k q, i ≤ k → k < j → ¬ OpR (r.prog.ctx Env.std.lower input) r.prog.op k q :=
  api_clean3_match_is_leftmost_first Env.std p fs xsd fl r hf h hns (by rw [hcb]; exact hclean) hcan hnb hlit
    input (inputOK_std_cs hcb hsv) hlen i hi st st' hst hm

theorem api_clean3_opt_eq_noopt_std_cs (p fs : List Nat) (xsd : Bool) (fl : Flags) (r : Regex)
    (hf : parseFlags fs xsd = some fl) (h : Regex.new Env.std p fs xsd true = .ok r)
    (hns : Api.NoSat Env.std fl p) (hcb : fl.caseBlind = false)
    (hclean : cleanProg3 Env.std false fl.multiLine r.prog.op = true) (hcan : clsCanonB r.prog.op = true)
    (hnb : r.prog.hasBackrefs = false) (hlit : fl.literal = true → p ≠ [])
    (input : List Nat) (hsv : ScalarInput input) (hlen : input.length < usizeMax)
    (i : Nat) (hi : i ≤ input.length) (st1 st2 : St) (h1 : st1.panic = none) (h2 : st2.panic = none) :
    (matchesFrom (r.prog.ctx Env.std.lower input) r.prog i st1).1 =
      (matchesNaive (r.prog.ctx Env.std.lower input) r.prog.op i st2).1 ∧
    ((matchesFrom (r.prog.ctx Env.std.lower input) r.prog i st1).1 = true →
      getParenStart (matchesFrom (r.prog.ctx Env.std.lower input) r.prog i st1).2 0 =
        getParenStart (matchesNaive (r.prog.ctx Env.std.lower input) r.prog.op i st2).2 0 ∧
      getParenEnd (matchesFrom (r.prog.ctx Env.std.lower input) r.prog i st1).2 0 =
        getParenEnd (matchesNaive (r.prog.ctx Env.std.lower input) r.prog.op i st2).2 0) :=
  api_clean3_opt_eq_noopt Env.std p fs xsd fl r hf h hns (by rw [hcb]; exact hclean) hcan hnb hlit
    input (inputOK_std_cs hcb hsv) hlen i hi st1 st2 h1 h2

/-! ## 2. scan level (C04 / C16) -/

theorem clean3_no_zero_length (env : Env) (pat : List Nat) (op : Op) (mp : Nat) (fl : CFlags) (lower : Nat → Nat)
    (hc : cleanProg3 env fl.caseBlind fl.multiLine (mkProgram pat op mp fl false).op = true)
    (hwf : wfOp op = true) (hne : noEmptyAtoms op = true)
    (hcan : clsCanonB (mkProgram pat op mp fl false).op = true) (hcp : C02.capsPos op = true)
    (hI0 : InputOKFor env fl lower [])
    (hnull : (mkProgram pat op mp fl false).isMatch lower [] = .ok false)
    (input : List Nat) (hI : InputOKFor env fl lower input) (hlen : input.length < usizeMax)
    (i : Nat) (hi : i ≤ input.length) (st st' : St) (hst : st.panic = none)
    (h : matchesFrom ((mkProgram pat op mp fl false).ctx lower input) (mkProgram pat op mp fl false) i st
      = (true, st')) :
    ∃ j n, getParenStart st' 0 = some j ∧ getParenEnd st' 0 = some n ∧ i ≤ j ∧ j < n ∧ n ≤ input.length :=
  (clean4_progOK env pat op mp fl lower input hI (Clean4.cleanProg4_of_cleanProg3 env _ _ _ hc) hwf hne hcan
    hlen).no_zero_length
    (clean4_progOK env pat op mp fl lower [] hI0 (Clean4.cleanProg4_of_cleanProg3 env _ _ _ hc) hwf hne hcan (by decide))
    ((mkProgram_tree pat op mp fl false).2.2.trans hcp) hnull i hi st st' hst h

theorem clean3_goodFind (env : Env) (pat : List Nat) (op : Op) (mp : Nat) (fl : CFlags) (lower : Nat → Nat)
    (hc : cleanProg3 env fl.caseBlind fl.multiLine (mkProgram pat op mp fl false).op = true)
    (hwf : wfOp op = true) (hne : noEmptyAtoms op = true)
    (hcan : clsCanonB (mkProgram pat op mp fl false).op = true) (hcp : C02.capsPos op = true)
    (hnull : (mkProgram pat op mp fl false).isMatch lower [] = .ok false)
    (input : List Nat) (hI : InputOKFor env fl lower input) (hlen : input.length < usizeMax) :
    C04.GoodFind ((mkProgram pat op mp fl false).matcher lower input) input.length
      (fun st => st.panic = none) :=
  Clean4Api.clean4_goodFind env pat op mp fl lower (Clean4.cleanProg4_of_cleanProg3 env _ _ _ hc) hwf hne hcan hcp hnull input hI hlen

theorem clean3_find_clean (env : Env) (pat : List Nat) (op : Op) (mp : Nat) (fl : CFlags) (lower : Nat → Nat)
    (hc : cleanProg3 env fl.caseBlind fl.multiLine (mkProgram pat op mp fl false).op = true)
    (hwf : wfOp op = true) (hne : noEmptyAtoms op = true)
    (hcan : clsCanonB (mkProgram pat op mp fl false).op = true)
    (input : List Nat) (hI : InputOKFor env fl lower input) (hlen : input.length < usizeMax)
    (st : St) (hst : st.panic = none) (pos : Nat) (hpos : pos ≤ input.length) :
    ((mkProgram pat op mp fl false).matcher lower input).failed
      (((mkProgram pat op mp fl false).matcher lower input).find st pos).2 = none :=
  Clean4Api.clean4_find_clean env pat op mp fl lower (Clean4.cleanProg4_of_cleanProg3 env _ _ _ hc) hwf hne hcan input hI hlen st hst pos hpos

theorem clean3_tokenize_spec (env : Env) (pat : List Nat) (op : Op) (mp : Nat) (fl : CFlags) (lower : Nat → Nat)
    (hc : cleanProg3 env fl.caseBlind fl.multiLine (mkProgram pat op mp fl false).op = true)
    (hwf : wfOp op = true) (hne : noEmptyAtoms op = true)
    (hcan : clsCanonB (mkProgram pat op mp fl false).op = true) (hcp : C02.capsPos op = true)
    (hnull : (mkProgram pat op mp fl false).isMatch lower [] = .ok false)
    (input : List Nat) (hI : InputOKFor env fl lower input) (hlen : input.length < usizeMax)
    (limit : Nat) (hl : input.length + 1 ≤ limit) (toks : List (List Nat)) (more : Bool)
    (h : tokenLoop ((mkProgram pat op mp fl false).matcher lower input) input limit (some 0) {} [] = .ok (toks, more)) :
    toks = Spec.pieces input 0 (C04.spanPairs (C04.spansOf ((mkProgram pat op mp fl false).matcher lower input)
      input.length (input.length + 2) 0 {})) ∧ more = false :=
  Clean4Api.clean4_tokenize_spec env pat op mp fl lower (Clean4.cleanProg4_of_cleanProg3 env _ _ _ hc) hwf hne hcan hcp hnull input hI hlen
    limit hl toks more h

/-- from the pattern text: a regex of the fragment that passes the nullability gate drives the scan loops
    with a matcher satisfying C04's `GoodFind` -/
theorem api_clean3_goodFind (env : Env) (p fs : List Nat) (xsd : Bool) (fl : Flags) (r : Regex)
    (hf : parseFlags fs xsd = some fl) (h : Regex.new env p fs xsd true = .ok r) (hns : Api.NoSat env fl p)
    (hclean : cleanProg3 env fl.caseBlind fl.multiLine r.prog.op = true) (hcan : clsCanonB r.prog.op = true)
    (hnb : r.prog.hasBackrefs = false) (hlit : fl.literal = true → p ≠ []) (hnull : r.nullable = false)
    (input : List Nat) (hI : InputOKFor env fl.core env.lower input) (hlen : input.length < usizeMax) :
    C04.GoodFind (r.prog.matcher env.lower input) input.length (fun st => st.panic = none) :=
  Clean4Api.api_clean4_goodFind env p fs xsd fl r hf h hns (Clean4.cleanProg4_of_cleanProg3 env _ _ _ hclean) hcan hnb hlit hnull input hI hlen

theorem api_clean3_goodFind_std_cs (p fs : List Nat) (xsd : Bool) (fl : Flags) (r : Regex)
    (hf : parseFlags fs xsd = some fl) (h : Regex.new Env.std p fs xsd true = .ok r)
    (hns : Api.NoSat Env.std fl p) (hcb : fl.caseBlind = false)
    (hclean : cleanProg3 Env.std false fl.multiLine r.prog.op = true) (hcan : clsCanonB r.prog.op = true)
    (hnb : r.prog.hasBackrefs = false) (hlit : fl.literal = true → p ≠ []) (hnull : r.nullable = false)
    (input : List Nat) (hsv : ScalarInput input) (hlen : input.length < usizeMax) :
    C04.GoodFind (r.prog.matcher Env.std.lower input) input.length (fun st => st.panic = none) :=
  api_clean3_goodFind Env.std p fs xsd fl r hf h hns (by rw [hcb]; exact hclean) hcan hnb hlit hnull input
    (inputOK_std_cs hcb hsv) hlen

/-! ## 3. `is_match` for programs with skippable repeats in the root sequence (memo invariant) -/

theorem api_clean3m_isMatch_iff (env : Env) (p fs : List Nat) (xsd : Bool) (fl : Flags) (r : Regex)
    (hf : parseFlags fs xsd = some fl) (h : Regex.new env p fs xsd true = .ok r) (hns : Api.NoSat env fl p)
    (hclean : Memo.cleanProg3m env fl.caseBlind fl.multiLine r.prog.op = true) (hcan : clsCanonB r.prog.op = true)
    (hnb : r.prog.hasBackrefs = false) (hlit : fl.literal = true → p ≠ [])
    (input : List Nat) (hI : InputOKFor env fl.core env.lower input) (hlen : input.length < usizeMax) :
    (r.prog.isMatch env.lower input = .ok true ↔
      ∃ j q, j ≤ input.length ∧ OpR (r.prog.ctx env.lower input) r.prog.op j q) ∧
    ((¬ ∃ j q, j ≤ input.length ∧ OpR (r.prog.ctx env.lower input) r.prog.op j q) →
      r.prog.isMatch env.lower input = .ok false) := by
  obtain ⟨pat', op', mp, heq, hw, hne, _⟩ := new_prog env p fs xsd fl r hf h hns hnb hlit
  obtain ⟨l, hl⟩ : ∃ l, r.prog.op = .seq l := by
    cases hop : r.prog.op with
    | seq l => exact ⟨l, rfl⟩
    | _ => rw [hop] at hclean; simp [Memo.cleanProg3m] at hclean
  rw [hl] at hclean hcan
  rw [heq] at hl ⊢
  exact ⟨Clean3Memo.clean3m_isMatch_iff env pat' op' mp fl.core env.lower input hI l hl hclean hw hne hcan hlen,
    Clean3Memo.clean3m_isMatch_false env pat' op' mp fl.core env.lower input hI l hl hclean hw hne hcan hlen⟩

theorem api_clean3m_isMatch_iff_std_cs (p fs : List Nat) (xsd : Bool) (fl : Flags) (r : Regex)
    (hf : parseFlags fs xsd = some fl) (h : Regex.new Env.std p fs xsd true = .ok r)
    (hns : Api.NoSat Env.std fl p) (hcb : fl.caseBlind = false)
    (hclean : Memo.cleanProg3m Env.std false fl.multiLine r.prog.op = true) (hcan : clsCanonB r.prog.op = true)
    (hnb : r.prog.hasBackrefs = false) (hlit : fl.literal = true → p ≠ [])
    (input : List Nat) (hsv : ScalarInput input) (hlen : input.length < usizeMax) :
    (r.prog.isMatch Env.std.lower input = .ok true ↔
      ∃ j q, j ≤ input.length ∧ OpR (r.prog.ctx Env.std.lower input) r.prog.op j q) ∧
    ((¬ ∃ j q, j ≤ input.length ∧ OpR (r.prog.ctx Env.std.lower input) r.prog.op j q) →
      r.prog.isMatch Env.std.lower input = .ok false) :=
  api_clean3m_isMatch_iff Env.std p fs xsd fl r hf h hns (by rw [hcb]; exact hclean) hcan hnb hlit input
    (inputOK_std_cs hcb hsv) hlen

/-! ## 4. `x(?:a|bc)+y` (and `(?:ab|c)*d`) through `Regex.new Env.std` -/
section example_

/-- `x(?:a|bc)+y` -/
def exPat : List Nat := [120, 40, 63, 58, 97, 124, 98, 99, 41, 43, 121]
/-- `(?:ab|c)*d` -/
def exPat0 : List Nat := [40, 63, 58, 97, 98, 124, 99, 41, 42, 100]
/-- "zxabcay" -/
def exInput : List Nat := [122, 120, 97, 98, 99, 97, 121]

/-- `Regex::new` accepts both patterns and the compiled programs satisfy the decidable hypotheses -/
theorem ex_new :
    (match Regex.new Env.std exPat [] false true with
     | .ok r => cleanProg3 Env.std false false r.prog.op && clsCanonB r.prog.op && !r.prog.hasBackrefs &&
         !r.nullable && !cleanProg2 Env.std false false r.prog.op
     | _ => false) = true ∧
    (match Regex.new Env.std exPat0 [] false true with
     | .ok r => Memo.cleanProg3m Env.std false false r.prog.op && clsCanonB r.prog.op && !r.prog.hasBackrefs &&
         !cleanProg3 Env.std false false r.prog.op
     | _ => false) = true := by decide +kernel

theorem ex_noSat : Api.NoSat Env.std {} exPat := Api.noSat_of exPat (by decide +kernel)
theorem ex_noSat0 : Api.NoSat Env.std {} exPat0 := Api.noSat_of exPat0 (by decide +kernel)

theorem ex_scalar : ScalarInput exInput := by
  intro c hc
  simp only [exInput, List.mem_cons, List.not_mem_nil, or_false] at hc
  rcases hc with rfl | rfl | rfl | rfl | rfl | rfl | rfl <;> decide

/-- C01 for `x(?:a|bc)+y`, every input of scalar values -/
theorem ex_isMatch_iff (input : List Nat) (hsv : ScalarInput input) (hlen : input.length < usizeMax)
    (r : Regex) (h : Regex.new Env.std exPat [] false true = .ok r) :
    (r.prog.isMatch Env.std.lower input = .ok true ↔
      ∃ j q, j ≤ input.length ∧ OpR (r.prog.ctx Env.std.lower input) r.prog.op j q) ∧
    ((¬ ∃ j q, j ≤ input.length ∧ OpR (r.prog.ctx Env.std.lower input) r.prog.op j q) →
      r.prog.isMatch Env.std.lower input = .ok false) := by
  have hk := ex_new.1
  rw [h] at hk
  simp only [Bool.and_eq_true, Bool.not_eq_true'] at hk
  obtain ⟨⟨⟨⟨k1, k2⟩, k3⟩, _⟩, _⟩ := hk
  exact api_clean3_isMatch_iff_std_cs exPat [] false {} r rfl h ex_noSat rfl k1 k2 k3
    (fun hl => by cases hl) input hsv hlen

/-- … it passes the nullability gate, so it drives the scan loops with a `GoodFind` matcher -/
theorem ex_goodFind (input : List Nat) (hsv : ScalarInput input) (hlen : input.length < usizeMax)
    (r : Regex) (h : Regex.new Env.std exPat [] false true = .ok r) :
    C04.GoodFind (r.prog.matcher Env.std.lower input) input.length (fun st => st.panic = none) := by
  have hk := ex_new.1
  rw [h] at hk
  simp only [Bool.and_eq_true, Bool.not_eq_true'] at hk
  obtain ⟨⟨⟨⟨k1, k2⟩, k3⟩, k4⟩, _⟩ := hk
  exact api_clean3_goodFind_std_cs exPat [] false {} r rfl h ex_noSat rfl k1 k2 k3
    (fun hl => by cases hl) k4 input hsv hlen

/-- C01 for `(?:ab|c)*d` (skippable repeat; memo invariant), every input of scalar values -/
theorem ex0_isMatch_iff (input : List Nat) (hsv : ScalarInput input) (hlen : input.length < usizeMax)
    (r : Regex) (h : Regex.new Env.std exPat0 [] false true = .ok r) :
    (r.prog.isMatch Env.std.lower input = .ok true ↔
      ∃ j q, j ≤ input.length ∧ OpR (r.prog.ctx Env.std.lower input) r.prog.op j q) ∧
    ((¬ ∃ j q, j ≤ input.length ∧ OpR (r.prog.ctx Env.std.lower input) r.prog.op j q) →
      r.prog.isMatch Env.std.lower input = .ok false) := by
  have hk := ex_new.2
  rw [h] at hk
  simp only [Bool.and_eq_true, Bool.not_eq_true'] at hk
  obtain ⟨⟨⟨k1, k2⟩, k3⟩, _⟩ := hk
  exact api_clean3m_isMatch_iff_std_cs exPat0 [] false {} r rfl h ex_noSat0 rfl k1 k2 k3
    (fun hl => by cases hl) input hsv hlen

/-- the computed answer on "zxabcay": `true`, span (1, 7), `enum3` from 1 is [7] -/
theorem ex_computed :
    (match Regex.new Env.std exPat [] false true with
     | .ok r => (r.prog.isMatch Env.std.lower exInput == .ok true) &&
         (getParenStart (matchesFrom (r.prog.ctx Env.std.lower exInput) r.prog 0 {}).2 0 == some 1) &&
         (getParenEnd (matchesFrom (r.prog.ctx Env.std.lower exInput) r.prog 0 {}).2 0 == some 7) &&
         (enum3 (r.prog.ctx Env.std.lower exInput) r.prog.op 1 == [7])
     | _ => false) = true := by decide +kernel

/-- … agrees with the right-hand side the theorem predicts -/
theorem ex_member (r : Regex) (h : Regex.new Env.std exPat [] false true = .ok r) :
    ∃ j q, j ≤ exInput.length ∧ OpR (r.prog.ctx Env.std.lower exInput) r.prog.op j q := by
  have hk := ex_computed
  rw [h] at hk
  simp only [Bool.and_eq_true, beq_iff_eq] at hk
  exact ((ex_isMatch_iff exInput ex_scalar (by decide) r h).1).1 hk.1.1.1

end example_

end Rx.Clean3Api
