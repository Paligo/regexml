/-
  Props/C03c — C03 / C19 for straight-capture programs, lifted from `match_at` (Props/C03b) through
  the search loop `matches` (all five shortcuts) and up to the API functions that REPORT groups:
  `replace_all` (`$N` expansion) and `analyze` (group tree).

  Fragment: `straightCaps` programs (Spec/PathCaps), back-references allowed as in C03b.  Hypotheses,
  bundled in `SearchOK pr lower input` (Proofs/C03cLemmas):
    * `StraightOK`: `straightCaps`, `wfOp`, `C02.capsPos`, `scopeOK hasBackrefs maxParens op [] []`,
      `(capsOf op).Nodup`                                   — decidable (`C03b.progOK`);
    * `SearchFacts` for the input and for the empty input   — what `ReProgram::new` records
      (`SearchComplete.mkProgram_searchFacts`: every `mkProgram` of a well-formed tree without empty
      literal has them; `searchOK_of_mkProgram` below);
    * every precondition tree has `preShape` and `simplePre` — decidable;
    * `input.length < usize::MAX`; the nullability gate `is_match("") = false` (C16).

  The lifting is proved once, for `CapsOK` / `SearchCaps` (Proofs/CapsMatchLemmas, Proofs/C03cLemmas,
  Proofs/C03cTree; shared with Props/C03g) in terms of `enumC3`; on `straightCaps`, where `enumC3` is `enumC`,
  `StraightOK.caps`, `matchRes_iff` and `specSpans_eq` carry it over.

  1. the search loop: `matches(i) = true` ⇒ the LEAST start `j ≥ i` from which a path of the semantics WITH
     environments exists (so back-references are covered — the `OpR`-based `CompleteAt` of Props/SearchComplete
     is not used for the main tree), the FIRST path of the priority order from `j`, and a state that represents
     its environment; `matches(i) = false` ⇒ no path from any `j ≥ i`.  No panic, no divergence.
  2. `replace_all` never fails on a well-formed replacement string and substitutes, for every match of the
     state-free span sequence `specSpans`, the expansion (Spec/Repl, C15) in which `$N` is the text of `e' N`.
  3. `analyze`: in the state of a match `process_matching_substring` returns exactly `groupTree op input (j, n, e')`
     (the tree builder `buildActions` / `walk` is verified for well-nested forests of spans, groups that captured
     the empty string included: `processMatch_forest`, Proofs/GroupTree).  Extra decidable hypotheses: groups numbered in order of their
     opening parentheses; the nesting table computed from the pattern text agrees with the tree (`tblOK`; that the
     parser makes it hold is Props/C03d, `compile_nesting`).  That `analyze` answers `.ok` is a hypothesis of
     `analyze_groups` (`replace_groups` does prove totality).
  4. examples on compiled programs (`(a)(b|c)\1`, `((a)b)\2\1`, `(a*)(b)\1` with an empty group).
-/
import RxModel.Proofs.C03cLemmas
import RxModel.Proofs.C03cTree
namespace Rx.C03c
open Rx

/-! ## 1. the search loop -/

/-- one `match_at(j)` from a good state: either a path starts at `j`, `match_at` succeeds and leaves
    the first path of the priority order; or no path starts at `j`, `match_at` fails and the state is
    good again (so the next attempt starts clear) -/
theorem matchAt_cases (ctx : Ctx) (op : Op) (hok : C03b.progOK ctx.hasBackrefs ctx.maxParens op = true)
    (j : Nat) (hj : j ≤ ctx.len) (st : St) (hst : Good op st) :
    (HasP ctx op j ∧ ∃ st' n e', matchAt ctx op j st = (true, st') ∧ MatchRes ctx op j n e' st') ∨
    (¬ HasP ctx op j ∧ ∃ st', matchAt ctx op j st = (false, st') ∧ Good op st') := by
  have H : StraightOK ctx op := .of_progOK hok
  rcases CapsOK.matchAt_cases ctx op H.caps j hj st hst with ⟨hp, st', n, e', he, hres⟩ | h
  · exact .inl ⟨hp, st', n, e', he, (matchRes_iff H.straight).2 hres⟩
  · exact .inr h

/-- the candidate loop: it stops at the FIRST candidate from which a path exists -/
theorem tryCands_caps (ctx : Ctx) (op : Op) (hok : C03b.progOK ctx.hasBackrefs ctx.maxParens op = true)
    (cands : List Nat) (hb : ∀ j ∈ cands, j ≤ ctx.len) (st st' : St) (hst : Good op st)
    (h : tryCands ctx op cands st = (true, st')) :
    ∃ pre j post n e', cands = pre ++ j :: post ∧ (∀ k ∈ pre, ¬ HasP ctx op k) ∧
      MatchRes ctx op j n e' st' := by
  have H : StraightOK ctx op := .of_progOK hok
  obtain ⟨pre, j, post, n, e', h1, h2, h3⟩ := H.caps.tryCands_hit cands hb st st' hst h
  exact ⟨pre, j, post, n, e', h1, h2, (matchRes_iff H.straight).2 h3⟩

/-- **`matches(i)` reports the captures of the leftmost, first path.** -/
theorem matchesFrom_caps (pr : Prog) (lower : Nat → Nat) (input : List Nat) (S : SearchOK pr lower input)
    (i : Nat) (hi : i ≤ input.length) (st st' : St) (hst : st.panic = none)
    (h : matchesFrom (pr.ctx lower input) pr i st = (true, st')) :
    ∃ j n e', i ≤ j ∧ j < n ∧ n ≤ input.length ∧
      PathR (pr.ctx lower input) pr.op j CEnv.empty n e' ∧
      (enumC (pr.ctx lower input) pr.op j CEnv.empty).head? = some (n, e') ∧
      (∀ k, i ≤ k → k < j → ¬ ∃ n' e'', PathR (pr.ctx lower input) pr.op k CEnv.empty n' e'') ∧
      getParenStart st' 0 = some j ∧ getParenEnd st' 0 = some n ∧
      Repr (pr.ctx lower input) st' e' ∧ EnvIn e' j n ∧
      (∀ g, g ∈ capsOf pr.op ↔ (e' g).isSome = true) ∧
      (∀ g, getParen input st' g = grpOf input j n e' g) ∧ st'.panic = none := by
  obtain ⟨j, n, e', h1, hjn, h3, hres, hg⟩ := S.caps.matches_true i hi st st' hst h
  have hres := (matchRes_iff S.ok.straight).2 hres
  exact ⟨j, n, e', h1, hjn, hres.len, hres.path, hres.first, h3, hres.start0, hres.end0, hres.repr,
    hres.env, hres.dom, hg, hres.clean⟩

/-- `matches(i) = false`: no path starts at or after `i`; the state stays clean -/
theorem matchesFrom_caps_false (pr : Prog) (lower : Nat → Nat) (input : List Nat) (S : SearchOK pr lower input)
    (i : Nat) (hi : i ≤ input.length) (st st' : St) (hst : st.panic = none)
    (h : matchesFrom (pr.ctx lower input) pr i st = (false, st')) :
    (∀ j, i ≤ j → j ≤ input.length → ¬ ∃ n e', PathR (pr.ctx lower input) pr.op j CEnv.empty n e') ∧
    st'.panic = none :=
  S.caps.matches_false i hi st st' hst h

/-- the hypotheses, for a program built by `ReProgram::new` (`mkProgram`): the recorded facts come
    from `SearchComplete.mkProgram_searchFacts`; what is left is decidable -/
theorem searchOK_of_mkProgram (pat : List Nat) (op : Op) (mp : Nat) (fl : CFlags) (hb : Bool)
    (lower : Nat → Nat) (input : List Nat)
    (hwf : wfOp op = true) (hne : C08.noEmptyAtoms op = true) (hlen : input.length < usizeMax)
    (hok : C03b.progOK hb mp (mkProgram pat op mp fl hb).op = true)
    (hpres : ∀ q ∈ (mkProgram pat op mp fl hb).pres,
      SearchComplete.preShape q.op = true ∧ C06.simplePre q.op = true)
    (hnull : (mkProgram pat op mp fl hb).isMatch lower [] = .ok false) :
    SearchOK (mkProgram pat op mp fl hb) lower input := by
  refine ⟨.of_progOK ?_, SearchComplete.mkProgram_searchFacts pat op mp fl hb lower input hwf hne hlen,
    SearchComplete.mkProgram_searchFacts pat op mp fl hb lower [] hwf hne (by decide), hpres, hlen, hnull⟩
  show C03b.progOK (mkProgram pat op mp fl hb).hasBackrefs (mkProgram pat op mp fl hb).maxParens _ = true
  rw [MkProgram.hasBackrefs, MkProgram.maxParens]; exact hok

/-! ## 2. `replace_all` -/

/-- **one match.**  In the state of a match `(j, n, e')` the substitution yields the replacement string
    expanded as Spec/Repl prescribes, `$N` standing for the text of `e' N` (group 0 = the match; a
    group that did not participate, or a number above the number of groups, gives nothing) -/
theorem replace_first_match_groups (pr : Prog) (lower : Nat → Nat) (input repl : List Nat)
    (j n : Nat) (e' : CEnv) (st' : St)
    (h : MatchRes (pr.ctx lower input) pr.op j n e' st')
    (hmp : pr.maxParens ≠ 0) (hwf : Spec.wfRepl repl = true) :
    ∃ s', pr.subst input repl st' false =
      some ((Spec.expandSpec (pr.maxParens - 1) (grpOf input j n e') repl).getD [], s') :=
  subst_expand h.reprP h.start0 h.end0 repl hmp hwf

/-- **`replace_all`.**  For a regex that passes the nullability gate, a well-formed replacement string
    and a program without flag `q`: the call succeeds, and the result is the input with every match
    `(j, n, e')` of the span sequence replaced by the expansion in which `$N` is the text of `e' N` -/
theorem replace_groups (r : Regex) (lower : Nat → Nat) (input repl : List Nat)
    (S : SearchOK r.prog lower input) (hnull : r.nullable = false)
    (hmp : r.prog.maxParens ≠ 0) (hwf : Spec.wfRepl repl = true) (hlit : r.prog.literal = false) :
    r.replaceAll lower input repl =
      .ok (Spec.replaced input 0
        ((specSpans (r.prog.ctx lower input) r.prog.op (input.length + 2) 0).map
          (fun x => (x.1, x.2.1, replText r.prog input repl x)))) := by
  rw [specSpans_eq _ _ S.ok.straight]
  exact S.caps.replaceAll hnull repl hmp hwf hlit

/-- what the span sequence is: each element is the least start at or after the previous end from
    which a path exists, with the first path of the priority order -/
theorem specSpans_cons (ctx : Ctx) (op : Op) (f pos : Nat) (x : Nat × Nat × CEnv) (rest : List (Nat × Nat × CEnv))
    (h : specSpans ctx op (f + 1) pos = x :: rest) :
    pos < ctx.len ∧ firstMatch ctx op pos = some x ∧ rest = specSpans ctx op f x.2.1 := by
  unfold specSpans at h
  split at h
  · rename_i hlt
    split at h
    · rename_i j n e' heq
      simp only [List.cons.injEq] at h
      obtain ⟨rfl, rfl⟩ := h
      exact ⟨hlt, heq, rfl⟩
    · cases h
  · cases h

/-- `firstMatch`: the least start at or after `pos` from which a path exists, and the first path -/
theorem firstMatch_spec (ctx : Ctx) (op : Op) (hs : straightCaps op = true) (hwf : wfOp op = true)
    (pos j n : Nat) (e' : CEnv) (h : firstMatch ctx op pos = some (j, n, e')) :
    pos ≤ j ∧ j ≤ ctx.len ∧ (enumC ctx op j CEnv.empty).head? = some (n, e') ∧
    PathR ctx op j CEnv.empty n e' ∧ ∀ k, pos ≤ k → k < j → ¬ HasP ctx op k := by
  rw [firstMatch_eq ctx op hs] at h
  have := firstMatch3_leaves ctx op (leavesOK_of_straight ctx op hs hwf) hwf pos j n e' h
  rwa [enumC3_eq_enumC ctx op hs] at this

/-! ## 3. `analyze`

  `groupTree op input (j, n, e')` (Proofs/C03cTree) is the tree the specification prescribes for a
  match: the capture nodes of the pattern as `Group` nodes, nested as in the pattern, each spanning the
  text of its group in `e'`, with the text in between as (non-empty) `String` leaves.

  Additional hypotheses, decidable: the groups are numbered in the order of their opening parentheses
  (`(capsOf op).Pairwise (· < ·)`), and the nesting table computed from the pattern TEXT
  (`nestingTable pattern`, consulted by the Rust only for groups that captured the empty string)
  agrees with the nesting of the compiled TREE (`tblOK`; the parser guarantees this agreement:
  Props/C03d, `compile_nesting`). -/

/-- **one match**: in the state of a match `(j, n, e')`, `process_matching_substring` succeeds and
    returns exactly the group tree of `e'` -/
theorem analyze_match_groups (ctx : Ctx) (op : Op) (hok : C03b.progOK ctx.hasBackrefs ctx.maxParens op = true)
    (hsorted : (capsOf op).Pairwise (· < ·)) (tbl : List (Nat × Nat)) (htbl : tblOK tbl op 0 = true)
    (input : List Nat) (hin : ctx.len = input.length)
    (j n : Nat) (e' : CEnv) (st' : St) (h : MatchRes ctx op j n e' st') (hjn : j < n) :
    processMatch tbl st' (slice input j n) = .ok (groupTree op input (j, n, e')) :=
  CapsOK.processMatch_ok ctx op (StraightOK.of_progOK hok).caps hsorted tbl htbl input hin j n e' st'
    ((matchRes_iff (StraightOK.of_progOK hok).straight).1 h) hjn

/-- **`analyze`**: the entries are the alternating non-match / match entries over the state-free span
    sequence, the match entry of `(j, n, e')` being the group tree of `e'`; the iterator is exhausted -/
theorem analyze_groups (r : Regex) (lower : Nat → Nat) (input : List Nat)
    (S : SearchOK r.prog lower input) (hnull : r.nullable = false)
    (hsorted : (capsOf r.prog.op).Pairwise (· < ·)) (tbl : List (Nat × Nat))
    (htblE : (if r.prog.literal then some [] else nestingTable r.prog.pattern) = some tbl)
    (htbl : tblOK tbl r.prog.op 0 = true)
    (limit : Nat) (hl : 2 * input.length + 1 ≤ limit) (es : List AEntry) (more : Bool)
    (h : r.analyze lower input limit = .ok (es, more)) :
    es = Spec.entries input 0
      ((specSpans (r.prog.ctx lower input) r.prog.op (input.length + 2) 0).map
        (fun y => (y.1, y.2.1, groupTree r.prog.op input y))) ∧ more = false := by
  rw [specSpans_eq _ _ S.ok.straight]
  exact S.caps.analyze r lower input hnull hsorted tbl htblE htbl limit hl es more h

/-- reading the tree (1): the `String` leaves concatenate to the matched text -/
theorem groupTree_text (ctx : Ctx) (op : Op) (hs : straightCaps op = true) (hnd : (capsOf op).Nodup)
    (input : List Nat) (hin : ctx.len = input.length) (j n : Nat) (e' : CEnv)
    (hj : j ≤ ctx.len) (h : PathR ctx op j CEnv.empty n e') :
    Spec.mTextL (groupTree op input (j, n, e')) = slice input j n :=
  Spine.groupTree_text ctx op (spine_of_straight op hs) hnd input hin j n e' hj h

/-- reading the tree (2): it has exactly one `Group` node for each group the path binds — the groups
    of the pattern, in the order of their opening parentheses — and none for any other number -/
theorem groupTree_groups (ctx : Ctx) (op : Op) (hs : straightCaps op = true)
    (input : List Nat) (j n : Nat) (e' : CEnv) (hj : j ≤ ctx.len) (h : PathR ctx op j CEnv.empty n e') :
    mGrpsL (groupTree op input (j, n, e')) = capsOf op :=
  Spine.groupTree_groups ctx op (spine_of_straight op hs) input j n e' hj h

/-- reading the tree (3): for every parenthesised sub-expression `(g, c)` of the pattern, bound to
    `(a, b)` in `e'`, the tree has the node `Group g kids` where `kids` is again the group tree of the
    body `c` over `[a, b)` (so nesting follows the pattern), and the leaves of that node concatenate to
    `input[a..b)` -/
theorem groupTree_node (ctx : Ctx) (op : Op) (hs : straightCaps op = true) (hnd : (capsOf op).Nodup)
    (input : List Nat) (hin : ctx.len = input.length) (j n : Nat) (e' : CEnv)
    (hj : j ≤ ctx.len) (h : PathR ctx op j CEnv.empty n e') (g : Nat) (c : Op) (hm : (g, c) ∈ capNodes op) :
    ∃ a b, e' g = some (a, b) ∧ j ≤ a ∧ a ≤ b ∧ b ≤ n ∧
      subL (.group g (outF (slice input j n) (a - j) (b - j) (forestOf e' j c))) (groupTree op input (j, n, e')) ∧
      Spec.mTextL (outF (slice input j n) (a - j) (b - j) (forestOf e' j c)) = slice input a b :=
  Spine.groupTree_node ctx op (spine_of_straight op hs) hnd input hin j n e' hj h g c hm

/-! ## 4. examples -/
section examples

private def env0 : Env :=
  { lower := id, closure := fun _ => [], category := fun _ => none, block := fun _ => none,
    digit := [], word := [], nameStart := [], nameChar := [] }

/-- `(a)(b|c)\1` -/
private def pat1 : List Nat := [40, 97, 41, 40, 98, 124, 99, 41, 92, 49]
private def t1 : Op :=
  .seq [.capture 1 (.atom [97]), .capture 2 (.choice [.atom [98], .atom [99]]), .backref 1, .endProgram]
def exProg1 : Prog := mkProgram pat1 t1 3 {} true
def exRegex1 : Regex := { prog := exProg1, nullable := false }

/-- this is the regex `Regex::new` builds from the pattern text -/
example : (match Regex.new env0 pat1 [] false with
    | .ok r => progEq r.prog exProg1 && (r.nullable == false)
    | _ => false) = true := by decide +kernel

theorem ex1_searchOK (input : List Nat) (hlen : input.length < usizeMax) : SearchOK exProg1 id input :=
  searchOK_of_mkProgram pat1 t1 3 {} true id input (by decide) (by decide) hlen (by decide +kernel)
    (pres_of_all (by decide +kernel))
    (by decide +kernel)

/-- "xabaacay", replacement `[$2$1]` -/
private def in1 : List Nat := [120, 97, 98, 97, 97, 99, 97, 121]
private def repl1 : List Nat := [91, 36, 50, 36, 49, 93]

/-- the theorem applied … -/
theorem ex1_replace :
    exRegex1.replaceAll id in1 repl1 =
      .ok (Spec.replaced in1 0
        ((specSpans (exProg1.ctx id in1) exProg1.op (in1.length + 2) 0).map
          (fun x => (x.1, x.2.1, replText exProg1 in1 repl1 x)))) :=
  replace_groups exRegex1 id in1 repl1 (ex1_searchOK in1 (by decide)) rfl (by decide) (by decide) (by decide)

/-- … the span sequence it talks about: matches `aba` at 1 with `$1 = a`, `$2 = b`, and `aca` at 4 with
    `$1 = a`, `$2 = c` … -/
example : (specSpans (exProg1.ctx id in1) exProg1.op (in1.length + 2) 0).map
    (fun x => (x.1, x.2.1, x.2.2 1, x.2.2 2)) =
    [(1, 4, some (1, 2), some (2, 3)), (4, 7, some (4, 5), some (5, 6))] := by decide +kernel
/-- … the described result `x[ba][ca]y` … -/
example : Spec.replaced in1 0
    ((specSpans (exProg1.ctx id in1) exProg1.op (in1.length + 2) 0).map
      (fun x => (x.1, x.2.1, replText exProg1 in1 repl1 x))) =
    [120, 91, 98, 97, 93, 91, 99, 97, 93, 121] := by decide +kernel
/-- … and the computed answer of the model -/
example : exRegex1.replaceAll id in1 repl1 = .ok [120, 91, 98, 97, 93, 91, 99, 97, 93, 121] := by
  decide +kernel

/-! `analyze` on the same regex and input: `x`, match `aba`, match `aca`, `y` -/

private def tbl1 : List (Nat × Nat) := [(2, 0), (1, 0)]

private def expect1 : List AEntry :=
  [.nonMatch [120],
   .isMatch [.group 1 [.str [97]], .group 2 [.str [98]], .str [97]],
   .isMatch [.group 1 [.str [97]], .group 2 [.str [99]], .str [97]],
   .nonMatch [121]]

/-- the theorem applied: whatever `analyze` answers with `.ok` is the described entry list -/
theorem ex1_analyze (es : List AEntry) (more : Bool) (h : exRegex1.analyze id in1 100 = .ok (es, more)) :
    es = Spec.entries in1 0
      ((specSpans (exProg1.ctx id in1) exProg1.op (in1.length + 2) 0).map
        (fun y => (y.1, y.2.1, groupTree exProg1.op in1 y))) ∧ more = false :=
  analyze_groups exRegex1 id in1 (ex1_searchOK in1 (by decide)) rfl (by decide +kernel) tbl1
    (by decide +kernel) (by decide +kernel) 100 (by decide) es more h

/-- the described entry list, computed … -/
example : aEqL (Spec.entries in1 0
    ((specSpans (exProg1.ctx id in1) exProg1.op (in1.length + 2) 0).map
      (fun y => (y.1, y.2.1, groupTree exProg1.op in1 y)))) expect1 = true := by decide +kernel
/-- … and the computed answer of the model -/
example : (match exRegex1.analyze id in1 100 with
    | .ok (es, more) => aEqL es expect1 && !more
    | _ => false) = true := by decide +kernel

/-! `(a*)(b)\1` on "baabaab": in the first and the last match group 1 captured the EMPTY string (the
    nesting table is consulted); `((a)b)\2\1` on "abaab": nested groups -/

private def pat3 : List Nat := [40, 97, 42, 41, 40, 98, 41, 92, 49]
private def t3 : Op :=
  .seq [.capture 1 (.gfixed (.atom [97]) 0 usizeMax 1), .capture 2 (.atom [98]), .backref 1, .endProgram]
def exProg3 : Prog := mkProgram pat3 t3 3 {} true
def exRegex3 : Regex := { prog := exProg3, nullable := false }

example : (match Regex.new env0 pat3 [] false with
    | .ok r => progEq r.prog exProg3 && (r.nullable == false)
    | _ => false) = true := by decide +kernel

theorem ex3_searchOK (input : List Nat) (hlen : input.length < usizeMax) : SearchOK exProg3 id input :=
  searchOK_of_mkProgram pat3 t3 3 {} true id input (by decide) (by decide) hlen (by decide +kernel)
    (pres_of_all (by decide +kernel))
    (by decide +kernel)

private def in3 : List Nat := [98, 97, 97, 98, 97, 97, 98]
private def repl3 : List Nat := [60, 36, 49, 124, 36, 50, 62]      -- `<$1|$2>`

private def expect3 : List AEntry :=
  [.isMatch [.group 1 [], .group 2 [.str [98]]],
   .isMatch [.group 1 [.str [97, 97]], .group 2 [.str [98]], .str [97, 97]],
   .isMatch [.group 1 [], .group 2 [.str [98]]]]

theorem ex3_analyze (es : List AEntry) (more : Bool) (h : exRegex3.analyze id in3 100 = .ok (es, more)) :
    es = Spec.entries in3 0
      ((specSpans (exProg3.ctx id in3) exProg3.op (in3.length + 2) 0).map
        (fun y => (y.1, y.2.1, groupTree exProg3.op in3 y))) ∧ more = false :=
  analyze_groups exRegex3 id in3 (ex3_searchOK in3 (by decide)) rfl (by decide +kernel) [(2, 0), (1, 0)]
    (by decide +kernel) (by decide +kernel) 100 (by decide) es more h

example : aEqL (Spec.entries in3 0
    ((specSpans (exProg3.ctx id in3) exProg3.op (in3.length + 2) 0).map
      (fun y => (y.1, y.2.1, groupTree exProg3.op in3 y)))) expect3 = true := by decide +kernel
example : (match exRegex3.analyze id in3 100 with
    | .ok (es, more) => aEqL es expect3 && !more
    | _ => false) = true := by decide +kernel

/-- `replace_all` with `<$1|$2>`: `<|b><aa|b><|b>` — `$1` is empty where group 1 captured "" -/
theorem ex3_replace :
    exRegex3.replaceAll id in3 repl3 =
      .ok (Spec.replaced in3 0
        ((specSpans (exProg3.ctx id in3) exProg3.op (in3.length + 2) 0).map
          (fun x => (x.1, x.2.1, replText exProg3 in3 repl3 x)))) :=
  replace_groups exRegex3 id in3 repl3 (ex3_searchOK in3 (by decide)) rfl (by decide) (by decide) (by decide)
example : Spec.replaced in3 0
    ((specSpans (exProg3.ctx id in3) exProg3.op (in3.length + 2) 0).map
      (fun x => (x.1, x.2.1, replText exProg3 in3 repl3 x))) =
    [60, 124, 98, 62, 60, 97, 97, 124, 98, 62, 60, 124, 98, 62] := by decide +kernel
example : exRegex3.replaceAll id in3 repl3 = .ok [60, 124, 98, 62, 60, 97, 97, 124, 98, 62, 60, 124, 98, 62] := by
  decide +kernel

private def pat2 : List Nat := [40, 40, 97, 41, 98, 41, 92, 50, 92, 49]
private def t2 : Op :=
  .seq [.capture 1 (.seq [.capture 2 (.atom [97]), .atom [98]]), .backref 2, .backref 1, .endProgram]
def exProg2 : Prog := mkProgram pat2 t2 3 {} true
def exRegex2 : Regex := { prog := exProg2, nullable := false }

example : (match Regex.new env0 pat2 [] false with
    | .ok r => progEq r.prog exProg2 && (r.nullable == false)
    | _ => false) = true := by decide +kernel

theorem ex2_searchOK (input : List Nat) (hlen : input.length < usizeMax) : SearchOK exProg2 id input :=
  searchOK_of_mkProgram pat2 t2 3 {} true id input (by decide) (by decide) hlen (by decide +kernel)
    (pres_of_all (by decide +kernel))
    (by decide +kernel)

private def in2 : List Nat := [97, 98, 97, 97, 98, 45, 97, 98, 97, 97, 98]      -- "abaab-abaab"

private def expect2 : List AEntry :=
  [.isMatch [.group 1 [.group 2 [.str [97]], .str [98]], .str [97, 97, 98]],
   .nonMatch [45],
   .isMatch [.group 1 [.group 2 [.str [97]], .str [98]], .str [97, 97, 98]]]

theorem ex2_analyze (es : List AEntry) (more : Bool) (h : exRegex2.analyze id in2 100 = .ok (es, more)) :
    es = Spec.entries in2 0
      ((specSpans (exProg2.ctx id in2) exProg2.op (in2.length + 2) 0).map
        (fun y => (y.1, y.2.1, groupTree exProg2.op in2 y))) ∧ more = false :=
  analyze_groups exRegex2 id in2 (ex2_searchOK in2 (by decide)) rfl (by decide +kernel) [(2, 1), (1, 0)]
    (by decide +kernel) (by decide +kernel) 100 (by decide) es more h

example : aEqL (Spec.entries in2 0
    ((specSpans (exProg2.ctx id in2) exProg2.op (in2.length + 2) 0).map
      (fun y => (y.1, y.2.1, groupTree exProg2.op in2 y)))) expect2 = true := by decide +kernel
example : (match exRegex2.analyze id in2 100 with
    | .ok (es, more) => aEqL es expect2 && !more
    | _ => false) = true := by decide +kernel

end examples

end Rx.C03c
