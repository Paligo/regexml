/-
  Props/C05 — no API call panics (the part of the statement that is a theorem about E).

  A Rust panic is the sticky marker `St.panic = some site` (site ≠ panicDiverge) that the API layer
  turns into `Out.panic site`.  Proved here: for programs without back-references (and
  `OPT_HASBACKREFS` off, as the compiler guarantees for them) no engine step ever raises the
  marker, for every input, position and consumer; the search loop adds no panic when the compiled
  facts are consistent (`prefix.len ≤ minimum_length`, which `ReProgram::new` guarantees);
  hence `is_match` never panics.  Programs with back-references: Props/C05b.  In `analyze`'s tree builder
  and for the parser's `Error::Internal` sites the claim is established by correspondence only (DESIGN.md §6).
-/
import RxModel.Spec.OpLang
import RxModel.Spec.Preds
import RxModel.Model.Compile
import RxModel.Proofs.CompileLemmas
import RxModel.Proofs.InvLemmas
import RxModel.Proofs.ProgFacts
namespace Rx.C05
open Rx

/-- no engine step of a back-reference-free tree raises a panic, whatever the consumer does -/
theorem sem_no_panic (ctx : Ctx) (hb : ctx.hasBackrefs = false) (op : Op) (hop : hasBackref op = false)
    (p : Nat) (st : St) (h : NoPanic st) : (sem ctx op p st).Inv NoPanic :=
  sem_np ctx hb op hop p st trivial h

/-- `first1` hands on a panic-free state -/
theorem first1_no_panic (s : Step) (h : s.Inv NoPanic) : NoPanic (first1 s).2 :=
  first1_inv h (fun _ => noRealPanic_junk)

/-- `match_at` keeps the state panic-free -/
theorem matchAt_no_panic (ctx : Ctx) (hb : ctx.hasBackrefs = false) (op : Op) (hop : hasBackref op = false)
    (j : Nat) (st : St) (h : NoPanic st) : NoPanic (matchAt ctx op j st).2 :=
  have h0 : NoRealPanic (matchStart ctx j st) := NoRealPanic.of_panic_eq (matchStart_panic ctx j st) h
  matchAt_keeps (sem_np ctx hb op hop j _ trivial h0) (fun _ _ hs => hs) (fun _ hs => hs) (fun _ => h0.setDiv)

/-- `matches(i)` for `i ≤ len` keeps the state panic-free -/
theorem matchesFrom_no_panic (pr : Prog) (lower : Nat → Nat) (input : List Nat)
    (hb : pr.hasBackrefs = false) (hop : hasBackref pr.op = false) (hf : FactsOK pr)
    (hlen : input.length < usizeMax)
    (i : Nat) (hi : i ≤ input.length) (st : St) (h : NoPanic st) :
    NoPanic (matchesFrom (pr.ctx lower input) pr i st).2 :=
  matchesFrom_keeps (ctx := pr.ctx lower input) (I := NoRealPanic) hi (fun _ hs => hs)
    (fun c hc => absurd hc (planOf_no_panic (ctx := pr.ctx lower input) hi hlen hf.1 c))
    (fun j _ _ st' h' => matchAt_no_panic _ hb pr.op hop j st' h')
    (fun q hq p st' h' => preHolds_keeps (sem_np _ hb q.op (hf.2 q hq) p st' trivial h') (fun _ => h'.setDiv)) st h

/-- `is_match` never panics on a back-reference-free program -/
theorem isMatch_no_panic (pr : Prog) (lower : Nat → Nat) (input : List Nat)
    (hb : pr.hasBackrefs = false) (hop : hasBackref pr.op = false) (hf : FactsOK pr)
    (hlen : input.length < usizeMax) (c : Nat) :
    pr.isMatch lower input ≠ .panic c :=
  isMatch_np pr lower input
    (matchesFrom_no_panic pr lower input hb hop hf hlen 0 (Nat.zero_le _) {} (.inl rfl)) c

/-- the program built by `ReProgram::new` has consistent facts -/
theorem mkProgram_factsOK (pat : List Nat) (op : Op) (mp : Nat) (fl : CFlags) (hop : hasBackref op = false) :
    FactsOK (mkProgram pat op mp fl false) :=
  mkProgram_facts pat op mp fl hop

set_option linter.unusedVariables false in
/-- `subst` returns `some` or `none` (its `none` is the crate's InvalidReplacementString) -/
theorem subst_total (pr : Prog) (input repl : List Nat) (st : St) (simple : Bool) (hmp : pr.maxParens ≠ 0) :
    (pr.subst input repl st simple).isSome ∨ pr.subst input repl st simple = none := by
  cases pr.subst input repl st simple <;> simp

/-- flag parsing and the whitespace pre-pass are total functions with classified results only -/
theorem flags_classified (fs : List Nat) (xsd : Bool) (env : Env) (p : List Nat) (opt : Bool)
    (h : parseFlags fs xsd = none) : Regex.new env p fs xsd opt = .err .invalidFlags := by
  rw [Regex.new_bind, h]

end Rx.C05
