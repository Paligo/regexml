/-
  Props/Clean4Api — the fragment with the GENERAL RELUCTANT repeat (Spec/Enum4, Props/Clean4) from the pattern
  text (`Regex::new`) and up to the API (`replace_all`, `tokenize`, `analyze`).  Props/Clean3Api and
  Props/Clean3ApiComplete take the corresponding theorems for the greedy fragment from here.

  The decidable hypotheses are stated on the compiled program's own tree `r.prog.op` (the numbered tree):
      `cleanProg4 env fl.caseBlind fl.multiLine r.prog.op`, `clsCanonB r.prog.op`   (ANY `min`, including 0)
  plus `Api.NoSat`, `r.prog.hasBackrefs = false`, "not the empty pattern under flag q", `InputOKFor`.

  Namespace `Rx.Clean4Api`: from `Regex::new`, and the scan level.  Namespace `Rx.ApiGeneric.Clean4Api`:
  Proofs/ApiGenericLemmas and Proofs/ApiRegexLemmas instantiated with the head of `enum4` (`headEnum4`), with the
  state-free span list `spans` built from `enum4`.  Since `cleanProg4` contains `cleanProg3` and `cleanProg2` these
  subsume the `api3_…` theorems (`clean4Regex_of_clean3`).
-/
import RxModel.Proofs.RegexOKNew
import RxModel.Props.Clean4
import RxModel.Proofs.StdInput
import RxModel.Props.C04
namespace Rx.Clean4Api
open Rx Rx.SearchComplete Rx.Clean2Api
open Rx.C08 (noEmptyAtoms)
open Rx.CleanComplete (new_prog)

/-! ## 1. from `Regex::new` -/

/-- C01 from the pattern text, both directions -/
theorem api_clean4_isMatch_iff (env : Env) (p fs : List Nat) (xsd : Bool) (fl : Flags) (r : Regex)
    (hf : parseFlags fs xsd = some fl) (h : Regex.new env p fs xsd true = .ok r) (hns : Api.NoSat env fl p)
    (hclean : cleanProg4 env fl.caseBlind fl.multiLine r.prog.op = true) (hcan : clsCanonB r.prog.op = true)
    (hnb : r.prog.hasBackrefs = false) (hlit : fl.literal = true → p ≠ [])
    (input : List Nat) (hI : InputOKFor env fl.core env.lower input) (hlen : input.length < usizeMax) :
    (r.prog.isMatch env.lower input = .ok true ↔
      ∃ j q, j ≤ input.length ∧ OpR (r.prog.ctx env.lower input) r.prog.op j q) ∧
    ((¬ ∃ j q, j ≤ input.length ∧ OpR (r.prog.ctx env.lower input) r.prog.op j q) →
      r.prog.isMatch env.lower input = .ok false) := by
  obtain ⟨pat', op', mp, heq, hw, hne, _⟩ := new_prog env p fs xsd fl r hf h hns hnb hlit
  rw [heq] at hclean hcan ⊢
  exact ⟨Rx.Clean4.clean4_isMatch_iff env pat' op' mp fl.core env.lower input hI hclean hw hne hcan hlen,
    Rx.Clean4.clean4_isMatch_false env pat' op' mp fl.core env.lower input hI hclean hw hne hcan hlen⟩

/-- C02 from the pattern text: least start; end = head of the engine's priority enumeration `enum4` -/
theorem api_clean4_match_is_leftmost_first (env : Env) (p fs : List Nat) (xsd : Bool) (fl : Flags) (r : Regex)
    (hf : parseFlags fs xsd = some fl) (h : Regex.new env p fs xsd true = .ok r) (hns : Api.NoSat env fl p)
    (hclean : cleanProg4 env fl.caseBlind fl.multiLine r.prog.op = true) (hcan : clsCanonB r.prog.op = true)
    (hnb : r.prog.hasBackrefs = false) (hlit : fl.literal = true → p ≠ [])
    (input : List Nat) (hI : InputOKFor env fl.core env.lower input) (hlen : input.length < usizeMax)
    (i : Nat) (hi : i ≤ input.length) (st st' : St) (hst : st.panic = none)
    (hm : matchesFrom (r.prog.ctx env.lower input) r.prog i st = (true, st')) :
    ∃ j n, getParenStart st' 0 = some j ∧ getParenEnd st' 0 = some n ∧
      (enum4 (r.prog.ctx env.lower input) r.prog.op j).head? = some n ∧
      i ≤ j ∧ j ≤ n ∧ n ≤ input.length ∧ OpR (r.prog.ctx env.lower input) r.prog.op j n ∧
      ∀ k q, i ≤ k → k < j → ¬ OpR (r.prog.ctx env.lower input) r.prog.op k q := by
  obtain ⟨pat', op', mp, heq, hw, hne, hcp⟩ := new_prog env p fs xsd fl r hf h hns hnb hlit
  rw [heq] at hclean hcan hm ⊢
  exact Rx.Clean4.clean4_match_is_leftmost_first env pat' op' mp fl.core env.lower input hI hclean hw hne
    hcan hcp hlen i hi st st' hst hm

/-- shortcuts on / off on the compiled tree: Boolean, start and end -/
theorem api_clean4_opt_eq_noopt (env : Env) (p fs : List Nat) (xsd : Bool) (fl : Flags) (r : Regex)
    (hf : parseFlags fs xsd = some fl) (h : Regex.new env p fs xsd true = .ok r) (hns : Api.NoSat env fl p)
    (hclean : cleanProg4 env fl.caseBlind fl.multiLine r.prog.op = true) (hcan : clsCanonB r.prog.op = true)
    (hnb : r.prog.hasBackrefs = false) (hlit : fl.literal = true → p ≠ [])
    (input : List Nat) (hI : InputOKFor env fl.core env.lower input) (hlen : input.length < usizeMax)
    (i : Nat) (hi : i ≤ input.length) (st1 st2 : St) (h1 : st1.panic = none) (h2 : st2.panic = none) :
    (matchesFrom (r.prog.ctx env.lower input) r.prog i st1).1 =
      (matchesNaive (r.prog.ctx env.lower input) r.prog.op i st2).1 ∧
    ((matchesFrom (r.prog.ctx env.lower input) r.prog i st1).1 = true →
      getParenStart (matchesFrom (r.prog.ctx env.lower input) r.prog i st1).2 0 =
        getParenStart (matchesNaive (r.prog.ctx env.lower input) r.prog.op i st2).2 0 ∧
      getParenEnd (matchesFrom (r.prog.ctx env.lower input) r.prog i st1).2 0 =
        getParenEnd (matchesNaive (r.prog.ctx env.lower input) r.prog.op i st2).2 0) := by
  obtain ⟨pat', op', mp, heq, hw, hne, hcp⟩ := new_prog env p fs xsd fl r hf h hns hnb hlit
  rw [heq] at hclean hcan ⊢
  exact Rx.Clean4.clean4_opt_eq_noopt env pat' op' mp fl.core env.lower input hI hclean hw hne hcan hcp
    hlen i hi st1 st2 h1 h2

/-! ### the real tables, case-sensitive -/

theorem api_clean4_isMatch_iff_std_cs (p fs : List Nat) (xsd : Bool) (fl : Flags) (r : Regex)
    (hf : parseFlags fs xsd = some fl) (h : Regex.new Env.std p fs xsd true = .ok r)
    (hns : Api.NoSat Env.std fl p) (hcb : fl.caseBlind = false)
    (hclean : cleanProg4 Env.std false fl.multiLine r.prog.op = true) (hcan : clsCanonB r.prog.op = true)
    (hnb : r.prog.hasBackrefs = false) (hlit : fl.literal = true → p ≠ [])
    (input : List Nat) (hsv : ScalarInput input) (hlen : input.length < usizeMax) :
    (r.prog.isMatch Env.std.lower input = .ok true ↔
      ∃ j q, j ≤ input.length ∧ OpR (r.prog.ctx Env.std.lower input) r.prog.op j q) ∧
    ((¬ ∃ j q, j ≤ input.length ∧ OpR (r.prog.ctx Env.std.lower input) r.prog.op j q) →
      r.prog.isMatch Env.std.lower input = .ok false) :=
  api_clean4_isMatch_iff Env.std p fs xsd fl r hf h hns (by rw [hcb]; exact hclean) hcan hnb hlit input
    (inputOK_std_cs hcb hsv) hlen

theorem api_clean4_match_is_leftmost_first_std_cs (p fs : List Nat) (xsd : Bool) (fl : Flags) (r : Regex)
    (hf : parseFlags fs xsd = some fl) (h : Regex.new Env.std p fs xsd true = .ok r)
    (hns : Api.NoSat Env.std fl p) (hcb : fl.caseBlind = false)
    (hclean : cleanProg4 Env.std false fl.multiLine r.prog.op = true) (hcan : clsCanonB r.prog.op = true)
    (hnb : r.prog.hasBackrefs = false) (hlit : fl.literal = true → p ≠ [])
    (input : List Nat) (hsv : ScalarInput input) (hlen : input.length < usizeMax)
    (i : Nat) (hi : i ≤ input.length) (st st' : St) (hst : st.panic = none)
    (hm : matchesFrom (r.prog.ctx Env.std.lower input) r.prog i st = (true, st')) :
    ∃ j n, getParenStart st' 0 = some j ∧ getParenEnd st' 0 = some n ∧
      (enum4 (r.prog.ctx Env.std.lower input) r.prog.op j).head? = some n ∧
      i ≤ j ∧ j ≤ n ∧ n ≤ input.length ∧ OpR (r.prog.ctx Env.std.lower input) r.prog.op j n ∧
      ∀ k q, i ≤ k → k < j → ¬ OpR (r.prog.ctx Env.std.lower input) r.prog.op k q :=
  api_clean4_match_is_leftmost_first Env.std p fs xsd fl r hf h hns (by rw [hcb]; exact hclean) hcan hnb hlit
    input (inputOK_std_cs hcb hsv) hlen i hi st st' hst hm

theorem api_clean4_opt_eq_noopt_std_cs (p fs : List Nat) (xsd : Bool) (fl : Flags) (r : Regex)
    (hf : parseFlags fs xsd = some fl) (h : Regex.new Env.std p fs xsd true = .ok r)
    (hns : Api.NoSat Env.std fl p) (hcb : fl.caseBlind = false)
    (hclean : cleanProg4 Env.std false fl.multiLine r.prog.op = true) (hcan : clsCanonB r.prog.op = true)
    (hnb : r.prog.hasBackrefs = false) (hlit : fl.literal = true → p ≠ [])
    (input : List Nat) (hsv : ScalarInput input) (hlen : input.length < usizeMax)
    (i : Nat) (hi : i ≤ input.length) (st1 st2 : St) (h1 : st1.panic = none) (h2 : st2.panic = none) :
    (matchesFrom (r.prog.ctx Env.std.lower input) r.prog i st1).1 =
      (matchesNaive (r.prog.ctx Env.std.lower input) r.prog.op i st2).1 ∧
    ((matchesFrom (r.prog.ctx Env.std.lower input) r.prog i st1).1 = true →
      getParenStart (matchesFrom (r.prog.ctx Env.std.lower input) r.prog i st1).2 0 =
        getParenStart (matchesNaive (r.prog.ctx Env.std.lower input) r.prog.op i st2).2 0 ∧
      getParenEnd (matchesFrom (r.prog.ctx Env.std.lower input) r.prog i st1).2 0 =
        getParenEnd (matchesNaive (r.prog.ctx Env.std.lower input) r.prog.op i st2).2 0) :=
  api_clean4_opt_eq_noopt Env.std p fs xsd fl r hf h hns (by rw [hcb]; exact hclean) hcan hnb hlit
    input (inputOK_std_cs hcb hsv) hlen i hi st1 st2 h1 h2

/-! ## 2. scan level (C04 / C16) -/

theorem clean4_goodFind (env : Env) (pat : List Nat) (op : Op) (mp : Nat) (fl : CFlags) (lower : Nat → Nat)
    (hc : cleanProg4 env fl.caseBlind fl.multiLine (mkProgram pat op mp fl false).op = true)
    (hwf : wfOp op = true) (hne : noEmptyAtoms op = true)
    (hcan : clsCanonB (mkProgram pat op mp fl false).op = true) (hcp : C02.capsPos op = true)
    (hnull : (mkProgram pat op mp fl false).isMatch lower [] = .ok false)
    (input : List Nat) (hI : InputOKFor env fl lower input) (hlen : input.length < usizeMax) :
    C04.GoodFind ((mkProgram pat op mp fl false).matcher lower input) input.length
      (fun st => st.panic = none) :=
  (clean4_progOK env pat op mp fl lower input hI hc hwf hne hcan hlen).goodFind
    (clean4_progOK env pat op mp fl lower [] (inputOKFor_nil hI) hc hwf hne hcan (by decide))
    ((mkProgram_tree pat op mp fl false).2.2.trans hcp) hnull

theorem clean4_find_clean (env : Env) (pat : List Nat) (op : Op) (mp : Nat) (fl : CFlags) (lower : Nat → Nat)
    (hc : cleanProg4 env fl.caseBlind fl.multiLine (mkProgram pat op mp fl false).op = true)
    (hwf : wfOp op = true) (hne : noEmptyAtoms op = true)
    (hcan : clsCanonB (mkProgram pat op mp fl false).op = true)
    (input : List Nat) (hI : InputOKFor env fl lower input) (hlen : input.length < usizeMax)
    (st : St) (hst : st.panic = none) (pos : Nat) (hpos : pos ≤ input.length) :
    ((mkProgram pat op mp fl false).matcher lower input).failed
      (((mkProgram pat op mp fl false).matcher lower input).find st pos).2 = none :=
  ((clean4_progOK env pat op mp fl lower input hI hc hwf hne hcan hlen).outcome pos hpos st hst).clean

theorem clean4_tokenize_spec (env : Env) (pat : List Nat) (op : Op) (mp : Nat) (fl : CFlags) (lower : Nat → Nat)
    (hc : cleanProg4 env fl.caseBlind fl.multiLine (mkProgram pat op mp fl false).op = true)
    (hwf : wfOp op = true) (hne : noEmptyAtoms op = true)
    (hcan : clsCanonB (mkProgram pat op mp fl false).op = true) (hcp : C02.capsPos op = true)
    (hnull : (mkProgram pat op mp fl false).isMatch lower [] = .ok false)
    (input : List Nat) (hI : InputOKFor env fl lower input) (hlen : input.length < usizeMax)
    (limit : Nat) (hl : input.length + 1 ≤ limit) (toks : List (List Nat)) (more : Bool)
    (h : tokenLoop ((mkProgram pat op mp fl false).matcher lower input) input limit (some 0) {} [] = .ok (toks, more)) :
    toks = Spec.pieces input 0 (C04.spanPairs (C04.spansOf ((mkProgram pat op mp fl false).matcher lower input)
      input.length (input.length + 2) 0 {})) ∧ more = false :=
  C04.tokenize_spec _ _ input (clean4_goodFind env pat op mp fl lower hc hwf hne hcan hcp hnull input hI hlen)
    {} rfl limit hl toks more h

/-- from the pattern text: a regex of the fragment that passes the nullability gate drives the scan loops
    with a matcher satisfying C04's `GoodFind` -/
theorem api_clean4_goodFind (env : Env) (p fs : List Nat) (xsd : Bool) (fl : Flags) (r : Regex)
    (hf : parseFlags fs xsd = some fl) (h : Regex.new env p fs xsd true = .ok r) (hns : Api.NoSat env fl p)
    (hclean : cleanProg4 env fl.caseBlind fl.multiLine r.prog.op = true) (hcan : clsCanonB r.prog.op = true)
    (hnb : r.prog.hasBackrefs = false) (hlit : fl.literal = true → p ≠ []) (hnull : r.nullable = false)
    (input : List Nat) (hI : InputOKFor env fl.core env.lower input) (hlen : input.length < usizeMax) :
    C04.GoodFind (r.prog.matcher env.lower input) input.length (fun st => st.panic = none) := by
  obtain ⟨pat', op', mp, heq, hw, hne, hcp⟩ := new_prog env p fs xsd fl r hf h hns hnb hlit
  have hn := C16.new_nullable env p fs xsd true r h
  rw [hnull, heq] at hn
  rw [heq] at hclean hcan ⊢
  exact clean4_goodFind env pat' op' mp fl.core env.lower hclean hw hne hcan hcp hn input hI hlen

theorem api_clean4_goodFind_std_cs (p fs : List Nat) (xsd : Bool) (fl : Flags) (r : Regex)
    (hf : parseFlags fs xsd = some fl) (h : Regex.new Env.std p fs xsd true = .ok r)
    (hns : Api.NoSat Env.std fl p) (hcb : fl.caseBlind = false)
    (hclean : cleanProg4 Env.std false fl.multiLine r.prog.op = true) (hcan : clsCanonB r.prog.op = true)
    (hnb : r.prog.hasBackrefs = false) (hlit : fl.literal = true → p ≠ []) (hnull : r.nullable = false)
    (input : List Nat) (hsv : ScalarInput input) (hlen : input.length < usizeMax) :
    C04.GoodFind (r.prog.matcher Env.std.lower input) input.length (fun st => st.panic = none) :=
  api_clean4_goodFind Env.std p fs xsd fl r hf h hns (by rw [hcb]; exact hclean) hcan hnb hlit hnull input
    (inputOK_std_cs hcb hsv) hlen

end Rx.Clean4Api

namespace Rx.ApiGeneric.Clean4Api
open Rx Rx.SearchComplete Rx.Spec Rx.Clean2Api Rx.ApiGeneric
open Rx.ApiComplete (GoodInput GoodInput.nil goodInput_std_cs compile_maxParens hasCapNode firstFrom
  firstFrom_some firstFrom_none firstFrom_eq_some firstFrom_eq_none ordered_mem)
open Rx.C08 (noEmptyAtoms)

/-- the head of the priority enumeration `enum4` -/
instance headEnum4 : HeadFn := ⟨fun ctx op j => (enum4 ctx op j).head?⟩

/-! ## the bundles -/

/-- `r` is what `Regex::new env p fs xsd` (optimiser on) returned, and satisfies the hypotheses of the
    `api_clean4_*` theorems above -/
structure Clean4New (env : Env) (p fs : List Nat) (xsd : Bool) (fl : Flags) (r : Regex) : Prop where
  hf : parseFlags fs xsd = some fl
  hnew : Regex.new env p fs xsd true = .ok r
  hns : Api.NoSat env fl p
  hclean : cleanProg4 env fl.caseBlind fl.multiLine r.prog.op = true
  hcan : clsCanonB r.prog.op = true
  hnb : r.prog.hasBackrefs = false
  hlit : fl.literal = true → p ≠ []

def Clean4Regex (env : Env) (fl : Flags) (r : Regex) : Prop := ∃ p fs xsd, Clean4New env p fs xsd fl r

/-- the one fact of the fragment (`clean4_progOK`) is all the API contract asks for -/
theorem Clean4Regex.ok {env : Env} {fl : Flags} {r : Regex} (R : Clean4Regex env fl r) : RegexOK env fl r := by
  obtain ⟨p, fs, xsd, N⟩ := R
  refine RegexOK.of_new (E := enum4) N.hf N.hnew N.hns N.hnb N.hlit (fun {input} G => ?_)
  obtain ⟨pat, op, mp, heq, hw, hne, _⟩ := CleanComplete.new_prog env p fs xsd fl r N.hf N.hnew N.hns N.hnb N.hlit
  have hc := N.hclean
  have hcan := N.hcan
  rw [heq] at hc hcan ⊢
  exact (clean4_progOK env pat op mp fl.core env.lower input G.ok hc hw hne hcan G.len).tree

theorem Clean4Regex.literal {env : Env} {fl : Flags} {r : Regex} (R : Clean4Regex env fl r) :
    r.prog.literal = fl.literal :=
  R.ok.literal

theorem Clean4Regex.findOK {env : Env} {fl : Flags} {r : Regex} (R : Clean4Regex env fl r)
    (hnull : r.nullable = false) {input : List Nat} (G : GoodInput env fl input) :
    FindOK (r.prog.ctx env.lower input) r.prog :=
  R.ok.findOK hnull G

theorem Clean4Regex.isMatch_iff {env : Env} {fl : Flags} {r : Regex} (R : Clean4Regex env fl r)
    {input : List Nat} (G : GoodInput env fl input) :
    (r.prog.isMatch env.lower input = .ok true ↔
      ∃ j q, j ≤ input.length ∧ OpR (r.prog.ctx env.lower input) r.prog.op j q) ∧
    ((¬ ∃ j q, j ≤ input.length ∧ OpR (r.prog.ctx env.lower input) r.prog.op j q) →
      r.prog.isMatch env.lower input = .ok false) :=
  R.ok.isMatch_iff G

/-! ## 1. C16 — regexes that match the empty string are rejected up front, and only those

  Each theorem below is the theorem of Proofs/ApiRegexLemmas named in its proof, for this fragment's bundle;
  what it says is explained, statement by statement, in Props/ApiComplete.
-/

theorem api4_gate_iff {env : Env} {fl : Flags} {r : Regex} (R : Clean4Regex env fl r)
    (G0 : GoodInput env fl []) :
    r.nullable = true ↔ ∃ q, OpR (r.prog.ctx env.lower []) r.prog.op 0 q :=
  R.ok.gate_iff G0

theorem api4_gate_iff_empty {env : Env} {fl : Flags} {r : Regex} (R : Clean4Regex env fl r)
    (G0 : GoodInput env fl []) :
    r.nullable = true ↔ OpR (r.prog.ctx env.lower []) r.prog.op 0 0 :=
  R.ok.gate_iff_empty G0

theorem c16_rejected {env : Env} {fl : Flags} {r : Regex} (R : Clean4Regex env fl r) (G0 : GoodInput env fl [])
    (hempty : ∃ q, OpR (r.prog.ctx env.lower []) r.prog.op 0 q)
    (lower : Nat → Nat) (input repl : List Nat) (limit : Nat) :
    r.replaceAll lower input repl = .err .matchesEmptyString ∧
    r.analyze lower input limit = .err .matchesEmptyString ∧
    (input ≠ [] → r.tokenize lower input limit = .err .matchesEmptyString) ∧
    r.tokenize lower [] limit = .ok ([], false) :=
  R.ok.rejected G0 hempty lower input repl limit

theorem replaceAll_gate_iff {env : Env} {fl : Flags} {r : Regex} (R : Clean4Regex env fl r)
    (G0 : GoodInput env fl []) (lower : Nat → Nat) (input repl : List Nat) :
    r.replaceAll lower input repl = .err .matchesEmptyString ↔
      ∃ q, OpR (r.prog.ctx env.lower []) r.prog.op 0 q :=
  R.ok.replaceAll_gate_iff G0 lower input repl

theorem analyze_gate_iff {env : Env} {fl : Flags} {r : Regex} (R : Clean4Regex env fl r)
    (G0 : GoodInput env fl []) (lower : Nat → Nat) (input : List Nat) (limit : Nat) :
    r.analyze lower input limit = .err .matchesEmptyString ↔
      ∃ q, OpR (r.prog.ctx env.lower []) r.prog.op 0 q :=
  R.ok.analyze_gate_iff G0 lower input limit

theorem tokenize_gate_iff {env : Env} {fl : Flags} {r : Regex} (R : Clean4Regex env fl r)
    (G0 : GoodInput env fl []) (lower : Nat → Nat) (input : List Nat) (limit : Nat) (hne : input ≠ []) :
    r.tokenize lower input limit = .err .matchesEmptyString ↔
      ∃ q, OpR (r.prog.ctx env.lower []) r.prog.op 0 q :=
  R.ok.tokenize_gate_iff G0 lower input limit hne

theorem c16_only_those {env : Env} {fl : Flags} {r : Regex} (R : Clean4Regex env fl r) (G0 : GoodInput env fl [])
    (hnot : ¬ ∃ q, OpR (r.prog.ctx env.lower []) r.prog.op 0 q)
    (lower : Nat → Nat) (input repl : List Nat) (limit : Nat) :
    r.replaceAll lower input repl ≠ .err .matchesEmptyString ∧
    r.analyze lower input limit ≠ .err .matchesEmptyString ∧
    r.tokenize lower input limit ≠ .err .matchesEmptyString :=
  R.ok.only_those G0 hnot lower input repl limit

/-! ## 2. C04 — the three APIs partition the input consistently -/

/-- THE span list of a regex on an input, state-free: from position 0, repeatedly the least start with
    a match and the first end of the priority order from it (`firstSpan`), continuing from that end -/
def spans (r : Regex) (lower : Nat → Nat) (input : List Nat) : List (Nat × Nat) :=
  spansFrom (r.prog.ctx lower input) r.prog.op (input.length + 2) 0

theorem firstSpan_spec (ctx : Ctx) (op : Op) (pos j n : Nat) (h : firstSpan ctx op pos = some (j, n)) :
    pos ≤ j ∧ j ≤ ctx.len ∧ (enum4 ctx op j).head? = some n ∧
    ∀ k, pos ≤ k → k < j → (enum4 ctx op k).head? = none :=
  firstSpan_hd ctx op pos j n h

theorem firstSpan_sem {env : Env} {fl : Flags} {r : Regex} (R : Clean4Regex env fl r)
    (hnull : r.nullable = false) {input : List Nat} (G : GoodInput env fl input)
    (pos j n : Nat) (hpos : pos ≤ input.length)
    (h : firstSpan (r.prog.ctx env.lower input) r.prog.op pos = some (j, n)) :
    OpR (r.prog.ctx env.lower input) r.prog.op j n ∧ j < n ∧
    ∀ k q, pos ≤ k → k < j → ¬ OpR (r.prog.ctx env.lower input) r.prog.op k q :=
  (R.findOK hnull G).span_sem pos j n hpos h

theorem c16_no_empty_span {env : Env} {fl : Flags} {r : Regex} (R : Clean4Regex env fl r)
    (hnull : r.nullable = false) {input : List Nat} (G : GoodInput env fl input) :
    (∀ x ∈ spans r env.lower input, x.1 < x.2 ∧ x.2 ≤ input.length) ∧
    (∀ pos st st', pos ≤ input.length → st.panic = none →
      matchesFrom (r.prog.ctx env.lower input) r.prog pos st = (true, st') →
      ∃ j n, getParenStart st' 0 = some j ∧ getParenEnd st' 0 = some n ∧ pos ≤ j ∧ j < n ∧ n ≤ input.length) :=
  ⟨(R.findOK hnull G).no_empty_span.1, fun pos st st' hpos hst hm =>
    (R.findOK hnull G).no_empty_span.2 pos st st' hpos hst trivial hm⟩

theorem scan_sees_spans {env : Env} {fl : Flags} {r : Regex} (R : Clean4Regex env fl r)
    (hnull : r.nullable = false) {input : List Nat} (G : GoodInput env fl input) :
    C04.spanPairs (C04.spansOf (r.prog.matcher env.lower input) input.length (input.length + 2) 0 {}) =
      spans r env.lower input :=
  (R.findOK hnull G).scan_spans

theorem api4_goodFind {env : Env} {fl : Flags} {r : Regex} (R : Clean4Regex env fl r)
    (hnull : r.nullable = false) {input : List Nat} (G : GoodInput env fl input) :
    C04.GoodFind (r.prog.matcher env.lower input) input.length (fun st => st.panic = none) :=
  (R.findOK hnull G).goodFind

/-! ### (a) replace -/

theorem api4_replace_spec {env : Env} {fl : Flags} {r : Regex} (R : Clean4Regex env fl r)
    (hnull : r.nullable = false) {input : List Nat} (G : GoodInput env fl input) (repl : List Nat)
    (hd : Dep0 (r.prog.maxParens - 1) repl) :
    r.replaceAll env.lower input repl =
      .ok (replaced input 0 ((spans r env.lower input).map
        (fun x => (x.1, x.2, replText r.prog input repl x.1 x.2)))) :=
  (R.findOK hnull G).replaceAll_spec hnull R.ok.maxParens repl hd

theorem api4_replace_plain {env : Env} {fl : Flags} {r : Regex} (R : Clean4Regex env fl r)
    (hnull : r.nullable = false) {input : List Nat} (G : GoodInput env fl input) (repl : List Nat)
    (hp : plainRepl repl = true) :
    r.replaceAll env.lower input repl =
      .ok (joinWith repl (pieces input 0 (spans r env.lower input))) :=
  (R.findOK hnull G).replaceAll_plain hnull R.ok.maxParens repl hp

theorem api4_replace_dollar0 {env : Env} {fl : Flags} {r : Regex} (R : Clean4Regex env fl r)
    (hnull : r.nullable = false) {input : List Nat} (G : GoodInput env fl input)
    (hlit : fl.literal = false) :
    r.replaceAll env.lower input [36, 48] = .ok input :=
  (R.findOK hnull G).replaceAll_dollar0 hnull R.ok.maxParens (R.literal.trans hlit)

/-! ### (b) tokenize -/

theorem api4_tokenize_spec {env : Env} {fl : Flags} {r : Regex} (R : Clean4Regex env fl r)
    (hnull : r.nullable = false) {input : List Nat} (G : GoodInput env fl input) (hne : input ≠ [])
    (limit : Nat) (hl : input.length + 1 ≤ limit) :
    r.tokenize env.lower input limit = .ok (pieces input 0 (spans r env.lower input), false) :=
  (R.findOK hnull G).tokenize_spec hnull hne limit hl

theorem api4_tokenize_count {env : Env} {fl : Flags} {r : Regex} (R : Clean4Regex env fl r)
    (hnull : r.nullable = false) {input : List Nat} (G : GoodInput env fl input) :
    (pieces input 0 (spans r env.lower input)).length = (spans r env.lower input).length + 1 ∧
    (spans r env.lower input).length ≤ input.length :=
  (R.findOK hnull G).tokenize_count

/-! ### (c) analyze -/

theorem api4_analyze_spec {env : Env} {fl : Flags} {r : Regex} (R : Clean4Regex env fl r)
    (hnull : r.nullable = false) {input : List Nat} (G : GoodInput env fl input)
    (limit : Nat) (hl : 2 * input.length + 1 ≤ limit) (es : List AEntry) (more : Bool)
    (h : r.analyze env.lower input limit = .ok (es, more)) :
    ∃ L : List (Nat × Nat × List MEntry),
      L.map (fun x => (x.1, x.2.1)) = spans r env.lower input ∧ es = entries input 0 L ∧ more = false :=
  (R.findOK hnull G).analyze_spec hnull limit hl es more h

theorem api4_analyze_concat {env : Env} {fl : Flags} {r : Regex} (R : Clean4Regex env fl r)
    (hnull : r.nullable = false) (hnc : hasCapNode r.prog.op = false)
    {input : List Nat} (G : GoodInput env fl input)
    (limit : Nat) (hl : 2 * input.length + 1 ≤ limit) (es : List AEntry) (more : Bool)
    (h : r.analyze env.lower input limit = .ok (es, more)) : aTextL es = input :=
  (R.findOK hnull G).analyze_concat hnull hnc limit hl es more h

theorem api4_analyze_bound {env : Env} {fl : Flags} {r : Regex} (R : Clean4Regex env fl r)
    (hnull : r.nullable = false) {input : List Nat} (G : GoodInput env fl input)
    (limit : Nat) (es : List AEntry) (more : Bool)
    (h : r.analyze env.lower input limit = .ok (es, more)) : es.length ≤ 2 * input.length + 1 :=
  (R.findOK hnull G).analyze_bound hnull limit es more h

theorem api4_tokenize_bound {env : Env} {fl : Flags} {r : Regex} (R : Clean4Regex env fl r)
    (hnull : r.nullable = false) {input : List Nat} (G : GoodInput env fl input)
    (limit : Nat) (toks : List (List Nat)) (more : Bool)
    (h : r.tokenize env.lower input limit = .ok (toks, more)) : toks.length ≤ input.length + 1 :=
  (R.findOK hnull G).tokenize_bound hnull limit toks more h

/-! ## 3. C06 — the four API functions are total on the fragment -/

theorem api4_isMatch_total {env : Env} {fl : Flags} {r : Regex} (R : Clean4Regex env fl r)
    {input : List Nat} (G : GoodInput env fl input) :
    ∃ b, r.prog.isMatch env.lower input = .ok b :=
  R.ok.isMatch_total G

theorem api4_replace_total {env : Env} {fl : Flags} {r : Regex} (R : Clean4Regex env fl r)
    {input : List Nat} (G : GoodInput env fl input) (repl : List Nat) :
    (∃ out, r.replaceAll env.lower input repl = .ok out) ∨
    r.replaceAll env.lower input repl = .err .invalidReplacement ∨
    r.replaceAll env.lower input repl = .err .matchesEmptyString :=
  R.ok.replaceAll_total G repl

theorem api4_tokenize_total {env : Env} {fl : Flags} {r : Regex} (R : Clean4Regex env fl r)
    {input : List Nat} (G : GoodInput env fl input) (limit : Nat) :
    (∃ toks more, r.tokenize env.lower input limit = .ok (toks, more)) ∨
    r.tokenize env.lower input limit = .err .matchesEmptyString :=
  R.ok.tokenize_total G limit

theorem api4_analyze_total {env : Env} {fl : Flags} {r : Regex} (R : Clean4Regex env fl r)
    {input : List Nat} (G : GoodInput env fl input) (limit : Nat) :
    (∃ es more, r.analyze env.lower input limit = .ok (es, more)) ∨
    r.analyze env.lower input limit = .err .matchesEmptyString ∨
    r.analyze env.lower input limit = .panic panicAnalyze ∨
    r.analyze env.lower input limit = .panic panicNesting :=
  R.ok.analyze_total G limit

theorem api4_analyze_total_plain {env : Env} {fl : Flags} {r : Regex} (R : Clean4Regex env fl r)
    (hnull : r.nullable = false) (hnc : hasCapNode r.prog.op = false)
    (htbl : r.prog.literal = true ∨ (nestingTable r.prog.pattern).isSome = true)
    {input : List Nat} (G : GoodInput env fl input) (limit : Nat) :
    ∃ es more, r.analyze env.lower input limit = .ok (es, more) :=
  (R.findOK hnull G).analyze_total_plain hnull hnc htbl limit

/-! ## 4. the greedy fragment is inside -/

/-- the greedy fragment of Props/Clean3Api (and with it that of Props/Clean2Api) is inside: a regex satisfying
    the hypotheses of the `api_clean3_*` theorems satisfies those of the theorems of this file -/
theorem clean4Regex_of_clean3 {env : Env} {p fs : List Nat} {xsd : Bool} {fl : Flags} {r : Regex}
    (hf : parseFlags fs xsd = some fl) (h : Regex.new env p fs xsd true = .ok r) (hns : Api.NoSat env fl p)
    (hclean : cleanProg3 env fl.caseBlind fl.multiLine r.prog.op = true) (hcan : clsCanonB r.prog.op = true)
    (hnb : r.prog.hasBackrefs = false) (hlit : fl.literal = true → p ≠ []) : Clean4Regex env fl r :=
  ⟨p, fs, xsd, ⟨hf, h, hns, Rx.Clean4.cleanProg4_of_cleanProg3 env _ _ _ hclean, hcan, hnb, hlit⟩⟩

/-! ## example: `(?:ab|c)+?c` (and `(?:ab|c)*?d`, min = 0) through `Regex.new Env.std` -/
section example_

/-- `(?:ab|c)+?c` (the pattern text of `Clean4.ex_compiled` / `Clean4.exProg`) -/
def exPat : List Nat := [40, 63, 58, 97, 98, 124, 99, 41, 43, 63, 99]
/-- `(?:ab|c)*?d` -/
def exPat0 : List Nat := [40, 63, 58, 97, 98, 124, 99, 41, 42, 63, 100]
/-- "xabcc" -/
def exInput : List Nat := Rx.Clean4.exInput
/-- "xabcc-cc" -/
def exInput2 : List Nat := [120, 97, 98, 99, 99, 45, 99, 99]

/-- `Regex::new` accepts both patterns and the compiled programs satisfy the decidable hypotheses;
    they are outside the fragment of Props/Clean3Api -/
theorem ex_new :
    (match Regex.new Env.std exPat [] false true with
     | .ok r => cleanProg4 Env.std false false r.prog.op && clsCanonB r.prog.op && !r.prog.hasBackrefs &&
         !r.nullable && !cleanProg3 Env.std false false r.prog.op
     | _ => false) = true ∧
    (match Regex.new Env.std exPat0 [] false true with
     | .ok r => cleanProg4 Env.std false false r.prog.op && clsCanonB r.prog.op && !r.prog.hasBackrefs &&
         !r.nullable && !cleanProg3 Env.std false false r.prog.op
     | _ => false) = true := by decide +kernel

theorem ex_noSat : Api.NoSat Env.std {} exPat := Api.noSat_of exPat (by decide +kernel)
theorem ex_noSat0 : Api.NoSat Env.std {} exPat0 := Api.noSat_of exPat0 (by decide +kernel)

theorem ex_scalar : ScalarInput exInput2 := by
  intro c hc
  simp only [exInput2, List.mem_cons, List.not_mem_nil, or_false] at hc
  rcases hc with rfl | rfl | rfl | rfl | rfl | rfl | rfl | rfl <;> decide

/-- FROM THE PATTERN TEXT: whatever `Regex.new` returns for `(?:ab|c)+?c` is a regex of the fragment, and it
    passes the nullability gate -/
theorem ex_regex (r : Regex) (h : Regex.new Env.std exPat [] false true = .ok r) :
    Clean4Regex Env.std {} r ∧ r.nullable = false := by
  have hk := ex_new.1
  rw [h] at hk
  simp only [Bool.and_eq_true, Bool.not_eq_true'] at hk
  obtain ⟨⟨⟨⟨k1, k2⟩, k3⟩, k4⟩, _⟩ := hk
  exact ⟨⟨exPat, [], false, ⟨rfl, h, ex_noSat, k1, k2, k3, fun hl => by cases hl⟩⟩, k4⟩

theorem ex_regex0 (r : Regex) (h : Regex.new Env.std exPat0 [] false true = .ok r) :
    Clean4Regex Env.std {} r ∧ r.nullable = false := by
  have hk := ex_new.2
  rw [h] at hk
  simp only [Bool.and_eq_true, Bool.not_eq_true'] at hk
  obtain ⟨⟨⟨⟨k1, k2⟩, k3⟩, k4⟩, _⟩ := hk
  exact ⟨⟨exPat0, [], false, ⟨rfl, h, ex_noSat0, k1, k2, k3, fun hl => by cases hl⟩⟩, k4⟩

/-- … and `Regex.new` does return a regex -/
theorem ex_new_ok : ∃ r, Regex.new Env.std exPat [] false true = .ok r := by
  cases h : Regex.new Env.std exPat [] false true with
  | ok r => exact ⟨r, rfl⟩
  | _ => have := ex_new.1; rw [h] at this; cases this

/-- C01 for `(?:ab|c)+?c`, every input of scalar values (`api_clean4_isMatch_iff_std_cs` instantiated) -/
theorem ex_isMatch_iff (input : List Nat) (hsv : ScalarInput input) (hlen : input.length < usizeMax)
    (r : Regex) (h : Regex.new Env.std exPat [] false true = .ok r) :
    (r.prog.isMatch Env.std.lower input = .ok true ↔
      ∃ j q, j ≤ input.length ∧ OpR (r.prog.ctx Env.std.lower input) r.prog.op j q) ∧
    ((¬ ∃ j q, j ≤ input.length ∧ OpR (r.prog.ctx Env.std.lower input) r.prog.op j q) →
      r.prog.isMatch Env.std.lower input = .ok false) := by
  have hk := ex_new.1
  rw [h] at hk
  simp only [Bool.and_eq_true, Bool.not_eq_true'] at hk
  obtain ⟨⟨⟨⟨k1, k2⟩, k3⟩, _⟩, _⟩ := hk
  exact Rx.Clean4Api.api_clean4_isMatch_iff_std_cs exPat [] false {} r rfl h ex_noSat rfl k1 k2 k3
    (fun hl => by cases hl) input hsv hlen

/-- C02 / shortcuts on-off / `GoodFind` instantiated (`api_clean4_match_is_leftmost_first_std_cs`,
    `api_clean4_opt_eq_noopt_std_cs`, `api_clean4_goodFind_std_cs`) -/
example (r : Regex) (h : Regex.new Env.std exPat [] false true = .ok r)
    (input : List Nat) (hsv : ScalarInput input) (hlen : input.length < usizeMax) :
    (∀ st', matchesFrom (r.prog.ctx Env.std.lower input) r.prog 0 {} = (true, st') →
      ∃ j n, getParenStart st' 0 = some j ∧ getParenEnd st' 0 = some n ∧
        (enum4 (r.prog.ctx Env.std.lower input) r.prog.op j).head? = some n ∧
        ∀ k q, k < j → ¬ OpR (r.prog.ctx Env.std.lower input) r.prog.op k q) ∧
    (matchesFrom (r.prog.ctx Env.std.lower input) r.prog 0 {}).1 =
      (matchesNaive (r.prog.ctx Env.std.lower input) r.prog.op 0 {}).1 ∧
    C04.GoodFind (r.prog.matcher Env.std.lower input) input.length (fun st => st.panic = none) := by
  have hk := ex_new.1
  rw [h] at hk
  simp only [Bool.and_eq_true, Bool.not_eq_true'] at hk
  obtain ⟨⟨⟨⟨k1, k2⟩, k3⟩, k4⟩, _⟩ := hk
  refine ⟨fun st' hm => ?_, ?_, ?_⟩
  · obtain ⟨j, n, a1, a2, a3, _, _, _, _, a8⟩ :=
      Rx.Clean4Api.api_clean4_match_is_leftmost_first_std_cs exPat [] false {} r rfl h ex_noSat rfl k1 k2 k3
        (fun hl => by cases hl) input hsv hlen 0 (Nat.zero_le _) {} st' rfl hm
    exact ⟨j, n, a1, a2, a3, fun k q hk => a8 k q (Nat.zero_le _) hk⟩
  · exact (Rx.Clean4Api.api_clean4_opt_eq_noopt_std_cs exPat [] false {} r rfl h ex_noSat rfl k1 k2 k3
      (fun hl => by cases hl) input hsv hlen 0 (Nat.zero_le _) {} {} rfl rfl).1
  · exact Rx.Clean4Api.api_clean4_goodFind_std_cs exPat [] false {} r rfl h ex_noSat rfl k1 k2 k3
      (fun hl => by cases hl) k4 input hsv hlen

/-- the computed answers: on "xabcc" `is_match`, span (1, 4) = leftmost start, SHORTEST end, `enum4` from 1 is
    [4, 5]; on "xabcc-cc" the state-free span list is [(1, 4), (6, 8)], `tokenize` gives "x", "c-", "" and
    `replace_all` with "R" gives "xRc-R" -/
theorem ex_computed :
    (match Regex.new Env.std exPat [] false true with
     | .ok r => (r.prog.isMatch Env.std.lower exInput == .ok true) &&
         (getParenStart (matchesFrom (r.prog.ctx Env.std.lower exInput) r.prog 0 {}).2 0 == some 1) &&
         (getParenEnd (matchesFrom (r.prog.ctx Env.std.lower exInput) r.prog 0 {}).2 0 == some 4) &&
         (enum4 (r.prog.ctx Env.std.lower exInput) r.prog.op 1 == [4, 5]) &&
         (spans r Env.std.lower exInput2 == [(1, 4), (6, 8)]) &&
         (r.tokenize Env.std.lower exInput2 100 == .ok ([[120], [99, 45], []], false)) &&
         (r.replaceAll Env.std.lower exInput2 [82] == .ok [120, 82, 99, 45, 82])
     | _ => false) = true := by decide +kernel

/-- the generic theorems instantiated on "xabcc-cc": the scan sees exactly the state-free span list, the gate
    bit is semantic, `tokenize` / `replace_all` return what the specifications say, `analyze` is total -/
example (r : Regex) (h : Regex.new Env.std exPat [] false true = .ok r) :
    C04.spanPairs (C04.spansOf (r.prog.matcher Env.std.lower exInput2) exInput2.length (exInput2.length + 2) 0 {}) =
      spans r Env.std.lower exInput2 ∧
    (¬ ∃ q, OpR (r.prog.ctx Env.std.lower []) r.prog.op 0 q) ∧
    r.tokenize Env.std.lower exInput2 100 = .ok (pieces exInput2 0 (spans r Env.std.lower exInput2), false) ∧
    r.replaceAll Env.std.lower exInput2 [82] =
      .ok (joinWith [82] (pieces exInput2 0 (spans r Env.std.lower exInput2))) ∧
    ((∃ es more, r.analyze Env.std.lower exInput2 100 = .ok (es, more)) ∨
      r.analyze Env.std.lower exInput2 100 = .err .matchesEmptyString ∨
      r.analyze Env.std.lower exInput2 100 = .panic panicAnalyze ∨
      r.analyze Env.std.lower exInput2 100 = .panic panicNesting) := by
  obtain ⟨R, hn⟩ := ex_regex r h
  have G : GoodInput Env.std {} exInput2 := goodInput_std_cs rfl ex_scalar (by decide)
  have G0 : GoodInput Env.std {} [] := goodInput_std_cs rfl (fun c hc => by cases hc) (by decide)
  refine ⟨scan_sees_spans R hn G, ?_, api4_tokenize_spec R hn G (by decide) 100 (by decide),
    api4_replace_plain R hn G [82] (by decide), api4_analyze_total R G 100⟩
  intro he
  have := (api4_gate_iff R G0).2 he
  rw [hn] at this
  cases this

/-- `api4_analyze_spec`: its hypothesis (an `.ok` answer) is what `analyze` returns here -/
example (r : Regex) (h : Regex.new Env.std exPat [] false true = .ok r) :
    ∃ es more, r.analyze Env.std.lower exInput2 100 = .ok (es, more) ∧
      ∃ L : List (Nat × Nat × List MEntry),
        L.map (fun x => (x.1, x.2.1)) = spans r Env.std.lower exInput2 ∧ es = entries exInput2 0 L ∧ more = false := by
  obtain ⟨R, hn⟩ := ex_regex r h
  have G : GoodInput Env.std {} exInput2 := goodInput_std_cs rfl ex_scalar (by decide)
  have hk : (match Regex.new Env.std exPat [] false true with
     | .ok r => (match r.analyze Env.std.lower exInput2 100 with | .ok _ => true | _ => false)
     | _ => false) = true := by decide +kernel
  rw [h] at hk
  have hk' : (match r.analyze Env.std.lower exInput2 100 with | .ok _ => true | _ => false) = true := hk
  cases ha : r.analyze Env.std.lower exInput2 100 with
  | ok x =>
    obtain ⟨es, more⟩ := x
    exact ⟨es, more, rfl, api4_analyze_spec R hn G 100 (by decide) es more ha⟩
  | _ => rw [ha] at hk'; cases hk'

/-- the predicted right-hand side of C01 agrees with the computed answer -/
theorem ex_member (r : Regex) (h : Regex.new Env.std exPat [] false true = .ok r) :
    ∃ j q, j ≤ exInput.length ∧ OpR (r.prog.ctx Env.std.lower exInput) r.prog.op j q := by
  have hk := ex_computed
  rw [h] at hk
  simp only [Bool.and_eq_true, beq_iff_eq] at hk
  have hsv : ScalarInput exInput := by
    intro c hc
    simp only [exInput, Rx.Clean4.exInput, List.mem_cons, List.not_mem_nil, or_false] at hc
    rcases hc with rfl | rfl | rfl | rfl | rfl <;> decide
  exact ((ex_isMatch_iff exInput hsv (by decide) r h).1).1 hk.1.1.1.1.1.1

end example_

end Rx.ApiGeneric.Clean4Api
