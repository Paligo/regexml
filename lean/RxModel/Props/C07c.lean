/-
  Props/C07c — C07, the "only if" half: the compiler accepts ONLY patterns that conform to the
  XPath 3.1 / XSD 1.1 regular-expression grammar of Spec/Grammar.

    parse_sound      a successful top-level `parse_expr` that consumed the whole pattern yields a
                     tree `a` with `a.ok c`, `c.pat = a.render`, `s'.parens = a.groups + 1`
                     (and `ParserQuirkFree a`: all quantities are below 2^64)
    compile_sound    the same from `compileCore … = .ok pr`
    compile_iff      `Regex::xpath(p)` succeeds IFF `p` is the rendering of a well-formed tree whose
                     quantities are below 2^64  (with Props/C07b for the "if" half)
    parse_sound_*    the generalised statements for sub-parses at arbitrary positions
    parse_err_syntax / compileCore_err_syntax / Regex.new_err_syntax
                     `Error::Internal` is unreachable: every failure is `Error::Syntax`
                     (unconditional — no `ClassInv`, any pattern, any flags)

  The class parser enters through the hypothesis `ClassInv c` ("whatever `parse_character_class`
  accepts is the rendering of a well-formed `C09.CExpr`", proved separately); `*_nobracket` are the
  unconditional versions for patterns that contain no `[`.
  Props/C07d discharges it for patterns of scalar values (`classInv_of_scalar`, `compile_iff_full`).

  In this direction there is NO deviation outside character classes — every text the
  parser accepts is grammar-conformant (no named exclusion is needed on the left of `compile_iff`).
  The only exclusion is the one already known from C07b, on the grammar side: a quantity of 2^64 or
  more is grammar-valid but rejected (`ParserQuirkFree`).
-/
import RxModel.Model.Compile
import RxModel.Spec.Grammar
import RxModel.Proofs.GrammarInvLemmas
import RxModel.Props.C07b
import RxModel.Proofs.NestingLemmas
namespace Rx.C07c
open Rx Rx.Grammar
open Rx.C07b (ParserQuirkFree)

/-- `Span c s s' txt g cl'` spelt out: the text between the two positions is
    `txt`, the group counter went up by `g`, the closed groups are `cl'` -/
theorem span_iff_take {c : PC} {s s' : PS} {txt : List Nat} {g : Nat} {cl' : List Nat}
    (h : Span c s s' txt g cl') :
    (c.pat.drop s.idx).take (s'.idx - s.idx) = txt ∧ s.idx ≤ s'.idx ∧
      s'.parens = s.parens + g ∧ s'.captures = cl' := by
  refine ⟨?_, by rw [h.idx]; omega, h.parens, h.caps⟩
  rw [h.text, h.idx, Nat.add_sub_cancel_left]
  simp

/-! ### sub-parses at arbitrary positions

  `n` capturing groups are open or closed to the left of `s` (`s.parens = n + 1`), `s.captures` are
  the closed ones.  Any fuel. -/

/-- `parse_expr` at top level (no parenthesis): the consumed text is a well-formed regExp -/
theorem parse_sound_regexp (c : PC) (hcls : ClassInv c) (f : Nat) (s : PS) (op : Op) (s' : PS) (n : Nat)
    (h : parseExpr c f s true = .ok op s') (hp : s.parens = n + 1) (hs : s.idx ≤ c.len) :
    ∃ r : RegExp, r.ok c.fl.xsd c.env n s.captures = true ∧ r.inLimit = true ∧
      Span c s s' r.render r.groups (r.closed n s.captures) := by
  obtain ⟨r, r1, r2, r3, _⟩ := parse_top_inv c hcls f s op s' n h hp hs
  exact ⟨r, r1, r2, r3⟩

/-- `parse_expr` at a `(`: a capturing or non-capturing group -/
theorem parse_sound_group (c : PC) (hcls : ClassInv c) (f : Nat) (s : PS) (op : Op) (s' : PS) (n : Nat)
    (h : parseExpr c f s false = .ok op s') (h40 : c.at s.idx = 40) (hp : s.parens = n + 1) :
    ∃ a : Atom, a.ok c.fl.xsd c.env n s.captures = true ∧ a.inLimit = true ∧
      Span c s s' a.render a.groups (a.closed n s.captures) := by
  obtain ⟨a, a1, a2, _, a4, _⟩ := (parse_inv_all c hcls f).1 s op s' n h h40 hp
  exact ⟨a, a1, a2, a4⟩

/-- `parse_branch`: a well-formed branch -/
theorem parse_sound_branch (c : PC) (hcls : ClassInv c) (f : Nat) (s : PS) (cur : Option Op) (op : Op)
    (s' : PS) (n : Nat) (h : parseBranch c f s cur = .ok op s') (hp : s.parens = n + 1)
    (hs : s.idx ≤ c.len) :
    ∃ b : Branch, b.ok c.fl.xsd c.env n s.captures = true ∧ b.inLimit = true ∧
      Span c s s' b.render b.groups (b.closed n s.captures) := by
  obtain ⟨b, b1, b2, b3, _⟩ := (parse_inv_all c hcls f).2.2.1 s cur op s' n h hp hs
  exact ⟨b, b1, b2, b3⟩

/-- the `|`-loop: nothing, or `| r` for a well-formed regExp `r` -/
theorem parse_sound_alternatives (c : PC) (hcls : ClassInv c) (f : Nat) (s : PS) (acc l : List Op)
    (s' : PS) (n : Nat) (h : parseBranches c f s acc = .ok l s') (hp : s.parens = n + 1)
    (hs : s.idx ≤ c.len) :
    Span c s s' [] 0 s.captures ∨
    ∃ r : RegExp, r.ok c.fl.xsd c.env n s.captures = true ∧ r.inLimit = true ∧
      Span c s s' (124 :: r.render) r.groups (r.closed n s.captures) := by
  rcases (parse_inv_all c hcls f).2.1 s acc l s' n h hp hs with ⟨hsp, _⟩ | ⟨r, _, r1, r2, r3, _⟩
  · exact .inl hsp
  · exact .inr ⟨r, r1, r2, r3⟩

/-- `parse_terminal`: one atom `a` — preceded by further unquantified character atoms `front`
    when `parse_atom` merged a run of characters into one literal.  `followOk` is the multi-digit
    rule of a back-reference, read off the text that actually follows. -/
theorem parse_sound_terminal (c : PC) (hcls : ClassInv c) (f : Nat) (s : PS) (ret : Op) (s' : PS)
    (n : Nat) (h : parseTerminal c f s = .ok ret s') (hp : s.parens = n + 1) (hs : s.idx ≤ c.len) :
    ∃ (front : List Atom) (a : Atom), CharAtoms c.fl.xsd c.env front ∧
      a.ok c.fl.xsd c.env n s.captures = true ∧ a.inLimit = true ∧
      a.followOk n (c.pat.drop s'.idx) = true ∧
      Span c s s' (renderAtoms front ++ a.render) a.groups (a.closed n s.captures) := by
  obtain ⟨front, a, t1, t2, t3, t4, t5, _⟩ := (parse_inv_all c hcls f).2.2.2 s ret s' n h hp hs
  exact ⟨front, a, t1, t2, t3, t4, t5⟩

/-! ### whole patterns -/

/-- MAIN THEOREM.  What the top-level `parse_expr` accepts, when it has consumed the whole pattern
    (which is what `compileCore` checks), is the rendering of a well-formed tree. -/
theorem parse_sound (c : PC) (hcls : ClassInv c) (fuel : Nat) (op : Op) (s' : PS)
    (h : parseExpr c fuel {} true = .ok op s') (hend : s'.idx = c.pat.length) :
    ∃ a : Ast, a.ok c = true ∧ ParserQuirkFree a ∧ c.pat = a.render ∧ s'.parens = a.groups + 1 ∧
      s'.captures = a.closed 0 [] := by
  obtain ⟨r, r1, r2, r3, _⟩ := parse_top_inv c hcls fuel {} op s' 0 h rfl (Nat.zero_le _)
  refine ⟨r, r1, r2, ?_, by rw [r3.parens]; show 1 + r.groups = r.groups + 1; omega, r3.caps⟩
  have := r3.text
  rw [hend, List.drop_length] at this
  simpa using this

/-- unconditional: a pattern without `[` -/
theorem parse_sound_nobracket (c : PC) (hnb : 91 ∉ c.pat) (fuel : Nat) (op : Op) (s' : PS)
    (h : parseExpr c fuel {} true = .ok op s') (hend : s'.idx = c.pat.length) :
    ∃ a : Ast, a.ok c = true ∧ ParserQuirkFree a ∧ c.pat = a.render ∧ s'.parens = a.groups + 1 ∧
      s'.captures = a.closed 0 [] :=
  parse_sound c (classInv_of_no_bracket c hnb) fuel op s' h hend

/-- what `ReCompiler::compile` accepts is grammar-conformant -/
theorem compile_sound (env : Env) (fl : CFlags) (hlit : fl.literal = false) (pat : List Nat)
    (hcls : ClassInv { pat := pat, fl := fl, env := env }) (opt : Bool) (pr : Prog)
    (h : compileCore env fl pat opt = .ok pr) :
    ∃ a : Ast, a.okFor fl.xsd env = true ∧ ParserQuirkFree a ∧ pat = a.render ∧
      pr.maxParens = a.groups + 1 := by
  rcases compileCore_ok h with ⟨hl, _⟩ | ⟨_, op, s', hp, hend, hpr⟩
  · rw [hlit] at hl; cases hl
  obtain ⟨a, a1, a2, a3, a4, _⟩ := parse_sound _ hcls _ op s' hp hend
  refine ⟨a, a1, a2, a3, ?_⟩
  rw [hpr]
  cases opt with
  | true => rw [if_pos rfl, MkProgram.maxParens]; exact a4
  | false => exact a4

/-- C07 AS ONE THEOREM.  For a non-literal compilation (flag `q` off; flag `x` already stripped),
    `Regex::xpath` / `Regex::xsd` succeeds on `pat` if and only if `pat` is the rendering of a tree
    that is well formed for the dialect and the environment and whose quantities are below 2^64. -/
theorem compile_iff (env : Env) (fl : CFlags) (hlit : fl.literal = false) (pat : List Nat)
    (hcls : ClassInv { pat := pat, fl := fl, env := env }) (opt : Bool) :
    (∃ pr, compileCore env fl pat opt = .ok pr) ↔
      ∃ a : Ast, a.okFor fl.xsd env = true ∧ ParserQuirkFree a ∧ pat = a.render := by
  constructor
  · rintro ⟨pr, h⟩
    obtain ⟨a, a1, a2, a3, _⟩ := compile_sound env fl hlit pat hcls opt pr h
    exact ⟨a, a1, a2, a3⟩
  · rintro ⟨a, a1, a2, rfl⟩
    obtain ⟨pr, h, _⟩ := C07b.compile_accepts env fl hlit a a1 a2 opt
    exact ⟨pr, h⟩

/-- … and the group count of the program is that of the tree, whichever tree renders to `pat` is
    chosen by the parser -/
theorem compile_iff_groups (env : Env) (fl : CFlags) (hlit : fl.literal = false) (pat : List Nat)
    (hcls : ClassInv { pat := pat, fl := fl, env := env }) (opt : Bool) (pr : Prog) :
    compileCore env fl pat opt = .ok pr →
      ∃ a : Ast, a.okFor fl.xsd env = true ∧ ParserQuirkFree a ∧ pat = a.render ∧
        pr.maxParens = a.groups + 1 :=
  compile_sound env fl hlit pat hcls opt pr

/-- unconditional: patterns without `[` -/
theorem compile_iff_nobracket (env : Env) (fl : CFlags) (hlit : fl.literal = false) (pat : List Nat)
    (hnb : 91 ∉ pat) (opt : Bool) :
    (∃ pr, compileCore env fl pat opt = .ok pr) ↔
      ∃ a : Ast, a.okFor fl.xsd env = true ∧ ParserQuirkFree a ∧ pat = a.render :=
  compile_iff env fl hlit pat (classInv_of_no_bracket _ hnb) opt

/-- rejection, wholesale: a pattern that is not the rendering of any well-formed tree within the
    limit is not compiled -/
theorem reject_of_no_tree (env : Env) (fl : CFlags) (hlit : fl.literal = false) (pat : List Nat)
    (hcls : ClassInv { pat := pat, fl := fl, env := env }) (opt : Bool)
    (hno : ¬ ∃ a : Ast, a.okFor fl.xsd env = true ∧ ParserQuirkFree a ∧ pat = a.render) :
    ∀ pr, compileCore env fl pat opt ≠ .ok pr :=
  fun pr h => hno ((compile_iff env fl hlit pat hcls opt).1 ⟨pr, h⟩)

/-! ### `Error::Internal` is unreachable

  The `Error::Internal` sites of the compiler (fuel exhaustion, `bracket` / `escape` /
  `parse_character_class` called at the wrong character, the empty literal of `parse_atom`, `|` in
  `parse_terminal`, a back-reference returned inside a class) are all dead: for EVERY pattern and
  flag set the parser fails with `Error::Syntax` only (`parseExpr_top_err` in Proofs/ParserStepLemmas). -/

/-- the top-level parse, with the fuel `compileCore` gives it, never returns `Error::Internal` -/
theorem parse_no_internal (c : PC) : parseExpr c (4 * c.pat.length + 16) {} true ≠ .err .internal :=
  fun h => by cases parseExpr_top_err c h

/-- every failure of the top-level parse is `Error::Syntax` -/
theorem parse_err_syntax (c : PC) (e : Err)
    (h : parseExpr c (4 * c.pat.length + 16) {} true = .err e) : e = .syntax :=
  parseExpr_top_err c h

/-- `ReCompiler::compile` fails with `Error::Syntax` only -/
theorem compileCore_err_syntax (env : Env) (fl : CFlags) (pat : List Nat) (opt : Bool) (e : Err)
    (h : compileCore env fl pat opt = .err e) : e = .syntax :=
  Rx.compileCore_err_syntax env fl pat opt e h

theorem compileProg_err_syntax (env : Env) (fl : Flags) (pat : List Nat) (opt : Bool) (e : Err)
    (h : compileProg env fl pat opt = .err e) : e = .syntax :=
  compileCore_err_syntax _ _ _ _ _ h

/-- `Regex::new` fails with `InvalidFlags` (exactly for a rejected flag string) or `Syntax` — never
    `Internal` -/
theorem Regex.new_err_syntax (env : Env) (p fs : List Nat) (xsd opt : Bool) (e : Err)
    (h : Regex.new env p fs xsd opt = .err e) :
    (e = .invalidFlags ∧ parseFlags fs xsd = none) ∨ (e = .syntax ∧ (parseFlags fs xsd).isSome = true) :=
  Rx.Regex.new_err env p fs xsd opt e h

/-! ### examples: the reconstructed tree for a few patterns (environment `C09.envT`)

  Each example gives the tree the parser's run corresponds to, checks `ok` / the limit / the
  rendering by `decide`, and obtains the success of the compiler from `compile_iff` (right to left);
  conversely the success computed by `decide +kernel` yields, through `compile_iff` (left to right),
  the existence of a tree. -/

open Rx.C07b (parensOf isSyntaxErr)

/-- `^*?a`: a quantified anchor with the reluctant marker, then `a` -/
def t1 : Ast := .one (.cons .bol (some ⟨.star, true⟩) (.cons (.chr 97) none .nil))
example : cps "^*?a" = t1.render ∧ t1.okFor false C09.envT = true ∧ ParserQuirkFree t1 := by decide +kernel
example : ∃ pr, compileCore C09.envT {} (cps "^*?a") true = .ok pr :=
  (compile_iff_nobracket C09.envT {} rfl _ (by decide) true).2 ⟨t1, by decide, by decide, by decide⟩
example : ∃ a : Ast, a.okFor false C09.envT = true ∧ ParserQuirkFree a ∧ cps "^*?a" = a.render :=
  (compile_iff_nobracket C09.envT {} rfl _ (by decide) true).1
    (by
      have h : parensOf (compileCore C09.envT {} (cps "^*?a") true) = some 1 := by decide +kernel
      cases hc : compileCore C09.envT {} (cps "^*?a") true with
      | ok pr => exact ⟨pr, rfl⟩
      | err e => rw [hc] at h; cases h
      | panic c => rw [hc] at h; cases h
      | diverge => rw [hc] at h; cases h)

/-- `abc*|(?:x|\p{L}){2,}?`: `parse_atom` reads `ab` as one literal and `c` as the operand of `*`;
    in the tree these are three pieces -/
def t2 : Ast :=
  .alt (.cons (.chr 97) none (.cons (.chr 98) none (.cons (.chr 99) (some ⟨.star, false⟩) .nil)))
    (.one (.cons (.ncgroup (.alt (.cons (.chr 120) none .nil)
        (.one (.cons (.prop true [76]) none .nil)))) (some ⟨.atLeast [50], true⟩) .nil))
example : cps "abc*|(?:x|\\p{L}){2,}?" = t2.render ∧ t2.okFor false C09.envT = true ∧
    ParserQuirkFree t2 := by decide +kernel
example : parensOf (compileCore C09.envT {} t2.render true) = some 1 := by decide +kernel

/-- `(a)(b)\2\1\.`: two groups, both closed when referenced -/
def t3 : Ast :=
  .one (.cons (.group (.one (.cons (.chr 97) none .nil))) none
    (.cons (.group (.one (.cons (.chr 98) none .nil))) none
      (.cons (.backref [50]) none (.cons (.backref [49]) none (.cons (.esc 46) none .nil)))))
example : cps "(a)(b)\\2\\1\\." = t3.render ∧ t3.okFor false C09.envT = true ∧ t3.groups = 2 := by
  decide +kernel
example : parensOf (compileCore C09.envT {} t3.render true) = some 3 := by decide +kernel

/-- the grammar decided by running the compiler: none of `a{`, `a}`, `x**`, `(?a)`, `a|)`, `\p{Lx}`,
    `(a\1)`, `\` is the rendering of a well-formed tree -/
theorem no_tree_of_rejected (pat : List Nat) (hnb : 91 ∉ pat)
    (h : isSyntaxErr (compileCore C09.envT {} pat true) = true) :
    ¬ ∃ a : Ast, a.okFor false C09.envT = true ∧ ParserQuirkFree a ∧ pat = a.render := by
  intro hex
  obtain ⟨pr, hp⟩ := (compile_iff_nobracket C09.envT {} rfl pat hnb true).2 hex
  rw [hp] at h
  cases h

example : ¬ ∃ a : Ast, a.okFor false C09.envT = true ∧ ParserQuirkFree a ∧ cps "a{" = a.render :=
  no_tree_of_rejected _ (by decide) (by decide +kernel)
example : ¬ ∃ a : Ast, a.okFor false C09.envT = true ∧ ParserQuirkFree a ∧ cps "x**" = a.render :=
  no_tree_of_rejected _ (by decide) (by decide +kernel)
example : ¬ ∃ a : Ast, a.okFor false C09.envT = true ∧ ParserQuirkFree a ∧ cps "(?a)" = a.render :=
  no_tree_of_rejected _ (by decide) (by decide +kernel)
example : ¬ ∃ a : Ast, a.okFor false C09.envT = true ∧ ParserQuirkFree a ∧ cps "a|)" = a.render :=
  no_tree_of_rejected _ (by decide) (by decide +kernel)
example : ¬ ∃ a : Ast, a.okFor false C09.envT = true ∧ ParserQuirkFree a ∧ cps "(a\\1)" = a.render :=
  no_tree_of_rejected _ (by decide) (by decide +kernel)
example : ¬ ∃ a : Ast, a.okFor false C09.envT = true ∧ ParserQuirkFree a ∧ cps "\\p{Lx}" = a.render :=
  no_tree_of_rejected _ (by decide) (by decide +kernel)

/-- boundary cases, all in agreement with the grammar: `^*?a` `^??` `$+?` `(?:)` accepted;
    `^*??` `(?a)` `(?` `a|)` `\p{}` `\p{L` `\pL` `a{` `}` `a{1}{2}` `a\` `]` rejected;
    `(a)\10` = `\1` then `0` (one group) accepted -/
example : parensOf (compileCore C09.envT {} (cps "^??") true) = some 1 ∧
    parensOf (compileCore C09.envT {} (cps "$+?") true) = some 1 ∧
    parensOf (compileCore C09.envT {} (cps "(?:)") true) = some 1 ∧
    parensOf (compileCore C09.envT {} (cps "(a)\\10") true) = some 2 ∧
    isSyntaxErr (compileCore C09.envT {} (cps "^*??") true) = true ∧
    isSyntaxErr (compileCore C09.envT {} (cps "(?") true) = true ∧
    isSyntaxErr (compileCore C09.envT {} (cps "\\p{}") true) = true ∧
    isSyntaxErr (compileCore C09.envT {} (cps "\\p{L") true) = true ∧
    isSyntaxErr (compileCore C09.envT {} (cps "\\pL") true) = true ∧
    isSyntaxErr (compileCore C09.envT {} (cps "}") true) = true ∧
    isSyntaxErr (compileCore C09.envT {} (cps "a{1}{2}") true) = true ∧
    isSyntaxErr (compileCore C09.envT {} (cps "a\\") true) = true ∧
    isSyntaxErr (compileCore C09.envT {} (cps "]") true) = true := by decide +kernel

end Rx.C07c
