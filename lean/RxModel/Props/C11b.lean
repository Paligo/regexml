/-
  Props/C11b — flag i, whole-tree consequence: the LANGUAGE of a compiled operation tree
  (`OpR`, Spec/OpLang) is invariant under replacing input characters, or pattern letters, by their
  simple case counterparts.

  Hypotheses, and why each is there:
    * `ctx.caseBlind = true`                     — flag i;
    * `allClsClosed lower op`                    — every class node is closed under case.  Under flag i
      the class parser closes the characters and ranges it adds (`C11.class_member_ci`), but "class
      escapes are unaffected by the flag": `\p{Lu}` stays `Lu` under i, and a tree containing it is
      NOT invariant (`OpR_input_case_invariant_any_class_false` below).  The statements are proved relative to an alphabet `A`
      (`…_on`; inputs over `A`, classes closed on `A`); the unrestricted forms are the
      instance `A = everything`.  The alphabet matters for the real data: the class closure of the
      compiler and the comparison of literals disagree on U+0130 (`dotted_I_finding`), so a compiled
      class containing `i` is closed only on alphabets without U+0130.  `clsClosedOnB` is a
      decidable sufficient check for the real ICU table, run on compiled programs in the examples;
    * `NewlineCaseless lower`                    — `^` / `$` under flag m compare the neighbouring
      character with U+000A exactly (needed: `OpR_input_case_invariant_any_newline_false`); proved for the real table (`newlineCaseless_std`).
  Back-references: `OpR` constrains them only to stay inside the input (C19 refines that), so they
  are invariant because the two inputs have the same length.
  Both invariances are "equality of languages is respected by every constructor" (`OpR.cong`, Proofs/OpRCalc) plus the
  leaves: one tree against itself in two contexts (`Cong.diag`), and two case-equivalent trees —
  `CaseEquivOps.rel` (Proofs/CaseLemmas, with the leaves) is the induction along such a pair, used for every
  statement about one (`pattern_inv` here, `enumK_pat` in Proofs/CaseEngineLemmas, `caseEquiv_numberReps_both` in
  Proofs/Clean4CaseLemmas).  The definitions are in Spec/InputPreds.
-/
import RxModel.Proofs.CaseLemmas
import RxModel.Props.CaseTables
import RxModel.Proofs.TreePred
import RxModel.Model.Compile
namespace Rx.C11b
open Rx

theorem sameSettings_input (ctx : Ctx) (ys : List Nat) : SameSettings ctx { ctx with input := ys } :=
  ⟨rfl, rfl, rfl⟩

/-! ### 1. the relations are equivalences (reflexivity, symmetry: Proofs/CaseLemmas) -/

theorem CaseEquivInputs.trans {lower : Nat → Nat} {xs ys zs : List Nat}
    (h1 : CaseEquivInputs lower xs ys) (h2 : CaseEquivInputs lower ys zs) : CaseEquivInputs lower xs zs :=
  ⟨h1.1.trans h2.1, fun k hx hz =>
    C11.eqCB_trans _ _ _ _ (h1.2 k hx (by have := h1.1; omega)) (h2.2 k (by have := h1.1; omega) hz)⟩

/-- lower-casing every character gives an equivalent input (`lower` idempotent) -/
theorem CaseEquivInputs.map_lower (lower : Nat → Nat) (hidem : ∀ x, lower (lower x) = lower x) (xs : List Nat) :
    CaseEquivInputs lower xs (xs.map lower) := by
  refine ⟨by simp, fun k h1 h2 => ?_⟩
  rw [C11.eqCB_iff_lower, List.getElem_map, hidem]

/-! ### 2. `allCls` is monotone -/

theorem allCls_mono {P Q : Ranges → Prop} (h : ∀ rs, P rs → Q rs) :
    (TreePred.plain (allCls P) (allClsL P)).Sub (.plain (allCls Q) (allClsL Q)) :=
  TreePred.impl (allCls_transp P).desc (allCls_transp Q).gen
    (leaf := fun _ _ _ hl hp => by cases hl <;> first | trivial | exact h _ hp)
    (rep := fun _ _ _ _ _ _ _ ih hp => ih hp) (unamb := fun _ _ _ _ _ ih hp => ih hp)

theorem allClsL_mono {P Q : Ranges → Prop} (h : ∀ rs, P rs → Q rs) : (l : List Op) → allClsL P l → allClsL Q l :=
  fun _ => (allCls_mono h).all

theorem clsClosed.on {lower : Nat → Nat} {rs : Ranges} (h : clsClosed lower rs) (A : Nat → Bool) :
    clsClosedOn A lower rs := fun a b _ _ hab => h a b hab

theorem allClsClosed.on {lower : Nat → Nat} {op : Op} (h : allClsClosed lower op) (A : Nat → Bool) :
    allClsClosedOn A lower op := (allCls_mono fun _ hr => hr.on A).op' op h

theorem over_all (xs : List Nat) : Over (fun _ => true) xs := fun _ _ => rfl

/-! ### 3. replacing input characters by case counterparts -/

theorem input_inv (A : Nat → Bool) (ctx ctx' : Ctx) (hs : SameSettings ctx ctx') (hcb : ctx.caseBlind = true)
    (hin : CaseEquivInputs ctx.lower ctx.input ctx'.input) (hA : Over A ctx.input) (hA' : Over A ctx'.input)
    (hnl : NewlineCaseless ctx.lower) :
    (∀ op, allClsClosedOn A ctx.lower op → ∀ p q, OpR ctx op p q ↔ OpR ctx' op p q) ∧
    (∀ l, allClsL (clsClosedOn A ctx.lower) l →
      (∀ p q, OpRAny ctx l p q ↔ OpRAny ctx' l p q) ∧ (∀ p q, OpRSeq ctx l p q ↔ OpRSeq ctx' l p q)) := by
  refine (OpR.cong ctx ctx').diag (down_allCls _) (fun o hl hc p q => ?_)
  cases hl with
  | bol | eol => simp only [OpR, hs.multiLine, len_eq hin, nl_leaf hin hnl]
  | nothing | endProgram => simp only [OpR]
  | atom cs => simp only [OpR, len_eq hin, atom_leaf hs hcb hin]
  | cls rs => simp only [OpR, cls_leaf A hin hA hA' rs hc]
  | backref => simp only [OpR, len_eq hin]

theorem input_inv_any (A : Nat → Bool) (ctx ctx' : Ctx) (hs : SameSettings ctx ctx') (hcb : ctx.caseBlind = true)
    (hin : CaseEquivInputs ctx.lower ctx.input ctx'.input) (hA : Over A ctx.input) (hA' : Over A ctx'.input)
    (hnl : NewlineCaseless ctx.lower) :
    (bs : List Op) → allClsL (clsClosedOn A ctx.lower) bs → ∀ p q, OpRAny ctx bs p q ↔ OpRAny ctx' bs p q :=
  fun bs hc => ((input_inv A ctx ctx' hs hcb hin hA hA' hnl).2 bs hc).1

theorem input_inv_seq (A : Nat → Bool) (ctx ctx' : Ctx) (hs : SameSettings ctx ctx') (hcb : ctx.caseBlind = true)
    (hin : CaseEquivInputs ctx.lower ctx.input ctx'.input) (hA : Over A ctx.input) (hA' : Over A ctx'.input)
    (hnl : NewlineCaseless ctx.lower) :
    (ops : List Op) → allClsL (clsClosedOn A ctx.lower) ops → ∀ p q, OpRSeq ctx ops p q ↔ OpRSeq ctx' ops p q :=
  fun ops hc => ((input_inv A ctx ctx' hs hcb hin hA hA' hnl).2 ops hc).2

/-- **input case invariance of the language, relative to an alphabet**: under flag i, for a tree
    whose classes are closed under case on `A`, replacing the characters of an input over `A` by case
    counterparts in `A` changes no span of the language — for every operation, back-references
    included -/
theorem OpR_input_case_invariant_on (A : Nat → Bool) (ctx : Ctx) (ys : List Nat) (hcb : ctx.caseBlind = true)
    (hin : CaseEquivInputs ctx.lower ctx.input ys) (hA : Over A ctx.input) (hA' : Over A ys)
    (hnl : NewlineCaseless ctx.lower)
    (op : Op) (hc : allClsClosedOn A ctx.lower op) (p q : Nat) :
    OpR ctx op p q ↔ OpR { ctx with input := ys } op p q :=
  (input_inv A ctx { ctx with input := ys } (sameSettings_input ctx ys) hcb hin hA hA' hnl).1 op hc p q

/-- **input case invariance of the language** (the alphabet is everything) -/
theorem OpR_input_case_invariant (ctx : Ctx) (ys : List Nat) (hcb : ctx.caseBlind = true)
    (hin : CaseEquivInputs ctx.lower ctx.input ys) (hnl : NewlineCaseless ctx.lower)
    (op : Op) (hc : allClsClosed ctx.lower op) (p q : Nat) :
    OpR ctx op p q ↔ OpR { ctx with input := ys } op p q :=
  OpR_input_case_invariant_on (fun _ => true) ctx ys hcb hin (over_all _) (over_all _) hnl op (hc.on _) p q

/-- the set of spans `(p, q)` of the language is the same for both inputs -/
theorem language_case_invariant_on (A : Nat → Bool) (ctx : Ctx) (ys : List Nat) (hcb : ctx.caseBlind = true)
    (hin : CaseEquivInputs ctx.lower ctx.input ys) (hA : Over A ctx.input) (hA' : Over A ys)
    (hnl : NewlineCaseless ctx.lower) (op : Op) (hc : allClsClosedOn A ctx.lower op) :
    OpR ctx op = OpR { ctx with input := ys } op := by
  funext p q
  exact propext (OpR_input_case_invariant_on A ctx ys hcb hin hA hA' hnl op hc p q)

theorem language_case_invariant (ctx : Ctx) (ys : List Nat) (hcb : ctx.caseBlind = true)
    (hin : CaseEquivInputs ctx.lower ctx.input ys) (hnl : NewlineCaseless ctx.lower)
    (op : Op) (hc : allClsClosed ctx.lower op) :
    OpR ctx op = OpR { ctx with input := ys } op :=
  language_case_invariant_on (fun _ => true) ctx ys hcb hin (over_all _) (over_all _) hnl op (hc.on _)

/-- in particular the input may be lower-cased as a whole -/
theorem language_lowercased_input (ctx : Ctx) (hcb : ctx.caseBlind = true)
    (hidem : ∀ x, ctx.lower (ctx.lower x) = ctx.lower x) (hnl : NewlineCaseless ctx.lower)
    (op : Op) (hc : allClsClosed ctx.lower op) :
    OpR ctx op = OpR { ctx with input := ctx.input.map ctx.lower } op :=
  language_case_invariant ctx _ hcb (CaseEquivInputs.map_lower ctx.lower hidem ctx.input) hnl op hc

/-- for a program: the matcher context of `pr` on `ys` is that on `xs` with the input replaced, so
    the language of a case-blind program is the same on case-equivalent inputs -/
theorem prog_language_case_invariant_on (A : Nat → Bool) (pr : Prog) (lower : Nat → Nat) (xs ys : List Nat)
    (hcb : pr.caseBlind = true) (hin : CaseEquivInputs lower xs ys) (hA : Over A xs) (hA' : Over A ys)
    (hnl : NewlineCaseless lower) (hc : allClsClosedOn A lower pr.op) :
    OpR (pr.ctx lower xs) pr.op = OpR (pr.ctx lower ys) pr.op :=
  language_case_invariant_on A (pr.ctx lower xs) ys hcb hin hA hA' hnl pr.op hc

/-! ### 4. replacing pattern letters by case counterparts -/

theorem pattern_inv (ctx : Ctx) (hcb : ctx.caseBlind = true) :
    (∀ op op', CaseEquivOps ctx.lower op op' → ∀ p q, OpR ctx op p q ↔ OpR ctx op' p q) ∧
    (∀ l l', CaseEquivOpsL ctx.lower l l' →
      (∀ p q, OpRAny ctx l p q ↔ OpRAny ctx l' p q) ∧ (∀ p q, OpRSeq ctx l p q ↔ OpRSeq ctx l' p q)) :=
  CaseEquivOps.rel ctx.lower (OpR.cong ctx ctx) (fun _ _ _ _ => Iff.rfl) (fun cs ds he p q => by
    simp only [OpR, ← he.1, C11.prefixMatch_caseEquiv ⟨rfl, rfl, rfl⟩ hcb he (.refl _ _)])

theorem pattern_inv_any (ctx : Ctx) (hcb : ctx.caseBlind = true) :
    (bs bs' : List Op) → CaseEquivOpsL ctx.lower bs bs' → ∀ p q, OpRAny ctx bs p q ↔ OpRAny ctx bs' p q :=
  fun bs bs' he => ((pattern_inv ctx hcb).2 bs bs' he).1

theorem pattern_inv_seq (ctx : Ctx) (hcb : ctx.caseBlind = true) :
    (ops ops' : List Op) → CaseEquivOpsL ctx.lower ops ops' → ∀ p q, OpRSeq ctx ops p q ↔ OpRSeq ctx ops' p q :=
  fun ops ops' he => ((pattern_inv ctx hcb).2 ops ops' he).2

/-- **pattern case invariance of the language**: under flag i, two trees that differ only in the
    case of their literal characters have the same language (no condition on classes or on U+000A) -/
theorem OpR_pattern_case_invariant (ctx : Ctx) (hcb : ctx.caseBlind = true) (op op' : Op)
    (he : CaseEquivOps ctx.lower op op') (p q : Nat) : OpR ctx op p q ↔ OpR ctx op' p q :=
  (pattern_inv ctx hcb).1 op op' he p q

/-- both at once: case variants of the pattern letters AND of the input characters -/
theorem OpR_case_invariant (ctx : Ctx) (ys : List Nat) (hcb : ctx.caseBlind = true)
    (hin : CaseEquivInputs ctx.lower ctx.input ys) (hnl : NewlineCaseless ctx.lower)
    (op op' : Op) (he : CaseEquivOps ctx.lower op op') (hc : allClsClosed ctx.lower op) (p q : Nat) :
    OpR ctx op p q ↔ OpR { ctx with input := ys } op' p q :=
  (OpR_input_case_invariant ctx ys hcb hin hnl op hc p q).trans
    (OpR_pattern_case_invariant { ctx with input := ys } hcb op op' he p q)

/-! ### 5. without flag i -/

/-- without flag i a literal matches only the identical characters, at the level of the language -/
theorem OpR_exact_without_i (ctx : Ctx) (hcb : ctx.caseBlind = false) (cs : List Nat) (p q : Nat) :
    OpR ctx (.atom cs) p q ↔
      q = p + cs.length ∧ q ≤ ctx.len ∧ (ctx.input.drop p).take cs.length = cs := by
  simp only [OpR, C11.atom_exact ctx hcb, List.prefix_iff_eq_take]
  exact and_congr Iff.rfl (and_congr Iff.rfl eq_comm)

/-! ### 6. the real table -/

/-- `Env.std.lower` is the table function of the generated ICU table -/
theorem stdLower_eq : Env.std.lower = CaseL.tableLower Gen.lowerTable := rfl

/-- no entry of the ICU simple-lower-case table has U+000A as key or value … -/
theorem lowerTable_avoids_nl : Gen.lowerTable.all (fun e => e.1 != 10 && e.2 != 10) = true := by
  -- the chunks of the generated table re-bracketed to the right: see Props/CaseTables
  simp only [Gen.lowerTable, List.append_assoc]
  decide +kernel

/-- … so U+000A has no case counterpart in the real data -/
theorem newlineCaseless_std : NewlineCaseless Env.std.lower := by
  intro a h
  rw [stdLower_eq] at h
  exact CaseL.tableLower_isolated Gen.lowerTable 10 lowerTable_avoids_nl a h

/-- a decidable sufficient check of `clsClosedOn A` for the real table: key and value of every
    table entry whose key is in `A` agree on membership -/
def clsClosedOnB (A : Nat → Bool) (rs : Ranges) : Bool :=
  Gen.lowerTable.all (fun e => !A e.1 || clsContains rs e.1 == clsContains rs e.2)

theorem clsClosedOn_of_check (A : Nat → Bool) (rs : Ranges) (h : clsClosedOnB A rs = true) :
    clsClosedOn A Env.std.lower rs := by
  intro a b ha hb hab
  rw [stdLower_eq] at hab
  exact CaseL.tableLower_closed A Gen.lowerTable rs h a b ha hb hab

theorem clsClosed_of_check (rs : Ranges) (h : clsClosedOnB (fun _ => true) rs = true) :
    clsClosed Env.std.lower rs :=
  fun a b hab => clsClosedOn_of_check _ rs h a b rfl rfl hab

mutual
/-- a Boolean test on every class node of the tree -/
def allClsB (f : Ranges → Bool) : Op → Bool
  | .cls rs => f rs
  | .capture _ c => allClsB f c
  | .choice bs => allClsBL f bs
  | .seq ops => allClsBL f ops
  | .rep _ c _ _ _ => allClsB f c
  | .gfixed c _ _ _ => allClsB f c
  | .rfixed c _ _ _ => allClsB f c
  | .unamb c _ _ => allClsB f c
  | _ => true
termination_by structural o => o
def allClsBL (f : Ranges → Bool) : List Op → Bool
  | [] => true
  | o :: os => allClsB f o && allClsBL f os
termination_by structural l => l
end

theorem allClsB_transp (f : Ranges → Bool) :
    (TreePred.plain (allClsB f · = true) (allClsBL f · = true)).Transp :=
  ⟨Iff.rfl, Iff.rfl, Iff.rfl, Iff.rfl, Iff.rfl, rfl, rfl, Bool.and_eq_true_iff, Bool.and_eq_true_iff⟩

theorem allCls_of_B {f : Ranges → Bool} {P : Ranges → Prop} (h : ∀ rs, f rs = true → P rs) :
    (TreePred.plain (allClsB f · = true) (allClsBL f · = true)).Sub (.plain (allCls P) (allClsL P)) :=
  TreePred.impl (allClsB_transp f).desc (allCls_transp P).gen
    (leaf := fun _ _ _ hl hb => by cases hl <;> first | trivial | exact h _ hb)
    (rep := fun _ _ _ _ _ _ _ ih hb => ih hb) (unamb := fun _ _ _ _ _ ih hb => ih hb)

theorem allClsL_of_B {f : Ranges → Bool} {P : Ranges → Prop} (h : ∀ rs, f rs = true → P rs) :
    (l : List Op) → allClsBL f l = true → allClsL P l :=
  fun _ => (allCls_of_B h).all

/-- the decidable check for a whole tree, against the real table -/
theorem allClsClosedOn_of_check (A : Nat → Bool) (op : Op) (h : allClsB (clsClosedOnB A) op = true) :
    allClsClosedOn A Env.std.lower op :=
  (allCls_of_B (clsClosedOn_of_check A)).op' op h

theorem allClsClosed_of_check (op : Op) (h : allClsB (clsClosedOnB (fun _ => true)) op = true) :
    allClsClosed Env.std.lower op :=
  (allCls_of_B clsClosed_of_check).op' op h

/-! ### 7. non-vacuity, and the hypotheses are needed -/

theorem CaseEquivInputs.nil (lower : Nat → Nat) : CaseEquivInputs lower [] [] := CaseEquivInputs.refl lower []

theorem CaseEquivInputs.cons {lower : Nat → Nat} {x y : Nat} {xs ys : List Nat}
    (h : eqCB lower x y = true) (ht : CaseEquivInputs lower xs ys) : CaseEquivInputs lower (x :: xs) (y :: ys) := by
  refine ⟨by simp only [List.length_cons, ht.1], fun k h1 h2 => ?_⟩
  cases k with
  | zero => exact h
  | succ k =>
    simp only [List.getElem_cons_succ]
    simp only [List.length_cons] at h1 h2
    exact ht.2 k (by omega) (by omega)

/-- ASCII lower-casing -/
def asciiLower (c : Nat) : Nat := if 65 ≤ c ∧ c ≤ 90 then c + 32 else c

/-- `[A-Za-z]` -/
def letters : Ranges := [(65, 91), (97, 123)]

theorem letters_closed : clsClosed asciiLower letters := by
  intro a b h
  rw [C11.eqCB_iff_lower] at h
  unfold asciiLower at h
  rw [Bool.eq_iff_iff]
  simp only [letters, clsContains, Bool.or_false, Bool.or_eq_true, Bool.and_eq_true, decide_eq_true_eq]
  split at h <;> split at h <;> omega

theorem newlineCaseless_ascii : NewlineCaseless asciiLower := by
  intro a h
  rw [C11.eqCB_iff_lower] at h
  unfold asciiLower at h
  split at h <;> simp at h <;> omega

/-- `^Hi[A-Za-z]*\1$` as a tree (with a back-reference node) -/
def exTree : Op :=
  .seq [.bol, .capture 1 (.atom [72, 105]), .rep 1 (.cls letters) 0 usizeMax true, .backref 1, .eol, .endProgram]
/-- the same with the literal in the other case -/
def exTree' : Op :=
  .seq [.bol, .capture 1 (.atom [104, 73]), .rep 1 (.cls letters) 0 usizeMax true, .backref 1, .eol, .endProgram]

def exCtx (input : List Nat) : Ctx :=
  { input := input, caseBlind := true, multiLine := true, hasBackrefs := true, maxParens := 2, lower := asciiLower }

example : allClsClosed asciiLower exTree := by
  simp only [exTree, allClsClosed, allCls, allClsL, and_true, true_and]
  exact letters_closed

example : CaseEquivOps asciiLower exTree exTree' := by
  simp only [exTree, exTree', CaseEquivOps, CaseEquivOpsL, and_true, true_and]
  exact .cons (by decide) (.cons (by decide) (.nil _))

/-- "Hi\nxY" and "hI\nXy" -/
example : CaseEquivInputs asciiLower [72, 105, 10, 120, 89] [104, 73, 10, 88, 121] :=
  .cons (by decide) (.cons (by decide) (.cons (by decide) (.cons (by decide) (.cons (by decide) (.nil _)))))

/-- the theorems applied: same language for `exTree` on "HiabHi" and `exTree'` on "hIAbhi" -/
example (p q : Nat) :
    OpR (exCtx [72, 105, 97, 98, 72, 105]) exTree p q ↔ OpR (exCtx [104, 73, 65, 98, 104, 105]) exTree' p q :=
  OpR_case_invariant (exCtx [72, 105, 97, 98, 72, 105]) [104, 73, 65, 98, 104, 105] rfl
    (.cons (by decide) (.cons (by decide) (.cons (by decide) (.cons (by decide) (.cons (by decide)
      (.cons (by decide) (.nil _)))))))
    newlineCaseless_ascii exTree exTree'
    (by simp only [exTree, exTree', CaseEquivOps, CaseEquivOpsL, and_true, true_and]
        exact .cons (by decide) (.cons (by decide) (.nil _)))
    (by simp only [exTree, allClsClosed, allCls, allClsL, and_true, true_and]; exact letters_closed)
    p q

/-- … and that language is not empty: a small tree with a span in it, transported to the variant -/
def smallTree : Op := .seq [.atom [72, 105], .cls letters]
theorem small_span : OpR (exCtx [104, 73, 120]) smallTree 0 3 := by
  simp only [smallTree, OpR, OpRSeq]
  exact ⟨2, ⟨rfl, by decide, by decide⟩, 3, ⟨rfl, 120, rfl, by decide⟩, rfl⟩
example : OpR (exCtx [72, 105, 88]) smallTree 0 3 :=
  (OpR_input_case_invariant (exCtx [104, 73, 120]) [72, 105, 88] rfl
    (.cons (by decide) (.cons (by decide) (.cons (by decide) (.nil _)))) newlineCaseless_ascii smallTree
    (by simp only [smallTree, allClsClosed, allCls, allClsL, and_true, true_and]; exact letters_closed) 0 3).1 small_span

/-- the statement WITHOUT the hypothesis on classes … -/
def OpR_input_case_invariant_any_class : Prop :=
  ∀ (ctx : Ctx) (ys : List Nat), ctx.caseBlind = true → CaseEquivInputs ctx.lower ctx.input ys →
    NewlineCaseless ctx.lower → ∀ op p q, OpR ctx op p q ↔ OpR { ctx with input := ys } op p q

/-- … is false: a class that is not closed under case (as `\p{Lu}` is not — "class escapes are
    unaffected by the flag") tells "A" from "a" also under flag i -/
theorem OpR_input_case_invariant_any_class_false : ¬ OpR_input_case_invariant_any_class := by
  intro h
  have h1 := (h (exCtx [65]) [97] rfl (.cons (by decide) (.nil _)) newlineCaseless_ascii (.cls [(65, 91)]) 0 1).1
    (by simp only [OpR]; exact ⟨by decide, 65, rfl, by decide⟩)
  simp only [OpR] at h1
  obtain ⟨_, c, hc, hm⟩ := h1
  have : c = 97 := by simpa [exCtx] using hc.symm
  subst this
  exact absurd hm (by decide)

/-- the statement WITHOUT the hypothesis on U+000A … -/
def OpR_input_case_invariant_any_newline : Prop :=
  ∀ (ctx : Ctx) (ys : List Nat), ctx.caseBlind = true → CaseEquivInputs ctx.lower ctx.input ys →
    ∀ op, allClsClosed ctx.lower op → ∀ p q, OpR ctx op p q ↔ OpR { ctx with input := ys } op p q

/-- … is false for a lower-casing function that maps some other character to U+000A: `^` under
    flag m compares with U+000A exactly -/
theorem OpR_input_case_invariant_any_newline_false : ¬ OpR_input_case_invariant_any_newline := by
  intro h
  let ctx : Ctx := { input := [10, 97], caseBlind := true, multiLine := true, hasBackrefs := false,
                     maxParens := 1, lower := fun c => if c = 11 then 10 else c }
  have h1 := (h ctx [11, 97] rfl (.cons (by decide) (.cons (by decide) (.nil _))) .bol
    (by simp only [allClsClosed, allCls]) 1 1).1
    (by simp only [OpR]; exact ⟨by decide, .inr ⟨rfl, rfl, by decide⟩⟩)
  simp only [OpR] at h1
  rcases h1.2 with h0 | ⟨_, h2, _⟩
  · cases h0
  · exact absurd h2 (by decide)

/-! ### 8. the real data: compiled programs, and U+0130 -/

mutual
/-- the class nodes of a tree, left to right -/
def clsList : Op → List Ranges
  | .cls rs => [rs]
  | .capture _ c => clsList c
  | .choice bs => clsListL bs
  | .seq ops => clsListL ops
  | .rep _ c _ _ _ => clsList c
  | .gfixed c _ _ _ => clsList c
  | .rfixed c _ _ _ => clsList c
  | .unamb c _ _ => clsList c
  | _ => []
termination_by structural o => o
def clsListL : List Op → List Ranges
  | [] => []
  | o :: os => clsList o ++ clsListL os
termination_by structural l => l
end

/-- everything but U+0130 LATIN CAPITAL LETTER I WITH DOT ABOVE -/
def notDottedI (c : Nat) : Bool := c != 304

/-- `^[a-k]+x$` compiled by the model's compiler with flags i, m against the real tables -/
def compiledEx : Out Prog :=
  compileCore Env.std { caseBlind := true, multiLine := true } [94, 91, 97, 45, 107, 93, 43, 120, 36] true

/-- it compiles, is case-blind, and its one class is `[A-Ka-k]` plus U+212A KELVIN SIGN -/
theorem compiledEx_cls : (match compiledEx with
    | .ok pr => pr.caseBlind && pr.multiLine && (clsList pr.op == [[(65, 76), (97, 108), (8490, 8491)]])
    | _ => false) = true := by decide +kernel

theorem allClsB_eq_all (f : Ranges → Bool) :
    (∀ op, allClsB f op = (clsList op).all f) ∧ (∀ l, allClsBL f l = (clsListL l).all f) := by
  apply Op.ind_both
  case bol | eol | nothing | endProgram => rfl
  case atom | backref => intro _; rfl
  case cls => intro rs; simp only [allClsB, clsList, List.all_cons, List.all_nil, Bool.and_true]
  case capture => intro g c ih; simpa only [allClsB, clsList] using ih
  case choice | seq => intro l ih; simpa only [allClsB, clsList] using ih
  case rep => intro id c mn mx g ih; simpa only [allClsB, clsList] using ih
  case gfixed | rfixed => intro c mn mx len ih; simpa only [allClsB, clsList] using ih
  case unamb => intro c mn mx ih; simpa only [allClsB, clsList] using ih
  case nil => rfl
  case cons => intro o l ih ihl; simp only [allClsBL, clsListL, List.all_append, ih, ihl]

/-- `[A-Ka-k]` plus U+212A passes the check on the alphabet without U+0130: a real compiled program meets the
    class hypothesis there … -/
theorem class_ak_check : clsClosedOnB notDottedI [(65, 76), (97, 108), (8490, 8491)] = true := by
  -- membership in the class is asked of its bit mask
  rw [show clsClosedOnB notDottedI = _ from funext (EnvStdL.all_agree_mask Gen.lowerTable notDottedI)]
  simp only [Gen.lowerTable, List.append_assoc]
  decide +kernel

/-- … so its language is the same on all case-equivalent inputs that avoid U+0130 -/
theorem compiledEx_invariant (pr : Prog) (hpr : compiledEx = .ok pr) (xs ys : List Nat)
    (hin : CaseEquivInputs Env.std.lower xs ys) (hx : Over notDottedI xs) (hy : Over notDottedI ys) :
    OpR (pr.ctx Env.std.lower xs) pr.op = OpR (pr.ctx Env.std.lower ys) pr.op := by
  have h := compiledEx_cls
  rw [hpr] at h
  simp only [Bool.and_eq_true, beq_iff_eq] at h
  exact prog_language_case_invariant_on notDottedI pr Env.std.lower xs ys h.1.1 hin hx hy newlineCaseless_std
    (allClsClosedOn_of_check notDottedI pr.op (by
      simp only [(allClsB_eq_all _).1, h.2, List.all_cons, List.all_nil, class_ak_check, Bool.and_true]))

/-- on the full alphabet the compiled program fails the check (see `dotted_I_finding`) -/
theorem compiledEx_not_closed : (match compiledEx with
    | .ok pr => allClsB (clsClosedOnB (fun _ => true)) pr.op
    | _ => true) = false := by decide +kernel

/-- `^[a-h]+x$`: a compiled program whose class is closed on the full alphabet -/
def compiledEx2 : Out Prog :=
  compileCore Env.std { caseBlind := true, multiLine := true } [94, 91, 97, 45, 104, 93, 43, 120, 36] true
theorem compiledEx2_closed : (match compiledEx2 with
    | .ok pr => allClsB (clsClosedOnB (fun _ => true)) pr.op && pr.caseBlind
    | _ => false) = true := by
  rw [show clsClosedOnB (fun _ => true) = _ from funext (EnvStdL.all_agree_mask Gen.lowerTable fun _ => true)]
  simp only [Gen.lowerTable, List.append_assoc]
  decide +kernel

/-- FINDING (the mirror image of K8, "`[s]`/i matches U+017F, `s`/i does not"): under flag i
    the literal `i` matches U+0130 — ICU simple lower-casing maps U+0130 to `i` — while the class
    `[i]` does not — the case closure of `i` is `{I}`.  So "a literal character, a character or
    range inside a class … match an input character whenever the two are … simple upper/lower-case
    counterparts" fails for the class at U+0130, outside the property's stated alphabets.
    (The real engine answers the same: `i`/i on "İ" → true, `[i]`/i on "İ" → false.) -/
theorem dotted_I_finding :
    (match compileCore Env.std { caseBlind := true } [105] true with
      | .ok pr => pr.isMatch Env.std.lower [304]
      | _ => .diverge) = .ok true ∧
    (match compileCore Env.std { caseBlind := true } [91, 105, 93] true with
      | .ok pr => pr.isMatch Env.std.lower [304]
      | _ => .diverge) = .ok false ∧
    (match compileCore Env.std { caseBlind := true } [91, 105, 93] true with
      | .ok pr => pr.isMatch Env.std.lower [73]
      | _ => .diverge) = .ok true := by
  simp only [Env.std, EnvStd.stdClosure_seek, EnvStd.stdLower_seek]
  simp only [Gen.lowerTable, Gen.closureTable, List.append_assoc]
  decide +kernel

/-- the table entries behind it: U+0130 lower-cases to `i`, the case closure of `i` is `{I}` (so `[i]` under
    flag i is `{I, i}`), and U+0130 has no closure of its own -/
theorem dotted_I_entry : Env.std.lower 304 = 105 ∧ Env.std.closure 105 = [73] ∧ Env.std.closure 304 = [] := by
  simp only [Env.std, EnvStd.stdClosure_seek, EnvStd.stdLower_seek]
  simp only [Gen.lowerTable, Gen.closureTable, List.append_assoc]
  decide +kernel

end Rx.C11b

/-! ### 9. lower-casing with the real table is idempotent -/

namespace Rx.EnvStd
open Rx

/-- `C11.eqCB_lower_left` for the real table: a character and its simple lower-case counterpart
    are interchangeable -/
theorem eqCB_lower_left_std (a b : Nat) : eqCB Env.std.lower (Env.std.lower a) b = eqCB Env.std.lower a b :=
  C11.eqCB_lower_left Env.std.lower lower_idem_std a b

/-- `C11b.CaseEquivInputs.map_lower` for the real table: lower-casing every character gives a
    case-equivalent input -/
theorem caseEquiv_map_lower_std (xs : List Nat) :
    C11b.CaseEquivInputs Env.std.lower xs (xs.map Env.std.lower) :=
  C11b.CaseEquivInputs.map_lower Env.std.lower lower_idem_std xs

end Rx.EnvStd
