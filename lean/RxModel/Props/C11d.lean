/-
  Props/C11d — classes written in a pattern under flag i are CASE-CLOSED for the REAL tables
  (`Env.std`, the generated ICU case-closure table `Gen.closureTable`), from the pattern text.

  1. The closure table (2884 rows) is an equivalence on its domain and avoids surrogates — kernel
     computations (`Props/CaseTables`, which proves the first two; checks and their soundness in
     `Proofs/ClosureStdLemmas`):
       closure_sym_std      `y ∈ closure x → x ∈ closure y`                           TRUE
       closure_trans_std    `y ∈ closure x → z ∈ closure y → z = x ∨ z ∈ closure x`   TRUE
       surrogateFree_std    surrogates have no closure                                TRUE
       closureEquiv_std     `C09.ClosureEquiv Env.std`
  2. `class_case_closed_std`: a positive class of single characters / hyphens / ranges, parsed
     under flag i against the real tables, is a canonical list that is closed under
     `Env.std.closure` and contains every case-sensitive member.
  3. Connection with C11b (`clsClosedOn`, phrased with the COMPARISON relation `eqCB lower`):
       clsClosedOn_of_closure_closed   a set closed under the closure table is `clsClosedOn` the
                                       alphabet without U+0130 (`C11b.notDottedI`)
       class_clsClosedOn_std           … hence every such class of the pattern is
       class_node_input_case_invariant_std
                                       … so `C11b.OpR_input_case_invariant_on` applies to its node
       class_clsClosed_all_false       on the FULL alphabet it is false: `[i]` under i is `{I, i}`
                                       and lacks U+0130, which the comparison identifies with `i`
                                       (K10)
       closure_not_comparison          conversely the closure table relates characters the
                                       comparison keeps apart: `s` and U+017F (K8) — so the class
                                       `[s]` under i matches U+017F although the literal `s` does
                                       not; this direction does not harm `clsClosedOn`
-/
import RxModel.Props.C09e
import RxModel.Props.C11b
namespace Rx.C11d
open Rx Rx.C09 Rx.EnvStd Rx.EnvStdL

/-! ### 1. the closure table -/

/-- surrogates have no case closure in the real tables -/
theorem surrogateFree_std : SurrogateFree Env.std := by
  intro s hs
  rw [stdClosure_eq]
  exact noSur_of_rows _ closureTable_rows s hs

theorem closureEquiv_std : ClosureEquiv Env.std := ⟨closure_sym_std, closure_trans_std⟩

/-- a character with a case variant is a code point (so are its variants: `closure_bound_std`) -/
theorem closure_key_bound_std (x y : Nat) (h : y ∈ Env.std.closure x) : x < cpLimit :=
  closure_bound_std y x (closure_sym_std x y h)

/-- U+212A KELVIN SIGN is a case variant of `K` … -/
theorem kelvin_of_K : 8490 ∈ Env.std.closure 75 := by decide +kernel

/-- … and `k` one of U+212A (the table re-bracketed: see Props/CaseTables) -/
theorem k_of_kelvin : 107 ∈ Env.std.closure 8490 := by
  simp only [Env.std, Gen.closureTable, List.append_assoc]
  decide +kernel

/-- the hypotheses are met non-trivially: `K`, `k` and the Kelvin sign U+212A -/
example : 8490 ∈ Env.std.closure 75 ∧ 107 ∈ Env.std.closure 8490 ∧ 107 ∈ Env.std.closure 75 :=
  ⟨kelvin_of_K, k_of_kelvin, (closure_trans_std 75 8490 107 kelvin_of_K k_of_kelvin).resolve_left (by decide)⟩
example : 75 ∈ Env.std.closure 8490 := closure_sym_std 75 8490 kelvin_of_K
example : 107 = 75 ∨ 107 ∈ Env.std.closure 75 := closure_trans_std 75 8490 107 kelvin_of_K k_of_kelvin
example : Env.std.closure 55296 = [] := surrogateFree_std 55296 (by decide)

/-! ### 2. classes of the pattern are closed under the closure table -/

/-- the set-algebra reading: the members under flag i of a positive class of characters and ranges
    are closed under the real closure table (`C09.PositiveClassCaseClosed`, hypotheses discharged) -/
theorem memberI_closed_std (items : List Item) (hch : CharsOnly items) (x y : Nat)
    (hx : (CExpr.leaf false items).MemberI Env.std x) (hy : y ∈ Env.std.closure x) :
    (CExpr.leaf false items).MemberI Env.std y :=
  positive_class_case_closed_partial Env.std surrogateFree_std closureEquiv_std items hch x y hx hy

/-- Flag i, the real tables, a well-formed positive class of single characters,
    literal hyphens and ranges at the cursor: the parser consumes it and returns a canonical list
    `R` that is closed under the case closure and contains every case-sensitive member. -/
theorem class_case_closed_std (c : PC) (hci : c.fl.caseBlind = true) (henv : c.env = Env.std)
    (items : List Item) (hch : CharsOnly items)
    (hok : (CExpr.leaf false items).ok c.fl.xsd c.env = true) (s : PS) (rest : List Nat)
    (hpat : c.pat.drop s.idx = (CExpr.leaf false items).render ++ rest) (fuel : Nat)
    (hfuel : (CExpr.leaf false items).render.length ≤ fuel) :
    ∃ R, parseClass c fuel s =
        .ok R { s with idx := s.idx + (CExpr.leaf false items).render.length } ∧
      Canon R ∧
      (∀ x y, clsContains R x = true → y ∈ Env.std.closure x → clsContains R y = true) ∧
      (∀ x, x < cpLimit → (CExpr.leaf false items).Member Env.std x → clsContains R x = true) := by
  obtain ⟨R, hp, _, hcan, hmem⟩ :=
    parse_class_full_i_std c hci henv (.leaf false items) hok s rest hpat fuel hfuel
  rw [henv] at hmem
  refine ⟨R, hp, hcan, fun x y hx hy => ?_, fun x hx hm => ?_⟩
  · have hxl := contains_lt_limit R hcan x hx
    have hyl := closure_bound_std x y hy
    exact (hmem y hyl).2 (memberI_closed_std items hch x y ((hmem x hxl).1 hx) hy)
  · exact (hmem x hx).2 (superset_of_cs Env.std items x hm)

/-! ### 3. connection with C11b: closed under the table ⇒ closed under the comparison, off U+0130 -/

/-- a set closed under the closure table is `clsClosedOn` the alphabet without U+0130: there the
    comparison `eqCB lower` is contained in the closure relation (`caseOK_std_on`) -/
theorem clsClosedOn_of_closure_closed (R : Ranges)
    (hcl : ∀ x y, clsContains R x = true → y ∈ Env.std.closure x → clsContains R y = true) :
    C11b.clsClosedOn C11b.notDottedI Env.std.lower R := by
  intro a b ha hb hab
  have hba : eqCB Env.std.lower b a = true := by
    rw [C11.eqCB_iff_lower] at hab ⊢
    exact hab.symm
  rcases caseOK_std_on.1 a b ha hb hba with h1 | h1
  · rw [h1]
  rcases caseOK_std_on.1 b a hb ha hab with h2 | h2
  · rw [h2]
  exact Bool.eq_iff_iff.2 ⟨fun h => hcl a b h h1, fun h => hcl b a h h2⟩

/-- the class of `class_case_closed_std` meets the hypothesis of
    `C11b.OpR_input_case_invariant_on C11b.notDottedI` (`clsClosedOn` at its class node) -/
theorem class_clsClosedOn_std (c : PC) (hci : c.fl.caseBlind = true) (henv : c.env = Env.std)
    (items : List Item) (hch : CharsOnly items)
    (hok : (CExpr.leaf false items).ok c.fl.xsd c.env = true) (s : PS) (rest : List Nat)
    (hpat : c.pat.drop s.idx = (CExpr.leaf false items).render ++ rest) (fuel : Nat)
    (hfuel : (CExpr.leaf false items).render.length ≤ fuel) :
    ∃ R, parseClass c fuel s =
        .ok R { s with idx := s.idx + (CExpr.leaf false items).render.length } ∧
      C11b.clsClosedOn C11b.notDottedI Env.std.lower R ∧
      C11b.allCls (C11b.clsClosedOn C11b.notDottedI Env.std.lower) (.cls R) := by
  obtain ⟨R, hp, _, hcl, _⟩ := class_case_closed_std c hci henv items hch hok s rest hpat fuel hfuel
  have h := clsClosedOn_of_closure_closed R hcl
  exact ⟨R, hp, h, by simpa [C11b.allCls] using h⟩

/-- END TO END with C11b: the class node built from the pattern text matches the same spans on two
    inputs that differ by case only (real lower-casing table, inputs without U+0130) -/
theorem class_node_input_case_invariant_std (c : PC) (hci : c.fl.caseBlind = true)
    (henv : c.env = Env.std) (items : List Item) (hch : CharsOnly items)
    (hok : (CExpr.leaf false items).ok c.fl.xsd c.env = true) (s : PS) (rest : List Nat)
    (hpat : c.pat.drop s.idx = (CExpr.leaf false items).render ++ rest) (fuel : Nat)
    (hfuel : (CExpr.leaf false items).render.length ≤ fuel) :
    ∃ R, parseClass c fuel s =
        .ok R { s with idx := s.idx + (CExpr.leaf false items).render.length } ∧
      ∀ (ctx : Ctx) (ys : List Nat), ctx.caseBlind = true → ctx.lower = Env.std.lower →
        C11b.CaseEquivInputs ctx.lower ctx.input ys →
        C11b.Over C11b.notDottedI ctx.input → C11b.Over C11b.notDottedI ys →
        ∀ p q, OpR ctx (.cls R) p q ↔ OpR { ctx with input := ys } (.cls R) p q := by
  obtain ⟨R, hp, _, hall⟩ := class_clsClosedOn_std c hci henv items hch hok s rest hpat fuel hfuel
  refine ⟨R, hp, fun ctx ys hcb hl hin hA hA' p q => ?_⟩
  exact C11b.OpR_input_case_invariant_on C11b.notDottedI ctx ys hcb hin hA hA'
    (hl ▸ C11b.newlineCaseless_std) (.cls R) (hl ▸ hall) p q

/-- the connection of section 3 stated for the FULL alphabet -/
def class_clsClosed_all : Prop :=
  ∀ items, CharsOnly items → (CExpr.leaf false items).ok false Env.std = true →
    C11b.clsClosed Env.std.lower ((CExpr.leaf false items).denoteI Env.std)

/-- FALSE (K10): the comparison identifies U+0130 with `i` (simple lower-casing), the closure table
    does not, so the class `[i]` under i contains `i` and not U+0130.  The true variant is
    `class_clsClosedOn_std` (alphabet without U+0130). -/
theorem class_clsClosed_all_false : ¬ class_clsClosed_all := by
  intro h
  have h1 := h [.one (.plain 105)] (by intro i hi; simp only [List.mem_singleton] at hi; subst hi; rfl)
    (by decide)
  have h2 := h1 304 105 dottedI_eq_i
  -- under flag i, with the real tables, `[i]` is `{I, i}`
  have hd : (CExpr.leaf false [.one (.plain 105)]).denoteI Env.std = [(73, 74), (105, 106)] := by decide +kernel
  rw [hd] at h2
  revert h2
  decide

/-- the two relations differ in the other direction too (K8): the closure table relates `s` and
    U+017F (long s), the comparison by simple lower-casing does not.  A class is therefore closed
    under MORE than the comparison requires, which `clsClosedOn` allows. -/
theorem closure_not_comparison :
    383 ∈ Env.std.closure 115 ∧ 115 ∈ Env.std.closure 383 ∧ eqCB Env.std.lower 115 383 = false := by
  simp only [Env.std, stdClosure_seek, stdLower_seek]
  simp only [Gen.closureTable, Gen.lowerTable, List.append_assoc]
  decide +kernel

/-- … and only U+0130 separates them the harmful way (the first half of `EnvStd.caseOK_std_on`,
    with `≠ 304` for `C11b.notDottedI`): off U+0130 whatever the comparison identifies is related
    by the closure table -/
theorem comparison_sub_closure (a b : Nat) (ha : a ≠ 304) (hb : b ≠ 304)
    (h : eqCB Env.std.lower a b = true) : a = b ∨ a ∈ Env.std.closure b :=
  caseOK_std_on.1 b a (by simpa [C11b.notDottedI] using hb) (by simpa [C11b.notDottedI] using ha) h

/-! ### non-vacuity: `[a-c]` and `[k]` against the real tables -/

/-- the hypotheses of `class_case_closed_std` / `class_clsClosedOn_std` are satisfiable -/
example : ∃ R, parseClass ⟨exAC.render, { caseBlind := true }, Env.std⟩ 7 {} = .ok R { idx := 5 } ∧
    Canon R ∧
    (∀ x y, clsContains R x = true → y ∈ Env.std.closure x → clsContains R y = true) ∧
    (∀ x, x < cpLimit → exAC.Member Env.std x → clsContains R x = true) :=
  class_case_closed_std ⟨exAC.render, { caseBlind := true }, Env.std⟩ rfl rfl
    [.range (.plain 97) (.plain 99)]
    (by intro i hi; simp only [List.mem_singleton] at hi; subst hi; rfl)
    (by decide) {} [] (by decide) 7 (by decide)

example : ∃ R, parseClass ⟨exAC.render, { caseBlind := true }, Env.std⟩ 7 {} = .ok R { idx := 5 } ∧
    C11b.clsClosedOn C11b.notDottedI Env.std.lower R ∧
    C11b.allCls (C11b.clsClosedOn C11b.notDottedI Env.std.lower) (.cls R) :=
  class_clsClosedOn_std ⟨exAC.render, { caseBlind := true }, Env.std⟩ rfl rfl
    [.range (.plain 97) (.plain 99)]
    (by intro i hi; simp only [List.mem_singleton] at hi; subst hi; rfl)
    (by decide) {} [] (by decide) 7 (by decide)

/-- the ctx-side hypotheses of `class_node_input_case_invariant_std` are satisfiable: the inputs
    "b" and "B" under the real lower-casing table -/
example : (fun (ctx : Ctx) (ys : List Nat) => ctx.caseBlind = true ∧ ctx.lower = Env.std.lower ∧
    C11b.CaseEquivInputs ctx.lower ctx.input ys ∧
    C11b.Over C11b.notDottedI ctx.input ∧ C11b.Over C11b.notDottedI ys)
    { input := [98], caseBlind := true, multiLine := false, hasBackrefs := false, maxParens := 1,
      lower := Env.std.lower } [66] := by
  refine ⟨rfl, rfl, ⟨rfl, fun k h1 h2 => ?_⟩, ?_, ?_⟩
  · have : k = 0 := by simp at h1; omega
    subst this
    show eqCB Env.std.lower 98 66 = true
    simp only [Env.std, stdLower_seek]
    simp only [Gen.lowerTable, List.append_assoc]
    decide +kernel
  · intro x hx; simp only [List.mem_singleton] at hx; subst hx; rfl
  · intro x hx; simp only [List.mem_singleton] at hx; subst hx; rfl

/-- `[k]` under i is `{K, k, U+212A}`: a three-element closure class -/
example : (CExpr.leaf false [.one (.plain 107)]).denoteI Env.std = [(75, 76), (107, 108), (8490, 8491)] := by
  decide +kernel

/-- `memberI_closed_std` applies: U+212A is a member of `[k]` because `K` is -/
example : (CExpr.leaf false [.one (.plain 107)]).MemberI Env.std 8490 :=
  memberI_closed_std _ (by intro i hi; simp only [List.mem_singleton] at hi; subst hi; rfl) 75 8490
    (by simp only [CExpr.MemberI, iff_true]
        exact ⟨_, List.mem_singleton.2 rfl, Or.inr (by decide +kernel)⟩)
    (by decide +kernel)

end Rx.C11d
