/-
  Props/Clean3MemoScan — the memo fragment (`cleanProg3m`, Props/Clean3Memo) at SCAN level: the zero-length
  memo, threaded through all the `matches` calls of one replace / tokenize / analyze scan, never loses or
  moves a later match of a NON-NULLABLE pattern.

  Props/Clean3Memo showed that the absolute invariant `HR` ("every memo entry is dead") can fail after a
  SUCCESSFUL `matches`.  The invariant that survives is relative to the positions still to be searched:

      `HRfrom ctx l pos st`   every memo entry `(id, p)` that a `match_at(k)` with `k ≥ pos` can REACH
                              (the elements before the repeat `id` match `[k, p)`) is dead

  (`MemoScan.HRG ctx (pos ≤ ·) l st`; reachability is pushed along the root sequence, Proofs/MemoSeqLemmas).

  1  `clean3m_outcome_from`: `matches(i)` from a state with `HRfrom i` (and no panic) returns the right
     `Outcome` (least start, sound end); a failure keeps `HRfrom i`
  2  `clean3m_success_keeps`: for a pattern that does not match the empty string, a success reporting
     `[j, n)` has `j < n` and leaves `HRfrom n` — the continuation position of all three scan loops
     (`replaceLoop`: `newpos = e`; `tokenNext`: `end0`; `analyzeNext`: `skip = false`, `prevEnd = e`).
     The entries the successful attempt leaves undead are at `p ≤ n`, and one at `p = n` is reachable from a
     start `≥ n` only if the whole pattern has the zero-length match `[n, n)` (`MemoScan.path_to_from`).
  3  `clean3m_scan_spans`: the span list the scan loops see (`C04.spansOf` of the concrete matcher, memo
     threaded, from a fresh matcher) satisfies the STATE-FREE specification `SpansSpec`: each span starts at
     the least start `≥` the previous end that has a match, is non-empty, is a member of the language, and
     the list ends only when no start is left.
     `SpansSpec` fixes the starts and asks the ends to be members of the language; that the END of each span
     is the priority-first one (the one a fresh matcher reports) is Props/Clean3MemoEnd.
  4  `clean3m_goodFind` (`C04.GoodFind`, over the whole scan, any state), `clean3m_tokenize_spec`,
     `api_clean3m_scan_spans`, `api_clean3m_tokenize_spec` (from `Regex.new`), example `(?:ab|c)*d`.
-/
import RxModel.Proofs.MemoScanLemmas
import RxModel.Props.Clean3Api
namespace Rx.Clean3MemoScan
open Rx Rx.SearchComplete Rx.Memo Rx.MemoScan
open Rx.C08 (noEmptyAtoms)

/-- the scan invariant: every memo entry reachable from a start `≥ pos` is dead -/
abbrev HRfrom (ctx : Ctx) (l : List Op) (pos : Nat) (st : St) : Prop := HRG ctx (From pos) l st

theorem HRfrom_fresh (ctx : Ctx) (l : List Op) (pos : Nat) : HRfrom ctx l pos {} := HRG_of_nil ctx l _ {} rfl

theorem HRfrom_mono (ctx : Ctx) (l : List Op) (i j : Nat) (hij : i ≤ j) (st : St) (h : HRfrom ctx l i st) :
    HRfrom ctx l j st :=
  HRX_mono ctx (fun _ _ h => h) l _ _ (fun p (hp : j ≤ p) => (Nat.le_trans hij hp : i ≤ p)) st h

/-- a program of the memo fragment, with an input -/
structure Prog3m (env : Env) (pat : List Nat) (op : Op) (mp : Nat) (fl : CFlags) (lower : Nat → Nat)
    (input : List Nat) (l : List Op) : Prop where
  inp : InputOKFor env fl lower input
  hop : (mkProgram pat op mp fl false).op = .seq l
  clean : cleanProg3m env fl.caseBlind fl.multiLine (.seq l) = true
  wf : wfOp op = true
  ne : noEmptyAtoms op = true
  can : clsCanonB (.seq l) = true
  cp : C02.capsPos op = true
  len : input.length < usizeMax

section
variable {env : Env} {pat : List Nat} {op : Op} {mp : Nat} {fl : CFlags} {lower : Nat → Nat}
  {input : List Nat} {l : List Op}

/-- 1. `matches(i)` under the relative invariant -/
theorem clean3m_outcome_from (P : Prog3m env pat op mp fl lower input l)
    (i : Nat) (hi : i ≤ input.length) (st : St) (hp : st.panic = none)
    (hm : HRfrom ((mkProgram pat op mp fl false).ctx lower input) l i st) :
    OutcomeG ((mkProgram pat op mp fl false).ctx lower input) l i
      (matchesFrom ((mkProgram pat op mp fl false).ctx lower input) (mkProgram pat op mp fl false) i st) := by
  obtain ⟨T, F, hP⟩ := program_facts env pat op mp fl lower input P.inp l P.hop P.clean P.wf P.ne P.can P.len
  exact matchesFrom_outcomeG P.hop T F P.len hP i hi st hp hm

theorem prog_wf (P : Prog3m env pat op mp fl lower input l) :
    wfOp (.seq l) = true ∧ C02.capsPos (.seq l) = true := by
  have hnum := MkProgram.op pat op mp fl false
  exact ⟨by rw [← P.hop, hnum, WF.wfOp_numberReps]; exact P.wf,
    by rw [← P.hop, hnum, WF.capsPos_numberReps]; exact P.cp⟩

/-- a pattern that does not match the empty string has no zero-length match anywhere -/
theorem no_zero (P : Prog3m env pat op mp fl lower input l)
    (hnull : (mkProgram pat op mp fl false).isMatch lower [] = .ok false) (k : Nat) :
    ¬ OpR ((mkProgram pat op mp fl false).ctx lower input) (.seq l) k k := by
  rw [← P.hop]
  exact no_zero_of_null (Clean3Memo.clean3m_outcome0 env pat op mp fl lower [] (Clean2Api.inputOKFor_nil P.inp) l P.hop
    P.clean P.wf P.ne P.can (by decide)) hnull input k

/-- 2. a success of a non-nullable pattern reports a non-empty leftmost span and leaves the invariant for
    the continuation position -/
theorem clean3m_success_keeps (P : Prog3m env pat op mp fl lower input l)
    (hnull : (mkProgram pat op mp fl false).isMatch lower [] = .ok false)
    (i : Nat) (hi : i ≤ input.length) (st st' : St) (hp : st.panic = none)
    (hm : HRfrom ((mkProgram pat op mp fl false).ctx lower input) l i st)
    (h : matchesFrom ((mkProgram pat op mp fl false).ctx lower input) (mkProgram pat op mp fl false) i st
      = (true, st')) :
    ∃ j n, getParenStart st' 0 = some j ∧ getParenEnd st' 0 = some n ∧ i ≤ j ∧ j < n ∧ n ≤ input.length ∧
      OpR ((mkProgram pat op mp fl false).ctx lower input) (.seq l) j n ∧
      (∀ k q, i ≤ k → k < j → ¬ OpR ((mkProgram pat op mp fl false).ctx lower input) (.seq l) k q) ∧
      st'.panic = none ∧ HRfrom ((mkProgram pat op mp fl false).ctx lower input) l n st' := by
  obtain ⟨T, F, hP⟩ := program_facts env pat op mp fl lower input P.inp l P.hop P.clean P.wf P.ne P.can P.len
  obtain ⟨j, n, hs, he, hij, hjn, hnl, hopr, hleft, _, hpan, hpath⟩ :=
    matchesFrom_span P.hop T F P.len (prog_wf P).2 hP i hi st hp hm h
  have hnz := no_zero P hnull
  refine ⟨j, n, hs, he, hij, Nat.lt_of_le_of_ne hjn (fun hjn' => by subst hjn'; exact hnz j hopr), hnl, hopr, hleft,
    hpan, ?_⟩
  exact path_to_from _ n hnl st' l (From i) (From n) True
    (fun q (hq : n ≤ q) => ⟨(by omega : i ≤ q), hq, fun _ => trivial⟩)
    (fun _ => by simpa only [OpR] using hnz n) hpath

/-! ### 3. the whole scan -/

/-- the state-free specification of the span list from `pos` -/
inductive SpansSpec (ctx : Ctx) (o : Op) : Nat → List (Nat × Nat) → Prop
  | done (pos : Nat) : (∀ j q, pos ≤ j → j ≤ ctx.len → ¬ OpR ctx o j q) → SpansSpec ctx o pos []
  | step (pos a b : Nat) (rest : List (Nat × Nat)) : pos ≤ a → a < b → b ≤ ctx.len → OpR ctx o a b →
      (∀ k q, pos ≤ k → k < a → ¬ OpR ctx o k q) → SpansSpec ctx o b rest → SpansSpec ctx o pos ((a, b) :: rest)

/-- the specification determines the starts, and the number of spans -/
theorem SpansSpec.starts_unique {ctx : Ctx} {o : Op} :
    ∀ {pos : Nat} {s1 s2 : List (Nat × Nat)}, SpansSpec ctx o pos s1 → SpansSpec ctx o pos s2 →
    (∀ x ∈ s1, ∀ y ∈ s2, x.1 = y.1 → x.2 = y.2) → s1 = s2 := by
  intro pos s1 s2 h1
  induction h1 generalizing s2 with
  | done pos hno =>
    intro h2 _
    cases h2 with
    | done _ _ => rfl
    | step _ a b rest h1 h2 h3 h4 _ _ => exact absurd h4 (hno a b h1 (by omega))
  | step pos a b rest h1 h2 h3 h4 h5 _ ih =>
    intro h2' hends
    cases h2' with
    | done _ hno => exact absurd h4 (hno a b h1 (by omega))
    | step _ a' b' rest' g1 g2 g3 g4 g5 g6 =>
      have ha : a = a' := by
        rcases Nat.lt_trichotomy a a' with hlt | heq | hgt
        · exact absurd h4 (g5 a b h1 hlt)
        · exact heq
        · exact absurd g4 (h5 a' b' g1 hgt)
      subst ha
      have hb : b = b' := by
        have := hends (a, b) List.mem_cons_self (a, b') List.mem_cons_self rfl
        exact this
      subst hb
      rw [ih g6 (fun x hx y hy => hends x (List.mem_cons_of_mem _ hx) y (List.mem_cons_of_mem _ hy))]

theorem clean3m_spans_from (P : Prog3m env pat op mp fl lower input l)
    (hnull : (mkProgram pat op mp fl false).isMatch lower [] = .ok false) :
    ∀ (fuel pos : Nat) (st : St), pos ≤ input.length → input.length - pos < fuel → st.panic = none →
    HRfrom ((mkProgram pat op mp fl false).ctx lower input) l pos st →
    SpansSpec ((mkProgram pat op mp fl false).ctx lower input) (.seq l) pos
      (C04.spanPairs (C04.spansOf ((mkProgram pat op mp fl false).matcher lower input) input.length fuel pos st)) := by
  intro fuel
  induction fuel with
  | zero => intro pos st _ h; omega
  | succ f ih =>
    intro pos st hpos hfuel hp hm
    have hnz := no_zero P hnull
    by_cases hlt : pos < input.length
    · cases hfind : ((mkProgram pat op mp fl false).matcher lower input).find st pos with
      | mk b st' =>
        have hfind' : matchesFrom ((mkProgram pat op mp fl false).ctx lower input) (mkProgram pat op mp fl false) pos st =
            (b, st') := hfind
        cases b with
        | false =>
          rw [C04.spansOf_false _ _ _ _ _ _ hfind]
          have ho := clean3m_outcome_from P pos hpos st hp hm
          rw [hfind'] at ho
          refine .done pos (fun j q hj hjl hq => ?_)
          rcases ho.1.2 with ⟨ht, _⟩ | ⟨_, hno⟩
          · cases ht
          · exact hno j hj hjl ⟨q, hq⟩
        | true =>
          obtain ⟨j, n, hs, he, hij, hjn, hnl, hopr, hleft, hp', hm'⟩ :=
            clean3m_success_keeps P hnull pos hpos st st' hp hm hfind'
          rw [C04.spansOf_true _ _ _ _ j n _ _ hlt hfind hs he]
          exact .step pos j n _ hij hjn hnl hopr hleft (ih n st' hnl (by omega) hp' hm')
    · rw [C04.spansOf_ge _ _ _ _ _ hlt]
      refine .done pos (fun j q hj hjl hq => ?_)
      have hb := C01.OpR_bounds _ (.seq l) j q hjl hq
      have hjl' : j ≤ input.length := hjl
      have hql : q ≤ input.length := hb.2
      have : j = q := by omega
      subst this
      exact hnz j hq

/-- 3. THE SCAN: with the memo threaded through every `matches` call, from a fresh matcher, the scan loops see
    a span list satisfying the state-free specification -/
theorem clean3m_scan_spans (P : Prog3m env pat op mp fl lower input l)
    (hnull : (mkProgram pat op mp fl false).isMatch lower [] = .ok false) :
    SpansSpec ((mkProgram pat op mp fl false).ctx lower input) (.seq l) 0
      (C04.spanPairs (C04.spansOf ((mkProgram pat op mp fl false).matcher lower input) input.length
        (input.length + 2) 0 {})) :=
  clean3m_spans_from P hnull _ 0 {} (Nat.zero_le _) (by omega) rfl (HRfrom_fresh _ l 0)

/-! ### 4. `GoodFind`, tokenize -/

/-- `C04.GoodFind` for the concrete matcher, from ANY state: soundness does not depend on the memo -/
theorem clean3m_goodFind (P : Prog3m env pat op mp fl lower input l)
    (hnull : (mkProgram pat op mp fl false).isMatch lower [] = .ok false) :
    C04.GoodFind ((mkProgram pat op mp fl false).matcher lower input) input.length (fun _ => True) := by
  constructor
  intro st pos st' m _ hpos hfind _
  refine ⟨trivial, fun hm => ?_⟩
  subst hm
  obtain ⟨hwT, hcT⟩ := prog_wf P
  obtain ⟨a, b, hs, he, h1, h2, h3, hopr⟩ := C02.matchesFrom_span (mkProgram pat op mp fl false) lower input
    (by rw [P.hop]; exact hwT) (by rw [P.hop]; exact hcT) pos hpos st st' hfind
  refine ⟨a, b, hs, he, h1, ?_, h3⟩
  rcases Nat.lt_or_ge a b with hlt | hge
  · exact hlt
  · exfalso
    have : a = b := by omega
    subst this
    rw [P.hop] at hopr
    exact no_zero P hnull a hopr

/-- the tokens are the pieces between the spans of a list satisfying the state-free specification -/
theorem clean3m_tokenize_spec (P : Prog3m env pat op mp fl lower input l)
    (hnull : (mkProgram pat op mp fl false).isMatch lower [] = .ok false)
    (limit : Nat) (hl : input.length + 1 ≤ limit) (toks : List (List Nat)) (more : Bool)
    (h : tokenLoop ((mkProgram pat op mp fl false).matcher lower input) input limit (some 0) {} [] = .ok (toks, more)) :
    ∃ spans, SpansSpec ((mkProgram pat op mp fl false).ctx lower input) (.seq l) 0 spans ∧
      toks = Spec.pieces input 0 spans ∧ more = false := by
  obtain ⟨h1, h2⟩ := C04.tokenize_spec _ _ input (clean3m_goodFind P hnull) {} trivial limit hl toks more h
  exact ⟨_, clean3m_scan_spans P hnull, h1, h2⟩

end

/-! ### from `Regex::new` -/

theorem new_prog3m (env : Env) (p fs : List Nat) (xsd : Bool) (fl : Flags) (r : Regex)
    (hf : parseFlags fs xsd = some fl) (h : Regex.new env p fs xsd true = .ok r) (hns : Api.NoSat env fl p)
    (hclean : Memo.cleanProg3m env fl.caseBlind fl.multiLine r.prog.op = true) (hcan : clsCanonB r.prog.op = true)
    (hnb : r.prog.hasBackrefs = false) (hlit : fl.literal = true → p ≠ [])
    (input : List Nat) (hI : InputOKFor env fl.core env.lower input) (hlen : input.length < usizeMax) :
    ∃ pat' op' mp l, r.prog = mkProgram pat' op' mp fl.core false ∧ r.prog.op = .seq l ∧
      Prog3m env pat' op' mp fl.core env.lower input l := by
  obtain ⟨pat', op', mp, heq, hw, hne, hcp⟩ := CleanComplete.new_prog env p fs xsd fl r hf h hns hnb hlit
  obtain ⟨l, hl⟩ : ∃ l, r.prog.op = .seq l := by
    cases hop : r.prog.op with
    | seq l => exact ⟨l, rfl⟩
    | _ => rw [hop] at hclean; simp [Memo.cleanProg3m] at hclean
  rw [hl] at hclean hcan
  refine ⟨pat', op', mp, l, heq, hl, ⟨hI, by rw [← heq]; exact hl, hclean, hw, hne, hcan, hcp, hlen⟩⟩

/-- the scan of a regex of the memo fragment that passes the nullability gate -/
theorem api_clean3m_scan_spans (env : Env) (p fs : List Nat) (xsd : Bool) (fl : Flags) (r : Regex)
    (hf : parseFlags fs xsd = some fl) (h : Regex.new env p fs xsd true = .ok r) (hns : Api.NoSat env fl p)
    (hclean : Memo.cleanProg3m env fl.caseBlind fl.multiLine r.prog.op = true) (hcan : clsCanonB r.prog.op = true)
    (hnb : r.prog.hasBackrefs = false) (hlit : fl.literal = true → p ≠ []) (hnull : r.nullable = false)
    (input : List Nat) (hI : InputOKFor env fl.core env.lower input) (hlen : input.length < usizeMax) :
    SpansSpec (r.prog.ctx env.lower input) r.prog.op 0
      (C04.spanPairs (C04.spansOf (r.prog.matcher env.lower input) input.length (input.length + 2) 0 {})) ∧
    C04.GoodFind (r.prog.matcher env.lower input) input.length (fun _ => True) := by
  obtain ⟨pat', op', mp, l, heq, hl, P⟩ :=
    new_prog3m env p fs xsd fl r hf h hns hclean hcan hnb hlit input hI hlen
  have hn := C16.new_nullable env p fs xsd true r h
  rw [hnull, heq] at hn
  rw [hl]
  rw [heq]
  exact ⟨clean3m_scan_spans P hn, clean3m_goodFind P hn⟩

theorem api_clean3m_tokenize_spec (env : Env) (p fs : List Nat) (xsd : Bool) (fl : Flags) (r : Regex)
    (hf : parseFlags fs xsd = some fl) (h : Regex.new env p fs xsd true = .ok r) (hns : Api.NoSat env fl p)
    (hclean : Memo.cleanProg3m env fl.caseBlind fl.multiLine r.prog.op = true) (hcan : clsCanonB r.prog.op = true)
    (hnb : r.prog.hasBackrefs = false) (hlit : fl.literal = true → p ≠ []) (hnull : r.nullable = false)
    (input : List Nat) (hI : InputOKFor env fl.core env.lower input) (hlen : input.length < usizeMax)
    (limit : Nat) (hl : input.length + 1 ≤ limit) (toks : List (List Nat)) (more : Bool)
    (ht : tokenLoop (r.prog.matcher env.lower input) input limit (some 0) {} [] = .ok (toks, more)) :
    ∃ spans, SpansSpec (r.prog.ctx env.lower input) r.prog.op 0 spans ∧
      toks = Spec.pieces input 0 spans ∧ more = false := by
  obtain ⟨h1, h2⟩ := api_clean3m_scan_spans env p fs xsd fl r hf h hns hclean hcan hnb hlit hnull input hI hlen
  obtain ⟨t1, t2⟩ := C04.tokenize_spec _ _ input h2 {} trivial limit hl toks more ht
  exact ⟨_, h1, t1, t2⟩

/-! ### example: `(?:ab|c)*d` through `Regex.new Env.std` -/
section example_
open Rx.Clean3Api Rx.Clean2Api

theorem ex0_gate :
    (match Regex.new Env.std exPat0 [] false true with
     | .ok r => !r.nullable
     | _ => false) = true := by decide +kernel

/-- every scan of `(?:ab|c)*d` over scalar values sees a span list satisfying the specification -/
theorem ex0_scan (input : List Nat) (hsv : ScalarInput input) (hlen : input.length < usizeMax)
    (r : Regex) (h : Regex.new Env.std exPat0 [] false true = .ok r) :
    SpansSpec (r.prog.ctx Env.std.lower input) r.prog.op 0
      (C04.spanPairs (C04.spansOf (r.prog.matcher Env.std.lower input) input.length (input.length + 2) 0 {})) := by
  have hk := Clean3Api.ex_new.2
  have hg := ex0_gate
  rw [h] at hk hg
  simp only [Bool.and_eq_true, Bool.not_eq_true'] at hk hg
  obtain ⟨⟨⟨k1, k2⟩, k3⟩, _⟩ := hk
  exact (api_clean3m_scan_spans Env.std exPat0 [] false {} r rfl h ex_noSat0 k1 k2 k3
    (fun hl => by cases hl) hg input (inputOK_std_cs rfl hsv) hlen).1

/-- computed: "abdcdd" gives the spans (0,3), (3,5), (5,6), with the memo threaded -/
theorem ex0_computed :
    (match Regex.new Env.std exPat0 [] false true with
     | .ok r => C04.spanPairs (C04.spansOf (r.prog.matcher Env.std.lower [97, 98, 100, 99, 100, 100]) 6 8 0 {})
         == [(0, 3), (3, 5), (5, 6)]
     | _ => false) = true := by decide +kernel

end example_

end Rx.Clean3MemoScan
