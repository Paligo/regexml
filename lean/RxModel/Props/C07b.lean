/-
  Props/C07b — C07, acceptance half for WHOLE patterns of any size:
  every pattern that conforms to the XPath 3.1 / XSD 1.1 regular-expression grammar
  (Spec/Grammar: `Ast`, `render`, `ok`) is accepted by the compiler.

    parse_accepts    the top-level `parse_expr` call succeeds on `render a`, consumes all of it, and
                     the group counter ends at `groups a + 1`
    compile_accepts  hence `compileCore` returns a program, with `maxParens = groups a + 1`
    parse_sub_*      the generalised statements for sub-expressions at any position inside a larger
                     pattern (branch, `|`-tail, group, non-capturing group, terminal)

  Scope of `ok` = the whole grammar in the header of Spec/Grammar, both dialects (`c.fl.xsd`), all
  other flags arbitrary (flag `i` included: `C09.parseClass_renderG` holds for either value of it).
  Restrictions of the theorem, each visible as a hypothesis:
    * `ParserQuirkFree a`: every quantity in `{n}`, `{n,}`, `{n,m}` is at most 2^64 − 1.  The grammar
      has no such bound; the parser rejects `a{18446744073709551616}` (`quirk_bound_rejected`).
    * character classes are `C09.CExpr` with `C09.CExpr.ok`, i.e. exactly the class sub-grammar of
      Props/C09c (which documents its own leniencies, e.g. `[a-c-9]`, and requires the characters
      inside a class to be code points `< 0x110000`).
    * `fl.literal = false` in `compile_accepts` (with flag `q` nothing is parsed).
  Rejections and examples at the end of the file.
-/
import RxModel.Model.Compile
import RxModel.Spec.Grammar
import RxModel.Proofs.RejectLemmas
import RxModel.Proofs.CompileLemmas
import RxModel.Props.C09c
namespace Rx.C07b
open Rx Rx.Grammar

/-- PARSER DEVIATION (kept visible, not folded into `ok`): the grammar puts no upper bound on the
    quantities of `{n}`, `{n,}`, `{n,m}`; the parser rejects any quantity above `usize::MAX`
    = 2^64 − 1.  `ParserQuirkFree a` excludes such trees. -/
def ParserQuirkFree (a : Ast) : Prop := a.inLimit = true

instance (a : Ast) : Decidable (ParserQuirkFree a) := by unfold ParserQuirkFree; infer_instance

/-- MAIN THEOREM.  For a grammar-valid tree `a` whose rendering is the pattern, the top-level
    `parse_expr` (with the fuel `compileCore` gives it) succeeds, consumes the whole pattern, and
    has counted the capturing groups. -/
theorem parse_accepts (c : PC) (a : Ast) (hok : a.ok c = true)
    (hq : ParserQuirkFree a) (hpat : c.pat = a.render) :
    ∃ op s', parseExpr c (4 * c.pat.length + 16) {} true = .ok op s' ∧ s'.idx = c.pat.length ∧
      s'.parens = a.groups + 1 := by
  obtain ⟨op, s', h1, h2, h3, _⟩ :=
    parse_top_gen c a [] hok hq (by simpa using hpat) (.inl rfl)
  exact ⟨op, s', h1, by rw [h2, hpat], h3⟩

/-- … and the list of closed groups is `1 … groups a` in closing order (`closed`) -/
theorem parse_accepts_captures (c : PC) (a : Ast) (hok : a.ok c = true)
    (hq : ParserQuirkFree a) (hpat : c.pat = a.render) :
    ∃ op s', parseExpr c (4 * c.pat.length + 16) {} true = .ok op s' ∧
      s'.captures = a.closed 0 [] := by
  obtain ⟨op, s', h1, _, _, h4⟩ :=
    parse_top_gen c a [] hok hq (by simpa using hpat) (.inl rfl)
  exact ⟨op, s', h1, h4⟩

/-- `ReCompiler::compile` (after the flag and whitespace pre-passes) accepts every grammar-valid
    pattern, optimiser on or off, and records `groups a + 1` as the group count -/
theorem compile_accepts (env : Env) (fl : CFlags) (hlit : fl.literal = false) (a : Ast) (hok : a.okFor fl.xsd env = true)
    (hq : ParserQuirkFree a) (opt : Bool) :
    ∃ pr, compileCore env fl a.render opt = .ok pr ∧ pr.maxParens = a.groups + 1 := by
  obtain ⟨op, s', h1, h2, h3⟩ :=
    parse_accepts { pat := a.render, fl := fl, env := env } a hok hq rfl
  have hidx : (s'.idx != a.render.length) = false := by simpa using h2
  rw [compileCore_eq env fl _ opt hlit, h1]
  simp only [hidx, Bool.false_eq_true, if_false]
  cases opt with
  | true => exact ⟨_, rfl, by rw [MkProgram.maxParens]; exact h3⟩
  | false => exact ⟨_, rfl, h3⟩

/-- the same for `ReCompiler::compile` with its pre-passes, when neither `x` nor `q` is set -/
theorem compileProg_accepts (env : Env) (fl : Flags) (hlit : fl.literal = false)
    (hws : fl.allowWs = false) (a : Ast) (hok : a.okFor fl.xsd env = true) (hq : ParserQuirkFree a)
    (opt : Bool) : ∃ pr, compileProg env fl a.render opt = .ok pr ∧ pr.maxParens = a.groups + 1 := by
  have h := compile_accepts env fl.core hlit a hok hq opt
  simpa [compileProg, hlit, hws] using h

/-! ### sub-expressions at arbitrary positions

  `Acc x s k g cl'`: the parser call `x` started in state `s` succeeds, consumes `k` characters,
  opens `g` capturing groups and ends with `cl'` as the list of closed groups.  In every statement
  the parser is positioned (`s.idx`) somewhere inside a larger pattern whose text from there on is
  the rendering of the sub-tree followed by `rest`; `n` capturing groups have been opened
  (`s.parens = n + 1`) and `cl` are closed (`s.captures = cl`).  `f` is any fuel of at least twice
  the rendered length plus a constant — which `4 * c.len + 16` at the top guarantees all the way
  down, because each level of the recursion uses one unit and is entered only after consuming. -/

/-- a branch, followed by the end of the pattern, `)` or `|` -/
theorem parse_sub_branch (c : PC) (f : Nat) (b : Branch) (s : PS)
    (cur : Option Op) (rest : List Nat) (n : Nat) (cl : List Nat)
    (hok : b.ok c.fl.xsd c.env n cl = true) (hlim : b.inLimit = true)
    (hpat : c.pat.drop s.idx = b.render ++ rest) (hrest : FolB rest)
    (hp : s.parens = n + 1) (hc : s.captures = cl) (hf : 2 * b.render.length + 1 ≤ f) :
    Acc (parseBranch c f s cur) s b.render.length b.groups (b.closed n cl) := by
  by_cases hle : s.idx ≤ c.len
  · exact Runs.acc ⟨hpat, hle, hp, hc⟩
      ((parse_all c f).2.2.1 b s cur rest n cl hok hlim ⟨hpat, hle, hp, hc⟩ hrest hf)
  · -- a position beyond the end of the pattern: the text is empty, and so is the branch
    cases b with
    | nil =>
      obtain ⟨f', rfl⟩ : ∃ f', f = f' + 1 := ⟨f - 1, by omega⟩
      exact ⟨_, s, parseBranch_stop hpat hrest, rfl, rfl, hc⟩
    | cons a q b' =>
      obtain ⟨y, tl, hy, _⟩ := Atom.head_spec (Branch.ok_cons hok).1
      rw [Branch.render, hy] at hpat
      exact absurd (Nat.le_of_lt (PC.drop_cons hpat).1) hle

/-- `| r`, followed by the end of the pattern or `)` -/
theorem parse_sub_alternatives (c : PC) (f : Nat) (r : RegExp) (s : PS)
    (acc : List Op) (rest : List Nat) (n : Nat) (cl : List Nat)
    (hok : r.ok c.fl.xsd c.env n cl = true) (hlim : r.inLimit = true)
    (hpat : c.pat.drop s.idx = 124 :: (r.render ++ rest)) (hrest : FolR rest)
    (hp : s.parens = n + 1) (hc : s.captures = cl) (hf : 2 * r.render.length + 3 ≤ f) :
    Acc (parseBranches c f s acc) s (r.render.length + 1) r.groups (r.closed n cl) :=
  Runs.acc (T := 124 :: r.render) (At.of_cons hpat hp hc)
    ((parse_all c f).2.1 r s acc rest n cl hok hlim (At.of_cons hpat hp hc) hrest hf)

/-- a capturing group `( r )`: it gets number `n + 1` and is closed afterwards -/
theorem parse_sub_group (c : PC) (f : Nat) (r : RegExp) (s : PS)
    (rest : List Nat) (n : Nat) (cl : List Nat)
    (hok : r.ok c.fl.xsd c.env (n + 1) cl = true) (hlim : r.inLimit = true)
    (hpat : c.pat.drop s.idx = 40 :: (r.render ++ 41 :: rest))
    (hp : s.parens = n + 1) (hc : s.captures = cl) (hf : 2 * r.render.length + 2 ≤ f) :
    Acc (parseExpr c f s false) s (r.render.length + 2) (r.groups + 1)
      ((n + 1) :: r.closed (n + 1) cl) := by
  have := Runs.acc (T := 40 :: (r.render ++ [41])) (rest := rest) (by simpa using At.of_cons hpat hp hc)
    ((parse_all c f).1.1 r s rest n cl hok hlim (At.of_cons hpat hp hc) hf)
  simpa using this

/-- a non-capturing group `(?: r )` (XPath dialect) -/
theorem parse_sub_ncgroup (c : PC) (f : Nat) (r : RegExp) (s : PS)
    (rest : List Nat) (n : Nat) (cl : List Nat) (hx : c.fl.xsd = false)
    (hok : r.ok c.fl.xsd c.env n cl = true) (hlim : r.inLimit = true)
    (hpat : c.pat.drop s.idx = 40 :: 63 :: 58 :: (r.render ++ 41 :: rest))
    (hp : s.parens = n + 1) (hc : s.captures = cl) (hf : 2 * r.render.length + 2 ≤ f) :
    Acc (parseExpr c f s false) s (r.render.length + 4) r.groups (r.closed n cl) := by
  have := Runs.acc (T := 40 :: 63 :: 58 :: (r.render ++ [41])) (rest := rest)
    (by simpa using At.of_cons hpat hp hc)
    ((parse_all c f).1.2 r s rest n cl hx hok hlim (At.of_cons hpat hp hc) hf)
  simpa using this

/-- `parse_terminal` on any atom other than a character / single-character escape (those go to
    `parse_atom`, which may merge several pieces: `parse_sub_branch` covers them) -/
theorem parse_sub_terminal (c : PC) (f : Nat) (a : Atom) (s : PS)
    (rest : List Nat) (n : Nat) (cl : List Nat) (hch : a.isChar = false)
    (hok : a.ok c.fl.xsd c.env n cl = true) (hlim : a.inLimit = true)
    (hpat : c.pat.drop s.idx = a.render ++ rest) (hfol : a.followOk n rest = true)
    (hp : s.parens = n + 1) (hc : s.captures = cl) (hf : 2 * a.render.length ≤ f) :
    Acc (parseTerminal c f s) s a.render.length a.groups (a.closed n cl) := by
  obtain ⟨y, tl, hy, _⟩ := Atom.head_spec hok
  have hat : At c s (a.render ++ rest) n cl := by
    rw [hy] at hpat ⊢
    exact At.of_cons hpat hp hc
  exact Runs.acc hat ((parse_all c f).2.2.2 a s rest n cl hch hok hlim hat hfol hf)

/-! ### rejections

  Each malformed shape below makes `compileCore` return `Error::Syntax`.  The shapes are the rows of
  `Grammar.Bad` / `Grammar.BadQ` (Proofs/RejectLemmas), standing at the start of the pattern or behind
  `b|` for a well-formed branch `b`.  (Only a stray `)` and a `|`-prefix are handled after ANY
  well-formed prefix of the right kind, because an error inside a longer pattern is reached through
  `parse_atom`'s look-ahead as well and that path is not characterised here.) -/

/-- unbalanced `)`: a well-formed regExp followed by `)` (and anything) -/
theorem reject_unbalanced_close (env : Env) (fl : CFlags) (hlit : fl.literal = false) (a : Ast) (hok : a.okFor fl.xsd env = true) (hq : ParserQuirkFree a)
    (tl : List Nat) (opt : Bool) : compileCore env fl (a.render ++ 41 :: tl) opt = .err .syntax := by
  obtain ⟨op, s', h1, h2, _, _⟩ :=
    parse_top_gen { pat := a.render ++ 41 :: tl, fl := fl, env := env } a (41 :: tl) hok hq rfl
      (.inr ⟨tl, rfl⟩)
  rw [compileCore_eq env fl _ opt hlit, h1]
  have : (s'.idx != (a.render ++ 41 :: tl).length) = true := by
    rw [h2]; simp
  simp only [this, if_true]

/-- unbalanced `(`: `( r` with the pattern ending where the `)` should be -/
theorem reject_unclosed_group (env : Env) (fl : CFlags) (hlit : fl.literal = false) (r : RegExp) (hok : r.ok fl.xsd env 1 [] = true)
    (hq : r.inLimit = true) (opt : Bool) : compileCore env fl (40 :: r.render) opt = .err .syntax :=
  Bad.compile hlit (.unclosed hok hq) opt

/-- … and `(?: r` (XPath dialect) -/
theorem reject_unclosed_ncgroup (env : Env) (fl : CFlags) (hlit : fl.literal = false) (hx : fl.xsd = false) (r : RegExp)
    (hok : r.ok fl.xsd env 0 [] = true) (hq : r.inLimit = true) (opt : Bool) :
    compileCore env fl (40 :: 63 :: 58 :: r.render) opt = .err .syntax :=
  Bad.compile hlit (.unclosedNc hx hok hq) opt

/-- a quantifier with nothing before it, at the start of the pattern: `*a`, `?`, `+x`, `{2}` -/
theorem reject_leading_quantifier (env : Env) (fl : CFlags) (hlit : fl.literal = false) (q : Nat)
    (tl : List Nat) (hq : isQuantChar q = true) (opt : Bool) :
    compileCore env fl (q :: tl) opt = .err .syntax :=
  Bad.compile hlit (.quant hq) opt

/-- a quantifier directly after `|`: `|*`, `ab|+c` -/
theorem reject_quantifier_after_bar (env : Env) (fl : CFlags) (hlit : fl.literal = false) (b : Branch) (hok : b.ok fl.xsd env 0 [] = true)
    (hlim : b.inLimit = true) (q : Nat) (tl : List Nat) (hq : isQuantChar q = true) (opt : Bool) :
    compileCore env fl (b.render ++ 124 :: q :: tl) opt = .err .syntax :=
  Bad.compile_bar hlit hok hlim (.quant hq) opt

/-- a quantifier directly after `(`: `(*)`, `(+a)`, `(?)` — everything but `(?:` -/
theorem reject_quantifier_after_paren (env : Env) (fl : CFlags) (hlit : fl.literal = false) (q : Nat)
    (tl : List Nat) (hq : isQuantChar q = true) (hnc : ∀ tl', q :: tl ≠ 63 :: 58 :: tl')
    (opt : Bool) : compileCore env fl (40 :: q :: tl) opt = .err .syntax :=
  Bad.compile hlit (.inGroup (.quant hq) hnc) opt

/-- `{n,m}` with `n > m` (after a normal character): `a{3,2}` -/
theorem reject_reversed_bounds (env : Env) (fl : CFlags) (hlit : fl.literal = false) (x : Nat)
    (n m tl : List Nat) (hx : normalChar fl.xsd x = true) (hn : numeral n = true)
    (hm : numeral m = true) (hnl : Spec.digitsVal n ≤ usizeMax) (hml : Spec.digitsVal m ≤ usizeMax)
    (hgt : Spec.digitsVal m < Spec.digitsVal n) (opt : Bool) :
    compileCore env fl (x :: 123 :: (n ++ 44 :: (m ++ 125 :: tl))) opt = .err .syntax :=
  Bad.compile hlit (.quantifier hx (.reversed hn hm hnl hml hgt)) opt

/-- THE PARSER DEVIATION, as a theorem: a quantity of 2^64 or more is a syntax error although
    the grammar allows it — e.g. `a{18446744073709551616}` -/
theorem quirk_bound_rejected (env : Env) (fl : CFlags) (hlit : fl.literal = false) (x : Nat)
    (n tl : List Nat) (hx : normalChar fl.xsd x = true) (hn : numeral n = true)
    (hbig : Spec.digitsVal n > usizeMax) (opt : Bool) :
    compileCore env fl (x :: 123 :: (n ++ 125 :: tl)) opt = .err .syntax :=
  Bad.compile hlit (.quantifier hx (.overflow hn hbig)) opt

/-- the reluctant marker in the XSD dialect: `a*?`, `a+?`, `a??` -/
theorem reject_xsd_reluctant (env : Env) (fl : CFlags) (hlit : fl.literal = false)
    (hxsd : fl.xsd = true) (x y : Nat) (tl : List Nat) (hx : normalChar fl.xsd x = true)
    (hy : y = 63 ∨ y = 42 ∨ y = 43) (opt : Bool) :
    compileCore env fl (x :: y :: 63 :: tl) opt = .err .syntax :=
  Bad.compile hlit (.quantifier hx (.reluctant hxsd hy)) opt

/-- `(?:` in the XSD dialect -/
theorem reject_xsd_noncapturing (env : Env) (fl : CFlags) (hlit : fl.literal = false)
    (hxsd : fl.xsd = true) (tl : List Nat) (opt : Bool) :
    compileCore env fl (40 :: 63 :: 58 :: tl) opt = .err .syntax :=
  Bad.compile hlit (.ncXsd hxsd) opt

/-- a dangling backslash: the pattern `\`, and `b|\` after a well-formed branch -/
theorem reject_dangling_backslash (env : Env) (fl : CFlags) (hlit : fl.literal = false) (opt : Bool) :
    compileCore env fl [92] opt = .err .syntax :=
  Bad.compile hlit .dangling opt

theorem reject_dangling_backslash_after_bar (env : Env) (fl : CFlags) (hlit : fl.literal = false) (b : Branch) (hok : b.ok fl.xsd env 0 [] = true)
    (hlim : b.inLimit = true) (opt : Bool) :
    compileCore env fl (b.render ++ [124, 92]) opt = .err .syntax :=
  Bad.compile_bar hlit hok hlim .dangling opt

/-- a back-reference where no group exists (start of the pattern): `\1`, `\2x` -/
theorem reject_backref_no_group (env : Env) (fl : CFlags) (hlit : fl.literal = false) (d : Nat)
    (tl : List Nat) (hd : 49 ≤ d ∧ d ≤ 57) (opt : Bool) :
    compileCore env fl (92 :: d :: tl) opt = .err .syntax :=
  Bad.compile hlit (.backref hd) opt

/-- … and after `b|` when the branch `b` has no capturing group: `ab|\1` -/
theorem reject_backref_no_group_after_bar (env : Env) (fl : CFlags) (hlit : fl.literal = false) (b : Branch) (hok : b.ok fl.xsd env 0 [] = true)
    (hlim : b.inLimit = true) (hng : b.closed 0 [] = []) (d : Nat) (tl : List Nat)
    (hd : 49 ≤ d ∧ d ≤ 57) (opt : Bool) :
    compileCore env fl (b.render ++ 124 :: 92 :: d :: tl) opt = .err .syntax :=
  Bad.compile_bar hlit hok hlim (by rw [hng]; exact .backref hd) opt

/-! ### the side tables of the specification -/

/-- `closed` is what it is meant to be: after a whole pattern every group `1 … groups a` is closed;
    in general the groups closed after a sub-tree are those closed before it plus its own -/
theorem closed_spec (a : Ast) (x : Nat) : x ∈ a.closed 0 [] ↔ (1 ≤ x ∧ x ≤ a.groups) := by
  rw [RegExp.mem_closed x a 0 []]
  simp only [List.not_mem_nil, false_or, Nat.zero_add]
  omega

theorem closed_spec_branch (b : Branch) (n : Nat) (cl : List Nat) (x : Nat) :
    x ∈ b.closed n cl ↔ (x ∈ cl ∨ (n < x ∧ x ≤ n + b.groups)) := Branch.mem_closed x b n cl

/-! ### non-vacuity: concrete trees against the small environment `C09.envT`
    (digits `0-9`, word characters, categories `L` and `Nd`, block `Basic`) -/

/-- group count of a successful compilation, `none` for an error -/
def parensOf (r : Out Prog) : Option Nat :=
  match r with
  | .ok pr => some pr.maxParens
  | _ => none

def isSyntaxErr (r : Out Prog) : Bool :=
  match r with
  | .err .syntax => true
  | _ => false

/-- `(a(b|))*?\1`: nested groups, an alternation with an empty branch, a quantified group with the
    reluctant marker, a back-reference to the (closed) outer group -/
def ex1 : Ast :=
  .one (.cons (.group (.one (.cons (.chr 97) none
        (.cons (.group (.alt (.cons (.chr 98) none .nil) (.one .nil))) none .nil))))
      (some ⟨.star, true⟩) (.cons (.backref [49]) none .nil))

example : ex1.render = cps "(a(b|))*?\\1" := by decide +kernel
example : ex1.okFor false C09.envT = true := by decide +kernel
example : ParserQuirkFree ex1 := by decide +kernel
example : ex1.groups = 2 ∧ ex1.closed 0 [] = [1, 2] := by decide +kernel
example : parensOf (compileCore C09.envT {} ex1.render true) = some 3 := by decide +kernel
example : parensOf (compileCore C09.envT {} ex1.render false) = some 3 := by decide +kernel
/-- the theorem applies (all hypotheses are met), also with flags `i`, `s`, `m` -/
example : ∃ pr, compileCore C09.envT {} ex1.render true = .ok pr ∧ pr.maxParens = 3 :=
  compile_accepts C09.envT {} rfl ex1 (by decide +kernel) (by decide +kernel) true
example : ∃ pr, compileCore C09.envT { caseBlind := true, singleLine := true, multiLine := true }
    ex1.render true = .ok pr ∧ pr.maxParens = 3 :=
  compile_accepts C09.envT _ rfl ex1 (by decide +kernel) (by decide +kernel) true
/-- it is not valid XSD (reluctant marker, back-reference) -/
example : ex1.okFor true C09.envT = false := by decide +kernel
example : isSyntaxErr (compileCore C09.envT { xsd := true } ex1.render true) = true := by decide +kernel

/-- `[a-z-[aeiou]]+\d{2,3}|^x$|`: class with subtraction, class escape, `{n,m}`, anchors, an empty
    last branch -/
def ex2 : Ast :=
  .alt (.cons (.cls C09.exVowels) (some ⟨.plus, false⟩)
          (.cons (.clsEsc 100) (some ⟨.range [50] [51], false⟩) .nil))
    (.alt (.cons .bol none (.cons (.chr 120) none (.cons .eol none .nil))) (.one .nil))

example : ex2.render = cps "[a-z-[aeiou]]+\\d{2,3}|^x$|" := by decide +kernel
example : ex2.okFor false C09.envT = true := by decide +kernel
example : parensOf (compileCore C09.envT {} ex2.render true) = some 1 := by decide +kernel
example : ∃ pr, compileCore C09.envT { caseBlind := true } ex2.render true = .ok pr ∧ pr.maxParens = 1 :=
  compile_accepts C09.envT _ rfl ex2 (by decide +kernel) (by decide +kernel) true

/-- `(?:ab|\p{L}+?)\.\$\P{Nd}{3,}`: non-capturing group, category escapes, single-character escapes
    (`\$` is XPath only), a run of characters that `parse_atom` merges -/
def ex3 : Ast :=
  .one (.cons (.ncgroup (.alt (.cons (.chr 97) none (.cons (.chr 98) none .nil))
                  (.one (.cons (.prop true [76]) (some ⟨.plus, true⟩) .nil)))) none
      (.cons (.esc 46) none (.cons (.esc 36) none
        (.cons (.prop false [78, 100]) (some ⟨.atLeast [51], false⟩) .nil))))

example : ex3.render = cps "(?:ab|\\p{L}+?)\\.\\$\\P{Nd}{3,}" := by decide +kernel
example : ex3.okFor false C09.envT = true ∧ ex3.okFor true C09.envT = false := by decide +kernel
example : parensOf (compileCore C09.envT {} ex3.render true) = some 1 := by decide +kernel

/-- XSD dialect: `^(a|b)*$` — here `^` and `$` are ordinary characters -/
def ex4 : Ast :=
  .one (.cons (.chr 94) none
    (.cons (.group (.alt (.cons (.chr 97) none .nil) (.one (.cons (.chr 98) none .nil))))
      (some ⟨.star, false⟩) (.cons (.chr 36) none .nil)))

example : ex4.render = cps "^(a|b)*$" := by decide +kernel
example : ex4.okFor true C09.envT = true ∧ ex4.okFor false C09.envT = false := by decide +kernel
example : parensOf (compileCore C09.envT { xsd := true } ex4.render true) = some 2 := by decide +kernel
example : ∃ pr, compileCore C09.envT { xsd := true } ex4.render true = .ok pr ∧ pr.maxParens = 2 :=
  compile_accepts C09.envT _ rfl ex4 (by decide +kernel) (by decide +kernel) true

/-- the multi-digit rule.  `(a)\10`: one group, so `\10` is `\1` followed by the character `0`. -/
def ex5 : Ast :=
  .one (.cons (.group (.one (.cons (.chr 97) none .nil))) none
    (.cons (.backref [49]) none (.cons (.chr 48) none .nil)))

example : ex5.render = cps "(a)\\10" := by decide +kernel
example : ex5.okFor false C09.envT = true := by decide +kernel
example : parensOf (compileCore C09.envT {} ex5.render true) = some 2 := by decide +kernel

/-- ten groups `(a)`: then `\10` IS the back-reference to group 10 … -/
def tenGroups : Branch → Branch :=
  fun tail => (List.range 10).foldr (fun _ b => .cons (.group (.one (.cons (.chr 97) none .nil))) none b) tail
def ex6 : Ast := .one (tenGroups (.cons (.backref [49, 48]) none .nil))
/-- … and reading the same text as `\1` followed by `0` is not a valid tree (`followOk` fails) -/
def ex6bad : Ast := .one (tenGroups (.cons (.backref [49]) none (.cons (.chr 48) none .nil)))

example : ex6.render = cps "(a)(a)(a)(a)(a)(a)(a)(a)(a)(a)\\10" ∧ ex6bad.render = ex6.render := by decide +kernel
example : ex6.okFor false C09.envT = true ∧ ex6bad.okFor false C09.envT = false := by decide +kernel
example : parensOf (compileCore C09.envT {} ex6.render true) = some 11 := by decide +kernel

/-- back-reference to a group that is still open: `(a\1)` is not well formed, and rejected -/
def ex7bad : Ast :=
  .one (.cons (.group (.one (.cons (.chr 97) none (.cons (.backref [49]) none .nil)))) none .nil)
example : ex7bad.okFor false C09.envT = false := by decide +kernel
example : isSyntaxErr (compileCore C09.envT {} ex7bad.render true) = true := by decide +kernel

/-- the parser deviation: `a{18446744073709551616}` is grammar-valid, not `ParserQuirkFree`, and
    rejected; one less is accepted -/
def exBig : Ast := .one (.cons (.chr 97) (some ⟨.exact (cps "18446744073709551616"), false⟩) .nil)
def exMax : Ast := .one (.cons (.chr 97) (some ⟨.exact (cps "18446744073709551615"), false⟩) .nil)
example : exBig.okFor false C09.envT = true ∧ ¬ ParserQuirkFree exBig := by decide +kernel
example : isSyntaxErr (compileCore C09.envT {} exBig.render true) = true := by decide +kernel
example : compileCore C09.envT {} exBig.render true = .err .syntax :=
  quirk_bound_rejected C09.envT {} rfl 97 (cps "18446744073709551616") [] (by decide) (by decide)
    (by decide) true
example : exMax.okFor false C09.envT = true ∧ ParserQuirkFree exMax := by decide +kernel
example : parensOf (compileCore C09.envT {} exMax.render true) = some 1 := by decide +kernel

/-- the rejection theorems on concrete patterns: `a)`, `(a`, `*a`, `|*`, `(*)`, `a{3,2}`, `\`, `\1` -/
example : isSyntaxErr (compileCore C09.envT {} (cps "a)") true) = true ∧
    isSyntaxErr (compileCore C09.envT {} (cps "(a") true) = true ∧
    isSyntaxErr (compileCore C09.envT {} (cps "*a") true) = true ∧
    isSyntaxErr (compileCore C09.envT {} (cps "|*") true) = true ∧
    isSyntaxErr (compileCore C09.envT {} (cps "(*)") true) = true ∧
    isSyntaxErr (compileCore C09.envT {} (cps "a{3,2}") true) = true ∧
    isSyntaxErr (compileCore C09.envT {} (cps "\\") true) = true ∧
    isSyntaxErr (compileCore C09.envT {} (cps "\\1") true) = true := by decide +kernel
example : compileCore C09.envT {} (cps "(*)") true = .err .syntax :=
  reject_quantifier_after_paren C09.envT {} rfl 42 [41] (by decide +kernel) (by intro tl h; cases h) true
example : compileCore C09.envT {} (cps "ab|+c") true = .err .syntax :=
  reject_quantifier_after_bar C09.envT {} rfl (.cons (.chr 97) none (.cons (.chr 98) none .nil))
    (by decide +kernel) (by decide +kernel) 43 [99] (by decide +kernel) true

/-- shapes the parser accepts in agreement with the grammar (no deviation): an empty group `()`,
    an empty branch, a quantified anchor `^*`, `$+` -/
example : parensOf (compileCore C09.envT {} (cps "()") true) = some 2 ∧
    parensOf (compileCore C09.envT {} (cps "a||b") true) = some 1 ∧
    parensOf (compileCore C09.envT {} (cps "^*a$+") true) = some 1 := by decide +kernel
/-- … and shapes it rejects in agreement with the XSD 1.1 grammar: a literal `{`, `}` or `]`, adjacent
    quantifiers -/
example : isSyntaxErr (compileCore C09.envT {} (cps "a{") true) = true ∧
    isSyntaxErr (compileCore C09.envT {} (cps "a}") true) = true ∧
    isSyntaxErr (compileCore C09.envT {} (cps "a]") true) = true ∧
    isSyntaxErr (compileCore C09.envT {} (cps "a**") true) = true ∧
    isSyntaxErr (compileCore C09.envT {} (cps "a*??") true) = true := by decide +kernel

end Rx.C07b
