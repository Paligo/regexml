/-
  Props/ApiComplete — properties C16, C04, C06 and C20 at the level of the REAL API functions
  (`is_match`, `replace_all`, `tokenize`, `analyze` of Model/Api) on the enlarged clean fragment
  (Spec/Enum2; Props/Clean2Api).

  `Clean2Regex env fl r`: `r` was returned by `Regex::new` (optimiser on) and satisfies the hypotheses of
  the `api_clean2_*` theorems: `Api.NoSat`, the decidable `cleanProg2` / `clsCanonB` of the compiled tree,
  `r.prog.hasBackrefs = false`, "not the empty pattern under flag q".
  `GoodInput env fl input`: the data hypotheses `InputOKFor` (vacuous on the case tables for a
  case-sensitive regex) and `input.length < usize::MAX`.

    1 (C16)  `api_gate_iff`: the bit stored by the constructor is "the regex SEMANTICALLY matches the empty
             string"; `c16_rejected`, `c16_only_those` (as iff's: `replaceAll_gate_iff`, …), `c16_no_empty_span`
    2 (C04)  `spans`: the STATE-FREE span list (least start with a match, first end of the priority order
             `enum2`, continue from that end).  `scan_sees_spans`: the span sequence the three scan loops
             compute with the concrete matcher IS this list.  `api_replace_spec` (+ `_plain`, `_dollar0`),
             `api_tokenize_spec`, `api_analyze_spec` (+ `api_analyze_plain`, `api_analyze_concat` for
             programs without capturing groups), the bounds.
    3 (C06)  totality: `api_isMatch_total`, `api_replace_total`, `api_tokenize_total`, `api_analyze_total`
    4 (C20)  `api_same_language`: same `is_match`, same gate bit, same start of the next match from every
             position; `api_same_spans` when the `enum2` heads agree.  "The same span START
             list" is FALSE (`api_same_start_list_false`), and so is end equality (`ends_differ`).
    5        `a*b(c|d)+e` through `Regex.new Env.std`, on "xaabcde-bce".
-/
import RxModel.Proofs.RegexOKNew
import RxModel.Props.Clean2Api
import RxModel.Proofs.GroupTree
import RxModel.Proofs.OpEq
namespace Rx.ApiComplete
open Rx Rx.SearchComplete Rx.Spec Rx.Clean2Api
open Rx.C08 (noEmptyAtoms)

open Rx.ApiGeneric (HeadFn FindOK RegexOK)

@[reducible] def headEnum2 : HeadFn := ⟨fun ctx op j => (enum2 ctx op j).head?⟩

attribute [local instance] headEnum2

theorem spansFrom_eq (ctx : Ctx) (op : Op) : ∀ f pos,
    spansFrom ctx op f pos = ApiGeneric.spansFrom ctx op f pos
  | 0, _ => rfl
  | f+1, pos => by
    unfold spansFrom ApiGeneric.spansFrom
    show (if pos < ctx.len then
        (match ApiGeneric.firstSpan ctx op pos with
          | some (a, b) => (a, b) :: spansFrom ctx op f b
          | none => [])
      else []) = _
    cases ApiGeneric.firstSpan ctx op pos with
    | none => rfl
    | some ab => simp only [spansFrom_eq ctx op f]

/-! ## the bundles -/

/-- `r` is what `Regex::new env p fs xsd` (optimiser on) returned, and satisfies the hypotheses of the
    `api_clean2_*` theorems of Props/Clean2Api -/
structure Clean2New (env : Env) (p fs : List Nat) (xsd : Bool) (fl : Flags) (r : Regex) : Prop where
  hf : parseFlags fs xsd = some fl
  hnew : Regex.new env p fs xsd true = .ok r
  hns : Api.NoSat env fl p
  hclean : cleanProg2 env fl.caseBlind fl.multiLine r.prog.op = true
  hcan : clsCanonB r.prog.op = true
  hnb : r.prog.hasBackrefs = false
  hlit : fl.literal = true → p ≠ []

def Clean2Regex (env : Env) (fl : Flags) (r : Regex) : Prop := ∃ p fs xsd, Clean2New env p fs xsd fl r

/-- the one fact of the fragment (`clean2_progOK`) is all the API contract asks for -/
theorem Clean2Regex.ok {env : Env} {fl : Flags} {r : Regex} (R : Clean2Regex env fl r) : RegexOK env fl r := by
  obtain ⟨p, fs, xsd, N⟩ := R
  refine ApiGeneric.RegexOK.of_new (E := enum2) N.hf N.hnew N.hns N.hnb N.hlit (fun {input} G => ?_)
  obtain ⟨pat, op, mp, heq, hc, hw, hne, hca, _⟩ :=
    new_clean2 env p fs xsd fl r N.hf N.hnew N.hns N.hclean N.hcan N.hnb N.hlit
  rw [heq]
  exact (clean2_progOK env pat op mp fl.core env.lower input G.ok hc hw hne hca G.len).tree

theorem Clean2Regex.literal {env : Env} {fl : Flags} {r : Regex} (R : Clean2Regex env fl r) :
    r.prog.literal = fl.literal :=
  R.ok.literal

theorem Clean2Regex.findOK {env : Env} {fl : Flags} {r : Regex} (R : Clean2Regex env fl r)
    (hnull : r.nullable = false) {input : List Nat} (G : GoodInput env fl input) :
    FindOK (r.prog.ctx env.lower input) r.prog :=
  R.ok.findOK hnull G

theorem Clean2Regex.isMatch_iff {env : Env} {fl : Flags} {r : Regex} (R : Clean2Regex env fl r)
    {input : List Nat} (G : GoodInput env fl input) :
    (r.prog.isMatch env.lower input = .ok true ↔
      ∃ j q, j ≤ input.length ∧ OpR (r.prog.ctx env.lower input) r.prog.op j q) ∧
    ((¬ ∃ j q, j ≤ input.length ∧ OpR (r.prog.ctx env.lower input) r.prog.op j q) →
      r.prog.isMatch env.lower input = .ok false) :=
  R.ok.isMatch_iff G

/-! ## 1. C16 — regexes that match the empty string are rejected up front, and only those -/

/-- the gate bit is SEMANTIC: `r.nullable` iff the empty string is in the language of the program -/
theorem api_gate_iff {env : Env} {fl : Flags} {r : Regex} (R : Clean2Regex env fl r)
    (G0 : GoodInput env fl []) :
    r.nullable = true ↔ ∃ q, OpR (r.prog.ctx env.lower []) r.prog.op 0 q :=
  R.ok.gate_iff G0

/-- … in the form "matches the empty string": a zero-length member AT 0 of the empty input -/
theorem api_gate_iff_empty {env : Env} {fl : Flags} {r : Regex} (R : Clean2Regex env fl r)
    (G0 : GoodInput env fl []) :
    r.nullable = true ↔ OpR (r.prog.ctx env.lower []) r.prog.op 0 0 :=
  R.ok.gate_iff_empty G0

/-- C16, first sentence: a regex that matches the empty string is rejected by `replace_all`, `analyze`
    and (on a non-empty input) `tokenize` with `MatchesEmptyString` -/
theorem c16_rejected {env : Env} {fl : Flags} {r : Regex} (R : Clean2Regex env fl r) (G0 : GoodInput env fl [])
    (hempty : ∃ q, OpR (r.prog.ctx env.lower []) r.prog.op 0 q)
    (lower : Nat → Nat) (input repl : List Nat) (limit : Nat) :
    r.replaceAll lower input repl = .err .matchesEmptyString ∧
    r.analyze lower input limit = .err .matchesEmptyString ∧
    (input ≠ [] → r.tokenize lower input limit = .err .matchesEmptyString) ∧
    r.tokenize lower [] limit = .ok ([], false) :=
  R.ok.rejected G0 hempty lower input repl limit

/-- C16, second sentence ("and only those"), as equivalences: the error is returned EXACTLY when the
    regex matches the empty string -/
theorem replaceAll_gate_iff {env : Env} {fl : Flags} {r : Regex} (R : Clean2Regex env fl r)
    (G0 : GoodInput env fl []) (lower : Nat → Nat) (input repl : List Nat) :
    r.replaceAll lower input repl = .err .matchesEmptyString ↔
      ∃ q, OpR (r.prog.ctx env.lower []) r.prog.op 0 q :=
  R.ok.replaceAll_gate_iff G0 lower input repl

theorem analyze_gate_iff {env : Env} {fl : Flags} {r : Regex} (R : Clean2Regex env fl r)
    (G0 : GoodInput env fl []) (lower : Nat → Nat) (input : List Nat) (limit : Nat) :
    r.analyze lower input limit = .err .matchesEmptyString ↔
      ∃ q, OpR (r.prog.ctx env.lower []) r.prog.op 0 q :=
  R.ok.analyze_gate_iff G0 lower input limit

theorem tokenize_gate_iff {env : Env} {fl : Flags} {r : Regex} (R : Clean2Regex env fl r)
    (G0 : GoodInput env fl []) (lower : Nat → Nat) (input : List Nat) (limit : Nat) (hne : input ≠ []) :
    r.tokenize lower input limit = .err .matchesEmptyString ↔
      ∃ q, OpR (r.prog.ctx env.lower []) r.prog.op 0 q :=
  R.ok.tokenize_gate_iff G0 lower input limit hne

theorem c16_only_those {env : Env} {fl : Flags} {r : Regex} (R : Clean2Regex env fl r) (G0 : GoodInput env fl [])
    (hnot : ¬ ∃ q, OpR (r.prog.ctx env.lower []) r.prog.op 0 q)
    (lower : Nat → Nat) (input repl : List Nat) (limit : Nat) :
    r.replaceAll lower input repl ≠ .err .matchesEmptyString ∧
    r.analyze lower input limit ≠ .err .matchesEmptyString ∧
    r.tokenize lower input limit ≠ .err .matchesEmptyString :=
  R.ok.only_those G0 hnot lower input repl limit

/-! ## 2. C04 — the three APIs partition the input consistently -/

/-- THE span list of a regex on an input, state-free: from position 0, repeatedly the least start with
    a match and the first end of the priority order from it (`firstSpan`), continuing from that end -/
def spans (r : Regex) (lower : Nat → Nat) (input : List Nat) : List (Nat × Nat) :=
  spansFrom (r.prog.ctx lower input) r.prog.op (input.length + 2) 0

theorem spans_eq (r : Regex) (lower : Nat → Nat) (input : List Nat) :
    spans r lower input = ApiGeneric.spansFrom (r.prog.ctx lower input) r.prog.op (input.length + 2) 0 :=
  spansFrom_eq _ _ _ _

theorem firstSpan_spec (ctx : Ctx) (op : Op) (pos j n : Nat) (h : firstSpan ctx op pos = some (j, n)) :
    pos ≤ j ∧ j ≤ ctx.len ∧ (enum2 ctx op j).head? = some n ∧
    ∀ k, pos ≤ k → k < j → (enum2 ctx op k).head? = none :=
  ApiGeneric.firstSpan_hd ctx op pos j n h

/-- … and in terms of the language: a member `[j, n)`, and no member starts in `[pos, j)` -/
theorem firstSpan_sem {env : Env} {fl : Flags} {r : Regex} (R : Clean2Regex env fl r)
    (hnull : r.nullable = false) {input : List Nat} (G : GoodInput env fl input)
    (pos j n : Nat) (hpos : pos ≤ input.length)
    (h : firstSpan (r.prog.ctx env.lower input) r.prog.op pos = some (j, n)) :
    OpR (r.prog.ctx env.lower input) r.prog.op j n ∧ j < n ∧
    ∀ k q, pos ≤ k → k < j → ¬ OpR (r.prog.ctx env.lower input) r.prog.op k q :=
  (R.findOK hnull G).span_sem pos j n hpos h

/-- the list is strictly left to right, its spans are non-empty and inside the input -/
theorem spans_ordered {env : Env} {fl : Flags} {r : Regex} (R : Clean2Regex env fl r)
    (hnull : r.nullable = false) {input : List Nat} (G : GoodInput env fl input) :
    C04.Ordered input.length 0 (spans r env.lower input) :=
  (spans_eq r env.lower input).symm ▸ (R.findOK hnull G).spans_ordered

/-- C16, third sentence: a regex that does not match the empty string never reports an empty span -/
theorem c16_no_empty_span {env : Env} {fl : Flags} {r : Regex} (R : Clean2Regex env fl r)
    (hnull : r.nullable = false) {input : List Nat} (G : GoodInput env fl input) :
    (∀ x ∈ spans r env.lower input, x.1 < x.2 ∧ x.2 ≤ input.length) ∧
    (∀ pos st st', pos ≤ input.length → st.panic = none →
      matchesFrom (r.prog.ctx env.lower input) r.prog pos st = (true, st') →
      ∃ j n, getParenStart st' 0 = some j ∧ getParenEnd st' 0 = some n ∧ pos ≤ j ∧ j < n ∧ n ≤ input.length) :=
  ⟨(spans_eq r env.lower input).symm ▸ (R.findOK hnull G).no_empty_span.1, fun pos st st' hpos hst hm =>
    (R.findOK hnull G).no_empty_span.2 pos st st' hpos hst trivial hm⟩

/-- **the scan sees exactly the semantic spans**: the span sequence `C04.spansOf` that the three scan
    loops compute with the concrete, stateful matcher is the state-free list `spans` -/
theorem scan_sees_spans {env : Env} {fl : Flags} {r : Regex} (R : Clean2Regex env fl r)
    (hnull : r.nullable = false) {input : List Nat} (G : GoodInput env fl input) :
    C04.spanPairs (C04.spansOf (r.prog.matcher env.lower input) input.length (input.length + 2) 0 {}) =
      spans r env.lower input :=
  (spans_eq r env.lower input).symm ▸ (R.findOK hnull G).scan_spans

/-- the matcher satisfies the hypothesis of every theorem of Props/C04 -/
theorem api_goodFind {env : Env} {fl : Flags} {r : Regex} (R : Clean2Regex env fl r)
    (hnull : r.nullable = false) {input : List Nat} (G : GoodInput env fl input) :
    C04.GoodFind (r.prog.matcher env.lower input) input.length (fun st => st.panic = none) :=
  (R.findOK hnull G).goodFind

/-! ### (a) replace -/

/-- `replace_all` with a well-formed replacement that refers to no group but `$0` (`Dep0`; decidable
    sufficient condition `dollar0Only`): the call SUCCEEDS and returns the input with every span of
    `spans` replaced by the expansion of the replacement for that span -/
theorem api_replace_spec {env : Env} {fl : Flags} {r : Regex} (R : Clean2Regex env fl r)
    (hnull : r.nullable = false) {input : List Nat} (G : GoodInput env fl input) (repl : List Nat)
    (hd : Dep0 (r.prog.maxParens - 1) repl) :
    r.replaceAll env.lower input repl =
      .ok (replaced input 0 ((spans r env.lower input).map
        (fun x => (x.1, x.2, replText r.prog input repl x.1 x.2)))) :=
  (spans_eq r env.lower input).symm ▸ (R.findOK hnull G).replaceAll_spec hnull R.ok.maxParens repl hd

/-- a replacement without `$` and `\`: the pieces between the spans, joined by it -/
theorem api_replace_plain {env : Env} {fl : Flags} {r : Regex} (R : Clean2Regex env fl r)
    (hnull : r.nullable = false) {input : List Nat} (G : GoodInput env fl input) (repl : List Nat)
    (hp : plainRepl repl = true) :
    r.replaceAll env.lower input repl =
      .ok (joinWith repl (pieces input 0 (spans r env.lower input))) :=
  (spans_eq r env.lower input).symm ▸ (R.findOK hnull G).replaceAll_plain hnull R.ok.maxParens repl hp

/-- `$0` (without flag q): the input comes back unchanged -/
theorem api_replace_dollar0 {env : Env} {fl : Flags} {r : Regex} (R : Clean2Regex env fl r)
    (hnull : r.nullable = false) {input : List Nat} (G : GoodInput env fl input)
    (hlit : fl.literal = false) :
    r.replaceAll env.lower input [36, 48] = .ok input :=
  (R.findOK hnull G).replaceAll_dollar0 hnull R.ok.maxParens (R.literal.trans hlit)

/-! ### (b) tokenize -/

/-- `tokenize` (pulled to exhaustion): exactly the pieces between consecutive spans — including empty
    leading, trailing and adjacent pieces — and then the iterator is exhausted -/
theorem api_tokenize_spec {env : Env} {fl : Flags} {r : Regex} (R : Clean2Regex env fl r)
    (hnull : r.nullable = false) {input : List Nat} (G : GoodInput env fl input) (hne : input ≠ [])
    (limit : Nat) (hl : input.length + 1 ≤ limit) :
    r.tokenize env.lower input limit = .ok (pieces input 0 (spans r env.lower input), false) :=
  (spans_eq r env.lower input).symm ▸ (R.findOK hnull G).tokenize_spec hnull hne limit hl

theorem api_tokenize_count {env : Env} {fl : Flags} {r : Regex} (R : Clean2Regex env fl r)
    (hnull : r.nullable = false) {input : List Nat} (G : GoodInput env fl input) :
    (pieces input 0 (spans r env.lower input)).length = (spans r env.lower input).length + 1 ∧
    (spans r env.lower input).length ≤ input.length :=
  (spans_eq r env.lower input).symm ▸ (R.findOK hnull G).tokenize_count

/-! ### (c) analyze -/

/-- `analyze` (pulled to exhaustion): whatever it answers with `.ok` is the alternating list of
    non-match / match entries over a list `L` whose spans are exactly `spans` — the Match entries are
    exactly the spans (their contents, the group trees, are the subject of Props/C03c) -/
theorem api_analyze_spec {env : Env} {fl : Flags} {r : Regex} (R : Clean2Regex env fl r)
    (hnull : r.nullable = false) {input : List Nat} (G : GoodInput env fl input)
    (limit : Nat) (hl : 2 * input.length + 1 ≤ limit) (es : List AEntry) (more : Bool)
    (h : r.analyze env.lower input limit = .ok (es, more)) :
    ∃ L : List (Nat × Nat × List MEntry),
      L.map (fun x => (x.1, x.2.1)) = spans r env.lower input ∧ es = entries input 0 L ∧ more = false :=
  (spans_eq r env.lower input).symm ▸ (R.findOK hnull G).analyze_spec hnull limit hl es more h

/-- a regex WITHOUT capturing groups: the Match entry of a span is its text -/
theorem api_analyze_plain {env : Env} {fl : Flags} {r : Regex} (R : Clean2Regex env fl r)
    (hnull : r.nullable = false) (hnc : hasCapNode r.prog.op = false)
    {input : List Nat} (G : GoodInput env fl input)
    (limit : Nat) (hl : 2 * input.length + 1 ≤ limit) (es : List AEntry) (more : Bool)
    (h : r.analyze env.lower input limit = .ok (es, more)) :
    es = entries input 0 ((spans r env.lower input).map
      (fun x => (x.1, x.2, [MEntry.str (slice input x.1 x.2)]))) ∧ more = false :=
  (spans_eq r env.lower input).symm ▸ (R.findOK hnull G).analyze_plain hnull hnc limit hl es more h

/-- … and the texts of all entries concatenate to the input -/
theorem api_analyze_concat {env : Env} {fl : Flags} {r : Regex} (R : Clean2Regex env fl r)
    (hnull : r.nullable = false) (hnc : hasCapNode r.prog.op = false)
    {input : List Nat} (G : GoodInput env fl input)
    (limit : Nat) (hl : 2 * input.length + 1 ≤ limit) (es : List AEntry) (more : Bool)
    (h : r.analyze env.lower input limit = .ok (es, more)) : aTextL es = input :=
  (R.findOK hnull G).analyze_concat hnull hnc limit hl es more h

/-- the bounds on the number of entries (any regex of the fragment, any limit) -/
theorem api_analyze_bound {env : Env} {fl : Flags} {r : Regex} (R : Clean2Regex env fl r)
    (hnull : r.nullable = false) {input : List Nat} (G : GoodInput env fl input)
    (limit : Nat) (es : List AEntry) (more : Bool)
    (h : r.analyze env.lower input limit = .ok (es, more)) : es.length ≤ 2 * input.length + 1 :=
  (R.findOK hnull G).analyze_bound hnull limit es more h

theorem api_tokenize_bound {env : Env} {fl : Flags} {r : Regex} (R : Clean2Regex env fl r)
    (hnull : r.nullable = false) {input : List Nat} (G : GoodInput env fl input)
    (limit : Nat) (toks : List (List Nat)) (more : Bool)
    (h : r.tokenize env.lower input limit = .ok (toks, more)) : toks.length ≤ input.length + 1 :=
  (R.findOK hnull G).tokenize_bound hnull limit toks more h

/-! ## 3. C06 — the four API functions are total on the fragment -/

theorem api_isMatch_total {env : Env} {fl : Flags} {r : Regex} (R : Clean2Regex env fl r)
    {input : List Nat} (G : GoodInput env fl input) :
    ∃ b, r.prog.isMatch env.lower input = .ok b :=
  R.ok.isMatch_total G

/-- `replace_all` with ANY replacement string: `.ok`, or one of the two classified errors — never a
    panic, never divergence -/
theorem api_replace_total {env : Env} {fl : Flags} {r : Regex} (R : Clean2Regex env fl r)
    {input : List Nat} (G : GoodInput env fl input) (repl : List Nat) :
    (∃ out, r.replaceAll env.lower input repl = .ok out) ∨
    r.replaceAll env.lower input repl = .err .invalidReplacement ∨
    r.replaceAll env.lower input repl = .err .matchesEmptyString :=
  R.ok.replaceAll_total G repl

theorem api_tokenize_total {env : Env} {fl : Flags} {r : Regex} (R : Clean2Regex env fl r)
    {input : List Nat} (G : GoodInput env fl input) (limit : Nat) :
    (∃ toks more, r.tokenize env.lower input limit = .ok (toks, more)) ∨
    r.tokenize env.lower input limit = .err .matchesEmptyString :=
  R.ok.tokenize_total G limit

/-- `analyze`, any limit: `.ok`, the gate error, or a panic at one of the two sites of the group-tree
    builder (`process_matching_substring`, `compute_nesting_table`) — never divergence, no other panic.
    Without capturing groups the builder cannot panic (`api_analyze_total_plain`). -/
theorem api_analyze_total {env : Env} {fl : Flags} {r : Regex} (R : Clean2Regex env fl r)
    {input : List Nat} (G : GoodInput env fl input) (limit : Nat) :
    (∃ es more, r.analyze env.lower input limit = .ok (es, more)) ∨
    r.analyze env.lower input limit = .err .matchesEmptyString ∨
    r.analyze env.lower input limit = .panic panicAnalyze ∨
    r.analyze env.lower input limit = .panic panicNesting :=
  R.ok.analyze_total G limit

theorem api_analyze_total_plain {env : Env} {fl : Flags} {r : Regex} (R : Clean2Regex env fl r)
    (hnull : r.nullable = false) (hnc : hasCapNode r.prog.op = false)
    (htbl : r.prog.literal = true ∨ (nestingTable r.prog.pattern).isSome = true)
    {input : List Nat} (G : GoodInput env fl input) (limit : Nat) :
    ∃ es more, r.analyze env.lower input limit = .ok (es, more) :=
  (R.findOK hnull G).analyze_total_plain hnull hnc htbl limit

/-! ## 4. C20 at API level — equivalent spellings -/

/-- two regexes of the fragment (same tables, flags, dialect) whose trees have the same language:
    the same gate bit, the same `is_match` on every good input, and — if they pass the gate — from
    every position the NEXT match starts at the same place -/
theorem api_same_language {env : Env} {fl : Flags} {r1 r2 : Regex} (R1 : Clean2Regex env fl r1)
    (R2 : Clean2Regex env fl r2)
    (hlang : ∀ ctx p q, OpR ctx r1.prog.op p q ↔ OpR ctx r2.prog.op p q)
    {input : List Nat} (G : GoodInput env fl input) :
    r1.nullable = r2.nullable ∧
    r1.prog.isMatch env.lower input = r2.prog.isMatch env.lower input ∧
    (r1.nullable = false → ∀ pos, pos ≤ input.length →
      (firstSpan (r1.prog.ctx env.lower input) r1.prog.op pos).map (·.1) =
      (firstSpan (r2.prog.ctx env.lower input) r2.prog.op pos).map (·.1)) :=
  R1.ok.same_language R2.ok hlang G

/-- … and the same span list outright — hence the same `replace_all`, `tokenize`, `analyze` spans —
    when in addition the heads of the two priority enumerations agree at every start -/
theorem api_same_spans {r1 r2 : Regex} (lower : Nat → Nat) (input : List Nat)
    (hheads : ∀ j, j ≤ input.length →
      (enum2 (r1.prog.ctx lower input) r1.prog.op j).head? = (enum2 (r2.prog.ctx lower input) r2.prog.op j).head?) :
    spans r1 lower input = spans r2 lower input := by
  rw [spans_eq, spans_eq]
  exact ApiGeneric.same_spans_of_heads lower input hheads

/-- when that is the case: the languages are equal and from every start there is at most ONE end
    (then there is nothing for ordered choice to prefer) -/
theorem heads_of_unique {env : Env} {fl : Flags} {r1 r2 : Regex} (R1 : Clean2Regex env fl r1)
    (R2 : Clean2Regex env fl r2) (hn1 : r1.nullable = false)
    (hlang : ∀ ctx p q, OpR ctx r1.prog.op p q ↔ OpR ctx r2.prog.op p q)
    {input : List Nat} (G : GoodInput env fl input)
    (huniq : ∀ j q q', OpR (r1.prog.ctx env.lower input) r1.prog.op j q →
      OpR (r1.prog.ctx env.lower input) r1.prog.op j q' → q = q') :
    ∀ j, j ≤ input.length →
      (enum2 (r1.prog.ctx env.lower input) r1.prog.op j).head? =
      (enum2 (r2.prog.ctx env.lower input) r2.prog.op j).head? :=
  R1.ok.heads_of_unique R2.ok hn1 hlang G huniq

theorem api_same_spans_of_unique {env : Env} {fl : Flags} {r1 r2 : Regex} (R1 : Clean2Regex env fl r1)
    (R2 : Clean2Regex env fl r2) (hn1 : r1.nullable = false)
    (hlang : ∀ ctx p q, OpR ctx r1.prog.op p q ↔ OpR ctx r2.prog.op p q)
    {input : List Nat} (G : GoodInput env fl input)
    (huniq : ∀ j q q', OpR (r1.prog.ctx env.lower input) r1.prog.op j q →
      OpR (r1.prog.ctx env.lower input) r1.prog.op j q' → q = q') :
    spans r1 env.lower input = spans r2 env.lower input :=
  api_same_spans env.lower input (heads_of_unique R1 R2 hn1 hlang G huniq)

/-! ## regexes from pattern texts over the real tables (for the examples and counterexamples) -/

section std

theorem scalar_of_all (input : List Nat)
    (h : input.all (fun c => decide (c < cpLimit) && (isSurrogate c == false)) = true) : ScalarInput input := by
  intro c hc
  have := List.all_eq_true.1 h c hc
  simpa only [Bool.and_eq_true, decide_eq_true_eq, beq_iff_eq] using this

/-- a regex built by `Regex.new Env.std` (no flags) that passes the kernel-checkable tests: it is in the
    fragment, passes the gate, its tree is `tree`, its span list on `input` is `expected` -/
theorem std_regex_of_check (pat : List Nat) (tree : Op) (input : List Nat) (expected : List (Nat × Nat))
    (hns : Api.NoSat Env.std {} pat)
    (hk : (match Regex.new Env.std pat [] false true with
      | .ok r => cleanProg2 Env.std false false r.prog.op && clsCanonB r.prog.op && !r.prog.hasBackrefs &&
          !r.nullable && opEq r.prog.op tree && (spans r Env.std.lower input == expected)
      | _ => false) = true) :
    ∃ r, Regex.new Env.std pat [] false true = .ok r ∧ Clean2Regex Env.std {} r ∧ r.nullable = false ∧
      r.prog.op = tree ∧ spans r Env.std.lower input = expected := by
  cases h : Regex.new Env.std pat [] false true with
  | ok r =>
    rw [h] at hk
    simp only [Bool.and_eq_true, Bool.not_eq_true', beq_iff_eq] at hk
    obtain ⟨⟨⟨⟨⟨k1, k2⟩, k3⟩, k4⟩, k5⟩, k6⟩ := hk
    exact ⟨r, rfl, ⟨pat, [], false, ⟨rfl, h, hns, k1, k2, k3, fun hl => by cases hl⟩⟩, k4, opEq_sound _ _ k5, k6⟩
  | err e => rw [h] at hk; cases hk
  | panic c => rw [h] at hk; cases hk
  | diverge => rw [h] at hk; cases hk

end std

/-! ### what is FALSE: equal languages do not give equal ends, nor equal lists of starts -/

section counterexamples

/-- `a|ab` -/
def patA : List Nat := [97, 124, 97, 98]
/-- `ab|a` -/
def patB : List Nat := [97, 98, 124, 97]
/-- `a|ab|b` -/
def patC : List Nat := [97, 124, 97, 98, 124, 98]
/-- `ab|a|b` -/
def patD : List Nat := [97, 98, 124, 97, 124, 98]

def treeA : Op := .seq [.choice [.atom [97], .atom [97, 98]], .endProgram]
def treeB : Op := .seq [.choice [.atom [97, 98], .atom [97]], .endProgram]
def treeC : Op := .seq [.choice [.atom [97], .atom [97, 98], .atom [98]], .endProgram]
def treeD : Op := .seq [.choice [.atom [97, 98], .atom [97], .atom [98]], .endProgram]

theorem lang_AB (ctx : Ctx) (p q : Nat) : OpR ctx treeA p q ↔ OpR ctx treeB p q := by
  simp only [treeA, treeB, OpR, OpRSeq, OpRAny, or_false]
  constructor
  · rintro ⟨m, h | h, rest⟩
    · exact ⟨m, .inr h, rest⟩
    · exact ⟨m, .inl h, rest⟩
  · rintro ⟨m, h | h, rest⟩
    · exact ⟨m, .inr h, rest⟩
    · exact ⟨m, .inl h, rest⟩

theorem lang_CD (ctx : Ctx) (p q : Nat) : OpR ctx treeC p q ↔ OpR ctx treeD p q := by
  simp only [treeC, treeD, OpR, OpRSeq, OpRAny, or_false]
  constructor
  · rintro ⟨m, h | h | h, rest⟩
    · exact ⟨m, .inr (.inl h), rest⟩
    · exact ⟨m, .inl h, rest⟩
    · exact ⟨m, .inr (.inr h), rest⟩
  · rintro ⟨m, h | h | h, rest⟩
    · exact ⟨m, .inr (.inl h), rest⟩
    · exact ⟨m, .inl h, rest⟩
    · exact ⟨m, .inr (.inr h), rest⟩

/-- END equality does not follow from language equality: `a|ab` and `ab|a` (alternation is commutative
    as a language, `C01.OpR_choice_comm`) report `(0,1)` and `(0,2)` on "ab" -/
theorem ends_differ :
    ∃ r1 r2, Clean2Regex Env.std {} r1 ∧ Clean2Regex Env.std {} r2 ∧
      (∀ ctx p q, OpR ctx r1.prog.op p q ↔ OpR ctx r2.prog.op p q) ∧
      spans r1 Env.std.lower [97, 98] = [(0, 1)] ∧ spans r2 Env.std.lower [97, 98] = [(0, 2)] := by
  obtain ⟨r1, _, R1, _, o1, s1⟩ := std_regex_of_check patA treeA [97, 98] [(0, 1)]
    (Api.noSat_of patA (by decide +kernel)) (by decide +kernel)
  obtain ⟨r2, _, R2, _, o2, s2⟩ := std_regex_of_check patB treeB [97, 98] [(0, 2)]
    (Api.noSat_of patB (by decide +kernel)) (by decide +kernel)
  refine ⟨r1, r2, R1, R2, fun ctx p q => ?_, s1, s2⟩
  rw [o1, o2]
  exact lang_AB ctx p q

/-- FALSE: "two regexes of the fragment with the same language produce the same
    list of span STARTS".  Only the FIRST start from a given position is determined by the language
    (`api_same_language`); where the scan continues depends on the END of the previous match, which
    ordered choice decides.  Refuted by `api_same_start_list_false`. -/
def api_same_start_list : Prop :=
  ∀ (env : Env) (fl : Flags) (r1 r2 : Regex) (input : List Nat),
    Clean2Regex env fl r1 → Clean2Regex env fl r2 →
    (∀ ctx p q, OpR ctx r1.prog.op p q ↔ OpR ctx r2.prog.op p q) →
    r1.nullable = false → r2.nullable = false → GoodInput env fl input →
    (spans r1 env.lower input).map (·.1) = (spans r2 env.lower input).map (·.1)

/-- `a|ab|b` against `ab|a|b` on "ab": spans `(0,1), (1,2)` against `(0,2)` — starts `[0, 1]` against `[0]` -/
theorem api_same_start_list_false : ¬ api_same_start_list := by
  intro h
  obtain ⟨r1, _, R1, n1, o1, s1⟩ := std_regex_of_check patC treeC [97, 98] [(0, 1), (1, 2)]
    (Api.noSat_of patC (by decide +kernel)) (by decide +kernel)
  obtain ⟨r2, _, R2, n2, o2, s2⟩ := std_regex_of_check patD treeD [97, 98] [(0, 2)]
    (Api.noSat_of patD (by decide +kernel)) (by decide +kernel)
  have := h Env.std {} r1 r2 [97, 98] R1 R2 (fun ctx p q => by rw [o1, o2]; exact lang_CD ctx p q) n1 n2
    (goodInput_std_cs rfl (scalar_of_all _ (by decide)) (by decide))
  rw [s1, s2] at this
  exact absurd this (by decide)

end counterexamples

/-! ## 5. non-vacuity: `a*b(c|d)+e` through `Regex.new Env.std`, on "xaabcde-bce" -/

section example_

/-- "xaabcde-bce" -/
def ex5Input : List Nat := [120, 97, 97, 98, 99, 100, 101, 45, 98, 99, 101]

theorem ex5_good : GoodInput Env.std {} ex5Input :=
  goodInput_std_cs rfl (scalar_of_all _ (by decide)) (by decide)

/-- the regex `Regex.new Env.std` builds from `a*b(c|d)+e` is in the fragment and passes the gate -/
theorem ex5_regex (r : Regex) (h : Regex.new Env.std exPat [] false true = .ok r) :
    Clean2Regex Env.std {} r ∧ r.nullable = false := by
  have hk := ex_new.1
  rw [h] at hk
  simp only [Bool.and_eq_true, Bool.not_eq_true'] at hk
  obtain ⟨⟨⟨⟨k1, k2⟩, k3⟩, k4⟩, _⟩ := hk
  exact ⟨⟨exPat, [], false, ⟨rfl, h, ex_noSat, k1, k2, k3, fun hl => by cases hl⟩⟩, k4⟩

private def ex5Entries : List AEntry :=
  [.nonMatch [120],
   .isMatch [.str [97, 97, 98, 99], .group 1 [.str [100]], .str [101]],
   .nonMatch [45],
   .isMatch [.str [98], .group 1 [.str [99]], .str [101]]]

/-- what the model computes (kernel evaluation): the state-free span list, and the answers of the three
    scan APIs -/
theorem ex5_computed :
    (match Regex.new Env.std exPat [] false true with
     | .ok r =>
       (spans r Env.std.lower ex5Input == [(1, 7), (8, 11)]) &&
       (r.tokenize Env.std.lower ex5Input 100 == .ok ([[120], [45], []], false)) &&
       (match r.analyze Env.std.lower ex5Input 100 with
        | .ok (es, more) => aEqL es ex5Entries && !more
        | _ => false) &&
       (r.replaceAll Env.std.lower ex5Input [35] == .ok [120, 35, 45, 35]) &&
       (r.replaceAll Env.std.lower ex5Input [36, 48] == .ok ex5Input)
     | _ => false) = true := by decide +kernel

/-- C16 instantiated: the regex does not match the empty string, and never reports an empty span -/
theorem ex5_gate (r : Regex) (h : Regex.new Env.std exPat [] false true = .ok r) :
    (¬ ∃ q, OpR (r.prog.ctx Env.std.lower []) r.prog.op 0 q) ∧
    ∀ x ∈ spans r Env.std.lower ex5Input, x.1 < x.2 := by
  obtain ⟨R, hn⟩ := ex5_regex r h
  refine ⟨fun he => ?_, fun x hx => ((c16_no_empty_span R hn ex5_good).1 x hx).1⟩
  have := (api_gate_iff R ex5_good.nil).2 he
  rw [hn] at this
  cases this

/-- C04 instantiated: `tokenize` is the pieces between `spans`, `replace_all` with `#` joins them by `#`,
    with `$0` returns the input, `analyze` has its Match entries exactly at `spans` — and the computed
    answers agree: the tokens are "x", "-", "" -/
theorem ex5_scan (r : Regex) (h : Regex.new Env.std exPat [] false true = .ok r) :
    spans r Env.std.lower ex5Input = [(1, 7), (8, 11)] ∧
    r.tokenize Env.std.lower ex5Input 100 = .ok (pieces ex5Input 0 (spans r Env.std.lower ex5Input), false) ∧
    r.tokenize Env.std.lower ex5Input 100 = .ok ([[120], [45], []], false) ∧
    r.replaceAll Env.std.lower ex5Input [35] = .ok (joinWith [35] (pieces ex5Input 0 (spans r Env.std.lower ex5Input))) ∧
    r.replaceAll Env.std.lower ex5Input [35] = .ok [120, 35, 45, 35] ∧
    r.replaceAll Env.std.lower ex5Input [36, 48] = .ok ex5Input ∧
    (∃ es, r.analyze Env.std.lower ex5Input 100 = .ok (es, false) ∧ es = ex5Entries ∧
      ∃ L : List (Nat × Nat × List MEntry),
        L.map (fun x => (x.1, x.2.1)) = spans r Env.std.lower ex5Input ∧ es = entries ex5Input 0 L) := by
  obtain ⟨R, hn⟩ := ex5_regex r h
  have hk := ex5_computed
  rw [h] at hk
  simp only [Bool.and_eq_true, beq_iff_eq] at hk
  obtain ⟨⟨⟨⟨k1, k2⟩, k3⟩, k4⟩, k5⟩ := hk
  refine ⟨k1, api_tokenize_spec R hn ex5_good (by decide) 100 (by decide), k2,
    api_replace_plain R hn ex5_good [35] (by decide), k4, api_replace_dollar0 R hn ex5_good rfl, ?_⟩
  cases ha : r.analyze Env.std.lower ex5Input 100 with
  | ok x =>
    obtain ⟨es, more⟩ := x
    rw [ha] at k3
    simp only [Bool.and_eq_true, Bool.not_eq_true'] at k3
    obtain ⟨k31, k32⟩ := k3
    subst k32
    obtain ⟨L, l1, l2, _⟩ := api_analyze_spec R hn ex5_good 100 (by decide) es false ha
    exact ⟨es, rfl, aEqL_sound _ _ k31, L, l1, l2⟩
  | err e => rw [ha] at k3; cases k3
  | panic c => rw [ha] at k3; cases k3
  | diverge => rw [ha] at k3; cases k3

/-- C06 instantiated: on EVERY input of scalar values the four API functions of this regex are total -/
theorem ex5_total (r : Regex) (h : Regex.new Env.std exPat [] false true = .ok r)
    (input : List Nat) (hsv : ScalarInput input) (hlen : input.length < usizeMax) (repl : List Nat) (limit : Nat) :
    (∃ b, r.prog.isMatch Env.std.lower input = .ok b) ∧
    ((∃ out, r.replaceAll Env.std.lower input repl = .ok out) ∨
      r.replaceAll Env.std.lower input repl = .err .invalidReplacement) ∧
    (∃ toks more, r.tokenize Env.std.lower input limit = .ok (toks, more)) ∧
    ((∃ es more, r.analyze Env.std.lower input limit = .ok (es, more)) ∨
      r.analyze Env.std.lower input limit = .panic panicAnalyze ∨
      r.analyze Env.std.lower input limit = .panic panicNesting) := by
  obtain ⟨R, hn⟩ := ex5_regex r h
  have G : GoodInput Env.std {} input := goodInput_std_cs rfl hsv hlen
  refine ⟨api_isMatch_total R G, ?_, ?_, ?_⟩
  · rcases api_replace_total R G repl with h1 | h1 | h1
    · exact .inl h1
    · exact .inr h1
    · exact absurd h1 (C16.replace_not_nullable r _ _ _ hn)
  · rcases api_tokenize_total R G limit with h1 | h1
    · exact h1
    · exact absurd h1 (C16.tokenize_not_nullable r _ _ _ hn)
  · rcases api_analyze_total R G limit with h1 | h1 | h1 | h1
    · exact .inl h1
    · exact absurd h1 (C16.analyze_not_nullable r _ _ _ hn)
    · exact .inr (.inl h1)
    · exact .inr (.inr h1)

end example_

end Rx.ApiComplete
