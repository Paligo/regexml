/-
  Props/Clean4End — the END across the optimiser for patterns with general repeats (fragment of Spec/Enum4):
  completes the tree-level two-compilations theorem of Props/Clean4Opt.

  For a parser tree `t` with `Src4 env fl t` (Props/Clean4Opt), no empty literal, canonical classes:

    * `optimize_enum4_eq`     on a tree without EndProgram the enumerations of the optimised and the
                              un-optimised tree are EQUAL AS LISTS: `enum4 ctx (optimize env fl t) p = enum4 ctx t p`
                              (the `.rep` node: `optimize_rep` + congruence of `greedyIter` / `reluctIter` in the
                              body enumeration)
    * `optimize_enum4_head`   on a whole program (root sequence closed by EndProgram) they have the same HEAD
                              (only the head: `x*` in front of EndProgram lists one end optimised, all ends not)
    * `clean4_opt_eq_unopt_tree`  the optimised and the un-optimised tree, searched by the plain loop
                              `matchesNaive` from every position and every pair of panic-free states, report the
                              same Boolean, the same START and the same END of group 0.

    * `enum4_renumber`        `enum4` does not read the ids of `.rep` nodes (`numberReps` leaves the
                              enumeration unchanged).

  NOT PROVED: invariance of `cleanProg4`, `initialClass`, `mzs` under `numberReps` (for `OpR` it is
  `OptL.num_op`, for `enum4` `enum4_renumber`) and the program-level statement through `mkProgram` /
  `mkBareProgram`.
-/
import RxModel.Props.Clean4Opt
import RxModel.Proofs.Clean4EndLemmas
namespace Rx.Clean4End
open Rx Rx.Clean2Opt Rx.Clean4OptL Rx.Clean4Opt Rx.Clean4EndL
open Rx.Clean2End (Setting)
open Rx.C08 (noEmptyAtoms)

theorem Src4.tree4 {env : Env} {fl : CFlags} {t : Op} (h : Src4 env fl t) (hne : noEmptyAtoms t = true)
    (hcan : clsCanonB t = true) : Tree4OK env fl t := ⟨h.src, h.wf, h.ge2, hne, hcan⟩

/-- sub-trees without EndProgram: optimised and un-optimised enumerations are EQUAL AS LISTS -/
theorem optimize_enum4_eq (env : Env) (fl : CFlags) (ctx : Ctx) (S : Setting env fl ctx) (t : Op)
    (h : Src4 env fl t) (hne : noEmptyAtoms t = true) (hcan : clsCanonB t = true) (he : noEnd t = true)
    (p : Nat) (hp : p ≤ ctx.len) : enum4 ctx (optimize env fl t) p = enum4 ctx t p :=
  congrFun (enumEq4_op ctx S t (Src4.tree4 h hne hcan) he) p

/-- a whole program: optimised and un-optimised enumerations have the same HEAD -/
theorem optimize_enum4_head (env : Env) (fl : CFlags) (ctx : Ctx) (S : Setting env fl ctx) (t : Op)
    (h : Src4 env fl t) (hne : noEmptyAtoms t = true) (hcan : clsCanonB t = true)
    (p : Nat) (hp : p ≤ ctx.len) : (enum4 ctx (optimize env fl t) p).head? = (enum4 ctx t p).head? :=
  headEq4_op ctx S t (Src4.tree4 h hne hcan) h.endTop p

/-- `clean4_opt_eq_unopt`, TREE LEVEL, full result: the optimised tree and the un-optimised tree of one pattern,
    searched by the plain loop `matchesNaive` from every position and every pair of panic-free states, report
    the same Boolean and, on success, the same START and the same END of group 0. -/
theorem clean4_opt_eq_unopt_tree (env : Env) (fl : CFlags) (ctx : Ctx) (hI : InputOK env ctx)
    (hcb : ctx.caseBlind = fl.caseBlind) (hml : ctx.multiLine = fl.multiLine) (hbr : ctx.hasBackrefs = false)
    (t : Op) (h : Src4 env fl t) (hne : noEmptyAtoms t = true) (hcan : clsCanonB t = true)
    (hcp : C02.capsPos t = true)
    (i : Nat) (st1 st2 : St) (h1 : st1.panic = none) (h2 : st2.panic = none) :
    (matchesNaive ctx (optimize env fl t) i st1).1 = (matchesNaive ctx t i st2).1 ∧
    ((matchesNaive ctx (optimize env fl t) i st1).1 = true →
      getParenStart (matchesNaive ctx (optimize env fl t) i st1).2 0 =
        getParenStart (matchesNaive ctx t i st2).2 0 ∧
      getParenEnd (matchesNaive ctx (optimize env fl t) i st1).2 0 =
        getParenEnd (matchesNaive ctx t i st2).2 0) :=
  trees_agree ctx ⟨hI, hcb, hml⟩ hbr t (Src4.tree4 h hne hcan) h.endTop hcp i st1 st2 h1 h2

/-- `numberReps` changes only the ids of `.rep` nodes, which `enum4` does not read -/
theorem enum4_renumber (ctx : Ctx) (t : Op) (n : Nat) : enum4 ctx (numberReps t n).1 = enum4 ctx t :=
  enum4_numberReps ctx t n

/-! ### non-vacuity: `x*(?:ab|c)+?d` on "zxxabcd" (the data of Props/Clean4Opt) -/
section examples

theorem exS : Setting exEnv {} exCtx :=
  ⟨.of_caseSensitive rfl (fun _ _ h => by cases h) (by decide) (by decide), rfl, rfl⟩

/-- `optimize_enum4_eq` on the repeat `(?:ab|c)+?` alone (a tree without EndProgram): the hypotheses hold, and
    both enumerations from 3 in "zxxabcd" are [5, 6] — FEWEST iterations first -/
example : enum4 exCtx (optimize exEnv {} (.rep 0 (.choice [.atom [97, 98], .atom [99]]) 1 usizeMax false)) 3 =
      enum4 exCtx (.rep 0 (.choice [.atom [97, 98], .atom [99]]) 1 usizeMax false) 3 ∧
    enum4 exCtx (.rep 0 (.choice [.atom [97, 98], .atom [99]]) 1 usizeMax false) 3 = [5, 6] :=
  ⟨optimize_enum4_eq exEnv {} exCtx exS _
      ⟨by decide +kernel, by decide +kernel, by decide +kernel, by decide +kernel⟩
      (by decide +kernel) (by decide +kernel) (by decide +kernel) 3 (by decide),
    by decide +kernel⟩

/-- `optimize_enum4_head` on the whole program: same head from position 1, namely 7 -/
example : (enum4 exCtx (optimize exEnv {} exTree) 1).head? = (enum4 exCtx exTree 1).head? ∧
    (enum4 exCtx exTree 1).head? = some 7 :=
  ⟨optimize_enum4_head exEnv {} exCtx exS exTree ex_src (by decide +kernel) (by decide +kernel) 1 (by decide),
    by decide +kernel⟩

/-- only the HEAD in general: `x*` closed by EndProgram on "xx" lists the one maximal end optimised, all ends
    un-optimised -/
example :
    let t : Op := .seq [.gfixed (.atom [120]) 0 usizeMax 1, .endProgram]
    let c : Ctx := { input := [120, 120], caseBlind := false, multiLine := false, hasBackrefs := false,
                     maxParens := 1, lower := id }
    src4 exEnv {} t = true ∧ wfOp t = true ∧ seqGe2 t = true ∧ endTop t = true ∧
    enum4 c (optimize exEnv {} t) 0 = [2] ∧ enum4 c t 0 = [2, 1, 0] := by decide +kernel

/-- the two-trees theorem instantiated on "zxxabcd": both searches succeed, with the span (1, 7) -/
example : (matchesNaive exCtx (optimize exEnv {} exTree) 0 {}).1 = true ∧
    getParenStart (matchesNaive exCtx (optimize exEnv {} exTree) 0 {}).2 0 = some 1 ∧
    getParenEnd (matchesNaive exCtx (optimize exEnv {} exTree) 0 {}).2 0 = some 7 := by
  have h := clean4_opt_eq_unopt_tree exEnv {} exCtx exS.ok rfl rfl rfl exTree ex_src (by decide +kernel)
    (by decide +kernel) (by decide +kernel) 0 {} {} rfl rfl
  have e1 : (matchesNaive exCtx exTree 0 {}).1 = true := by decide +kernel
  have e2 : getParenStart (matchesNaive exCtx exTree 0 {}).2 0 = some 1 := by decide +kernel
  have e3 : getParenEnd (matchesNaive exCtx exTree 0 {}).2 0 = some 7 := by decide +kernel
  have ht : (matchesNaive exCtx (optimize exEnv {} exTree) 0 {}).1 = true := by rw [h.1]; exact e1
  exact ⟨ht, by rw [(h.2 ht).1]; exact e2, by rw [(h.2 ht).2]; exact e3⟩

/-- `enum4_renumber`: the numbering really changes the tree of the example (id 0 becomes id 6) -/
example : (match (numberReps exTree 5).1 with
      | .seq [_, .rep id _ _ _ _, _, _] => id == 6
      | _ => false) = true ∧ enum4 exCtx (numberReps exTree 5).1 = enum4 exCtx exTree :=
  ⟨by decide +kernel, enum4_renumber exCtx exTree 5⟩

end examples


end Rx.Clean4End
