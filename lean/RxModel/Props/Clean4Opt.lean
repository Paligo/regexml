/-
  Props/Clean4Opt — C08 across the optimiser (TWO compilations of one pattern) for patterns with general
  reluctant / greedy variable repeats: the fragment of Spec/Enum4.

  THE PREDICATE on the UN-optimised parser tree: `Src4 env fl t` =
      `src4 env fl t`  (Proofs/Clean4OptLemmas: the fragment `cleanOp` of Spec/Enum + `.rep id c mn mx g` with
                        `(!g ∨ 1 ≤ mn)`, body `c` ∈ `cleanOp`, `c` not a single literal / class, and
                        `nonNull`, `detB` of BOTH `c` and `optimize env fl c`)
      + `wfOp t` + the parser-shape facts `seqGe2 t`, `endTop t`.

  What `optimize` does to a general repeat (read off Model/Optimize): `.rep id c mn mx g ↦ .rep id c' mn' mx g`
  with `c' = optimize c` and `mn' = 1` if `mn = 0` and `matches_empty_string c' = ANYWHERE`, else `mn' = mn`.
  On the fragment the rewrite of `min` never fires (`nonNull_mzs`: a non-nullable well-formed body never
  answers ANYWHERE), so `optimize (.rep id c mn mx g) = .rep id (optimize c) mn mx g` (`optimize_rep`).
  Inside a sequence `optimizeSeq` would turn `.rep id x mn mx g` with `x` ONE literal / class into `.unamb`;
  the parser never builds that (`gfixed` / `rfixed` instead), `src4` excludes it, and `optimize` does not
  create it (`isAtomOrClass_optimize`).

  PROVED (tree level, everything by construction from the predicate):
    * `optimize_clean4`      `Src4 env fl t → cleanProg4 … (optimize env fl t)`
    * `unopt_clean4`         the un-optimised tree is a program of the fragment too
    * `optimize_lang4`       the language `OpR` is preserved (C08.optimize_preserves)
    * `optimize_first4`      first set and `matches_empty_string` are unchanged (no EndProgram)

    * `detB_created`         kernel-checked: `optimize` can CREATE `detB` of a repeat body (`(?:a*b)+?`: the
                             un-optimised tree is outside `cleanProg4`, the optimised one inside) — hence the
                             two-sided `detB` / `nonNull` conjuncts of `src4` (`detB c → detB (optimize c)` is not proved)

    * `clean4_opt_eq_unopt_tree_partial`  the two trees under the plain search loop report the same Boolean and
                             the same START of group 0 (with the END: Props/Clean4End)

  The program-level statement through `mkProgram` / `mkBareProgram` is not proved.
-/
import RxModel.Proofs.Clean4EndLemmas
namespace Rx.Clean4Opt
open Rx Rx.Clean2Opt Rx.Clean4OptL
open Rx.C08 (noEmptyAtoms)

/-- the hypotheses on the un-optimised parser tree -/
structure Src4 (env : Env) (fl : CFlags) (t : Op) : Prop where
  src : src4 env fl t = true
  wf : wfOp t = true
  ge2 : seqGe2 t = true
  endTop : endTop t = true

/-- on the fragment `optimize` maps a general repeat to the general repeat of the optimised body,
    with `min` unchanged -/
theorem optimize_rep (env : Env) (fl : CFlags) (id : Nat) (c : Op) (mn mx : Nat) (g : Bool)
    (hs : src4 env fl (.rep id c mn mx g) = true) (hwf : wfOp (.rep id c mn mx g) = true)
    (h2 : seqGe2 (.rep id c mn mx g) = true) (he : noEnd (.rep id c mn mx g) = true) :
    optimize env fl (.rep id c mn mx g) = .rep id (optimize env fl c) mn mx g :=
  optimize_rep_src4 env fl id c mn mx g hs hwf

/-- 1. `optimize` maps a parser tree of the fragment to a program of `cleanProg4` -/
theorem optimize_clean4 (env : Env) (fl : CFlags) (t : Op) (h : Src4 env fl t) :
    cleanProg4 env fl.caseBlind fl.multiLine (optimize env fl t) = true :=
  clean4_optimize_prog t ⟨h.src, h.wf, h.ge2⟩ h.endTop

/-- the UN-optimised tree is a program of the fragment too -/
theorem unopt_clean4 (env : Env) (fl : CFlags) (t : Op) (h : Src4 env fl t) :
    cleanProg4 env fl.caseBlind fl.multiLine t = true :=
  cleanProg4_of_src4 env fl t h.src

/-- the language is preserved -/
theorem optimize_lang4 (env : Env) (fl : CFlags) (ctx : Ctx) (t : Op) (h : Src4 env fl t) (p q : Nat)
    (hp : p ≤ ctx.len) : OpR ctx (optimize env fl t) p q ↔ OpR ctx t p q :=
  C08.optimize_preserves env fl ctx t h.wf p q hp

/-- first set and `matches_empty_string` are unchanged -/
theorem optimize_first4 (env : Env) (fl : CFlags) (t : Op) (h : Src4 env fl t) (he : noEnd t = true) :
    initialClass env fl.caseBlind (optimize env fl t) = initialClass env fl.caseBlind t ∧
    mzs (optimize env fl t) = mzs t :=
  ⟨ic_optimize t ⟨h.src, h.wf, h.ge2⟩, mzs_optimize env fl t h.wf h.ge2⟩

/-- the optimised and the un-optimised tree under the plain search loop: same Boolean, same START of group 0
    (with the END: `Clean4End.clean4_opt_eq_unopt_tree`) -/
theorem clean4_opt_eq_unopt_tree_partial (env : Env) (fl : CFlags) (ctx : Ctx) (hI : InputOK env ctx)
    (hcb : ctx.caseBlind = fl.caseBlind) (hml : ctx.multiLine = fl.multiLine) (hbr : ctx.hasBackrefs = false)
    (t : Op) (h : Src4 env fl t) (hne : noEmptyAtoms t = true) (hcan : clsCanonB t = true)
    (hcp : C02.capsPos t = true)
    (i : Nat) (st1 st2 : St) (h1 : st1.panic = none) (h2 : st2.panic = none) :
    (matchesNaive ctx (optimize env fl t) i st1).1 = (matchesNaive ctx t i st2).1 ∧
    ((matchesNaive ctx (optimize env fl t) i st1).1 = true →
      getParenStart (matchesNaive ctx (optimize env fl t) i st1).2 0 =
        getParenStart (matchesNaive ctx t i st2).2 0) :=
  have h := Clean4EndL.trees_agree ctx ⟨hI, hcb, hml⟩ hbr t ⟨h.src, h.wf, h.ge2, hne, hcan⟩ h.endTop hcp
    i st1 st2 h1 h2
  ⟨h.1, fun ht => (h.2 ht).1⟩

/-! ### non-vacuity: `x*(?:ab|c)+?d` -/
section examples

def exEnv : Env :=
  { lower := id, closure := fun _ => [], category := fun _ => none, block := fun _ => none,
    digit := [], word := [], nameStart := [], nameChar := [] }

/-- `x*(?:ab|c)+?d` -/
def exPat : List Nat := [120, 42, 40, 63, 58, 97, 98, 124, 99, 41, 43, 63, 100]

/-- the parser's tree for `x*(?:ab|c)+?d` -/
def exTree : Op :=
  .seq [.gfixed (.atom [120]) 0 usizeMax 1, .rep 0 (.choice [.atom [97, 98], .atom [99]]) 1 usizeMax false,
        .atom [100], .endProgram]

/-- "zxxabcd" -/
def exInput : List Nat := [122, 120, 120, 97, 98, 99, 100]

def exCtx : Ctx :=
  { input := exInput, caseBlind := false, multiLine := false, hasBackrefs := false, maxParens := 1, lower := id }

/-- the hypotheses of the theorems hold of the tree, and of the un-optimised compilation of the pattern text -/
theorem ex_src : Src4 exEnv {} exTree := by
  refine ⟨?_, ?_, ?_, ?_⟩ <;> decide +kernel

theorem ex_compiled :
    (match compileCore exEnv {} exPat false with
     | .ok bare => src4 exEnv {} bare.op && wfOp bare.op && seqGe2 bare.op && Clean2Opt.endTop bare.op &&
         noEmptyAtoms bare.op && clsCanonB bare.op && C02.capsPos bare.op && !cleanOp bare.op
     | _ => false) = true ∧
    (match compileCore exEnv {} exPat true with
     | .ok pr => cleanProg4 exEnv false false pr.op && !cleanProg3 exEnv false false pr.op
     | _ => false) = true := by decide +kernel

/-- `optimize_rep` and `optimize_clean4` instantiated: `x*` becomes an UnambiguousRepeat (justified by the
    first set of the general repeat behind it), the general repeat stays, `min` unchanged -/
example : cleanProg4 exEnv false false (optimize exEnv {} exTree) = true ∧
    (match optimize exEnv {} exTree with
     | .seq [.unamb (.atom [120]) 0 _, .rep _ (.choice [.atom [97, 98], .atom [99]]) 1 _ false, .atom [100],
         .endProgram] => true
     | _ => false) = true :=
  ⟨optimize_clean4 exEnv {} exTree ex_src, by decide +kernel⟩

example : optimize exEnv {} (.rep 0 (.choice [.atom [97, 98], .atom [99]]) 0 2 false) =
    .rep 0 (optimize exEnv {} (.choice [.atom [97, 98], .atom [99]])) 0 2 false :=
  optimize_rep exEnv {} 0 _ 0 2 false (by decide +kernel) (by decide +kernel) (by decide +kernel)
    (by decide +kernel)

example : cleanProg4 exEnv false false exTree = true := unopt_clean4 exEnv {} exTree ex_src

/-- the partial two-trees theorem instantiated on "zxxabcd": both searches succeed, with start 1 -/
example : (matchesNaive exCtx (optimize exEnv {} exTree) 0 {}).1 = (matchesNaive exCtx exTree 0 {}).1 ∧
    (matchesNaive exCtx exTree 0 {}).1 = true ∧ getParenStart (matchesNaive exCtx exTree 0 {}).2 0 = some 1 ∧
    getParenStart (matchesNaive exCtx (optimize exEnv {} exTree) 0 {}).2 0 = some 1 := by
  have hI : InputOK exEnv exCtx := .of_caseSensitive rfl (fun _ _ h => by cases h) (by decide) (by decide)
  have h := clean4_opt_eq_unopt_tree_partial exEnv {} exCtx hI rfl rfl rfl exTree ex_src (by decide +kernel)
    (by decide +kernel) (by decide +kernel) 0 {} {} rfl rfl
  have e1 : (matchesNaive exCtx exTree 0 {}).1 = true := by decide +kernel
  have e2 : getParenStart (matchesNaive exCtx exTree 0 {}).2 0 = some 1 := by decide +kernel
  refine ⟨h.1, e1, e2, ?_⟩
  rw [h.2 (by rw [h.1]; exact e1)]
  exact e2

/-- why `src4` asks `detB` of the body BEFORE and AFTER `optimize`: the rewrite can CREATE end-determinism.
    Body `a*b` of `(?:a*b)+?`: un-optimised `a*` is a variable `gfixed` (`detB` fails — the un-optimised tree is
    outside `cleanProg4`), optimised it is an UnambiguousRepeat (`detB` holds — the optimised tree is inside).
    (`nonNull` is the same on both sides here.) -/
theorem detB_created :
    let c : Op := .seq [.gfixed (.atom [97]) 0 usizeMax 1, .atom [98]]
    detB exEnv false c = false ∧ detB exEnv false (optimize exEnv {} c) = true ∧
    nonNull c = true ∧ nonNull (optimize exEnv {} c) = true ∧
    cleanProg4 exEnv false false (.seq [.rep 0 c 1 usizeMax false, .atom [100], .endProgram]) = false ∧
    cleanProg4 exEnv false false
      (optimize exEnv {} (.seq [.rep 0 c 1 usizeMax false, .atom [100], .endProgram])) = true := by
  decide +kernel

end examples

end Rx.Clean4Opt
