/-
  Props/C02 — matches are leftmost, non-overlapping and chosen by ordered-choice priority
  (the part of the statement that is a theorem about E).

  Proved here: a successful `matches(i)` reports a span `(a, b)` with `i ≤ a ≤ b ≤ len` which is a
  member of the program's language (`OpR`), `a` is the first candidate start position whose
  iterator yields anything and `b` is that iterator's first result; driven by any scan loop the
  spans are strictly left to right and disjoint (C04.spans_ordered).  Offsets are code points by
  construction of the model.  The strict ordered-choice clause is established by correspondence
  with the ordered reference (bin/refmatch.py), not by a theorem.
-/
import RxModel.Spec.OpLang
import RxModel.Spec.Preds
import RxModel.Proofs.InvLemmas
namespace Rx.C02
open Rx

/-- "the start of group 0 recorded by `match_at` is never overwritten by the engine", for EVERY tree:
    false (`sem_keeps_start0_false`).  It fails for trees that are not well-formed: a body whose iterator does not terminate makes
    `first1` hand on the made-up state `({} : St).setPanic panicDiverge`, whose capture arrays are
    empty, and `UnambiguousRepeat` yields that state.  True for well-formed trees started inside
    the input: `sem_keeps_start0_partial`. -/
def sem_keeps_start0 : Prop :=
  ∀ (ctx : Ctx) (op : Op), capsPos op = true → ∀ (j p : Nat) (st : St),
    getO st.cap.startn 0 = some j →
    (sem ctx op p st).Inv (fun st' => getO st'.cap.startn 0 = some j)

section counterexample
private def cexCtx : Ctx :=
  { input := [], caseBlind := false, multiLine := false, hasBackrefs := false, maxParens := 1,
    lower := fun c => c }
/-- the body `(?:){0,∞}?` with recorded length 0 (not well-formed) followed by an empty class:
    its iterator backtracks for ever -/
private def cexOp : Op := .unamb (.seq [.rfixed .nothing 0 usizeMax 0, .cls []]) 0 1
private def cexSt : St := { cap := { startn := [some 0] } }

example : capsPos cexOp = true := by decide
example : wfOp cexOp = false := by decide

/-- the statement for every tree is false -/
theorem sem_keeps_start0_false : ¬ sem_keeps_start0 := by
  intro h
  have h1 := h cexCtx cexOp (by decide) 0 0 cexSt rfl
  have h2 : sem cexCtx cexOp 0 cexSt = .cons 0 (({} : St).setPanic panicDiverge) .nil := rfl
  rw [h2] at h1
  have h3 := h1.head
  simp [St.setPanic, getO] at h3

/-- the variant with the invariant weakened to "… or the divergence marker is set" is false too:
    the sequence iterator restores the capture state it saved on entry (here: the made-up one)
    into whatever state its consumer hands back (here: one without the marker) -/
def sem_keeps_start0_disj : Prop :=
  ∀ (ctx : Ctx) (op : Op), capsPos op = true → ∀ (j p : Nat) (st : St),
    getO st.cap.startn 0 = some j →
    (sem ctx op p st).Inv (fun st' => getO st'.cap.startn 0 = some j ∨ st'.panic = some panicDiverge)

private def cexOp2 : Op := .seq [.choice [cexOp, .nothing], .seq [.capture 1 .nothing, .nothing]]
private def tl (s : Step) (st : St) : Step := match s with | .cons _ _ r => r st | _ => .diverge
private def hdSt (s : Step) : Option St := match s with | .cons _ st _ => some st | _ => none

private theorem inv_tl {I : St → Prop} {s : Step} (h : s.Inv I) (st : St) (hst : I st) : (tl s st).Inv I := by
  cases h with
  | nil _ _ => exact .diverge
  | cons _ _ _ _ hr => exact hr st hst
  | diverge => exact .diverge

private theorem inv_hdSt {I : St → Prop} {s : Step} (h : s.Inv I) (st : St) (hs : hdSt s = some st) : I st := by
  cases h with
  | nil _ _ => cases hs
  | cons _ _ _ h0 _ => cases hs; exact h0
  | diverge => cases hs

example : capsPos cexOp2 = true := by decide

theorem sem_keeps_start0_disj_false : ¬ sem_keeps_start0_disj := by
  intro h
  have h1 := h cexCtx cexOp2 (by decide) 0 0 cexSt rfl
  have h2 := inv_tl h1 cexSt (.inl rfl)
  have h3 := inv_hdSt h2
    { cap := { parenCount := 2, startn := [none, some 0], endn := [none, some 0] } } rfl
  simp [getO] at h3
end counterexample

/-- the start of group 0 recorded by `match_at` is never overwritten by the engine
    (well-formed trees, start position inside the input) -/
theorem sem_keeps_start0_partial (ctx : Ctx) (op : Op) (hwf : wfOp op = true) (hc : capsPos op = true)
    (j p : Nat) (hp : p ≤ ctx.len) (st : St) (h : getO st.cap.startn 0 = some j) :
    (sem ctx op p st).Inv (fun st' => getO st'.cap.startn 0 = some j) :=
  sem_s0 ctx j op hwf hc p st hp h

/-- a successful `match_at(j)`: group 0 spans `[j, n)` where `n` is the first result of the
    iterator, `j ≤ n ≤ len`, and `[j, n)` is in the language of the program -/
theorem matchAt_span (ctx : Ctx) (op : Op) (hwf : wfOp op = true) (hc : capsPos op = true)
    (j : Nat) (hj : j ≤ ctx.len) (st st' : St) (h : matchAt ctx op j st = (true, st')) :
    getParenStart st' 0 = some j ∧
    ∃ n, getParenEnd st' 0 = some n ∧ j ≤ n ∧ n ≤ ctx.len ∧ OpR ctx op j n := by
  obtain ⟨n, st1, r, heq, rfl⟩ := matchAt_hit h
  have hs := sem_sat (satEnv_s0 ctx j) op ⟨hwf, hc⟩ j _ hj (matchStart_s0 ctx j st)
  rw [heq] at hs
  cases hs with
  | cons _ _ _ hn hs1 _ =>
    have hopr : OpR ctx op j n := (hn.2 hwf).1 hj
    refine ⟨hs1, n, ?_, (OpR_bounds_op ctx op j n hj hopr).1, hn.1, hopr⟩
    simp only [getParenEnd, Cap.setEnd]
    exact getO_setAt_zero _ _

/-- `tryCands` returns the first candidate at which `match_at` succeeds -/
theorem tryCands_first (ctx : Ctx) (op : Op) (cands : List Nat) (st st' : St)
    (h : tryCands ctx op cands st = (true, st')) :
    ∃ pre j post stj, cands = pre ++ j :: post ∧ matchAt ctx op j stj = (true, st') ∧
      (tryCands ctx op pre st = (false, stj)) :=
  _root_.Rx.tryCands_first h

/-- a successful `matches(i)` (all shortcuts included) reports a span at or after `i`, inside the
    input, that is a member of the language of the program -/
theorem matchesFrom_span (pr : Prog) (lower : Nat → Nat) (input : List Nat)
    (hwf : wfOp pr.op = true) (hc : capsPos pr.op = true)
    (i : Nat) (hi : i ≤ input.length) (st st' : St)
    (h : matchesFrom (pr.ctx lower input) pr i st = (true, st')) :
    ∃ a b, getParenStart st' 0 = some a ∧ getParenEnd st' 0 = some b ∧
      i ≤ a ∧ a ≤ b ∧ b ≤ input.length ∧ OpR (pr.ctx lower input) pr.op a b := by
  obtain ⟨j, stj, hij, hjl, hm⟩ := matchesFrom_cand (pr.ctx lower input) pr i st st' hi h
  obtain ⟨hs, n, he, hjn, hnl, hopr⟩ := matchAt_span (pr.ctx lower input) pr.op hwf hc j hjl stj st' hm
  exact ⟨j, n, hs, he, hij, hjn, hnl, hopr⟩

/-- the candidates `i, i + 1, …` below `hi`, tried in this order -/
theorem tryCands_range_leftmost (ctx : Ctx) (op : Op) (hi : Nat) :
    ∀ (k i : Nat) (st st' : St), hi - i = k → tryCands ctx op (rangeFrom i hi) st = (true, st') →
    ∃ a sta, i ≤ a ∧ a < hi ∧ matchAt ctx op a sta = (true, st') ∧
      tryCands ctx op (rangeFrom i a) st = (false, sta) := by
  intro k
  induction k with
  | zero =>
    intro i st st' hk h
    rw [rangeFrom_nil (by omega)] at h
    simp [tryCands] at h
  | succ k ih =>
    intro i st st' hk h
    have hlt : i < hi := by omega
    rw [rangeFrom_cons hi i hlt] at h
    unfold tryCands at h
    split at h
    · rename_i st1 heq
      simp only [Prod.mk.injEq, true_and] at h
      subst h
      refine ⟨i, st, Nat.le_refl _, hlt, heq, ?_⟩
      rw [rangeFrom_nil (Nat.le_refl i)]
      rfl
    · rename_i st1 heq
      split at h
      · simp at h
      · rename_i hp
        obtain ⟨a, sta, h1, h2, h3, h4⟩ := ih (i + 1) st1 st' (by omega) h
        refine ⟨a, sta, by omega, h2, h3, ?_⟩
        rw [rangeFrom_cons a i (by omega), tryCands_cons_false heq hp]
        exact h4

/-- with every shortcut off, the reported start is the leftmost position from which the
    program's iterator yields anything (positions are tried in increasing order) -/
theorem matchesNaive_leftmost (ctx : Ctx) (op : Op) (i : Nat) (st st' : St)
    (h : matchesNaive ctx op i st = (true, st')) :
    ∃ a sta, i ≤ a ∧ a ≤ ctx.len ∧ matchAt ctx op a sta = (true, st') ∧
      tryCands ctx op (rangeFrom i a) { st with cap := {} } = (false, sta) := by
  obtain ⟨a, sta, h1, h2, h3, h4⟩ :=
    tryCands_range_leftmost ctx op (ctx.len + 1) _ i _ st' rfl h
  exact ⟨a, sta, h1, by omega, h3, h4⟩

end Rx.C02

namespace Rx

/-! `capsPosOp` / `capsPosOps` are the same functions as `C02.capsPos` / `C02.capsPosL` (Spec/Preds), see `C02.capsPos_eq`; the list
    forms of `sem_s0` are stated with them. -/

mutual
def capsPosOp : Op → Bool
  | .capture g c => decide (1 ≤ g) && capsPosOp c
  | .choice bs => capsPosOps bs
  | .seq ops => capsPosOps ops
  | .rep _ c _ _ _ => capsPosOp c
  | .gfixed c _ _ _ => capsPosOp c
  | .rfixed c _ _ _ => capsPosOp c
  | .unamb c _ _ => capsPosOp c
  | _ => true
termination_by structural o => o
def capsPosOps : List Op → Bool
  | [] => true
  | o :: os => capsPosOp o && capsPosOps os
termination_by structural l => l
end

namespace C02

theorem capsPos_eq_both : (∀ op, capsPos op = capsPosOp op) ∧ ∀ ops, capsPosL ops = capsPosOps ops := by
  refine Op.ind_both rfl rfl rfl rfl (fun _ => rfl) (fun _ => rfl) (fun _ => rfl) ?_ ?_ ?_ ?_ ?_ ?_ ?_ rfl ?_
  · intro g c ih; simp only [capsPos, capsPosOp, ih]
  · intro bs ih; simp only [capsPos, capsPosOp, ih]
  · intro ops ih; simp only [capsPos, capsPosOp, ih]
  · intro _ c _ _ _ ih; simp only [capsPos, capsPosOp, ih]
  · intro c _ _ _ ih; simp only [capsPos, capsPosOp, ih]
  · intro c _ _ _ ih; simp only [capsPos, capsPosOp, ih]
  · intro c _ _ ih; simp only [capsPos, capsPosOp, ih]
  · intro o os iho ihos; simp only [capsPosL, capsPosOps, iho, ihos]

theorem capsPos_eq : (op : Op) → capsPos op = capsPosOp op :=
  capsPos_eq_both.1

theorem capsPosL_eq : (ops : List Op) → capsPosL ops = capsPosOps ops :=
  capsPos_eq_both.2

end C02

theorem sem_s0_choice (ctx : Ctx) (j : Nat) : (bs : List Op) → wfOps bs = true → capsPosOps bs = true →
    GenInv (fun p => p ≤ ctx.len) (Start0 j) (choiceGen (semL ctx bs)) :=
  fun bs hwf hc p st hp h =>
    (sem_sat_choice (satEnv_s0 ctx j) bs ⟨hwf, (C02.capsPosL_eq bs).trans hc⟩ p st hp h).inv

theorem sem_s0_seq (ctx : Ctx) (j : Nat) : (ops : List Op) → wfOps ops = true → capsPosOps ops = true →
    GenInv (fun p => p ≤ ctx.len) (Start0 j) (seqGo (semL ctx ops)) :=
  fun ops hwf hc p st hp h =>
    (sem_sat_seq (satEnv_s0 ctx j) ops ⟨hwf, (C02.capsPosL_eq ops).trans hc⟩ p st hp h).inv

end Rx
