/-
  Props/Clean2Api — the enlarged clean fragment (Spec/Enum2) from the PATTERN TEXT: `Regex::new`.

  Every tree `parseExpr` returns satisfies `seqGe2` and `endTop` (`parse_shape`, Proofs/Clean2ApiLemmas: no
  pattern yields a one-element sequence or an inner EndProgram, every `.seq` is built by `makeSequence`).  So of
  the hypotheses of `optimize_clean2` / `compile_clean2` / `compile_opt_eq_unopt` only the decidable `cleanOp` (the
  pattern uses no general repeat / back-reference) and `clsCanonB` remain.

  1  for a regex accepted by `Regex::new` (optimiser on) with the DECIDABLE condition
         `cleanProg2 env fl.caseBlind fl.multiLine r.prog.op ∧ clsCanonB r.prog.op`      on the compiled program
     (+ `Api.NoSat`, `r.prog.hasBackrefs = false`, "not the empty pattern under flag q", `InputOKFor`):
       `api_clean2_isMatch_iff`              C01, both directions, never panic / diverge
       `api_clean2_match_is_leftmost_first`  C02: least start, end = `(enum2 …).head?`
       `api_clean2_opt_eq_noopt`             shortcuts on/off on the same tree: Boolean, start, end
     two trees — `Regex::new … true` against `Regex::new … false` (the verification hook's path):
       `api_clean2_opt_eq_unopt`             same `is_match`, same Boolean / start / end of `matches(i)`;
                                             hypotheses on the UN-optimised compilation only
                                             (`cleanOp`, `clsCanonB`, no back-reference flag)
     the real tables, case-sensitive (`Env.std`, no flag i): `…_std_cs` — the only hypothesis on the
     data left is `ScalarInput input` (every input code point is a Unicode scalar value).
  The fragment is inside that of Spec/Enum4: `api_clean2_isMatch_iff`, `api_clean2_opt_eq_noopt` and the scan
  level are the theorems of Props/Clean4Api through `Clean4.cleanProg4_of_cleanProg2`.
  2  scan level: `clean2_no_zero_length`, `clean2_goodFind`, `clean2_find_clean`, `clean2_tokenize_spec`,
     `api_clean2_goodFind` (C04 / C16)
  3  non-vacuity: `a*b(c|d)+e` through `Regex.new Env.std`.

  Not covered: flag i with `Env.std`.  The case-blind theorems are the general ones above, whose hypothesis
  `InputOK.hcase : ctx.caseBlind = true → CaseOK env ctx.lower` (the maximal-munch step of the enumeration proofs,
  `C08.disjoint_maxmunch_wf`) is false of `Env.std` (`EnvStd.caseOK_std_false`).  That the restriction is real is
  the engine finding `EnvStd.dotted_I_unamb_finding`.
-/
import RxModel.Proofs.Clean2ApiLemmas
import RxModel.Props.Clean4Api
import RxModel.Props.Clean2End
namespace Rx.Clean2Api
open Rx Rx.SearchComplete Rx.Clean2Opt Rx.Clean2End
open Rx.C08 (noEmptyAtoms)

/-! ## 1. from `Regex::new` -/

/-- a regex accepted by `Regex::new` whose program is in the enlarged fragment: the program is
    `mkProgram` of a tree satisfying every hypothesis of the theorems of Props/Clean2Complete -/
theorem new_clean2 (env : Env) (p fs : List Nat) (xsd : Bool) (fl : Flags) (r : Regex)
    (hf : parseFlags fs xsd = some fl) (h : Regex.new env p fs xsd true = .ok r) (hns : Api.NoSat env fl p)
    (hclean : cleanProg2 env fl.caseBlind fl.multiLine r.prog.op = true) (hcan : clsCanonB r.prog.op = true)
    (hnb : r.prog.hasBackrefs = false) (hlit : fl.literal = true → p ≠ []) :
    ∃ pat' op' mp, r.prog = mkProgram pat' op' mp fl.core false ∧
      cleanProg2 env fl.core.caseBlind fl.core.multiLine op' = true ∧ wfOp op' = true ∧
      noEmptyAtoms op' = true ∧ clsCanonB op' = true ∧ C02.capsPos op' = true := by
  obtain ⟨pat', op', mp, heq, hwf, hne, hcp⟩ := CleanComplete.new_prog env p fs xsd fl r hf h hns hnb hlit
  rw [heq, MkProgram.op] at hclean hcan
  have hid := numberReps_id_of_shape op' (shape_of_cleanProg2 env _ _ _ hclean)
  rw [hid] at hclean hcan
  exact ⟨pat', op', mp, heq, hclean, hwf, hne, hcan, hcp⟩

/-- C01 from the pattern text, both directions -/
theorem api_clean2_isMatch_iff (env : Env) (p fs : List Nat) (xsd : Bool) (fl : Flags) (r : Regex)
    (hf : parseFlags fs xsd = some fl) (h : Regex.new env p fs xsd true = .ok r) (hns : Api.NoSat env fl p)
    (hclean : cleanProg2 env fl.caseBlind fl.multiLine r.prog.op = true) (hcan : clsCanonB r.prog.op = true)
    (hnb : r.prog.hasBackrefs = false) (hlit : fl.literal = true → p ≠ [])
    (input : List Nat) (hI : InputOKFor env fl.core env.lower input) (hlen : input.length < usizeMax) :
    (r.prog.isMatch env.lower input = .ok true ↔
      ∃ j q, j ≤ input.length ∧ OpR (r.prog.ctx env.lower input) r.prog.op j q) ∧
    ((¬ ∃ j q, j ≤ input.length ∧ OpR (r.prog.ctx env.lower input) r.prog.op j q) →
      r.prog.isMatch env.lower input = .ok false) :=
  Clean4Api.api_clean4_isMatch_iff env p fs xsd fl r hf h hns (Clean4.cleanProg4_of_cleanProg2 env _ _ _ hclean) hcan hnb hlit input hI hlen

/-- C02 from the pattern text: least start; end = head of the engine's priority enumeration -/
theorem api_clean2_match_is_leftmost_first (env : Env) (p fs : List Nat) (xsd : Bool) (fl : Flags) (r : Regex)
    (hf : parseFlags fs xsd = some fl) (h : Regex.new env p fs xsd true = .ok r) (hns : Api.NoSat env fl p)
    (hclean : cleanProg2 env fl.caseBlind fl.multiLine r.prog.op = true) (hcan : clsCanonB r.prog.op = true)
    (hnb : r.prog.hasBackrefs = false) (hlit : fl.literal = true → p ≠ [])
    (input : List Nat) (hI : InputOKFor env fl.core env.lower input) (hlen : input.length < usizeMax)
    (i : Nat) (hi : i ≤ input.length) (st st' : St) (hst : st.panic = none)
    (hm : matchesFrom (r.prog.ctx env.lower input) r.prog i st = (true, st')) :
    ∃ j n, getParenStart st' 0 = some j ∧ getParenEnd st' 0 = some n ∧
      (enum2 (r.prog.ctx env.lower input) r.prog.op j).head? = some n ∧
      i ≤ j ∧ j ≤ n ∧ n ≤ input.length ∧ OpR (r.prog.ctx env.lower input) r.prog.op j n ∧
      ∀ k q, i ≤ k → k < j → ¬ OpR (r.prog.ctx env.lower input) r.prog.op k q := by
  obtain ⟨pat', op', mp, heq, hc, hw, hne, hca, hcp⟩ := new_clean2 env p fs xsd fl r hf h hns hclean hcan hnb hlit
  rw [heq] at hm ⊢
  exact Clean2Complete.clean2_match_is_leftmost_first env pat' op' mp fl.core env.lower input hI hc hw hne hca hcp
    hlen i hi st st' hst hm

/-- shortcuts on / off on the compiled tree: Boolean, start and end -/
theorem api_clean2_opt_eq_noopt (env : Env) (p fs : List Nat) (xsd : Bool) (fl : Flags) (r : Regex)
    (hf : parseFlags fs xsd = some fl) (h : Regex.new env p fs xsd true = .ok r) (hns : Api.NoSat env fl p)
    (hclean : cleanProg2 env fl.caseBlind fl.multiLine r.prog.op = true) (hcan : clsCanonB r.prog.op = true)
    (hnb : r.prog.hasBackrefs = false) (hlit : fl.literal = true → p ≠ [])
    (input : List Nat) (hI : InputOKFor env fl.core env.lower input) (hlen : input.length < usizeMax)
    (i : Nat) (hi : i ≤ input.length) (st1 st2 : St) (h1 : st1.panic = none) (h2 : st2.panic = none) :
    (matchesFrom (r.prog.ctx env.lower input) r.prog i st1).1 =
      (matchesNaive (r.prog.ctx env.lower input) r.prog.op i st2).1 ∧
    ((matchesFrom (r.prog.ctx env.lower input) r.prog i st1).1 = true →
      getParenStart (matchesFrom (r.prog.ctx env.lower input) r.prog i st1).2 0 =
        getParenStart (matchesNaive (r.prog.ctx env.lower input) r.prog.op i st2).2 0 ∧
      getParenEnd (matchesFrom (r.prog.ctx env.lower input) r.prog i st1).2 0 =
        getParenEnd (matchesNaive (r.prog.ctx env.lower input) r.prog.op i st2).2 0) :=
  Clean4Api.api_clean4_opt_eq_noopt env p fs xsd fl r hf h hns (Clean4.cleanProg4_of_cleanProg2 env _ _ _ hclean) hcan hnb hlit input hI hlen
    i hi st1 st2 h1 h2

/-! ### two trees: `Regex::new` with and without the optimiser -/

/-- `Regex::new … true` against `Regex::new … false` (what the crate's verification hook exercises):
    the same `is_match`, and `matches(i)` reports the same Boolean and the same span of group 0 — on
    every input of scalar values.  Hypotheses on the UN-optimised compilation only: its tree is in the
    fragment `cleanOp` of Spec/Enum (decidable: the pattern has no general repeat and no back-reference), its
    classes are canonical (decidable), the back-reference flag is off.  Everything else comes from the
    parser (`parse_shape`, `parse_wf`, `parse_noEmptyAtoms`) and from `optimize_clean2`. -/
theorem api_clean2_opt_eq_unopt (env : Env) (p fs : List Nat) (xsd : Bool) (fl : Flags) (r r0 : Regex)
    (hf : parseFlags fs xsd = some fl)
    (h1 : Regex.new env p fs xsd true = .ok r) (h0 : Regex.new env p fs xsd false = .ok r0)
    (hns : Api.NoSat env fl p) (hlit : fl.literal = true → p ≠ [])
    (hnb : r0.prog.hasBackrefs = false) (hc : cleanOp r0.prog.op = true) (hcan : clsCanonB r0.prog.op = true)
    (input : List Nat) (hI : InputOKFor env fl.core env.lower input) (hlen : input.length < usizeMax) :
    r.prog.isMatch env.lower input = r0.prog.isMatch env.lower input ∧
    ∀ (i : Nat), i ≤ input.length → ∀ (st1 st2 : St), st1.panic = none → st2.panic = none →
      (matchesFrom (r.prog.ctx env.lower input) r.prog i st1).1 =
        (matchesFrom (r0.prog.ctx env.lower input) r0.prog i st2).1 ∧
      ((matchesFrom (r.prog.ctx env.lower input) r.prog i st1).1 = true →
        getParenStart (matchesFrom (r.prog.ctx env.lower input) r.prog i st1).2 0 =
          getParenStart (matchesFrom (r0.prog.ctx env.lower input) r0.prog i st2).2 0 ∧
        getParenEnd (matchesFrom (r.prog.ctx env.lower input) r.prog i st1).2 0 =
          getParenEnd (matchesFrom (r0.prog.ctx env.lower input) r0.prog i st2).2 0) := by
  have hc1 := ApiL.new_compile env p fs xsd true fl r hf h1
  have hc0 := ApiL.new_compile env p fs xsd false fl r0 hf h0
  rw [ApiL.compileProg_core] at hc1 hc0
  by_cases hl : fl.literal = true
  · -- a literal pattern is not optimised: the same tree, with and without the search shortcuts
    have hl' : fl.core.literal = true := hl
    have hpe : ApiL.effPat fl p = p := by
      unfold ApiL.effPat; rw [hl]; simp
    rw [hpe, compileCore_lit hl'] at hc1 hc0
    rw [← Out.ok.inj hc1, ← Out.ok.inj hc0, if_pos rfl, if_neg Bool.false_ne_true]
    have hpne := hlit hl
    have hs : makeSequence (.atom p) .endProgram = .seq [.atom p, .endProgram] := rfl
    rw [hs]
    have hcl : cleanOp (.seq [.atom p, .endProgram]) = true := rfl
    have hw : wfOp (.seq [.atom p, .endProgram]) = true := rfl
    have hcp : C02.capsPos (.seq [.atom p, .endProgram]) = true := rfl
    have hne : noEmptyAtoms (.seq [.atom p, .endProgram]) = true := by
      cases p with
      | nil => exact absurd rfl hpne
      | cons a t => rfl
    exact ⟨CleanComplete.clean_isMatch_eq_bare p _ 1 fl.core env.lower input hcl hw hne hcp hlen,
      fun i hi st1 st2 a b =>
        CleanComplete.clean_opt_eq_bare p _ 1 fl.core env.lower input hcl hw hne hcp hlen i hi st1 st2 a b⟩
  · have hl' : fl.core.literal = false := by
      have : fl.literal = false := by simpa using hl
      exact this
    have hns' : ∀ op s, parseExpr { pat := ApiL.effPat fl p, fl := fl.core, env := env }
        (4 * (ApiL.effPat fl p).length + 16) {} true = .ok op s → WF.noSat op = true :=
      fun op s hp => (hns op s hp).2
    obtain ⟨b1, b2, b3, b4, b5⟩ := bare_facts env fl.core (ApiL.effPat fl p) r0.prog hc0 hns' hc
    exact compile_opt_eq_unopt env fl.core (ApiL.effPat fl p) r.prog r0.prog hl' hc1 hc0 hnb hc b1 b2 b3
      (b4 fun h => absurd h (by rw [hl']; decide)) hcan b5
      env.lower input hI hlen

/-- … and the optimised program is then in the enlarged fragment BY CONSTRUCTION: the decidable
    condition of the single-tree theorems follows from `cleanOp` of the un-optimised compilation -/
theorem api_clean2_by_construction (env : Env) (p fs : List Nat) (xsd : Bool) (fl : Flags) (r r0 : Regex)
    (hf : parseFlags fs xsd = some fl)
    (h1 : Regex.new env p fs xsd true = .ok r) (h0 : Regex.new env p fs xsd false = .ok r0)
    (hns : Api.NoSat env fl p) (hc : cleanOp r0.prog.op = true) (hcan : clsCanonB r0.prog.op = true) :
    cleanProg2 env fl.caseBlind fl.multiLine r.prog.op = true ∧ clsCanonB r.prog.op = true := by
  have hc1 := ApiL.new_compile env p fs xsd true fl r hf h1
  have hc0 := ApiL.new_compile env p fs xsd false fl r0 hf h0
  rw [ApiL.compileProg_core] at hc1 hc0
  obtain ⟨b1, b2, b3, _, _⟩ :=
    bare_facts env fl.core (ApiL.effPat fl p) r0.prog hc0 (fun op s hp => (hns op s hp).2) hc
  obtain ⟨g1, g2⟩ := compile_clean2 env fl.core (ApiL.effPat fl p) r.prog r0.prog hc1 hc0 hc b1 b2 b3
  refine ⟨g1, ?_⟩
  rcases g2 with g2 | g2
  · rw [g2]; exact hcan
  · rw [g2]; exact optimize_clsCanonB env fl.core _ hcan

/-! ### the real tables, case-sensitive -/

theorem api_clean2_isMatch_iff_std_cs (p fs : List Nat) (xsd : Bool) (fl : Flags) (r : Regex)
    (hf : parseFlags fs xsd = some fl) (h : Regex.new Env.std p fs xsd true = .ok r)
    (hns : Api.NoSat Env.std fl p) (hcb : fl.caseBlind = false)
    (hclean : cleanProg2 Env.std false fl.multiLine r.prog.op = true) (hcan : clsCanonB r.prog.op = true)
    (hnb : r.prog.hasBackrefs = false) (hlit : fl.literal = true → p ≠ [])
    (input : List Nat) (hsv : ScalarInput input) (hlen : input.length < usizeMax) :
    (r.prog.isMatch Env.std.lower input = .ok true ↔
      ∃ j q, j ≤ input.length ∧ OpR (r.prog.ctx Env.std.lower input) r.prog.op j q) ∧
    ((¬ ∃ j q, j ≤ input.length ∧ OpR (r.prog.ctx Env.std.lower input) r.prog.op j q) →
      r.prog.isMatch Env.std.lower input = .ok false) :=
  api_clean2_isMatch_iff Env.std p fs xsd fl r hf h hns (by rw [hcb]; exact hclean) hcan hnb hlit input
    (inputOK_std_cs hcb hsv) hlen

theorem api_clean2_match_is_leftmost_first_std_cs (p fs : List Nat) (xsd : Bool) (fl : Flags) (r : Regex)
    (hf : parseFlags fs xsd = some fl) (h : Regex.new Env.std p fs xsd true = .ok r)
    (hns : Api.NoSat Env.std fl p) (hcb : fl.caseBlind = false)
    (hclean : cleanProg2 Env.std false fl.multiLine r.prog.op = true) (hcan : clsCanonB r.prog.op = true)
    (hnb : r.prog.hasBackrefs = false) (hlit : fl.literal = true → p ≠ [])
    (input : List Nat) (hsv : ScalarInput input) (hlen : input.length < usizeMax)
    (i : Nat) (hi : i ≤ input.length) (st st' : St) (hst : st.panic = none)
    (hm : matchesFrom (r.prog.ctx Env.std.lower input) r.prog i st = (true, st')) :
    ∃ j n, getParenStart st' 0 = some j ∧ getParenEnd st' 0 = some n ∧
      (enum2 (r.prog.ctx Env.std.lower input) r.prog.op j).head? = some n ∧
      i ≤ j ∧ j ≤ n ∧ n ≤ input.length ∧ OpR (r.prog.ctx Env.std.lower input) r.prog.op j n ∧
      ∀ k q, i ≤ k → k < j → ¬ OpR (r.prog.ctx Env.std.lower input) r.prog.op k q :=
  api_clean2_match_is_leftmost_first Env.std p fs xsd fl r hf h hns (by rw [hcb]; exact hclean) hcan hnb hlit
    input (inputOK_std_cs hcb hsv) hlen i hi st st' hst hm

theorem api_clean2_opt_eq_noopt_std_cs (p fs : List Nat) (xsd : Bool) (fl : Flags) (r : Regex)
    (hf : parseFlags fs xsd = some fl) (h : Regex.new Env.std p fs xsd true = .ok r)
    (hns : Api.NoSat Env.std fl p) (hcb : fl.caseBlind = false)
    (hclean : cleanProg2 Env.std false fl.multiLine r.prog.op = true) (hcan : clsCanonB r.prog.op = true)
    (hnb : r.prog.hasBackrefs = false) (hlit : fl.literal = true → p ≠ [])
    (input : List Nat) (hsv : ScalarInput input) (hlen : input.length < usizeMax)
    (i : Nat) (hi : i ≤ input.length) (st1 st2 : St) (h1 : st1.panic = none) (h2 : st2.panic = none) :
    (matchesFrom (r.prog.ctx Env.std.lower input) r.prog i st1).1 =
      (matchesNaive (r.prog.ctx Env.std.lower input) r.prog.op i st2).1 ∧
    ((matchesFrom (r.prog.ctx Env.std.lower input) r.prog i st1).1 = true →
      getParenStart (matchesFrom (r.prog.ctx Env.std.lower input) r.prog i st1).2 0 =
        getParenStart (matchesNaive (r.prog.ctx Env.std.lower input) r.prog.op i st2).2 0 ∧
      getParenEnd (matchesFrom (r.prog.ctx Env.std.lower input) r.prog i st1).2 0 =
        getParenEnd (matchesNaive (r.prog.ctx Env.std.lower input) r.prog.op i st2).2 0) :=
  api_clean2_opt_eq_noopt Env.std p fs xsd fl r hf h hns (by rw [hcb]; exact hclean) hcan hnb hlit
    input (inputOK_std_cs hcb hsv) hlen i hi st1 st2 h1 h2

theorem api_clean2_opt_eq_unopt_std_cs (p fs : List Nat) (xsd : Bool) (fl : Flags) (r r0 : Regex)
    (hf : parseFlags fs xsd = some fl)
    (h1 : Regex.new Env.std p fs xsd true = .ok r) (h0 : Regex.new Env.std p fs xsd false = .ok r0)
    (hns : Api.NoSat Env.std fl p) (hcb : fl.caseBlind = false) (hlit : fl.literal = true → p ≠ [])
    (hnb : r0.prog.hasBackrefs = false) (hc : cleanOp r0.prog.op = true) (hcan : clsCanonB r0.prog.op = true)
    (input : List Nat) (hsv : ScalarInput input) (hlen : input.length < usizeMax) :
    r.prog.isMatch Env.std.lower input = r0.prog.isMatch Env.std.lower input ∧
    ∀ (i : Nat), i ≤ input.length → ∀ (st1 st2 : St), st1.panic = none → st2.panic = none →
      (matchesFrom (r.prog.ctx Env.std.lower input) r.prog i st1).1 =
        (matchesFrom (r0.prog.ctx Env.std.lower input) r0.prog i st2).1 ∧
      ((matchesFrom (r.prog.ctx Env.std.lower input) r.prog i st1).1 = true →
        getParenStart (matchesFrom (r.prog.ctx Env.std.lower input) r.prog i st1).2 0 =
          getParenStart (matchesFrom (r0.prog.ctx Env.std.lower input) r0.prog i st2).2 0 ∧
        getParenEnd (matchesFrom (r.prog.ctx Env.std.lower input) r.prog i st1).2 0 =
          getParenEnd (matchesFrom (r0.prog.ctx Env.std.lower input) r0.prog i st2).2 0) :=
  api_clean2_opt_eq_unopt Env.std p fs xsd fl r r0 hf h1 h0 hns hlit hnb hc hcan input
    (inputOK_std_cs hcb hsv) hlen

/-! ## 2. scan level (C04 / C16): a non-nullable program of the fragment reports only non-empty spans -/

theorem clean2_no_zero_length (env : Env) (pat : List Nat) (op : Op) (mp : Nat) (fl : CFlags) (lower : Nat → Nat)
    (hc : cleanProg2 env fl.caseBlind fl.multiLine op = true) (hwf : wfOp op = true)
    (hne : noEmptyAtoms op = true) (hcan : clsCanonB op = true) (hcp : C02.capsPos op = true)
    (hI0 : InputOKFor env fl lower [])
    (hnull : (mkProgram pat op mp fl false).isMatch lower [] = .ok false)
    (input : List Nat) (hI : InputOKFor env fl lower input) (hlen : input.length < usizeMax)
    (i : Nat) (hi : i ≤ input.length) (st st' : St) (hst : st.panic = none)
    (h : matchesFrom ((mkProgram pat op mp fl false).ctx lower input) (mkProgram pat op mp fl false) i st
      = (true, st')) :
    ∃ j n, getParenStart st' 0 = some j ∧ getParenEnd st' 0 = some n ∧ i ≤ j ∧ j < n ∧ n ≤ input.length :=
  (clean2_progOK env pat op mp fl lower input hI hc hwf hne hcan hlen).no_zero_length
    (clean2_progOK env pat op mp fl lower [] hI0 hc hwf hne hcan (by decide))
    ((mkProgram_tree pat op mp fl false).2.2.trans hcp) hnull i hi st st' hst h

/-- hence the concrete matcher satisfies the hypothesis `GoodFind` of every C04 theorem, with the
    invariant "panic marker clear" -/
theorem clean2_goodFind (env : Env) (pat : List Nat) (op : Op) (mp : Nat) (fl : CFlags) (lower : Nat → Nat)
    (hc : cleanProg2 env fl.caseBlind fl.multiLine op = true) (hwf : wfOp op = true)
    (hne : noEmptyAtoms op = true) (hcan : clsCanonB op = true) (hcp : C02.capsPos op = true)
    (hnull : (mkProgram pat op mp fl false).isMatch lower [] = .ok false)
    (input : List Nat) (hI : InputOKFor env fl lower input) (hlen : input.length < usizeMax) :
    C04.GoodFind ((mkProgram pat op mp fl false).matcher lower input) input.length
      (fun st => st.panic = none) :=
  (clean2_progOK env pat op mp fl lower input hI hc hwf hne hcan hlen).goodFind
    (clean2_progOK env pat op mp fl lower [] (inputOKFor_nil hI) hc hwf hne hcan (by decide))
    ((mkProgram_tree pat op mp fl false).2.2.trans hcp) hnull

/-- … and it never fails from a clean state -/
theorem clean2_find_clean (env : Env) (pat : List Nat) (op : Op) (mp : Nat) (fl : CFlags) (lower : Nat → Nat)
    (hc : cleanProg2 env fl.caseBlind fl.multiLine op = true) (hwf : wfOp op = true)
    (hne : noEmptyAtoms op = true) (hcan : clsCanonB op = true)
    (input : List Nat) (hI : InputOKFor env fl lower input) (hlen : input.length < usizeMax)
    (st : St) (hst : st.panic = none) (pos : Nat) (hpos : pos ≤ input.length) :
    ((mkProgram pat op mp fl false).matcher lower input).failed
      (((mkProgram pat op mp fl false).matcher lower input).find st pos).2 = none :=
  ((clean2_progOK env pat op mp fl lower input hI hc hwf hne hcan hlen).outcome pos hpos st hst).clean

/-- C04 applied: the tokens the scan loop produces are the pieces between the spans -/
theorem clean2_tokenize_spec (env : Env) (pat : List Nat) (op : Op) (mp : Nat) (fl : CFlags) (lower : Nat → Nat)
    (hc : cleanProg2 env fl.caseBlind fl.multiLine op = true) (hwf : wfOp op = true)
    (hne : noEmptyAtoms op = true) (hcan : clsCanonB op = true) (hcp : C02.capsPos op = true)
    (hnull : (mkProgram pat op mp fl false).isMatch lower [] = .ok false)
    (input : List Nat) (hI : InputOKFor env fl lower input) (hlen : input.length < usizeMax)
    (limit : Nat) (hl : input.length + 1 ≤ limit) (toks : List (List Nat)) (more : Bool)
    (h : tokenLoop ((mkProgram pat op mp fl false).matcher lower input) input limit (some 0) {} [] = .ok (toks, more)) :
    toks = Spec.pieces input 0 (C04.spanPairs (C04.spansOf ((mkProgram pat op mp fl false).matcher lower input)
      input.length (input.length + 2) 0 {})) ∧ more = false :=
  C04.tokenize_spec _ _ input (clean2_goodFind env pat op mp fl lower hc hwf hne hcan hcp hnull input hI hlen)
    {} rfl limit hl toks more h

/-- from the pattern text: a regex of the fragment that passes the nullability gate drives the scan
    loops (replace / tokenize / analyze) with a matcher satisfying C04's `GoodFind` -/
theorem api_clean2_goodFind (env : Env) (p fs : List Nat) (xsd : Bool) (fl : Flags) (r : Regex)
    (hf : parseFlags fs xsd = some fl) (h : Regex.new env p fs xsd true = .ok r) (hns : Api.NoSat env fl p)
    (hclean : cleanProg2 env fl.caseBlind fl.multiLine r.prog.op = true) (hcan : clsCanonB r.prog.op = true)
    (hnb : r.prog.hasBackrefs = false) (hlit : fl.literal = true → p ≠ []) (hnull : r.nullable = false)
    (input : List Nat) (hI : InputOKFor env fl.core env.lower input) (hlen : input.length < usizeMax) :
    C04.GoodFind (r.prog.matcher env.lower input) input.length (fun st => st.panic = none) :=
  Clean4Api.api_clean4_goodFind env p fs xsd fl r hf h hns (Clean4.cleanProg4_of_cleanProg2 env _ _ _ hclean) hcan hnb hlit hnull input hI hlen

theorem api_clean2_goodFind_std_cs (p fs : List Nat) (xsd : Bool) (fl : Flags) (r : Regex)
    (hf : parseFlags fs xsd = some fl) (h : Regex.new Env.std p fs xsd true = .ok r)
    (hns : Api.NoSat Env.std fl p) (hcb : fl.caseBlind = false)
    (hclean : cleanProg2 Env.std false fl.multiLine r.prog.op = true) (hcan : clsCanonB r.prog.op = true)
    (hnb : r.prog.hasBackrefs = false) (hlit : fl.literal = true → p ≠ []) (hnull : r.nullable = false)
    (input : List Nat) (hsv : ScalarInput input) (hlen : input.length < usizeMax) :
    C04.GoodFind (r.prog.matcher Env.std.lower input) input.length (fun st => st.panic = none) :=
  api_clean2_goodFind Env.std p fs xsd fl r hf h hns (by rw [hcb]; exact hclean) hcan hnb hlit hnull input
    (inputOK_std_cs hcb hsv) hlen

/-! ## 3. non-vacuity: `a*b(c|d)+e` through `Regex.new Env.std` (the real tables), no flags -/
section example_

/-- `a*b(c|d)+e` -/
def exPat : List Nat := [97, 42, 98, 40, 99, 124, 100, 41, 43, 101]

/-- "xaabcde" -/
def exInput : List Nat := [120, 97, 97, 98, 99, 100, 101]

/-- `Regex::new` accepts the pattern (with and without the optimiser), and both compilations satisfy
    the decidable hypotheses — kernel evaluation of the model's compiler over `Env.std` -/
theorem ex_new :
    (match Regex.new Env.std exPat [] false true with
     | .ok r => cleanProg2 Env.std false false r.prog.op && clsCanonB r.prog.op && !r.prog.hasBackrefs &&
         !r.nullable && !cleanOp r.prog.op
     | _ => false) = true ∧
    (match Regex.new Env.std exPat [] false false with
     | .ok r0 => cleanOp r0.prog.op && clsCanonB r0.prog.op && !r0.prog.hasBackrefs
     | _ => false) = true := by decide +kernel

/-- the side condition `NoSat` for this pattern (no saturated body length) -/
theorem ex_noSat : Api.NoSat Env.std {} exPat :=
  Api.noSat_of exPat (by decide +kernel)

theorem ex_scalar : ScalarInput exInput := by
  intro c hc
  simp only [exInput, List.mem_cons, List.not_mem_nil, or_false] at hc
  rcases hc with rfl | rfl | rfl | rfl | rfl | rfl | rfl <;> decide

/-- `api_clean2_isMatch_iff_std_cs` instantiated: for EVERY input of scalar values, the regex compiled
    from the pattern text by `Regex.new Env.std` answers `true` exactly when some substring is in the
    language of the compiled tree, and `false` otherwise -/
theorem ex_isMatch_iff (input : List Nat) (hsv : ScalarInput input) (hlen : input.length < usizeMax)
    (r : Regex) (h : Regex.new Env.std exPat [] false true = .ok r) :
    (r.prog.isMatch Env.std.lower input = .ok true ↔
      ∃ j q, j ≤ input.length ∧ OpR (r.prog.ctx Env.std.lower input) r.prog.op j q) ∧
    ((¬ ∃ j q, j ≤ input.length ∧ OpR (r.prog.ctx Env.std.lower input) r.prog.op j q) →
      r.prog.isMatch Env.std.lower input = .ok false) := by
  have hk := ex_new.1
  rw [h] at hk
  simp only [Bool.and_eq_true, Bool.not_eq_true'] at hk
  obtain ⟨⟨⟨⟨k1, k2⟩, k3⟩, _⟩, _⟩ := hk
  exact api_clean2_isMatch_iff_std_cs exPat [] false {} r rfl h ex_noSat rfl k1 k2 k3
    (fun hl => by cases hl) input hsv hlen

/-- … it passes the nullability gate, so it drives the scan loops with a `GoodFind` matcher -/
theorem ex_goodFind (input : List Nat) (hsv : ScalarInput input) (hlen : input.length < usizeMax)
    (r : Regex) (h : Regex.new Env.std exPat [] false true = .ok r) :
    C04.GoodFind (r.prog.matcher Env.std.lower input) input.length (fun st => st.panic = none) := by
  have hk := ex_new.1
  rw [h] at hk
  simp only [Bool.and_eq_true, Bool.not_eq_true'] at hk
  obtain ⟨⟨⟨⟨k1, k2⟩, k3⟩, k4⟩, _⟩ := hk
  exact api_clean2_goodFind_std_cs exPat [] false {} r rfl h ex_noSat rfl k1 k2 k3
    (fun hl => by cases hl) k4 input hsv hlen

/-- … and the optimised and the un-optimised regex agree on every input of scalar values -/
theorem ex_opt_eq_unopt (input : List Nat) (hsv : ScalarInput input) (hlen : input.length < usizeMax)
    (r r0 : Regex) (h1 : Regex.new Env.std exPat [] false true = .ok r)
    (h0 : Regex.new Env.std exPat [] false false = .ok r0) :
    r.prog.isMatch Env.std.lower input = r0.prog.isMatch Env.std.lower input := by
  have hk := ex_new.2
  rw [h0] at hk
  simp only [Bool.and_eq_true, Bool.not_eq_true'] at hk
  obtain ⟨⟨k1, k2⟩, k3⟩ := hk
  exact (api_clean2_opt_eq_unopt_std_cs exPat [] false {} r r0 rfl h1 h0 ex_noSat rfl
    (fun hl => by cases hl) k3 k1 k2 input hsv hlen).1

/-- the computed answer on "xaabcde" (kernel evaluation) — `true`, span (1, 7) — agrees with the
    right-hand side the theorem predicts -/
theorem ex_computed :
    (match Regex.new Env.std exPat [] false true with
     | .ok r => (r.prog.isMatch Env.std.lower exInput == .ok true) &&
         (getParenStart (matchesFrom (r.prog.ctx Env.std.lower exInput) r.prog 0 {}).2 0 == some 1) &&
         (getParenEnd (matchesFrom (r.prog.ctx Env.std.lower exInput) r.prog 0 {}).2 0 == some 7) &&
         (enum2 (r.prog.ctx Env.std.lower exInput) r.prog.op 1 == [7])
     | _ => false) = true := by decide +kernel

theorem ex_member (r : Regex) (h : Regex.new Env.std exPat [] false true = .ok r) :
    ∃ j q, j ≤ exInput.length ∧ OpR (r.prog.ctx Env.std.lower exInput) r.prog.op j q := by
  have hk := ex_computed
  rw [h] at hk
  simp only [Bool.and_eq_true, beq_iff_eq] at hk
  exact ((ex_isMatch_iff exInput ex_scalar (by decide) r h).1).1 hk.1.1.1

end example_

end Rx.Clean2Api
