/-
  Props/C03g — C03 / C19 for `straightCaps3` programs (Props/C03f: captures and back-references next to
  capture-free VARIABLE-LENGTH repeats, `(a+)(?:bc|d)+?\1`), lifted from `match_at` through the search loop
  `matches` (all five shortcuts) and up to the API functions that REPORT groups, exactly as Props/C03c lifts
  Props/C03b.

  Hypotheses, bundled in `SearchOK3 env pr lower input` (Proofs/PathCaps3ScanLemmas):
    * `StraightOK3`: `InputOK env ctx` (input side) and the decidable program side `C03f.progOK3`
      (`straightCaps3`, `wfOp`, `noEmptyAtoms`, `clsCanonB`, `C02.capsPos`, `scopeOK … [] []`, `Nodup`);
    * `InputOK` for the empty input; `SearchFacts` for the input and the empty input (what `ReProgram::new`
      records, `SearchComplete.mkProgram_searchFacts`; `searchOK3_of_mkProgram` below);
    * every precondition tree has `preShape` and `simplePre`; `input.length < usize::MAX`; the nullability
      gate `is_match("") = false` (C16).

  1. `matchAt_cases3`, `tryCands_caps3`, `matchesFrom_caps3`, `matchesFrom_caps3_false`: THE SEARCH LOOP
     (least start with a path, first path of `enumC3`, arrays represent its environment, no panic).
  2. `replace_first_match_groups3`, `replace_groups3` (+ `specSpans3_cons`, `firstMatch3_spec`):
     `replace_all` never fails on a well-formed replacement and equals the specification over the
     state-free span sequence `specSpans3`, `$N` = text of group N on the selected path.
  3. `analyze_match_groups3`, `analyze_groups3`, `groupTree_text3`, `groupTree_groups3`, `groupTree_node3`:
     the analyze answer is the explicit group tree (as in C03c: `.ok` is a hypothesis of `analyze_groups3`).
  3b. `groups_nested3`, `matchAt_nested3`, `matchesFrom_nested3`: reported spans inside the match, nested as
     the parentheses; the text of a group is a match of its sub-expression.
  4. kernel-evaluated examples on `(a+)(?:bc|d)+?\1` and `((a)b)(?:c|de)+\2\1`.

  The lifting itself is proved once, for `CapsOK` / `SearchCaps` (Proofs/CapsMatchLemmas, Proofs/C03cLemmas,
  Proofs/C03cTree); `StraightOK3.caps` and `SearchOK3.caps` give these from the hypotheses above.  The
  consequences of the path semantics (`groups_nested3`, `groupTree_*3`) are those of `Spine.*`.
-/
import RxModel.Proofs.PathCaps3ScanLemmas
import RxModel.Props.C03f
import RxModel.Proofs.C03cTree
namespace Rx.C03g
open Rx

/-! ## 1. the search loop -/

/-- one `match_at(j)` from a good state: either a path starts at `j`, `match_at` succeeds and leaves
    the first path of the priority order; or no path starts at `j`, `match_at` fails and the state is
    good again (so the next attempt starts clear) -/
theorem matchAt_cases3 (env : Env) (ctx : Ctx) (hI : InputOK env ctx) (op : Op)
    (hok : C03f.progOK3 env ctx.caseBlind ctx.multiLine ctx.hasBackrefs ctx.maxParens op = true)
    (j : Nat) (hj : j ≤ ctx.len) (st : St) (hst : Good op st) :
    (HasP ctx op j ∧ ∃ st' n e', matchAt ctx op j st = (true, st') ∧ MatchRes3 ctx op j n e' st') ∨
    (¬ HasP ctx op j ∧ ∃ st', matchAt ctx op j st = (false, st') ∧ Good op st') :=
  CapsOK.matchAt_cases ctx op (StraightOK3.of_progOK3 hI hok).caps j hj st hst

/-- the candidate loop: it stops at the FIRST candidate from which a path exists -/
theorem tryCands_caps3 (env : Env) (ctx : Ctx) (hI : InputOK env ctx) (op : Op)
    (hok : C03f.progOK3 env ctx.caseBlind ctx.multiLine ctx.hasBackrefs ctx.maxParens op = true)
    (cands : List Nat) (hb : ∀ j ∈ cands, j ≤ ctx.len) (st st' : St) (hst : Good op st)
    (h : tryCands ctx op cands st = (true, st')) :
    ∃ pre j post n e', cands = pre ++ j :: post ∧ (∀ k ∈ pre, ¬ HasP ctx op k) ∧
      MatchRes3 ctx op j n e' st' :=
  (StraightOK3.of_progOK3 hI hok).caps.tryCands_hit cands hb st st' hst h

/-- **`matches(i)` reports the captures of the leftmost, first path** — through all shortcuts: `j` is the
    LEAST start `≥ i` from which a path of the semantics (with environments) exists, `(n, e')` is the FIRST
    path of the priority order from `j` (`enumC3`: ordered choice, greedy-longest, reluctant-shortest, also
    for the variable-length repeats), group 0 = `(j, n)`, the capture arrays represent exactly `e'`,
    `get_paren(g)` is the text of `e' g`; no panic -/
theorem matchesFrom_caps3 (env : Env) (pr : Prog) (lower : Nat → Nat) (input : List Nat)
    (S : SearchOK3 env pr lower input)
    (i : Nat) (hi : i ≤ input.length) (st st' : St) (hst : st.panic = none)
    (h : matchesFrom (pr.ctx lower input) pr i st = (true, st')) :
    ∃ j n e', i ≤ j ∧ j < n ∧ n ≤ input.length ∧
      PathR (pr.ctx lower input) pr.op j CEnv.empty n e' ∧
      (enumC3 (pr.ctx lower input) pr.op j CEnv.empty).head? = some (n, e') ∧
      (∀ k, i ≤ k → k < j → ¬ ∃ n' e'', PathR (pr.ctx lower input) pr.op k CEnv.empty n' e'') ∧
      getParenStart st' 0 = some j ∧ getParenEnd st' 0 = some n ∧
      Repr (pr.ctx lower input) st' e' ∧ EnvIn e' j n ∧
      (∀ g, g ∈ capsOf pr.op ↔ (e' g).isSome = true) ∧
      (∀ g, getParen input st' g = grpOf input j n e' g) ∧ st'.panic = none := by
  obtain ⟨j, n, e', h1, hjn, h3, hres, hg⟩ := S.caps.matches_true i hi st st' hst h
  exact ⟨j, n, e', h1, hjn, hres.len, hres.path, hres.first, h3, hres.start0, hres.end0, hres.repr,
    hres.env, hres.dom, hg, hres.clean⟩

/-- `matches(i) = false`: no path starts at or after `i`; the state stays clean -/
theorem matchesFrom_caps3_false (env : Env) (pr : Prog) (lower : Nat → Nat) (input : List Nat)
    (S : SearchOK3 env pr lower input)
    (i : Nat) (hi : i ≤ input.length) (st st' : St) (hst : st.panic = none)
    (h : matchesFrom (pr.ctx lower input) pr i st = (false, st')) :
    (∀ j, i ≤ j → j ≤ input.length → ¬ ∃ n e', PathR (pr.ctx lower input) pr.op j CEnv.empty n e') ∧
    st'.panic = none :=
  S.caps.matches_false i hi st st' hst h

/-- the hypotheses, for a program built by `ReProgram::new` (`mkProgram`): the recorded facts come
    from `SearchComplete.mkProgram_searchFacts`; what is left is decidable, up to `InputOK` -/
theorem searchOK3_of_mkProgram (env : Env) (pat : List Nat) (op : Op) (mp : Nat) (fl : CFlags) (hb : Bool)
    (lower : Nat → Nat) (input : List Nat)
    (hI : InputOK env ((mkProgram pat op mp fl hb).ctx lower input))
    (hwf : wfOp op = true) (hne : C08.noEmptyAtoms op = true) (hlen : input.length < usizeMax)
    (hok : C03f.progOK3 env (mkProgram pat op mp fl hb).caseBlind (mkProgram pat op mp fl hb).multiLine
      (mkProgram pat op mp fl hb).hasBackrefs (mkProgram pat op mp fl hb).maxParens
      (mkProgram pat op mp fl hb).op = true)
    (hpres : ∀ q ∈ (mkProgram pat op mp fl hb).pres,
      SearchComplete.preShape q.op = true ∧ C06.simplePre q.op = true)
    (hnull : (mkProgram pat op mp fl hb).isMatch lower [] = .ok false) :
    SearchOK3 env (mkProgram pat op mp fl hb) lower input :=
  ⟨.of_progOK3 hI hok, ⟨hI.hcase, hI.hce, (fun _ h => nomatch h), (fun _ h => nomatch h)⟩,
    SearchComplete.mkProgram_searchFacts pat op mp fl hb lower input hwf hne hlen,
    SearchComplete.mkProgram_searchFacts pat op mp fl hb lower [] hwf hne (by decide), hpres, hlen, hnull⟩

/-! ## 2. `replace_all` -/

/-- **one match.**  In the state of a match `(j, n, e')` the substitution yields the replacement string
    expanded as Spec/Repl prescribes, `$N` standing for the text of `e' N` (group 0 = the match; a
    group that did not participate, or a number above the number of groups, gives nothing) -/
theorem replace_first_match_groups3 (pr : Prog) (lower : Nat → Nat) (input repl : List Nat)
    (j n : Nat) (e' : CEnv) (st' : St)
    (h : MatchRes3 (pr.ctx lower input) pr.op j n e' st')
    (hmp : pr.maxParens ≠ 0) (hwf : Spec.wfRepl repl = true) :
    ∃ s', pr.subst input repl st' false =
      some ((Spec.expandSpec (pr.maxParens - 1) (grpOf input j n e') repl).getD [], s') :=
  subst_expand h.reprP h.start0 h.end0 repl hmp hwf

/-- **`replace_all`.**  For a regex that passes the nullability gate, a well-formed replacement string
    and a program without flag `q`: the call succeeds, and the result is the input with every match
    `(j, n, e')` of the state-free span sequence (`specSpans3`: least start with a path, first path of
    `enumC3`, continue from its end) replaced by the expansion in which `$N` is the text of `e' N` -/
theorem replace_groups3 (env : Env) (r : Regex) (lower : Nat → Nat) (input repl : List Nat)
    (S : SearchOK3 env r.prog lower input) (hnull : r.nullable = false)
    (hmp : r.prog.maxParens ≠ 0) (hwf : Spec.wfRepl repl = true) (hlit : r.prog.literal = false) :
    r.replaceAll lower input repl =
      .ok (Spec.replaced input 0
        ((specSpans3 (r.prog.ctx lower input) r.prog.op (input.length + 2) 0).map
          (fun x => (x.1, x.2.1, replText r.prog input repl x)))) :=
  S.caps.replaceAll hnull repl hmp hwf hlit

/-- what the span sequence is: each element is the least start at or after the previous end from
    which a path exists, with the first path of the priority order -/
theorem specSpans3_cons (ctx : Ctx) (op : Op) (f pos : Nat) (x : Nat × Nat × CEnv) (rest : List (Nat × Nat × CEnv))
    (h : specSpans3 ctx op (f + 1) pos = x :: rest) :
    pos < ctx.len ∧ firstMatch3 ctx op pos = some x ∧ rest = specSpans3 ctx op f x.2.1 := by
  unfold specSpans3 at h
  split at h
  · rename_i hlt
    split at h
    · rename_i j n e' heq
      simp only [List.cons.injEq] at h
      obtain ⟨rfl, rfl⟩ := h
      exact ⟨hlt, heq, rfl⟩
    · cases h
  · cases h

/-- `firstMatch3`: the least start at or after `pos` from which a path exists, and the first path -/
theorem firstMatch3_spec (env : Env) (ctx : Ctx) (op : Op) (H : StraightOK3 env ctx op)
    (pos j n : Nat) (e' : CEnv) (h : firstMatch3 ctx op pos = some (j, n, e')) :
    pos ≤ j ∧ j ≤ ctx.len ∧ (enumC3 ctx op j CEnv.empty).head? = some (n, e') ∧
    PathR ctx op j CEnv.empty n e' ∧ ∀ k, pos ≤ k → k < j → ¬ HasP ctx op k :=
  firstMatch3_leaves ctx op H.caps.leaves H.wf pos j n e' h

/-! ## 3. `analyze`

  `groupTree op input (j, n, e')` (Proofs/C03cTree, generic) is the tree the specification prescribes for a
  match: the capture nodes of the pattern as `Group` nodes, nested as in the pattern, each spanning the text
  of its group in `e'`, with the text in between as (non-empty) `String` leaves.  A `.rep` node contributes
  no `Group` node (it is capture-free); its text is part of the `String` leaves.
  Additional decidable hypotheses as in C03c: groups numbered in the order of their opening parentheses,
  and `tblOK` (the nesting table of the pattern text agrees with the tree).
  That `analyze` answers `.ok` is a hypothesis of `analyze_groups3`, as in C03c. -/

/-- **one match**: in the state of a match `(j, n, e')`, `process_matching_substring` succeeds and
    returns exactly the group tree of `e'` -/
theorem analyze_match_groups3 (env : Env) (ctx : Ctx) (hI : InputOK env ctx) (op : Op)
    (hok : C03f.progOK3 env ctx.caseBlind ctx.multiLine ctx.hasBackrefs ctx.maxParens op = true)
    (hsorted : (capsOf op).Pairwise (· < ·)) (tbl : List (Nat × Nat)) (htbl : tblOK tbl op 0 = true)
    (input : List Nat) (hin : ctx.len = input.length)
    (j n : Nat) (e' : CEnv) (st' : St) (h : MatchRes3 ctx op j n e' st') (hjn : j < n) :
    processMatch tbl st' (slice input j n) = .ok (groupTree op input (j, n, e')) :=
  CapsOK.processMatch_ok ctx op (StraightOK3.of_progOK3 hI hok).caps hsorted tbl htbl input hin j n e' st' h hjn

/-- **`analyze`**: the entries are the alternating non-match / match entries over the state-free span
    sequence, the match entry of `(j, n, e')` being the group tree of `e'`; the iterator is exhausted -/
theorem analyze_groups3 (env : Env) (r : Regex) (lower : Nat → Nat) (input : List Nat)
    (S : SearchOK3 env r.prog lower input) (hnull : r.nullable = false)
    (hsorted : (capsOf r.prog.op).Pairwise (· < ·)) (tbl : List (Nat × Nat))
    (htblE : (if r.prog.literal then some [] else nestingTable r.prog.pattern) = some tbl)
    (htbl : tblOK tbl r.prog.op 0 = true)
    (limit : Nat) (hl : 2 * input.length + 1 ≤ limit) (es : List AEntry) (more : Bool)
    (h : r.analyze lower input limit = .ok (es, more)) :
    es = Spec.entries input 0
      ((specSpans3 (r.prog.ctx lower input) r.prog.op (input.length + 2) 0).map
        (fun y => (y.1, y.2.1, groupTree r.prog.op input y))) ∧ more = false :=
  S.caps.analyze r lower input hnull hsorted tbl htblE htbl limit hl es more h

/-- reading the tree (1): the `String` leaves concatenate to the matched text -/
theorem groupTree_text3 (env : Env) (cb ml : Bool) (ctx : Ctx) (op : Op) (hs : straightCaps3 env cb ml op = true)
    (hnd : (capsOf op).Nodup)
    (input : List Nat) (hin : ctx.len = input.length) (j n : Nat) (e' : CEnv)
    (hj : j ≤ ctx.len) (h : PathR ctx op j CEnv.empty n e') :
    Spec.mTextL (groupTree op input (j, n, e')) = slice input j n :=
  Spine.groupTree_text ctx op (spine_of_straight3 env cb ml op hs) hnd input hin j n e' hj h

/-- reading the tree (2): exactly one `Group` node for each group of the pattern, in the order of their
    opening parentheses, and none for any other number -/
theorem groupTree_groups3 (env : Env) (cb ml : Bool) (ctx : Ctx) (op : Op) (hs : straightCaps3 env cb ml op = true)
    (input : List Nat) (j n : Nat) (e' : CEnv) (hj : j ≤ ctx.len) (h : PathR ctx op j CEnv.empty n e') :
    mGrpsL (groupTree op input (j, n, e')) = capsOf op :=
  Spine.groupTree_groups ctx op (spine_of_straight3 env cb ml op hs) input j n e' hj h

/-- reading the tree (3): for every parenthesised sub-expression `(g, c)` of the pattern, bound to
    `(a, b)` in `e'`, the tree has the node `Group g kids` where `kids` is again the group tree of the
    body `c` over `[a, b)`, and the leaves of that node concatenate to `input[a..b)` -/
theorem groupTree_node3 (env : Env) (cb ml : Bool) (ctx : Ctx) (op : Op) (hs : straightCaps3 env cb ml op = true)
    (hnd : (capsOf op).Nodup)
    (input : List Nat) (hin : ctx.len = input.length) (j n : Nat) (e' : CEnv)
    (hj : j ≤ ctx.len) (h : PathR ctx op j CEnv.empty n e') (g : Nat) (c : Op) (hm : (g, c) ∈ capNodes op) :
    ∃ a b, e' g = some (a, b) ∧ j ≤ a ∧ a ≤ b ∧ b ≤ n ∧
      subL (.group g (outF (slice input j n) (a - j) (b - j) (forestOf e' j c))) (groupTree op input (j, n, e')) ∧
      Spec.mTextL (outF (slice input j n) (a - j) (b - j) (forestOf e' j c)) = slice input a b :=
  Spine.groupTree_node ctx op (spine_of_straight3 env cb ml op hs) hnd input hin j n e' hj h g c hm

/-! ## 3b. nesting, in terms of the path and of the reported state (cf. `C03b.groups_nested`,
    `C03b.matchAt_nested`; the `.rep` node binds no group and has no capture node) -/

/-- **nesting and text.**  On a path of a `straightCaps3` tree with distinct group numbers, for every
    capture node `(g, c)`: group `g` is bound to a span `(a, b)` inside the path, the text of the group
    is a match of its sub-expression (`OpR ctx c a b`), and every group `g'` that is syntactically inside
    `(g, c)` is bound to a span inside `(a, b)` -/
theorem groups_nested3 (env : Env) (cb ml : Bool) (ctx : Ctx) (op : Op) (hs : straightCaps3 env cb ml op = true)
    (hnd : (capsOf op).Nodup)
    (p q : Nat) (e e' : CEnv) (hp : p ≤ ctx.len) (h : PathR ctx op p e q e') (g : Nat) (c : Op)
    (hm : (g, c) ∈ capNodes op) :
    ∃ a b, e' g = some (a, b) ∧ p ≤ a ∧ a ≤ b ∧ b ≤ q ∧ OpR ctx c a b ∧
      ∀ g', g' ∈ capsOf c → ∃ a' b', e' g' = some (a', b') ∧ a ≤ a' ∧ a' ≤ b' ∧ b' ≤ b :=
  Spine.nested ctx op (spine_of_straight3 env cb ml op hs) hnd p q e e' hp h g c hm

/-- **C03 on `straightCaps3`, in terms of the reported state only.**  After a successful
    `match_at(i)`: group 0 is `(i, n)`; for every parenthesised sub-expression `(g, c)` of the pattern the
    reported span of group `g` is `(a, b)` with `i ≤ a ≤ b ≤ n`, the text `[a, b)` is a match of `c`, and
    the reported span of every group nested inside it lies inside `(a, b)` -/
theorem matchAt_nested3 (env : Env) (ctx : Ctx) (hI : InputOK env ctx) (op : Op)
    (hok : C03f.progOK3 env ctx.caseBlind ctx.multiLine ctx.hasBackrefs ctx.maxParens op = true)
    (i : Nat) (hi : i ≤ ctx.len) (st0 st' : St) (h0 : CapsClear op st0) (hp0 : st0.panic = none)
    (h : matchAt ctx op i st0 = (true, st')) :
    ∃ n, getParenStart st' 0 = some i ∧ getParenEnd st' 0 = some n ∧ i ≤ n ∧ n ≤ ctx.len ∧
      ∀ g c, (g, c) ∈ capNodes op →
        ∃ a b, getParenStart st' g = some a ∧ getParenEnd st' g = some b ∧ i ≤ a ∧ a ≤ b ∧ b ≤ n ∧
          OpR ctx c a b ∧
          ∀ g', g' ∈ capsOf c → ∃ a' b', getParenStart st' g' = some a' ∧ getParenEnd st' g' = some b' ∧
            a ≤ a' ∧ a' ≤ b' ∧ b' ≤ b := by
  have H : StraightOK3 env ctx op := .of_progOK3 hI hok
  obtain ⟨n, e', hpath, _, h1, h2, h3, h4, hrep, _, _⟩ :=
    C03f.matchAt_caps3 env ctx hI op H.straight H.wf H.noEmpty H.canonB H.capsPos H.scope i hi st0 st' h0 hp0 h
  exact ⟨n, h1, h2, h3, h4,
    C03b.nested_reported hrep H.capsPos (spine_of_straight3 env _ _ op H.straight) H.nodup i n hi hpath⟩

/-- the same through the search loop: in the state `matches(i)` leaves, every parenthesised sub-expression
    `(g, c)` reports a span `(a, b)` inside the match `(j, n)`, its text a match of `c`, and every group
    nested inside reports a span inside `(a, b)` -/
theorem matchesFrom_nested3 (env : Env) (pr : Prog) (lower : Nat → Nat) (input : List Nat)
    (S : SearchOK3 env pr lower input)
    (i : Nat) (hi : i ≤ input.length) (st st' : St) (hst : st.panic = none)
    (h : matchesFrom (pr.ctx lower input) pr i st = (true, st')) :
    ∃ j n, getParenStart st' 0 = some j ∧ getParenEnd st' 0 = some n ∧ i ≤ j ∧ j < n ∧ n ≤ input.length ∧
      ∀ g c, (g, c) ∈ capNodes pr.op →
        ∃ a b, getParenStart st' g = some a ∧ getParenEnd st' g = some b ∧ j ≤ a ∧ a ≤ b ∧ b ≤ n ∧
          OpR (pr.ctx lower input) c a b ∧
          ∀ g', g' ∈ capsOf c → ∃ a' b', getParenStart st' g' = some a' ∧ getParenEnd st' g' = some b' ∧
            a ≤ a' ∧ a' ≤ b' ∧ b' ≤ b := by
  obtain ⟨j, n, e', h1, h2, h3, hpath, _, _, h4, h5, hrep, _, _, _, _⟩ :=
    matchesFrom_caps3 env pr lower input S i hi st st' hst h
  have H := S.ok
  have hj : j ≤ (pr.ctx lower input).len := by show j ≤ input.length; omega
  exact ⟨j, n, h4, h5, h1, h2, h3,
    C03b.nested_reported hrep H.capsPos (spine_of_straight3 env _ _ pr.op H.straight) H.nodup j n hj hpath⟩

/-! ## 4. examples -/
section examples

private def env0 : Env := bareEnv

/-- `(a+)(?:bc|d)+?\1` -/
private def pat1 : List Nat := [40, 97, 43, 41, 40, 63, 58, 98, 99, 124, 100, 41, 43, 63, 92, 49]
private def t1 : Op :=
  .seq [.capture 1 (.gfixed (.atom [97]) 1 usizeMax 1),
        .rep 1 (.choice [.atom [98, 99], .atom [100]]) 1 usizeMax false, .backref 1, .endProgram]
def exProg1 : Prog := mkProgram pat1 t1 2 {} true
def exRegex1 : Regex := { prog := exProg1, nullable := false }

/-- this is the regex `Regex::new` builds from the pattern text -/
example : (match Regex.new env0 pat1 [] false with
    | .ok r => progEq r.prog exProg1 && (r.nullable == false)
    | _ => false) = true := by decide +kernel

theorem ex1_searchOK (input : List Nat) (hlen : input.length < usizeMax)
    (h1 : ∀ c ∈ input, c < cpLimit) (h2 : ∀ c ∈ input, isSurrogate c = false) :
    SearchOK3 env0 exProg1 id input :=
  searchOK3_of_mkProgram env0 pat1 t1 2 {} true id input
    (.of_caseSensitive (show (mkProgram pat1 t1 2 {} true).caseBlind = false by decide +kernel)
      (fun _ _ h => by cases h) h1 h2)
    (by decide) (by decide) hlen (by decide +kernel)
    (pres_of_all (by decide +kernel))
    (by decide +kernel)

/-- the program-side hypothesis of `matchAt_cases3` / `matchAt_nested3` / `analyze_match_groups3` holds -/
example : C03f.progOK3 env0 exProg1.caseBlind exProg1.multiLine exProg1.hasBackrefs exProg1.maxParens
    exProg1.op = true := by decide +kernel

/-- "xaabcdaay-adaz", replacement `[$1]` -/
private def in1 : List Nat := [120, 97, 97, 98, 99, 100, 97, 97, 121, 45, 97, 100, 97, 122]
private def repl1 : List Nat := [91, 36, 49, 93]

/-- the hypotheses of `matchesFrom_caps3` are satisfiable … -/
example : SearchOK3 env0 exProg1 id in1 := ex1_searchOK in1 (by decide) (by decide) (by decide)
/-- … and `matches(0)` does succeed on this input (from position 1, ending at 8, group 1 = `aa`) -/
example : (let r := matchesFrom (exProg1.ctx id in1) exProg1 0 {}
    (r.1, getParenStart r.2 0, getParenEnd r.2 0, getParenStart r.2 1, getParenEnd r.2 1)) =
    (true, some 1, some 8, some 1, some 3) := by decide +kernel

/-- the theorem applied … -/
theorem ex1_replace :
    exRegex1.replaceAll id in1 repl1 =
      .ok (Spec.replaced in1 0
        ((specSpans3 (exProg1.ctx id in1) exProg1.op (in1.length + 2) 0).map
          (fun x => (x.1, x.2.1, replText exProg1 in1 repl1 x)))) :=
  replace_groups3 env0 exRegex1 id in1 repl1 (ex1_searchOK in1 (by decide) (by decide) (by decide)) rfl
    (by decide) (by decide) (by decide)

/-- … the span sequence it talks about: `aabcdaa` at 1 with `$1 = aa` (the reluctant repeat took TWO
    iterations), and `ada` at 10 with `$1 = a` … -/
example : (specSpans3 (exProg1.ctx id in1) exProg1.op (in1.length + 2) 0).map
    (fun x => (x.1, x.2.1, x.2.2 1)) = [(1, 8, some (1, 3)), (10, 13, some (10, 11))] := by decide +kernel
/-- … the described result `x[aa]y-[a]z` … -/
example : Spec.replaced in1 0
    ((specSpans3 (exProg1.ctx id in1) exProg1.op (in1.length + 2) 0).map
      (fun x => (x.1, x.2.1, replText exProg1 in1 repl1 x))) =
    [120, 91, 97, 97, 93, 121, 45, 91, 97, 93, 122] := by decide +kernel
/-- … and the computed answer of the model -/
example : exRegex1.replaceAll id in1 repl1 = .ok [120, 91, 97, 97, 93, 121, 45, 91, 97, 93, 122] := by
  decide +kernel

/-! `analyze` on the same regex and input: `x`, match `aabcdaa`, `y-`, match `ada`, `z` -/

private def expect1 : List AEntry :=
  [.nonMatch [120],
   .isMatch [.group 1 [.str [97, 97]], .str [98, 99, 100, 97, 97]],
   .nonMatch [121, 45],
   .isMatch [.group 1 [.str [97]], .str [100, 97]],
   .nonMatch [122]]

/-- the theorem applied: whatever `analyze` answers with `.ok` is the described entry list -/
theorem ex1_analyze (es : List AEntry) (more : Bool) (h : exRegex1.analyze id in1 100 = .ok (es, more)) :
    es = Spec.entries in1 0
      ((specSpans3 (exProg1.ctx id in1) exProg1.op (in1.length + 2) 0).map
        (fun y => (y.1, y.2.1, groupTree exProg1.op in1 y))) ∧ more = false :=
  analyze_groups3 env0 exRegex1 id in1 (ex1_searchOK in1 (by decide) (by decide) (by decide)) rfl
    (by decide +kernel) [(1, 0)] (by decide +kernel) (by decide +kernel) 100 (by decide) es more h

/-- the described entry list, computed … -/
example : aEqL (Spec.entries in1 0
    ((specSpans3 (exProg1.ctx id in1) exProg1.op (in1.length + 2) 0).map
      (fun y => (y.1, y.2.1, groupTree exProg1.op in1 y)))) expect1 = true := by decide +kernel
/-- … and the computed answer of the model -/
example : (match exRegex1.analyze id in1 100 with
    | .ok (es, more) => aEqL es expect1 && !more
    | _ => false) = true := by decide +kernel

/-- `matchesFrom_nested3` applied: the hypotheses hold and `matches(0)` succeeds (computed above) -/
example (st' : St) (h : matchesFrom (exProg1.ctx id in1) exProg1 0 {} = (true, st')) :
    ∃ j n, getParenStart st' 0 = some j ∧ getParenEnd st' 0 = some n ∧ 0 ≤ j ∧ j < n ∧ n ≤ in1.length ∧
      ∀ g c, (g, c) ∈ capNodes exProg1.op →
        ∃ a b, getParenStart st' g = some a ∧ getParenEnd st' g = some b ∧ j ≤ a ∧ a ≤ b ∧ b ≤ n ∧
          OpR (exProg1.ctx id in1) c a b ∧
          ∀ g', g' ∈ capsOf c → ∃ a' b', getParenStart st' g' = some a' ∧ getParenEnd st' g' = some b' ∧
            a ≤ a' ∧ a' ≤ b' ∧ b' ≤ b :=
  matchesFrom_nested3 env0 exProg1 id in1 (ex1_searchOK in1 (by decide) (by decide) (by decide)) 0
    (by decide) {} st' rfl h
/-- the tree of the example has one capture node (group 1, body `a+`) next to the repeat -/
example : (capNodes exProg1.op).map (·.1) = [1] ∧ capsOf exProg1.op = [1] := by decide +kernel

/-! `((a)b)(?:c|de)+\2\1` on "abcdeaab": NESTED groups followed by a greedy variable-length repeat -/

private def pat2 : List Nat := [40, 40, 97, 41, 98, 41, 40, 63, 58, 99, 124, 100, 101, 41, 43, 92, 50, 92, 49]
private def t2 : Op :=
  .seq [.capture 1 (.seq [.capture 2 (.atom [97]), .atom [98]]),
        .rep 1 (.choice [.atom [99], .atom [100, 101]]) 1 usizeMax true, .backref 2, .backref 1, .endProgram]
def exProg2 : Prog := mkProgram pat2 t2 3 {} true
def exRegex2 : Regex := { prog := exProg2, nullable := false }

example : (match Regex.new env0 pat2 [] false with
    | .ok r => progEq r.prog exProg2 && (r.nullable == false)
    | _ => false) = true := by decide +kernel

theorem ex2_searchOK (input : List Nat) (hlen : input.length < usizeMax)
    (h1 : ∀ c ∈ input, c < cpLimit) (h2 : ∀ c ∈ input, isSurrogate c = false) :
    SearchOK3 env0 exProg2 id input :=
  searchOK3_of_mkProgram env0 pat2 t2 3 {} true id input
    (.of_caseSensitive (show (mkProgram pat2 t2 3 {} true).caseBlind = false by decide +kernel)
      (fun _ _ h => by cases h) h1 h2)
    (by decide) (by decide) hlen (by decide +kernel)
    (pres_of_all (by decide +kernel))
    (by decide +kernel)

private def in2 : List Nat := [97, 98, 99, 100, 101, 97, 97, 98]      -- "abcdeaab"

private def expect2 : List AEntry :=
  [.isMatch [.group 1 [.group 2 [.str [97]], .str [98]], .str [99, 100, 101, 97, 97, 98]]]

theorem ex2_analyze (es : List AEntry) (more : Bool) (h : exRegex2.analyze id in2 100 = .ok (es, more)) :
    es = Spec.entries in2 0
      ((specSpans3 (exProg2.ctx id in2) exProg2.op (in2.length + 2) 0).map
        (fun y => (y.1, y.2.1, groupTree exProg2.op in2 y))) ∧ more = false :=
  analyze_groups3 env0 exRegex2 id in2 (ex2_searchOK in2 (by decide) (by decide) (by decide)) rfl
    (by decide +kernel) [(2, 1), (1, 0)] (by decide +kernel) (by decide +kernel) 100 (by decide) es more h

example : aEqL (Spec.entries in2 0
    ((specSpans3 (exProg2.ctx id in2) exProg2.op (in2.length + 2) 0).map
      (fun y => (y.1, y.2.1, groupTree exProg2.op in2 y)))) expect2 = true := by decide +kernel
example : (match exRegex2.analyze id in2 100 with
    | .ok (es, more) => aEqL es expect2 && !more
    | _ => false) = true := by decide +kernel

end examples

end Rx.C03g
