/-
  Props/C11 — flag i makes matching case-insensitive, and only flag i does.
-/
import RxModel.Proofs.LeafLemmas
import RxModel.Proofs.CharSetLemmas
import RxModel.Spec.InputPreds
namespace Rx.C11
open Rx

/-- `equal_case_blind` is "equal after simple lower-casing" … -/
theorem eqCB_iff (lower : Nat → Nat) (a b : Nat) : eqCB lower a b = true ↔ lower a = lower b ∨ a = b := by
  simp [eqCB, or_comm]

theorem eqCB_iff_lower (lower : Nat → Nat) (a b : Nat) : eqCB lower a b = true ↔ lower a = lower b := by
  rw [eqCB_iff]
  constructor
  · rintro (h | h)
    · exact h
    · rw [h]
  · exact Or.inl

/-- … hence an equivalence relation -/
theorem eqCB_refl (lower : Nat → Nat) (a : Nat) : eqCB lower a a = true := by
  simp [eqCB]
theorem eqCB_symm (lower : Nat → Nat) (a b : Nat) : eqCB lower a b = eqCB lower b a := by
  rw [Bool.eq_iff_iff, eqCB_iff_lower, eqCB_iff_lower]; exact eq_comm
theorem eqCB_trans (lower : Nat → Nat) (a b c : Nat) (h1 : eqCB lower a b = true) (h2 : eqCB lower b c = true) :
    eqCB lower a c = true := by
  rw [eqCB_iff_lower] at *; exact h1.trans h2

/-- a character and its simple lower-case counterpart are interchangeable, in the input or in the pattern -/
theorem eqCB_lower_left (lower : Nat → Nat) (hidem : ∀ x, lower (lower x) = lower x) (a b : Nat) :
    eqCB lower (lower a) b = eqCB lower a b := by
  rw [Bool.eq_iff_iff, eqCB_iff_lower, eqCB_iff_lower, hidem]

/-- without flag i a literal matches only the identical characters -/
theorem atom_exact (ctx : Ctx) (hcb : ctx.caseBlind = false) (cs xs : List Nat) :
    prefixMatch ctx cs xs = true ↔ cs <+: xs := by
  induction cs generalizing xs with
  | nil => simp [prefixMatch]
  | cons c cs ih =>
    cases xs with
    | nil => simp [prefixMatch]
    | cons x xs =>
      simp only [prefixMatch, Ctx.eqAt, hcb, Bool.false_eq_true, if_false, Bool.and_eq_true,
        beq_iff_eq, ih, List.cons_prefix_cons]
      constructor <;> rintro ⟨h1, h2⟩ <;> exact ⟨h1.symm, h2⟩

/-- with flag i a literal matches character by character up to case -/
theorem atom_ci (ctx : Ctx) (hcb : ctx.caseBlind = true) (cs xs : List Nat) :
    prefixMatch ctx cs xs = true ↔
      cs.length ≤ xs.length ∧ ∀ k (hk : k < cs.length) (hx : k < xs.length), eqCB ctx.lower xs[k] cs[k] = true := by
  exact Leaf.prefixMatch_ci ctx hcb cs xs

/-- the literal generator: yields `p + |cs|` exactly when the characters at `p` match, state untouched -/
theorem atomGen_spec (ctx : Ctx) (cs : List Nat) (p : Nat) (st : St) :
    atomGen ctx cs p st =
      if p + cs.length ≤ ctx.len ∧ prefixMatch ctx cs (ctx.input.drop p) = true
      then Step.once (p + cs.length) st else Step.nil st := by
  unfold atomGen
  by_cases h : p + cs.length ≤ ctx.len
  · have : ¬ (p + cs.length > ctx.len) := by omega
    simp [h, this]
  · have : (p + cs.length > ctx.len) := by omega
    simp [h, this]

/-- under flag i a literal and the text it is compared with may both be replaced by case counterparts, in any
    context with the same comparison settings (`atom_ci` on both sides) -/
theorem prefixMatch_caseEquiv {ctx ctx' : Ctx} (hs : C11b.SameSettings ctx ctx') (hcb : ctx.caseBlind = true)
    {cs ds xs ys : List Nat} (hc : C11b.CaseEquivInputs ctx.lower cs ds)
    (hx : C11b.CaseEquivInputs ctx.lower xs ys) : prefixMatch ctx' ds ys = prefixMatch ctx cs xs := by
  obtain ⟨hcl, hc⟩ := hc
  obtain ⟨hxl, hx⟩ := hx
  rw [Bool.eq_iff_iff, atom_ci ctx' (hs.caseBlind.trans hcb), atom_ci ctx hcb, hs.lower]
  simp only [eqCB_iff_lower] at hc hx ⊢
  constructor
  · rintro ⟨hl, h⟩
    exact ⟨by omega, fun k hk hk' => by rw [hx k hk' (by omega), hc k hk (by omega)]; exact h k (by omega) (by omega)⟩
  · rintro ⟨hl, h⟩
    exact ⟨by omega, fun k hk hk' => by rw [← hx k (by omega) hk', ← hc k (by omega) hk]; exact h k (by omega) (by omega)⟩

/-- replacing input characters by case counterparts does not change what a literal matches -/
theorem atom_input_case_invariant (ctx : Ctx) (hcb : ctx.caseBlind = true) (cs xs ys : List Nat)
    (hlen : xs.length = ys.length)
    (hcase : ∀ k (h1 : k < xs.length) (h2 : k < ys.length), ctx.lower xs[k] = ctx.lower ys[k]) :
    prefixMatch ctx cs xs = prefixMatch ctx cs ys :=
  (prefixMatch_caseEquiv ⟨rfl, rfl, rfl⟩ hcb ⟨rfl, fun _ _ _ => eqCB_refl _ _⟩
    ⟨hlen, fun k h1 h2 => (eqCB_iff_lower _ _ _).2 (hcase k h1 h2)⟩).symm

/-- … nor does replacing pattern letters -/
theorem atom_pattern_case_invariant (ctx : Ctx) (hcb : ctx.caseBlind = true) (cs ds xs : List Nat)
    (hlen : cs.length = ds.length)
    (hcase : ∀ k (h1 : k < cs.length) (h2 : k < ds.length), ctx.lower cs[k] = ctx.lower ds[k]) :
    prefixMatch ctx cs xs = prefixMatch ctx ds xs :=
  (prefixMatch_caseEquiv ⟨rfl, rfl, rfl⟩ hcb ⟨hlen, fun k h1 h2 => (eqCB_iff_lower _ _ _).2 (hcase k h1 h2)⟩
    ⟨rfl, fun _ _ _ => eqCB_refl _ _⟩).symm

/-- a class member under flag i: the character itself and its whole case closure -/
theorem class_member_ci (c : PC) (ch : Nat) (rs : Ranges) (hc : C09.Canon rs) (x : Nat) :
    clsContains (addCharCI c ch rs) x =
      (decide (x = ch) || (c.fl.caseBlind && (c.env.closure ch).contains x) || clsContains rs x) := by
  have h0 := C09.sorted_of_canon hc
  have h1 := C09.sorted_contains_addChar rs h0 ch x
  have h2 := C09.sorted_addChar rs h0 ch
  unfold addCharCI
  cases hcb : c.fl.caseBlind with
  | false => simp [h1]
  | true =>
    simp only [if_true, Bool.true_and]
    rw [(C09.addChars_spec _ _ h2 x).1, h1, ← Bool.or_assoc, Bool.or_comm ((c.env.closure ch).contains x)]

/-- class escapes and the category / block escapes do not look at flag i -/
theorem escape_ignores_i (c : PC) (b : Bool) (s : PS) (inBr : Bool) :
    escape { c with fl := { c.fl with caseBlind := b } } s inBr = escape c s inBr := by
  exact Leaf.escape_fl c { c.fl with caseBlind := b } rfl s inBr

/-- the dot does not look at flag i -/
theorem dot_ignores_i (c : PC) (b : Bool) (f : Nat) (s : PS) (h : c.at s.idx = 46) :
    parseTerminal { c with fl := { c.fl with caseBlind := b } } (f + 1) s = parseTerminal c (f + 1) s := by
  have h' : PC.at { c with fl := { c.fl with caseBlind := b } } s.idx = 46 := h
  rw [parseTerminal, parseTerminal]
  simp [h, h']

end Rx.C11
