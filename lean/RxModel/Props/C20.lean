/-
  Props/C20 — equivalent spellings of a pattern behave identically.

  The laws of regular-expression algebra, as theorems about the compositional language `OpR` of
  compiled trees (so they hold whatever iterator implements a repeat), plus the spellings the
  compiler itself identifies (`r{1}` is `r`, `r{0}` is nothing).  That the *engine* agrees on both
  spellings (completeness) is a theorem on the clean fragment (Props/CleanComplete, `clean_same_language_same_answer`);
  outside the clean fragments it is decided by correspondence + oracle, and known deviations are
  catalogued.
-/
import RxModel.Spec.OpLang
import RxModel.Model.Parser
import RxModel.Props.C09
import RxModel.Proofs.LawLemmas
import RxModel.Proofs.IterRLemmas
namespace Rx.C20
open Rx

abbrev R (ctx : Ctx) (c : Op) : Nat → Nat → Prop := fun a b => OpR ctx c a b

/-- `IterR` composes: m-fold then n-fold is (m+n)-fold -/
theorem iter_add (Rel : Nat → Nat → Prop) (m n p q r : Nat) (h1 : IterR Rel m p q) (h2 : IterR Rel n q r) :
    IterR Rel (m + n) p r := IterR.add h1 h2

theorem iter_split (Rel : Nat → Nat → Prop) (m n p r : Nat) (h : IterR Rel (m + n) p r) :
    ∃ q, IterR Rel m p q ∧ IterR Rel n q r := IterR.split m n h

/-- `r{1}` = r -/
theorem rep_one (ctx : Ctx) (id : Nat) (c : Op) (g : Bool) (p q : Nat) :
    OpR ctx (.rep id c 1 1 g) p q ↔ OpR ctx c p q := by
  simp only [OpR]
  constructor
  · rintro ⟨k, h1, h2, h⟩
    obtain rfl : k = 1 := by omega
    exact IterR.one_iff.1 h
  · intro h; exact ⟨1, Nat.le_refl _, Nat.le_refl _, IterR.single h⟩

/-- `r{0}` = empty -/
theorem rep_zero (ctx : Ctx) (id : Nat) (c : Op) (g : Bool) (p q : Nat) :
    OpR ctx (.rep id c 0 0 g) p q ↔ q = p := by
  simp only [OpR]
  constructor
  · rintro ⟨k, h1, h2, h⟩
    obtain rfl : k = 0 := by omega
    exact IterR.zero_iff.1 h
  · intro h; exact ⟨0, Nat.le_refl _, Nat.le_refl _, IterR.zero_iff.2 h⟩

/-- `r{n,m}` = n copies of r followed by at most m-n copies (`(?:r)?` each) -/
theorem rep_range (ctx : Ctx) (id : Nat) (c : Op) (g : Bool) (n m : Nat) (hnm : n ≤ m) (p q : Nat) :
    OpR ctx (.rep id c n m g) p q ↔
      ∃ mid, IterR (R ctx c) n p mid ∧ ∃ k, k ≤ m - n ∧ IterR (R ctx c) k mid q := by
  simp only [OpR]
  constructor
  · rintro ⟨k, h1, h2, h⟩
    obtain ⟨j, rfl⟩ : ∃ j, k = n + j := ⟨k - n, by omega⟩
    obtain ⟨mid, ha, hb⟩ := IterR.split n j h
    exact ⟨mid, ha, j, by omega, hb⟩
  · rintro ⟨mid, ha, k, hk, hb⟩
    exact ⟨n + k, by omega, by omega, IterR.add ha hb⟩

/-- `r{n,n+m}` = `r{n}` followed by `r{0,m}` (with m = ∞ this is `r{n,}` = n copies then `r*`) -/
theorem rep_concat (ctx : Ctx) (id id2 id3 : Nat) (c : Op) (g g2 g3 : Bool) (n m : Nat) (p q : Nat) :
    OpR ctx (.rep id c n (n + m) g) p q ↔ OpR ctx (.seq [.rep id2 c n n g2, .rep id3 c 0 m g3]) p q := by
  simp only [OpR, OpRSeq]
  constructor
  · rintro ⟨k, h1, h2, h⟩
    obtain ⟨j, rfl⟩ : ∃ j, k = n + j := ⟨k - n, by omega⟩
    obtain ⟨mid, ha, hb⟩ := IterR.split n j h
    exact ⟨mid, ⟨n, Nat.le_refl _, Nat.le_refl _, ha⟩, q, ⟨j, Nat.zero_le _, by omega, hb⟩, rfl⟩
  · rintro ⟨mid, ⟨k, hk1, hk2, ha⟩, q', ⟨j, _, hj, hb⟩, rfl⟩
    obtain rfl : k = n := by omega
    exact ⟨k + j, by omega, by omega, IterR.add ha hb⟩

/-- `r+` = `r r*` -/
theorem rep_plus (ctx : Ctx) (id id2 : Nat) (c : Op) (g g2 : Bool) (mx : Nat) (hmx : 1 ≤ mx) (p q : Nat) :
    OpR ctx (.rep id c 1 mx g) p q ↔ OpR ctx (.seq [c, .rep id2 c 0 (mx - 1) g2]) p q := by
  simp only [OpR, OpRSeq]
  constructor
  · rintro ⟨k, h1, h2, h⟩
    obtain ⟨j, rfl⟩ : ∃ j, k = j + 1 := ⟨k - 1, by omega⟩
    obtain ⟨mid, ha, hb⟩ := IterR.uncons h
    exact ⟨mid, ha, q, ⟨j, Nat.zero_le _, by omega, hb⟩, rfl⟩
  · rintro ⟨mid, ha, q', ⟨j, _, hj, hb⟩, rfl⟩
    exact ⟨j + 1, by omega, by omega, IterR.cons ha hb⟩

/-- `r|r` = r -/
theorem alt_idem (ctx : Ctx) (c : Op) (p q : Nat) : OpR ctx (.choice [c, c]) p q ↔ OpR ctx c p q := by
  simp only [OpR, OpRAny, or_false, or_self]

/-- `(?:r|s)t` = `rt|st` -/
theorem alt_distrib (ctx : Ctx) (r s t : Op) (p q : Nat) :
    OpR ctx (.seq [.choice [r, s], t]) p q ↔ OpR ctx (.choice [.seq [r, t], .seq [s, t]]) p q := by
  simp only [OpR, OpRAny, OpRSeq, or_false]
  constructor
  · rintro ⟨m, h | h, ht⟩
    · exact Or.inl ⟨m, h, ht⟩
    · exact Or.inr ⟨m, h, ht⟩
  · rintro (⟨m, h, ht⟩ | ⟨m, h, ht⟩)
    · exact ⟨m, Or.inl h, ht⟩
    · exact ⟨m, Or.inr h, ht⟩

/-- a capturing group denotes the same language as the non-capturing one -/
theorem capture_transparent (ctx : Ctx) (g : Nat) (c : Op) (p q : Nat) :
    OpR ctx (.capture g c) p q ↔ OpR ctx c p q := by
  simp only [OpR]

/-- a one-element sequence is its element: wrapping in `(?:…)` changes nothing -/
theorem seq_singleton (ctx : Ctx) (c : Op) (p q : Nat) : OpR ctx (.seq [c]) p q ↔ OpR ctx c p q := by
  simp only [OpR, OpRSeq]
  constructor
  · rintro ⟨m, h, rfl⟩; exact h
  · intro h; exact ⟨q, h, rfl⟩

/-- all four repetition operators denote the same language -/
theorem rep_kinds_agree (ctx : Ctx) (id : Nat) (c : Op) (mn mx len : Nat) (g : Bool) (p q : Nat) :
    (OpR ctx (.rep id c mn mx g) p q ↔ OpR ctx (.gfixed c mn mx len) p q) ∧
    (OpR ctx (.gfixed c mn mx len) p q ↔ OpR ctx (.rfixed c mn mx len) p q) ∧
    (OpR ctx (.rfixed c mn mx len) p q ↔ OpR ctx (.unamb c mn mx) p q) := by
  refine ⟨?_, ?_, ?_⟩ <;> simp only [OpR]

/-- `[xy]` = `(?:x|y)` -/
theorem class_union (ctx : Ctx) (a b : Ranges) (ha : C09.Canon a) (hb : C09.Canon b) (p q : Nat) :
    OpR ctx (.cls (unionR a b)) p q ↔ OpR ctx (.choice [.cls a, .cls b]) p q := by
  simp only [OpR, OpRAny, or_false, C09.contains_unionR a b ha hb, Bool.or_eq_true]
  constructor
  · rintro ⟨rfl, x, hx, h | h⟩
    · exact Or.inl ⟨rfl, x, hx, h⟩
    · exact Or.inr ⟨rfl, x, hx, h⟩
  · rintro (⟨rfl, x, hx, h⟩ | ⟨rfl, x, hx, h⟩)
    · exact ⟨rfl, x, hx, Or.inl h⟩
    · exact ⟨rfl, x, hx, Or.inr h⟩

/-- `x` = `[x]` (case-sensitive matching) -/
theorem class_single (ctx : Ctx) (hcb : ctx.caseBlind = false) (x : Nat) (p q : Nat) :
    OpR ctx (.cls (addChar x [])) p q ↔ OpR ctx (.atom [x]) p q := by
  simp only [OpR, List.length_cons, List.length_nil, Nat.zero_add, Ctx.len]
  have hc : ∀ c, clsContains (addChar x []) c = decide (c = x) := by
    intro c; rw [C09.contains_addChar [] trivial x c]; simp [clsContains]
  cases hp : ctx.input[p]? with
  | none =>
    have : ctx.input.length ≤ p := List.getElem?_eq_none_iff.1 hp
    constructor
    · rintro ⟨_, c, hc', _⟩; cases hc'
    · rintro ⟨rfl, hle, _⟩; omega
  | some y =>
    obtain ⟨hlt, hy⟩ := List.getElem?_eq_some_iff.1 hp
    have h2 : prefixMatch ctx [x] (List.drop p ctx.input) = (y == x) := by
      rw [List.drop_eq_getElem_cons hlt, hy]
      simp [prefixMatch, Ctx.eqAt, hcb]
    rw [h2]
    constructor
    · rintro ⟨rfl, c, hc', hcc⟩
      cases hc'
      rw [hc] at hcc
      exact ⟨rfl, by omega, by simpa using hcc⟩
    · rintro ⟨rfl, _, hyx⟩
      exact ⟨rfl, y, rfl, by rw [hc]; simpa using hyx⟩

/-! the spellings the compiler itself identifies -/

/-- `r{1}` compiles to `r` itself -/
theorem compile_rep_one (c : PC) (ret : Op) (s : PS) (rest : List Nat)
    (hpat : c.pat.drop s.idx = 123 :: 49 :: 125 :: rest)
    (hnr : rest.head? ≠ some 63) (hna : isAnchor ret = false) (hnz : mzs ret ≠ ZLS_ANYWHERE) :
    ∃ s', pieceQuant c ret s = .ok ret s' ∧ s'.idx = s.idx + 3 := by
  obtain ⟨hlt, hq, hb, hr⟩ := bracket_one_digit c s 49 rest (by decide) (by decide) hpat hnr
  exact ⟨_, pieceQuant_brace_one c ret s _ hlt hq hb rfl rfl hr hna hnz, rfl⟩

/-- `r{0}` compiles to nothing -/
theorem compile_rep_zero (c : PC) (ret : Op) (s : PS) (rest : List Nat)
    (hpat : c.pat.drop s.idx = 123 :: 48 :: 125 :: rest)
    (hnr : rest.head? ≠ some 63) (hnz : mzs ret ≠ ZLS_ANYWHERE) :
    ∃ s', pieceQuant c ret s = .ok .nothing s' ∧ s'.idx = s.idx + 3 := by
  obtain ⟨hlt, hq, hb, hr⟩ := bracket_one_digit c s 48 rest (by decide) (by decide) hpat hnr
  exact ⟨_, pieceQuant_brace_zero c ret s _ hlt hq hb rfl rfl hr hnz, rfl⟩

end Rx.C20
