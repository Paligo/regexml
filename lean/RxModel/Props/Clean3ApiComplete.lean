/-
  Props/Clean3ApiComplete — the headline theorems of Props/ApiComplete for the fragment with the GENERAL greedy
  repeat (`cleanProg3`, `min ≥ 1`; Spec/Enum3, Props/Clean3Complete, Props/Clean3Api).

  The scan layer (Proofs/ApiGenericLemmas; class `HeadFn` of Proofs/ApiContract) is instantiated with the head
  `fun ctx op j => (enum3 ctx op j).head?`; `Clean3Regex.ok` is `RegexOK.of_new` (Proofs/RegexOKNew) at
  `clean4_progOK` (the fragment is inside that of Spec/Enum4, where `enum4` is `enum3`: `Clean4.enum4_eq_enum3`), and
  §1–§3 of Props/ApiComplete (gate, spans, replace / tokenize / analyze specifications, totality) follow over the
  bundle `Clean3Regex` under the names `api3_…`.  Not stated here: §4 of Props/ApiComplete (two regexes with the same
  language / the same spans).
-/
import RxModel.Proofs.RegexOKNew
import RxModel.Props.Clean3Api
namespace Rx.ApiGeneric.Clean3
open Rx Rx.SearchComplete Rx.Spec Rx.Clean2Api Rx.ApiGeneric
open Rx.ApiComplete (GoodInput GoodInput.nil goodInput_std_cs compile_maxParens hasCapNode firstFrom
  firstFrom_some firstFrom_none firstFrom_eq_some firstFrom_eq_none ordered_mem)
open Rx.C08 (noEmptyAtoms)

/-- the head of the priority enumeration `enum3` -/
instance headEnum3 : HeadFn := ⟨fun ctx op j => (enum3 ctx op j).head?⟩

/-! ## the bundles -/

/-- `r` is what `Regex::new env p fs xsd` (optimiser on) returned, and satisfies the hypotheses of the
    `api_clean3_*` theorems of Props/Clean3Api -/
structure Clean3New (env : Env) (p fs : List Nat) (xsd : Bool) (fl : Flags) (r : Regex) : Prop where
  hf : parseFlags fs xsd = some fl
  hnew : Regex.new env p fs xsd true = .ok r
  hns : Api.NoSat env fl p
  hclean : cleanProg3 env fl.caseBlind fl.multiLine r.prog.op = true
  hcan : clsCanonB r.prog.op = true
  hnb : r.prog.hasBackrefs = false
  hlit : fl.literal = true → p ≠ []

def Clean3Regex (env : Env) (fl : Flags) (r : Regex) : Prop := ∃ p fs xsd, Clean3New env p fs xsd fl r

/-- the fragment is inside that of Spec/Enum4, where `enum4` is `enum3` on it: `clean4_progOK` -/
theorem Clean3Regex.ok {env : Env} {fl : Flags} {r : Regex} (R : Clean3Regex env fl r) : RegexOK env fl r := by
  obtain ⟨p, fs, xsd, N⟩ := R
  refine RegexOK.of_new (E := enum3) N.hf N.hnew N.hns N.hnb N.hlit (fun {input} G => ?_)
  obtain ⟨pat, op, mp, heq, hw, hne, _⟩ := CleanComplete.new_prog env p fs xsd fl r N.hf N.hnew N.hns N.hnb N.hlit
  have hc := N.hclean
  have hcan := N.hcan
  rw [heq] at hc hcan ⊢
  exact (clean4_progOK env pat op mp fl.core env.lower input G.ok (Clean4.cleanProg4_of_cleanProg3 env _ _ _ hc) hw hne
    hcan G.len).tree.congr (Clean4.enum4_eq_enum3 env _ _ (by rw [MkProgram.ctx]; exact hc))

theorem Clean3Regex.literal {env : Env} {fl : Flags} {r : Regex} (R : Clean3Regex env fl r) :
    r.prog.literal = fl.literal :=
  R.ok.literal

theorem Clean3Regex.findOK {env : Env} {fl : Flags} {r : Regex} (R : Clean3Regex env fl r)
    (hnull : r.nullable = false) {input : List Nat} (G : GoodInput env fl input) :
    FindOK (r.prog.ctx env.lower input) r.prog :=
  R.ok.findOK hnull G

theorem Clean3Regex.isMatch_iff {env : Env} {fl : Flags} {r : Regex} (R : Clean3Regex env fl r)
    {input : List Nat} (G : GoodInput env fl input) :
    (r.prog.isMatch env.lower input = .ok true ↔
      ∃ j q, j ≤ input.length ∧ OpR (r.prog.ctx env.lower input) r.prog.op j q) ∧
    ((¬ ∃ j q, j ≤ input.length ∧ OpR (r.prog.ctx env.lower input) r.prog.op j q) →
      r.prog.isMatch env.lower input = .ok false) :=
  R.ok.isMatch_iff G

/-! ## 1. C16 — regexes that match the empty string are rejected up front, and only those

  Each theorem below is the theorem of Proofs/ApiRegexLemmas named in its proof, for this fragment's bundle;
  what it says is explained, statement by statement, in Props/ApiComplete.
-/

theorem api3_gate_iff {env : Env} {fl : Flags} {r : Regex} (R : Clean3Regex env fl r)
    (G0 : GoodInput env fl []) :
    r.nullable = true ↔ ∃ q, OpR (r.prog.ctx env.lower []) r.prog.op 0 q :=
  R.ok.gate_iff G0

theorem api3_gate_iff_empty {env : Env} {fl : Flags} {r : Regex} (R : Clean3Regex env fl r)
    (G0 : GoodInput env fl []) :
    r.nullable = true ↔ OpR (r.prog.ctx env.lower []) r.prog.op 0 0 :=
  R.ok.gate_iff_empty G0

theorem c16_rejected {env : Env} {fl : Flags} {r : Regex} (R : Clean3Regex env fl r) (G0 : GoodInput env fl [])
    (hempty : ∃ q, OpR (r.prog.ctx env.lower []) r.prog.op 0 q)
    (lower : Nat → Nat) (input repl : List Nat) (limit : Nat) :
    r.replaceAll lower input repl = .err .matchesEmptyString ∧
    r.analyze lower input limit = .err .matchesEmptyString ∧
    (input ≠ [] → r.tokenize lower input limit = .err .matchesEmptyString) ∧
    r.tokenize lower [] limit = .ok ([], false) :=
  R.ok.rejected G0 hempty lower input repl limit

theorem replaceAll_gate_iff {env : Env} {fl : Flags} {r : Regex} (R : Clean3Regex env fl r)
    (G0 : GoodInput env fl []) (lower : Nat → Nat) (input repl : List Nat) :
    r.replaceAll lower input repl = .err .matchesEmptyString ↔
      ∃ q, OpR (r.prog.ctx env.lower []) r.prog.op 0 q :=
  R.ok.replaceAll_gate_iff G0 lower input repl

theorem analyze_gate_iff {env : Env} {fl : Flags} {r : Regex} (R : Clean3Regex env fl r)
    (G0 : GoodInput env fl []) (lower : Nat → Nat) (input : List Nat) (limit : Nat) :
    r.analyze lower input limit = .err .matchesEmptyString ↔
      ∃ q, OpR (r.prog.ctx env.lower []) r.prog.op 0 q :=
  R.ok.analyze_gate_iff G0 lower input limit

theorem tokenize_gate_iff {env : Env} {fl : Flags} {r : Regex} (R : Clean3Regex env fl r)
    (G0 : GoodInput env fl []) (lower : Nat → Nat) (input : List Nat) (limit : Nat) (hne : input ≠ []) :
    r.tokenize lower input limit = .err .matchesEmptyString ↔
      ∃ q, OpR (r.prog.ctx env.lower []) r.prog.op 0 q :=
  R.ok.tokenize_gate_iff G0 lower input limit hne

theorem c16_only_those {env : Env} {fl : Flags} {r : Regex} (R : Clean3Regex env fl r) (G0 : GoodInput env fl [])
    (hnot : ¬ ∃ q, OpR (r.prog.ctx env.lower []) r.prog.op 0 q)
    (lower : Nat → Nat) (input repl : List Nat) (limit : Nat) :
    r.replaceAll lower input repl ≠ .err .matchesEmptyString ∧
    r.analyze lower input limit ≠ .err .matchesEmptyString ∧
    r.tokenize lower input limit ≠ .err .matchesEmptyString :=
  R.ok.only_those G0 hnot lower input repl limit

/-! ## 2. C04 — the three APIs partition the input consistently -/

/-- THE span list of a regex on an input, state-free: from position 0, repeatedly the least start with
    a match and the first end of the priority order from it (`firstSpan`), continuing from that end -/
def spans (r : Regex) (lower : Nat → Nat) (input : List Nat) : List (Nat × Nat) :=
  spansFrom (r.prog.ctx lower input) r.prog.op (input.length + 2) 0

theorem firstSpan_sem {env : Env} {fl : Flags} {r : Regex} (R : Clean3Regex env fl r)
    (hnull : r.nullable = false) {input : List Nat} (G : GoodInput env fl input)
    (pos j n : Nat) (hpos : pos ≤ input.length)
    (h : firstSpan (r.prog.ctx env.lower input) r.prog.op pos = some (j, n)) :
    OpR (r.prog.ctx env.lower input) r.prog.op j n ∧ j < n ∧
    ∀ k q, pos ≤ k → k < j → ¬ OpR (r.prog.ctx env.lower input) r.prog.op k q :=
  (R.findOK hnull G).span_sem pos j n hpos h

theorem c16_no_empty_span {env : Env} {fl : Flags} {r : Regex} (R : Clean3Regex env fl r)
    (hnull : r.nullable = false) {input : List Nat} (G : GoodInput env fl input) :
    (∀ x ∈ spans r env.lower input, x.1 < x.2 ∧ x.2 ≤ input.length) ∧
    (∀ pos st st', pos ≤ input.length → st.panic = none →
      matchesFrom (r.prog.ctx env.lower input) r.prog pos st = (true, st') →
      ∃ j n, getParenStart st' 0 = some j ∧ getParenEnd st' 0 = some n ∧ pos ≤ j ∧ j < n ∧ n ≤ input.length) :=
  ⟨(R.findOK hnull G).no_empty_span.1, fun pos st st' hpos hst hm =>
    (R.findOK hnull G).no_empty_span.2 pos st st' hpos hst trivial hm⟩

theorem scan_sees_spans {env : Env} {fl : Flags} {r : Regex} (R : Clean3Regex env fl r)
    (hnull : r.nullable = false) {input : List Nat} (G : GoodInput env fl input) :
    C04.spanPairs (C04.spansOf (r.prog.matcher env.lower input) input.length (input.length + 2) 0 {}) =
      spans r env.lower input :=
  (R.findOK hnull G).scan_spans

/-! ### (a) replace -/

theorem api3_replace_spec {env : Env} {fl : Flags} {r : Regex} (R : Clean3Regex env fl r)
    (hnull : r.nullable = false) {input : List Nat} (G : GoodInput env fl input) (repl : List Nat)
    (hd : Dep0 (r.prog.maxParens - 1) repl) :
    r.replaceAll env.lower input repl =
      .ok (replaced input 0 ((spans r env.lower input).map
        (fun x => (x.1, x.2, replText r.prog input repl x.1 x.2)))) :=
  (R.findOK hnull G).replaceAll_spec hnull R.ok.maxParens repl hd

theorem api3_replace_plain {env : Env} {fl : Flags} {r : Regex} (R : Clean3Regex env fl r)
    (hnull : r.nullable = false) {input : List Nat} (G : GoodInput env fl input) (repl : List Nat)
    (hp : plainRepl repl = true) :
    r.replaceAll env.lower input repl =
      .ok (joinWith repl (pieces input 0 (spans r env.lower input))) :=
  (R.findOK hnull G).replaceAll_plain hnull R.ok.maxParens repl hp

theorem api3_replace_dollar0 {env : Env} {fl : Flags} {r : Regex} (R : Clean3Regex env fl r)
    (hnull : r.nullable = false) {input : List Nat} (G : GoodInput env fl input)
    (hlit : fl.literal = false) :
    r.replaceAll env.lower input [36, 48] = .ok input :=
  (R.findOK hnull G).replaceAll_dollar0 hnull R.ok.maxParens (R.literal.trans hlit)

/-! ### (b) tokenize -/

theorem api3_tokenize_spec {env : Env} {fl : Flags} {r : Regex} (R : Clean3Regex env fl r)
    (hnull : r.nullable = false) {input : List Nat} (G : GoodInput env fl input) (hne : input ≠ [])
    (limit : Nat) (hl : input.length + 1 ≤ limit) :
    r.tokenize env.lower input limit = .ok (pieces input 0 (spans r env.lower input), false) :=
  (R.findOK hnull G).tokenize_spec hnull hne limit hl

theorem api3_tokenize_count {env : Env} {fl : Flags} {r : Regex} (R : Clean3Regex env fl r)
    (hnull : r.nullable = false) {input : List Nat} (G : GoodInput env fl input) :
    (pieces input 0 (spans r env.lower input)).length = (spans r env.lower input).length + 1 ∧
    (spans r env.lower input).length ≤ input.length :=
  (R.findOK hnull G).tokenize_count

/-! ### (c) analyze -/

theorem api3_analyze_spec {env : Env} {fl : Flags} {r : Regex} (R : Clean3Regex env fl r)
    (hnull : r.nullable = false) {input : List Nat} (G : GoodInput env fl input)
    (limit : Nat) (hl : 2 * input.length + 1 ≤ limit) (es : List AEntry) (more : Bool)
    (h : r.analyze env.lower input limit = .ok (es, more)) :
    ∃ L : List (Nat × Nat × List MEntry),
      L.map (fun x => (x.1, x.2.1)) = spans r env.lower input ∧ es = entries input 0 L ∧ more = false :=
  (R.findOK hnull G).analyze_spec hnull limit hl es more h

theorem api3_analyze_concat {env : Env} {fl : Flags} {r : Regex} (R : Clean3Regex env fl r)
    (hnull : r.nullable = false) (hnc : hasCapNode r.prog.op = false)
    {input : List Nat} (G : GoodInput env fl input)
    (limit : Nat) (hl : 2 * input.length + 1 ≤ limit) (es : List AEntry) (more : Bool)
    (h : r.analyze env.lower input limit = .ok (es, more)) : aTextL es = input :=
  (R.findOK hnull G).analyze_concat hnull hnc limit hl es more h

theorem api3_analyze_bound {env : Env} {fl : Flags} {r : Regex} (R : Clean3Regex env fl r)
    (hnull : r.nullable = false) {input : List Nat} (G : GoodInput env fl input)
    (limit : Nat) (es : List AEntry) (more : Bool)
    (h : r.analyze env.lower input limit = .ok (es, more)) : es.length ≤ 2 * input.length + 1 :=
  (R.findOK hnull G).analyze_bound hnull limit es more h

theorem api3_tokenize_bound {env : Env} {fl : Flags} {r : Regex} (R : Clean3Regex env fl r)
    (hnull : r.nullable = false) {input : List Nat} (G : GoodInput env fl input)
    (limit : Nat) (toks : List (List Nat)) (more : Bool)
    (h : r.tokenize env.lower input limit = .ok (toks, more)) : toks.length ≤ input.length + 1 :=
  (R.findOK hnull G).tokenize_bound hnull limit toks more h

/-! ## 3. C06 — the four API functions are total on the fragment -/

theorem api3_isMatch_total {env : Env} {fl : Flags} {r : Regex} (R : Clean3Regex env fl r)
    {input : List Nat} (G : GoodInput env fl input) :
    ∃ b, r.prog.isMatch env.lower input = .ok b :=
  R.ok.isMatch_total G

theorem api3_replace_total {env : Env} {fl : Flags} {r : Regex} (R : Clean3Regex env fl r)
    {input : List Nat} (G : GoodInput env fl input) (repl : List Nat) :
    (∃ out, r.replaceAll env.lower input repl = .ok out) ∨
    r.replaceAll env.lower input repl = .err .invalidReplacement ∨
    r.replaceAll env.lower input repl = .err .matchesEmptyString :=
  R.ok.replaceAll_total G repl

theorem api3_tokenize_total {env : Env} {fl : Flags} {r : Regex} (R : Clean3Regex env fl r)
    {input : List Nat} (G : GoodInput env fl input) (limit : Nat) :
    (∃ toks more, r.tokenize env.lower input limit = .ok (toks, more)) ∨
    r.tokenize env.lower input limit = .err .matchesEmptyString :=
  R.ok.tokenize_total G limit

theorem api3_analyze_total {env : Env} {fl : Flags} {r : Regex} (R : Clean3Regex env fl r)
    {input : List Nat} (G : GoodInput env fl input) (limit : Nat) :
    (∃ es more, r.analyze env.lower input limit = .ok (es, more)) ∨
    r.analyze env.lower input limit = .err .matchesEmptyString ∨
    r.analyze env.lower input limit = .panic panicAnalyze ∨
    r.analyze env.lower input limit = .panic panicNesting :=
  R.ok.analyze_total G limit

theorem api3_analyze_total_plain {env : Env} {fl : Flags} {r : Regex} (R : Clean3Regex env fl r)
    (hnull : r.nullable = false) (hnc : hasCapNode r.prog.op = false)
    (htbl : r.prog.literal = true ∨ (nestingTable r.prog.pattern).isSome = true)
    {input : List Nat} (G : GoodInput env fl input) (limit : Nat) :
    ∃ es more, r.analyze env.lower input limit = .ok (es, more) :=
  (R.findOK hnull G).analyze_total_plain hnull hnc htbl limit

/-! ## example: `x(?:a|bc)+y` through `Regex.new Env.std` -/
section example_
open Rx.Clean3Api

theorem ex_regex (r : Regex) (h : Regex.new Env.std Clean3Api.exPat [] false true = .ok r) :
    Clean3Regex Env.std {} r ∧ r.nullable = false := by
  have hk := Clean3Api.ex_new.1
  rw [h] at hk
  simp only [Bool.and_eq_true, Bool.not_eq_true'] at hk
  obtain ⟨⟨⟨⟨k1, k2⟩, k3⟩, k4⟩, _⟩ := hk
  exact ⟨⟨Clean3Api.exPat, [], false, ⟨rfl, h, Clean3Api.ex_noSat, k1, k2, k3, fun hl => by cases hl⟩⟩, k4⟩

theorem ex_scan (r : Regex) (h : Regex.new Env.std Clean3Api.exPat [] false true = .ok r)
    (input : List Nat) (hsv : ScalarInput input) (hlen : input.length < usizeMax) :
    C04.spanPairs (C04.spansOf (r.prog.matcher Env.std.lower input) input.length (input.length + 2) 0 {}) =
      spans r Env.std.lower input :=
  scan_sees_spans (ex_regex r h).1 (ex_regex r h).2 (goodInput_std_cs rfl hsv hlen)

theorem ex_spans_computed :
    (match Regex.new Env.std Clean3Api.exPat [] false true with
     | .ok r => spans r Env.std.lower [122, 120, 97, 98, 99, 97, 121, 45, 120, 97, 121] == [(1, 7), (8, 11)]
     | _ => false) = true := by decide +kernel

end example_

end Rx.ApiGeneric.Clean3
