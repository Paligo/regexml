/-
  Props/C03b — captured groups and back-references on the straight-line fragment (C03, C19).

  C03: "the text attributed to capturing group N is the substring matched by the N-th parenthesised
  sub-expression during its last participation on the selected match path, empty/absent if the group
  did not participate; group entries are properly nested, lie inside the match".
  C19: "a back-reference \N matches exactly a copy of the text captured by group N at that point of the
  match path (case-insensitively under flag i), the empty string if group N has not participated".

  The full statements are false of the engine for captures under quantifiers and inside alternatives
  (findings K5 / K6: after a loop gives back an iteration, or an alternative fails, the groups set on
  the abandoned path are left emptied / stale) — `captures_in_loop_stale` below is a kernel-checked
  witness.  They are theorems on the fragment `straightCaps` (Spec/PathCaps): every `.capture` and every
  `.backref` is reachable from the root through `.seq` and `.capture` nodes only; alternation branches
  and bodies of the fixed-length quantifiers are capture-free, back-reference-free clean trees.

  Specification (Spec/PathCaps): `PathR ctx op p e q e'`, the relational path semantics with a
  capture environment `CEnv = group ↦ Option span` threaded left to right ("last participation");
  `enumC`, its priority-ordered enumeration; `ReprOff / Repr`, "the matcher's arrays hold exactly this
  environment".

  Side conditions on the program, all decidable: `wfOp`, `C02.capsPos` (`Api.new_wf` proves both
  of what `Regex::new` returns), `scopeOK hasBackrefs maxParens op [] []` (group numbers in
  `1 .. maxParens-1`; a back-reference only to a group closed to its left and not re-opened around it
  or to its right; back-references only in a program that has the `hasBackrefs` flag), and for the
  nesting statement `(capsOf op).Nodup` (each group number is allotted once).  No theorem derives
  `scopeOK` or `Nodup` from the compiler (`C19.escape_backref_valid` says only that the parser accepts
  `\N` for a group already closed): they are evaluated on each compiled program of the examples and,
  as `progOK` (Proofs/CapsFragments), by the driver on every program it runs (Driver/Main).

  Proved:
    3a `backref_exact_some` (`_iff`), `backref_exact_none`, `backref_exact_empty`
    3b `enumC_iff_PathR` (the enumeration lists exactly the paths), `PathR_erase` (erasing the
       environments gives `OpR`)
    3c `sem_enumC`, `sem_sound_caps`, `sem_sound_caps_top`
         the iterator yields exactly `enumC` (ends WITH environments, in priority order, then stops:
         soundness, completeness, order, termination), every time in a state whose arrays represent the
         environment of THIS path — under every consumer that resumes it with a state still representing
         the environment of the last yield; hence a back-reference has compared against exactly the text
         its group captured on this path
    3d `matchAt_caps` (the reported environment is that of the FIRST path of the priority order),
       `matchAt_groups`, `groups_inside`, `groups_nested`, `matchAt_nested`,
       `matchAt_caps_no_panic` (no panic site reachable, no fuel exhausted — C05 only covers programs
       without back-references)
    4  examples on compiled programs (`(a)(b|c)\1`, `((a)b)\2\1`, `(a*)(b)\1`, and `(a*)(a|b)\1` where
       the match is found after backtracking over an abandoned path that had set group 2)
    5  `captures_in_loop_stale`, `loop_paths`: `(a|b)*b` on "ab".
  The induction over the tree (`Leaves.stream`, Proofs/PathCaps3Lemmas) and the case split of `match_at`
  (`CapsOK.matchAt_cases`, Proofs/CapsMatchLemmas) are those of Props/C03f, for trees whose captures lie on the spine
  and whose other nodes are exact enumerators; the consequences of the path semantics are `Spine.*`
  (Proofs/PathCapsLemmas).  Larger fragments: Props/C03e (captures inside alternatives), Props/C03f (capture-free
  variable-length repeats); the search loop above `match_at`: Props/C03c.
-/
import RxModel.Spec.PathCaps
import RxModel.Proofs.CapsFragments
import RxModel.Proofs.LeafLemmas
import RxModel.Model.Compile
import RxModel.Proofs.OpEq
namespace Rx.C03b
open Rx

/-! ### 3a. a back-reference step of a path is an exact copy -/

/-- a `\g` step from `p` to `q` in an environment that binds `g ↦ (a, b)`: it consumes exactly
    `b - a` characters, inside the input, pointwise equal (case-blind under flag i: `ctx.eqAt`) to
    the captured text; the environment is unchanged -/
theorem backref_exact_some (ctx : Ctx) (g p q : Nat) (e e' : CEnv) (a b : Nat) (hg : e g = some (a, b))
    (h : PathR ctx (.backref g) p e q e') :
    e' = e ∧ q = p + (b - a) ∧ q ≤ ctx.len ∧
    ∀ k, k < b - a → ∃ x y, ctx.input[p + k]? = some x ∧ ctx.input[a + k]? = some y ∧ ctx.eqAt x y = true := by
  simp only [PathR, hg, BackrefR] at h
  exact ⟨h.1, h.2.1, h.2.2.1, (Leaf.sameText_iff ctx (b - a) p a).1 h.2.2.2⟩

/-- … and conversely such a copy is a `\g` step -/
theorem backref_exact_some_iff (ctx : Ctx) (g p q : Nat) (e e' : CEnv) (a b : Nat) (hg : e g = some (a, b)) :
    PathR ctx (.backref g) p e q e' ↔
    (e' = e ∧ q = p + (b - a) ∧ q ≤ ctx.len ∧
     ∀ k, k < b - a → ∃ x y, ctx.input[p + k]? = some x ∧ ctx.input[a + k]? = some y ∧ ctx.eqAt x y = true) := by
  simp only [PathR, hg, BackrefR, Leaf.sameText_iff]

/-- a `\g` step in an environment where `g` has not participated matches the empty string -/
theorem backref_exact_none (ctx : Ctx) (g p q : Nat) (e e' : CEnv) (hg : e g = none) :
    PathR ctx (.backref g) p e q e' ↔ (e' = e ∧ q = p) := by
  simp only [PathR, hg, BackrefR]

/-- a group that captured the empty string: the back-reference matches the empty string -/
theorem backref_exact_empty (ctx : Ctx) (g p q : Nat) (e e' : CEnv) (a : Nat) (hg : e g = some (a, a))
    (hp : p ≤ ctx.len) : PathR ctx (.backref g) p e q e' ↔ (e' = e ∧ q = p) := by
  simp only [PathR, hg, BackrefR, Nat.sub_self, Nat.add_zero, sameText, and_true]
  constructor
  · rintro ⟨h1, h2, _⟩; exact ⟨h1, h2⟩
  · rintro ⟨h1, h2⟩; exact ⟨h1, h2, by omega⟩

/-! ### 3b. the enumeration with environments lists exactly the paths -/

theorem enumC_iff_PathR (ctx : Ctx) (op : Op) (hs : straightCaps op = true) (hwf : wfOp op = true)
    (lo p : Nat) (e : CEnv) (hp : p ≤ ctx.len) (hlo : lo ≤ p) (he : EnvIn e lo p) (q : Nat) (e' : CEnv) :
    (q, e') ∈ enumC ctx op p e ↔ PathR ctx op p e q e' :=
  enumC_mem_iff ctx op hs hwf p e hp q e'

/-- erasing the environments gives the language of Spec/OpLang -/
theorem PathR_erase (ctx : Ctx) (op : Op) (p q : Nat) (e e' : CEnv) (hp : p ≤ ctx.len)
    (h : PathR ctx op p e q e') : OpR ctx op p q :=
  PathR_OpR ctx op p e q e' hp h

/-! ### 3c. the engine against the path semantics -/

/-- **exactness.**  Started at `p` in a state whose arrays represent `e` (off the groups of `op` itself
    and the groups `fut` still to come), the iterator of `op` yields exactly `enumC ctx op p e` — the
    ends of the paths WITH their environments, in priority order — each time leaving a state whose
    arrays represent the environment of that very path (off `fut`); when exhausted it leaves a state
    that represents `e` again.  This holds under every consumer that resumes the iterator with a state
    still representing the environment of the last yield (off `fut`). -/
theorem sem_enumC (ctx : Ctx) (op : Op) (hs : straightCaps op = true) (hwf : wfOp op = true)
    (cl fut : List Nat) (hsc : scopeOK ctx.hasBackrefs ctx.maxParens op cl fut = true)
    (lo p : Nat) (e : CEnv) (st : St) (hp : p ≤ ctx.len) (hlo : lo ≤ p) (he : EnvIn e lo p) (hd : Dom cl e)
    (hst : ReprOff ctx (capsOf op ++ fut) st e) :
    Step.SeqC (ReprOff ctx fut) (fun st' => ReprOff ctx (capsOf op ++ fut) st' e) (sem ctx op p st)
      (enumC ctx op p e) :=
  straight_stream (capRel_reprOff ctx) lo op hs hwf cl fut hsc p e st hp hlo he hd hst

/-- **soundness with captures.**  Every yield `(q, st')` of `sem ctx op p st` — the first one and every
    later one, under states that still represent the environment produced so far — comes with an
    environment `e'` such that `PathR ctx op p e q e'` and `st'` represents `e'`: the engine's capture
    arrays are exactly the groups set along THIS path (and every back-reference on it has compared
    against exactly the text its group captured on this path, `backref_exact_some`). -/
theorem sem_sound_caps (ctx : Ctx) (op : Op) (hs : straightCaps op = true) (hwf : wfOp op = true)
    (cl fut : List Nat) (hsc : scopeOK ctx.hasBackrefs ctx.maxParens op cl fut = true)
    (lo p : Nat) (e : CEnv) (st : St) (hp : p ≤ ctx.len) (hlo : lo ≤ p) (he : EnvIn e lo p) (hd : Dom cl e)
    (hst : ReprOff ctx (capsOf op ++ fut) st e) :
    Step.Caps (ReprOff ctx fut)
      (fun q e' => PathR ctx op p e q e' ∧ p ≤ q ∧ q ≤ ctx.len ∧ EnvIn e' lo q ∧ Dom (capsOf op ++ cl) e')
      (fun st' => ReprOff ctx (capsOf op ++ fut) st' e) (sem ctx op p st) :=
  (sem_enumC ctx op hs hwf cl fut hsc lo p e st hp hlo he hd hst).toT.caps (fun x hx =>
    have f := enumC_facts ctx lo op hs hwf cl p e hp hlo he hd x hx
    ⟨f.path, f.le, f.len, f.env, f.dom⟩) (fun _ _ _ h => h) (fun _ _ _ _ h => h)

/-- the whole program (`cl = fut = []`): `Repr` at every yield -/
theorem sem_sound_caps_top (ctx : Ctx) (op : Op) (hs : straightCaps op = true) (hwf : wfOp op = true)
    (hsc : scopeOK ctx.hasBackrefs ctx.maxParens op [] [] = true)
    (p : Nat) (st : St) (hp : p ≤ ctx.len) (hst : ReprOff ctx (capsOf op) st CEnv.empty) :
    Step.Caps (Repr ctx)
      (fun q e' => PathR ctx op p CEnv.empty q e' ∧ p ≤ q ∧ q ≤ ctx.len ∧ EnvIn e' p q ∧ Dom (capsOf op) e')
      (fun st' => ReprOff ctx (capsOf op) st' CEnv.empty) (sem ctx op p st) := by
  have h := sem_sound_caps ctx op hs hwf [] [] hsc p p CEnv.empty st hp (Nat.le_refl _) (EnvIn.empty _ _)
    (Dom.nil _) (by simpa using hst)
  simpa using h

/-! ### 3d. `match_at` -/

/-- **`match_at` reports the captures of the selected path.**  After a successful `match_at(i)` on a
    straight-line tree (from a state whose reported arrays are clear outside the groups of the tree)
    there are an end `n` and an environment `e'` such that
      * `(n, e')` is a path of the semantics from `(i, ∅)`, and it is the FIRST path in priority order
        (`enumC … .head?`): ordered choice, greedy-longest, reluctant-shortest;
      * group 0 of the final state is `(i, n)`;
      * the final state represents `e'`: for every group `g ≥ 1` the reported arrays (and, in a program
        with back-references, the arrays back-references read) hold exactly `e' g` — both `none`, or
        the span (`matchAt_groups` spells this out);
      * every span of `e'` lies inside `(i, n)`; exactly the groups of the tree are bound. -/
theorem matchAt_caps (ctx : Ctx) (op : Op) (hs : straightCaps op = true) (hwf : wfOp op = true)
    (hcp : C02.capsPos op = true) (hsc : scopeOK ctx.hasBackrefs ctx.maxParens op [] [] = true)
    (i : Nat) (hi : i ≤ ctx.len) (st0 st' : St) (h0 : CapsClear op st0) (hp0 : st0.panic = none)
    (h : matchAt ctx op i st0 = (true, st')) :
    ∃ n e', PathR ctx op i CEnv.empty n e' ∧ (enumC ctx op i CEnv.empty).head? = some (n, e') ∧
      getParenStart st' 0 = some i ∧ getParenEnd st' 0 = some n ∧ i ≤ n ∧ n ≤ ctx.len ∧
      Repr ctx st' e' ∧ EnvIn e' i n ∧ (∀ g, g ∈ capsOf op ↔ (e' g).isSome = true) := by
  obtain ⟨n, e', r⟩ := (capsOK_of_straight ctx op hs hwf hcp hsc).matchAt_res i hi st0 st' h0 hp0 h
  exact ⟨n, e', r.path, by rw [← enumC3_eq_enumC ctx op hs]; exact r.first, r.start0, r.end0, r.le, r.len, r.repr,
    r.env, r.dom⟩

/-- what `Repr` says about the accessors `get_paren_start / get_paren_end` -/
theorem matchAt_groups {ctx : Ctx} {st' : St} {e' : CEnv} (h : Repr ctx st' e') (g : Nat) (hg : 1 ≤ g) :
    getParenStart st' g = (e' g).map (·.1) ∧ getParenEnd st' g = (e' g).map (·.2) :=
  ⟨(h.agree g hg (by simp)).1, (h.agree g hg (by simp)).2.1⟩

/-- every bound group lies inside the match `(i, n)` and is a well-formed span -/
theorem groups_inside {e' : CEnv} {i n : Nat} (h : EnvIn e' i n) (g a b : Nat) (hg : e' g = some (a, b)) :
    i ≤ a ∧ a ≤ b ∧ b ≤ n :=
  h g a b hg

/-- **nesting and text.**  On a path of a straight-line tree with distinct group numbers, for every
    capture node `(g, c)`: group `g` is bound to a span `(a, b)` inside the path, the text of the group
    is a match of its sub-expression (`OpR ctx c a b`), and every group `g'` that is syntactically inside
    `(g, c)` is bound to a span inside `(a, b)`.  (`hsc` is not used: it follows from `hs` and `hm`,
    `capNodes_straight_both`.) -/
theorem groups_nested (ctx : Ctx) (op : Op) (hs : straightCaps op = true) (hnd : (capsOf op).Nodup)
    (p q : Nat) (e e' : CEnv) (hp : p ≤ ctx.len) (h : PathR ctx op p e q e') (g : Nat) (c : Op)
    (hm : (g, c) ∈ capNodes op) (hsc : straightCaps c = true) :
    ∃ a b, e' g = some (a, b) ∧ p ≤ a ∧ a ≤ b ∧ b ≤ q ∧ OpR ctx c a b ∧
      ∀ g', g' ∈ capsOf c → ∃ a' b', e' g' = some (a', b') ∧ a ≤ a' ∧ a' ≤ b' ∧ b' ≤ b :=
  Spine.nested ctx op (spine_of_straight op hs) hnd p q e e' hp h g c hm

theorem capNodes_straight_both :
    (∀ op, straightCaps op = true → ∀ g c, (g, c) ∈ capNodes op → straightCaps c = true) ∧
    (∀ ops, straightCapsL ops = true → ∀ g c, (g, c) ∈ capNodesL ops → straightCaps c = true) :=
  capNodes_closed straight_spineDown

theorem capNodesL_straight : (ops : List Op) → straightCapsL ops = true → ∀ g c, (g, c) ∈ capNodesL ops →
    straightCaps c = true :=
  capNodes_straight_both.2

/-- nesting and text, read off a state that represents the environment of the path -/
theorem nested_reported {ctx : Ctx} {op : Op} {st' : St} {e' : CEnv} (hrep : Repr ctx st' e')
    (hcp : C02.capsPos op = true) (hs : spineCaps op = true) (hnd : (capsOf op).Nodup)
    (i n : Nat) (hi : i ≤ ctx.len) (hpath : PathR ctx op i CEnv.empty n e') (g : Nat) (c : Op)
    (hm : (g, c) ∈ capNodes op) :
    ∃ a b, getParenStart st' g = some a ∧ getParenEnd st' g = some b ∧ i ≤ a ∧ a ≤ b ∧ b ≤ n ∧
      OpR ctx c a b ∧
      ∀ g', g' ∈ capsOf c → ∃ a' b', getParenStart st' g' = some a' ∧ getParenEnd st' g' = some b' ∧
        a ≤ a' ∧ a' ≤ b' ∧ b' ≤ b := by
  have hsub := capNodes_sub op g c hm
  obtain ⟨a, b, k1, k2, k3, k4, k5, k6⟩ :=
    Spine.nested ctx op hs hnd i n _ e' hi hpath g c hm
  have hg := matchAt_groups hrep g (capsPos_capsOf op hcp g hsub.1)
  rw [k1] at hg
  refine ⟨a, b, hg.1, hg.2, k2, k3, k4, k5, fun g' hg' => ?_⟩
  obtain ⟨a', b', j1, j2, j3, j4⟩ := k6 g' hg'
  have hg2 := matchAt_groups hrep g' (capsPos_capsOf op hcp g' (hsub.2 g' hg'))
  rw [j1] at hg2
  exact ⟨a', b', hg2.1, hg2.2, j2, j3, j4⟩

/-- **C03 on the fragment, in terms of the reported state only.**  After a successful `match_at(i)`:
    group 0 is `(i, n)`; for every parenthesised sub-expression `(g, c)` of the pattern the reported
    span of group `g` is `(a, b)` with `i ≤ a ≤ b ≤ n`, the text `[a, b)` is a match of `c`, and the
    reported span of every group nested inside it lies inside `(a, b)` -/
theorem matchAt_nested (ctx : Ctx) (op : Op) (hs : straightCaps op = true) (hwf : wfOp op = true)
    (hcp : C02.capsPos op = true) (hsc : scopeOK ctx.hasBackrefs ctx.maxParens op [] [] = true)
    (hnd : (capsOf op).Nodup)
    (i : Nat) (hi : i ≤ ctx.len) (st0 st' : St) (h0 : CapsClear op st0) (hp0 : st0.panic = none)
    (h : matchAt ctx op i st0 = (true, st')) :
    ∃ n, getParenStart st' 0 = some i ∧ getParenEnd st' 0 = some n ∧ i ≤ n ∧ n ≤ ctx.len ∧
      ∀ g c, (g, c) ∈ capNodes op →
        ∃ a b, getParenStart st' g = some a ∧ getParenEnd st' g = some b ∧ i ≤ a ∧ a ≤ b ∧ b ≤ n ∧
          OpR ctx c a b ∧
          ∀ g', g' ∈ capsOf c → ∃ a' b', getParenStart st' g' = some a' ∧ getParenEnd st' g' = some b' ∧
            a ≤ a' ∧ a' ≤ b' ∧ b' ≤ b := by
  obtain ⟨n, e', hpath, _, h1, h2, h3, h4, hrep, _, _⟩ := matchAt_caps ctx op hs hwf hcp hsc i hi st0 st' h0 hp0 h
  exact ⟨n, h1, h2, h3, h4, nested_reported hrep hcp (spine_of_straight op hs) hnd i n hi hpath⟩

/-! ### no panic site is reachable on the fragment (C05 covers only programs without back-references) -/

/-- a successful `match_at` on the fragment leaves the panic marker clear: neither a back-reference nor
    a capture indexes outside its array, `e - s` never underflows, no fuel runs out -/
theorem matchAt_caps_no_panic (ctx : Ctx) (op : Op) (hs : straightCaps op = true) (hwf : wfOp op = true)
    (hcp : C02.capsPos op = true) (hsc : scopeOK ctx.hasBackrefs ctx.maxParens op [] [] = true)
    (i : Nat) (hi : i ≤ ctx.len) (st0 st' : St) (h0 : CapsClear op st0) (hp0 : st0.panic = none)
    (h : matchAt ctx op i st0 = (true, st')) : st'.panic = none := by
  obtain ⟨n, e', r⟩ := (capsOK_of_straight ctx op hs hwf hcp hsc).matchAt_res i hi st0 st' h0 hp0 h
  exact r.clean

/-! ### 4. non-vacuity: compiled programs -/
section examples

private def env0 : Env :=
  { lower := id, closure := fun _ => [], category := fun _ => none, block := fun _ => none,
    digit := [], word := [], nameStart := [], nameChar := [] }

/-- the compiled program has tree `t`, the flags `hbr`, `mp`, and is neither case-blind nor multi-line -/
private def compiledIs (c : Out Prog) (t : Op) (hbr : Bool) (mp : Nat) : Bool :=
  match c with
  | .ok pr => opEq pr.op t && (pr.hasBackrefs == hbr) && (pr.maxParens == mp) && !pr.caseBlind && !pr.multiLine &&
      progOK pr.hasBackrefs pr.maxParens pr.op
  | _ => false

private def ctxOf (input : List Nat) : Ctx :=
  { input := input, caseBlind := false, multiLine := false, hasBackrefs := true, maxParens := 3, lower := id }

/-- groups 0, 1, 2 of a state, as `get_paren_start / get_paren_end` report them -/
private def groups3 (st' : St) :
    Option Nat × Option Nat × Option Nat × Option Nat × Option Nat × Option Nat :=
  (getParenStart st' 0, getParenEnd st' 0, getParenStart st' 1, getParenEnd st' 1,
   getParenStart st' 2, getParenEnd st' 2)

/-- what `matchAt_caps` + `matchAt_nested` give for a fresh state, as one statement about a tree -/
private def Conclusion (ctx : Ctx) (op : Op) (i : Nat) : Prop :=
  let st' := (matchAt ctx op i {}).2
  (∃ n e', PathR ctx op i CEnv.empty n e' ∧ (enumC ctx op i CEnv.empty).head? = some (n, e') ∧
      getParenStart st' 0 = some i ∧ getParenEnd st' 0 = some n ∧ i ≤ n ∧ n ≤ ctx.len ∧
      Repr ctx st' e' ∧ EnvIn e' i n ∧ (∀ g, g ∈ capsOf op ↔ (e' g).isSome = true)) ∧
  (∃ n, getParenStart st' 0 = some i ∧ getParenEnd st' 0 = some n ∧ i ≤ n ∧ n ≤ ctx.len ∧
      ∀ g c, (g, c) ∈ capNodes op →
        ∃ a b, getParenStart st' g = some a ∧ getParenEnd st' g = some b ∧ i ≤ a ∧ a ≤ b ∧ b ≤ n ∧
          OpR ctx c a b ∧
          ∀ g', g' ∈ capsOf c → ∃ a' b', getParenStart st' g' = some a' ∧ getParenEnd st' g' = some b' ∧
            a ≤ a' ∧ a' ≤ b' ∧ b' ≤ b)

private theorem conclusion_of (ctx : Ctx) (op : Op) (i : Nat) (hok : progOK ctx.hasBackrefs ctx.maxParens op = true)
    (hi : i ≤ ctx.len) (hm : (matchAt ctx op i {}).1 = true) : Conclusion ctx op i := by
  simp only [progOK, Bool.and_eq_true, decide_eq_true_eq] at hok
  obtain ⟨⟨⟨⟨h1, h2⟩, h3⟩, h4⟩, h5⟩ := hok
  exact ⟨matchAt_caps ctx op h1 h2 h3 h4 i hi {} _ (capsClear_of_nil op {} rfl rfl) rfl (matchAt_true_eq hm),
    matchAt_nested ctx op h1 h2 h3 h4 h5 i hi {} _ (capsClear_of_nil op {} rfl rfl) rfl (matchAt_true_eq hm)⟩

/-! `(a)(b|c)\1` on "aba" -/
private def t1 : Op :=
  .seq [.capture 1 (.atom [97]), .capture 2 (.choice [.atom [98], .atom [99]]), .backref 1, .endProgram]
example : compiledIs (compileCore env0 {} [40, 97, 41, 40, 98, 124, 99, 41, 92, 49] true) t1 true 3 = true := by
  decide +kernel
example : progOK true 3 t1 = true := by decide
/-- the theorems apply … -/
example : Conclusion (ctxOf [97, 98, 97]) t1 0 :=
  conclusion_of _ _ _ (by decide) (by decide) (by decide +kernel)
/-- … and this is what they talk about: the computed final state and the computed first path agree -/
example :
    groups3 (matchAt (ctxOf [97, 98, 97]) t1 0 {}).2 = (some 0, some 3, some 0, some 1, some 1, some 2) ∧
    (enumC (ctxOf [97, 98, 97]) t1 0 CEnv.empty).map (fun x => (x.1, x.2 1, x.2 2)) =
      [(3, some (0, 1), some (1, 2))] := ⟨by decide +kernel, by decide +kernel⟩

/-! `((a)b)\2\1` on "abaab": nested groups -/
private def t2 : Op :=
  .seq [.capture 1 (.seq [.capture 2 (.atom [97]), .atom [98]]), .backref 2, .backref 1, .endProgram]
example : compiledIs (compileCore env0 {} [40, 40, 97, 41, 98, 41, 92, 50, 92, 49] true) t2 true 3 = true := by
  decide +kernel
example : Conclusion (ctxOf [97, 98, 97, 97, 98]) t2 0 :=
  conclusion_of _ _ _ (by decide) (by decide) (by decide +kernel)
example : capNodes t2 = [(1, .seq [.capture 2 (.atom [97]), .atom [98]]), (2, .atom [97])] := rfl
example :
    groups3 (matchAt (ctxOf [97, 98, 97, 97, 98]) t2 0 {}).2 = (some 0, some 5, some 0, some 2, some 0, some 1) ∧
    (enumC (ctxOf [97, 98, 97, 97, 98]) t2 0 CEnv.empty).map (fun x => (x.1, x.2 1, x.2 2)) =
      [(5, some (0, 2), some (0, 1))] := ⟨by decide +kernel, by decide +kernel⟩

/-! `(a*)(b)\1` on "aabaa": a quantifier inside a group -/
private def t3 : Op :=
  .seq [.capture 1 (.gfixed (.atom [97]) 0 usizeMax 1), .capture 2 (.atom [98]), .backref 1, .endProgram]
example : compiledIs (compileCore env0 {} [40, 97, 42, 41, 40, 98, 41, 92, 49] true) t3 true 3 = true := by
  decide +kernel
example : Conclusion (ctxOf [97, 97, 98, 97, 97]) t3 0 :=
  conclusion_of _ _ _ (by decide) (by decide) (by decide +kernel)
example :
    groups3 (matchAt (ctxOf [97, 97, 98, 97, 97]) t3 0 {}).2 = (some 0, some 5, some 0, some 2, some 2, some 3) ∧
    (enumC (ctxOf [97, 97, 98, 97, 97]) t3 0 CEnv.empty).map (fun x => (x.1, x.2 1, x.2 2)) =
      [(5, some (0, 2), some (2, 3))] := ⟨by decide +kernel, by decide +kernel⟩

/-! `(a*)(a|b)\1` on "aab": the match is found only after backtracking into group 1 twice (group 2 was
    set to `(2, 3)` on the first, abandoned, path); the reported groups are those of the selected path -/
private def t4 : Op :=
  .seq [.capture 1 (.gfixed (.atom [97]) 0 usizeMax 1), .capture 2 (.choice [.atom [97], .atom [98]]),
        .backref 1, .endProgram]
example : compiledIs (compileCore env0 {} [40, 97, 42, 41, 40, 97, 124, 98, 41, 92, 49] true) t4 true 3 = true := by
  decide +kernel
example : Conclusion (ctxOf [97, 97, 98]) t4 0 :=
  conclusion_of _ _ _ (by decide) (by decide) (by decide +kernel)
example :
    groups3 (matchAt (ctxOf [97, 97, 98]) t4 0 {}).2 = (some 0, some 1, some 0, some 0, some 0, some 1) ∧
    (enumC (ctxOf [97, 97, 98]) t4 0 CEnv.empty).map (fun x => (x.1, x.2 1, x.2 2)) =
      [(1, some (0, 0), some (0, 1))] := ⟨by decide +kernel, by decide +kernel⟩

end examples

/-! ### 5. why the fragment excludes loops: `(a|b)*b` on "ab" reports `$1 = ""` -/
section loop

private def env0' : Env :=
  { lower := id, closure := fun _ => [], category := fun _ => none, block := fun _ => none,
    digit := [], word := [], nameStart := [], nameChar := [] }

/-- the tree the compiler builds for `(a|b)*b` -/
def loopTree : Op :=
  .seq [.gfixed (.capture 1 (.choice [.atom [97], .atom [98]])) 0 usizeMax 1, .atom [98], .endProgram]

def loopCtx : Ctx :=
  { input := [97, 98], caseBlind := false, multiLine := false, hasBackrefs := false, maxParens := 2, lower := id }

example : (match compileCore env0' {} [40, 97, 124, 98, 41, 42, 98] true with
    | .ok pr => opEq pr.op loopTree && (pr.hasBackrefs == false) && (pr.maxParens == 2) && !pr.caseBlind && !pr.multiLine
    | _ => false) = true := by decide +kernel

private theorem body_step {a b : Nat} {x y : CEnv}
    (h : PathR loopCtx (.capture 1 (.choice [.atom [97], .atom [98]])) a x b y) : b = a + 1 ∧ y = x.set 1 a (a + 1) := by
  simp only [PathR, PathRAny, OpR, or_false] at h
  obtain ⟨e1, h1, rfl⟩ := h
  rcases h1 with ⟨rfl, h2, _⟩ | ⟨rfl, h2, _⟩
  · simp only [List.length_cons, List.length_nil] at h2
    subst h2
    exact ⟨rfl, rfl⟩
  · simp only [List.length_cons, List.length_nil] at h2
    subst h2
    exact ⟨rfl, rfl⟩

/-- every path of `(a|b)*b` on "ab" from 0 ends at 2, and group 1's last participation is `(0, 1)`: "a" -/
theorem loop_paths (n : Nat) (e' : CEnv) (h : PathR loopCtx loopTree 0 CEnv.empty n e') :
    n = 2 ∧ e' 1 = some (0, 1) := by
  simp only [loopTree, PathR, PathRSeq, OpR] at h
  obtain ⟨m, e1, ⟨k, _, _, hi⟩, m2, e2, ⟨rfl, rfl, hm2, hpm⟩, m3, e3, ⟨rfl, rfl⟩, rfl, rfl⟩ := h
  have hlen : loopCtx.len = 2 := rfl
  simp only [List.length_cons, List.length_nil, hlen] at hm2
  -- the atom `b` after the loop stands at 1 only, so the loop's last iteration ran from 0 to 1
  cases hi with
  | zero => exact absurd hpm (by decide)
  | @succ _ _ _ q0 _ _ _ _ hr =>
    obtain ⟨rfl, rfl⟩ := body_step hr
    obtain rfl : q0 = 0 := by omega
    exact ⟨rfl, CEnv.set_same _ _ _ _⟩

/-- **the statement of `matchAt_caps` is false for a capture under a quantifier.**  `(a|b)*b` as the
    compiler builds it (well-formed, scoped, but not `straightCaps`), on "ab": `match_at(0)` succeeds
    and reports group 1 = `(1, 1)` — the empty string at offset 1 — whereas on the only path of the
    semantics the last (and only) participation of group 1 is `(0, 1)` = "a".  Hence no path `(n, e')`
    is represented by the final state: the conclusion of `matchAt_caps` fails.  (Finding K5: when the
    greedy loop gives back its second iteration `b`, the group set by it is emptied, not restored.) -/
theorem captures_in_loop_stale :
    straightCaps loopTree = false ∧ wfOp loopTree = true ∧ C02.capsPos loopTree = true ∧
    scopeOK loopCtx.hasBackrefs loopCtx.maxParens loopTree [] [] = true ∧ (capsOf loopTree).Nodup ∧
    (matchAt loopCtx loopTree 0 {}).1 = true ∧
    getParenStart (matchAt loopCtx loopTree 0 {}).2 1 = some 1 ∧
    getParenEnd (matchAt loopCtx loopTree 0 {}).2 1 = some 1 ∧
    ¬ ∃ n e', PathR loopCtx loopTree 0 CEnv.empty n e' ∧ Repr loopCtx (matchAt loopCtx loopTree 0 {}).2 e' := by
  have hs : getParenStart (matchAt loopCtx loopTree 0 {}).2 1 = some 1 := by decide +kernel
  refine ⟨by decide, by decide, by decide, by decide, by decide, by decide +kernel, hs, by decide +kernel, ?_⟩
  rintro ⟨n, e', hp, hr⟩
  have h1 := (loop_paths n e' hp).2
  have h2 := (matchAt_groups hr 1 (Nat.le_refl _)).1
  rw [h1, hs] at h2
  simp at h2

end loop

end Rx.C03b
