/-
  Props/C03e — captured groups inside ALTERNATIVES ("groups inside alternations that fail and are
  retried", C03): what the engine reports, proved, and where it deviates from the property.

  Fragment `altCaps` (Spec/PathCaps2): `straightCaps` plus captures and back-references inside the
  branches of alternations, recursively through seq / capture / choice; nothing under a quantifier.
  A back-reference may refer to any group closed earlier on the straight line (also the straight line
  of the branch it sits in) — `scopeOK2`; group numbers are allotted once.

  WHAT IS TRUE (theorems below; `ReprT … none`):
    * the engine enumerates exactly the paths of the semantics with their environments, in priority
      order (`sem_enumC_alt`): alternatives in order, and inside them as on the straight fragment;
    * after `match_at` / `matches`: every group the selected path BINDS is reported exactly (reported
      arrays and the arrays back-references read), every group outside the tree is absent, and every
      group of an alternative that was NOT selected (abandoned after it had set the group, or never
      tried) is reported ABSENT OR AS AN EMPTY SPAN — never as a stale non-empty span.  The mechanism:
      `choiceGen` runs `clear_captured_groups_beyond(p)` before every branch and the sequence iterator
      clears at every yield (`end := start` for every group starting at or after the position), so a
      group set on an abandoned path is emptied before anything to its right is tried again; when the
      abandoned branch is a sequence with captures its iterator restores the reported arrays and the
      group is absent again.
    * consequently `get_paren(g)` of a group that did not participate is `None` or `Some("")`, and the
      `$N` expansion of `replace` is the one the property prescribes (`getParen_alt`).
  THE DEVIATION (kernel-checked on a compiled program; the crate answers `M(G1(G2() S:'ab') S:'c')` to
  `analyze` of `((a)|ab)c` on `abc`): a group of an abandoned
  alternative that is not restored is reported as an EMPTY group, not as an absent one.  `analyze`
  therefore emits an empty `Group` node for it (C03 says "absent (analyze)"); the full `Repr` of C03b
  fails (`alt_empty_not_absent`).  `replace` is not affected ("empty (replace)").
  Back-reference arrays: the entries of abandoned groups are emptied by the same clearing steps and are
  never restored; a back-reference to such a group would match the empty string, as the semantics
  prescribes for a group that did not participate — not proved here (`scopeOK2` only allows
  back-references to groups that are certainly bound), see the example at the end.
-/
import RxModel.Spec.PathCaps2
import RxModel.Proofs.PathCaps2Lemmas
import RxModel.Props.C03b
import RxModel.Proofs.C03cTree
import RxModel.Proofs.OpEq
namespace Rx.C03e
open Rx

/-! ### 1. the engine against the path semantics -/

/-- **exactness on `altCaps`.**  Started at `p` in an all-tidy state representing `e`, the
    iterator yields exactly `enumC2 ctx op p e`; at the yield `(n, e')` the state represents `e'`
    exactly on the groups `e'` binds and is tidy at level `n` on the other groups of `fut`; this holds
    under every consumer that resumes with such a state; at exhaustion the state represents `e`, tidy at
    level `p`. -/
theorem sem_enumC_alt (ctx : Ctx) (op : Op) (hs : altCaps op = true) (hwf : wfOp op = true)
    (cl ub : List Nat) (opn : List (Nat × Nat)) (fut : List Nat)
    (hsc : scopeOK2 ctx.hasBackrefs ctx.maxParens op cl ub = true)
    (hfut : ∀ g ∈ capsOf op, g ∈ fut) (hopn : ∀ g pg, (g, pg) ∈ opn → g ∈ ub)
    (lo p : Nat) (e : CEnv) (st : St) (hp : p ≤ ctx.len) (hlo : lo ≤ p) (he : EnvIn e lo p) (hd : Dom cl e)
    (hsub : ∀ k, (e k).isSome = true → k ∈ ub) (hst : ReprT ctx opn fut none st e) :
    Step.SeqT (fun n st' e' => ReprT ctx opn fut (some n) st' e') (fun n st' e' => ReprT ctx opn fut (some n) st' e')
      (fun st' => ReprT ctx opn fut (some p) st' e) (sem ctx op p st) (enumC2 ctx op p e) :=
  sem_seqT ctx lo op hs hwf cl ub opn fut hsc hfut hopn p e st hp hlo he hd hsub hst

/-- `enumC2` lists exactly the (end, environment) pairs of the path semantics -/
theorem enumC2_iff_PathR (ctx : Ctx) (op : Op) (hs : altCaps op = true) (hwf : wfOp op = true)
    (lo p : Nat) (e : CEnv) (hp : p ≤ ctx.len) (hlo : lo ≤ p) (he : EnvIn e lo p) (q : Nat) (e' : CEnv) :
    (q, e') ∈ enumC2 ctx op p e ↔ PathR ctx op p e q e' :=
  ⟨fun h => (enumC2_facts ctx lo op hs hwf [] p e hp hlo he (Dom.nil e) (q, e') h).path,
   fun h => enumC2_complete ctx op hs hwf p e q e' hp h⟩

/-! ### 2. `match_at` and `matches` -/

/-- the decidable program-side hypotheses: the tree is a sequence in the fragment, well-formed, with
    group numbers `≥ 1`, correctly scoped -/
def altOK (hbr : Bool) (mp : Nat) (op : Op) : Bool :=
  match op with
  | .seq _ => altCaps op && wfOp op && C02.capsPos op && scopeOK2 hbr mp op [] []
  | _ => false

theorem altSeq_of {ctx : Ctx} {op : Op} (h : altOK ctx.hasBackrefs ctx.maxParens op = true) : AltSeq ctx op := by
  cases op with
  | seq ops =>
    simp only [altOK, Bool.and_eq_true] at h
    exact ⟨ops, rfl, ⟨h.1.1.1, h.1.1.2, h.1.2, h.2⟩⟩
  | _ => simp [altOK] at h

/-- **`match_at` on `altCaps`** (from a state whose reported arrays are clear outside the
    tree and tidy on it, e.g. a fresh one): the first path of the priority order, group 0, and
    `ReprT … none`: every bound group exact, every other group absent or empty -/
theorem matchAt_caps_alt (ctx : Ctx) (op : Op) (hok : altOK ctx.hasBackrefs ctx.maxParens op = true)
    (j : Nat) (hj : j ≤ ctx.len) (st st' : St) (hst : Good2 op st) (h : matchAt ctx op j st = (true, st')) :
    ∃ n e', MatchRes2 ctx op j n e' st' := by
  rcases AltSeq.matchAt_cases ctx op (altSeq_of hok) j hj st hst with ⟨_, st2, n, e', he, hres⟩ | ⟨_, st2, he, _⟩
  · rw [h] at he
    simp only [Prod.mk.injEq, true_and] at he
    subst he
    exact ⟨n, e', hres⟩
  · rw [h] at he; cases he

/-- reading `ReprT … none`: what `get_paren_start / get_paren_end` report for every group `≥ 1` -/
theorem groups_alt {ctx : Ctx} {op : Op} {st' : St} {e' : CEnv} (h : ReprT ctx [] (capsOf op) none st' e')
    (g : Nat) (hg : 1 ≤ g) :
    (∀ a b, e' g = some (a, b) → getParenStart st' g = some a ∧ getParenEnd st' g = some b) ∧
    (e' g = none → g ∉ capsOf op → getParenStart st' g = none ∧ getParenEnd st' g = none) ∧
    (e' g = none → getParenStart st' g = none ∨ getParenEnd st' g = getParenStart st' g) := by
  refine ⟨fun a b he => ?_, fun he hn => ?_, fun he => ?_⟩
  · have := h.agree g hg (.inr (by rw [he]; rfl))
    rw [he] at this
    exact ⟨this.1, this.2.1⟩
  · have := h.agree g hg (.inl hn)
    rw [he] at this
    exact ⟨this.1, this.2.1⟩
  · by_cases hm : g ∈ capsOf op
    · exact h.tidy g hg hm he (fun pg hc => by cases hc)
    · have := h.agree g hg (.inl hm)
      rw [he] at this
      exact .inl this.1

/-- hence `replace` sees the prescribed text: `$N` of a group that did not participate is empty -/
theorem getParen_alt {ctx : Ctx} {op : Op} {j n : Nat} {e' : CEnv} {st' : St}
    (h : MatchRes2 ctx op j n e' st') (input : List Nat) (g : Nat) :
    (getParen input st' g).getD [] = (grpOf input j n e' g).getD [] := by
  unfold getParen grpOf
  by_cases hg : g = 0
  · subst hg
    have := h.reprT.pc0
    rw [if_pos (by omega), h.start0, h.end0]
    simp
  · have hg1 : 1 ≤ g := by omega
    rw [if_neg hg]
    cases he : e' g with
    | some ab =>
      have ha := h.reprT.agree g hg1 (.inr (by rw [he]; rfl))
      rw [he] at ha
      have hpc := h.reprT.pc g hg1 (by rw [he]; rfl)
      simp only [getParenStart, getParenEnd, ha.1, ha.2.1, Option.map_some, if_pos hpc]
    | none =>
      simp only [Option.map_none, Option.getD_none]
      have := (groups_alt h.reprT g hg1).2.2 he
      split
      · rcases this with hs | hs
        · rw [hs]; rfl
        · rw [hs]
          cases hst : getParenStart st' g with
          | none => rfl
          | some a => simp [slice]
      · rfl

/-- **`matches(i)` on `altCaps`**: the leftmost start from which a path exists, the first
    path of the priority order from there, and the state of `matchAt_caps_alt` -/
theorem matchesFrom_caps_alt (pr : Prog) (lower : Nat → Nat) (input : List Nat)
    (hok : altOK pr.hasBackrefs pr.maxParens pr.op = true)
    (F : SearchComplete.SearchFacts (pr.ctx lower input) pr)
    (hpres : ∀ q ∈ pr.pres, SearchComplete.preShape q.op = true ∧ C06.simplePre q.op = true)
    (hlen : input.length < usizeMax)
    (i : Nat) (hi : i ≤ input.length) (st st' : St) (hst : st.panic = none)
    (h : matchesFrom (pr.ctx lower input) pr i st = (true, st')) :
    ∃ j n e', i ≤ j ∧ MatchRes2 (pr.ctx lower input) pr.op j n e' st' ∧
      (∀ k, i ≤ k → k < j → ¬ ∃ n' e'', PathR (pr.ctx lower input) pr.op k CEnv.empty n' e'') := by
  have ho := matchesFrom_foundT F hlen (altSeq_of (ctx := pr.ctx lower input) hok) (pres_complete hpres) i hi st hst
  rw [h] at ho
  rcases ho with ⟨_, j, stj, h1, _, _, h3, _, n, e', hres⟩ | ⟨hf, _⟩
  · exact ⟨j, n, e', h1, hres, h3⟩
  · cases hf

/-- `matches(i) = false`: no path starts at or after `i`; the state stays clean -/
theorem matchesFrom_caps_alt_false (pr : Prog) (lower : Nat → Nat) (input : List Nat)
    (hok : altOK pr.hasBackrefs pr.maxParens pr.op = true)
    (F : SearchComplete.SearchFacts (pr.ctx lower input) pr)
    (hpres : ∀ q ∈ pr.pres, SearchComplete.preShape q.op = true ∧ C06.simplePre q.op = true)
    (hlen : input.length < usizeMax)
    (i : Nat) (hi : i ≤ input.length) (st st' : St) (hst : st.panic = none)
    (h : matchesFrom (pr.ctx lower input) pr i st = (false, st')) :
    (∀ j, i ≤ j → j ≤ input.length → ¬ ∃ n e', PathR (pr.ctx lower input) pr.op j CEnv.empty n e') ∧
    st'.panic = none := by
  have ho := matchesFrom_foundT F hlen (altSeq_of (ctx := pr.ctx lower input) hok) (pres_complete hpres) i hi st hst
  rw [h] at ho
  rcases ho with ⟨ht, _⟩ | ⟨_, hg, hno⟩
  · cases ht
  · exact ⟨hno, hg.2⟩

/-! ### 3. the deviation: an abandoned group is reported EMPTY, not ABSENT -/
section deviation

private def env0 : Env :=
  { lower := id, closure := fun _ => [], category := fun _ => none, block := fun _ => none,
    digit := [], word := [], nameStart := [], nameChar := [] }

/-- `((a)|ab)c` -/
private def devPat : List Nat := [40, 40, 97, 41, 124, 97, 98, 41, 99]

/-- the tree the compiler builds for it -/
def devTree : Op :=
  .seq [.capture 1 (.choice [.capture 2 (.atom [97]), .atom [97, 98]]), .atom [99], .endProgram]

/-- on "abc" -/
def devCtx : Ctx :=
  { input := [97, 98, 99], caseBlind := false, multiLine := false, hasBackrefs := false, maxParens := 3, lower := id }

example : (match compileCore env0 {} devPat true with
    | .ok pr => opEq pr.op devTree && (pr.hasBackrefs == false) && (pr.maxParens == 3) && !pr.caseBlind && !pr.multiLine
    | _ => false) = true := by decide +kernel

/-- the only path from 0: the SECOND alternative; group 1 = "ab", group 2 did not participate -/
theorem dev_paths (n : Nat) (e' : CEnv) (h : PathR devCtx devTree 0 CEnv.empty n e') :
    n = 3 ∧ e' 1 = some (0, 2) ∧ e' 2 = none :=
  -- the paths are the members of `enumC2`, which is evaluated
  (by decide +kernel : ∀ x ∈ enumC2 devCtx devTree 0 CEnv.empty, x.1 = 3 ∧ x.2 1 = some (0, 2) ∧ x.2 2 = none) _
    ((enumC2_iff_PathR devCtx devTree (by decide) (by decide) 0 0 _ (by decide) (Nat.le_refl _) (EnvIn.empty _ _)
      n e').2 h)

/-- **the full statement of C03b (`Repr`) is false on `altCaps`.**  For `((a)|ab)c` on "abc"
    — in the fragment, so `matchAt_caps_alt` applies — `match_at(0)` succeeds and reports group 2 as the
    EMPTY span `(0, 0)`, whereas on the only path group 2 did not participate: no path is represented
    exactly by the final state.  (First alternative `(a)`: group 2 := `(0, 1)`, then `c` fails; before the
    second alternative `clear_captured_groups_beyond(0)` sets `end := start`.) -/
theorem alt_empty_not_absent :
    altOK devCtx.hasBackrefs devCtx.maxParens devTree = true ∧
    (matchAt devCtx devTree 0 {}).1 = true ∧
    getParenStart (matchAt devCtx devTree 0 {}).2 2 = some 0 ∧
    getParenEnd (matchAt devCtx devTree 0 {}).2 2 = some 0 ∧
    ¬ ∃ n e', PathR devCtx devTree 0 CEnv.empty n e' ∧ Repr devCtx (matchAt devCtx devTree 0 {}).2 e' := by
  have hs : getParenStart (matchAt devCtx devTree 0 {}).2 2 = some 0 := by decide +kernel
  refine ⟨by decide, by decide +kernel, hs, by decide +kernel, ?_⟩
  rintro ⟨n, e', hp, hr⟩
  have h1 := (dev_paths n e' hp).2.2
  have h2 := (C03b.matchAt_groups hr 2 (by decide)).1
  rw [h1, hs] at h2
  simp at h2

/-- … while the weaker statement proved above does hold of that state -/
example : ∃ n e', MatchRes2 devCtx devTree 0 n e' (matchAt devCtx devTree 0 {}).2 :=
  matchAt_caps_alt devCtx devTree (by decide) 0 (by decide) {} _ ⟨cap2_of_nil _ _ rfl rfl, rfl⟩
    (matchAt_true_eq (by decide +kernel))

/-- `analyze` on the compiled regex emits the empty `Group 2` node (the crate answers the same:
    `M(G1(G2() S:'ab') S:'c')`), where C03 prescribes no node for a group that did not participate
    (`groupTree` of the path: `Group 1 [ab]`, `c`) -/
example : (match Regex.new env0 devPat [] false with
    | .ok r =>
      (match r.analyze id [97, 98, 99] 100 with
       | .ok (es, _) =>
         aEqL es [.isMatch [.group 1 [.group 2 [], .str [97, 98]], .str [99]]] &&
         !aEqL es [.isMatch (groupTree devTree [97, 98, 99]
            (0, 3, ((enumC2 devCtx devTree 0 CEnv.empty).head?.map (·.2)).getD CEnv.empty))] &&
         mEqL (groupTree devTree [97, 98, 99]
            (0, 3, ((enumC2 devCtx devTree 0 CEnv.empty).head?.map (·.2)).getD CEnv.empty))
           [.group 1 [.str [97, 98]], .str [99]]
       | _ => false)
    | _ => false) = true := by decide +kernel

/-- `replace` is not affected: `[$1|$2]` gives `[ab|]` -/
example : (match Regex.new env0 devPat [] false with
    | .ok r => decide (r.replaceAll id [97, 98, 99] [91, 36, 49, 124, 36, 50, 93] = .ok [91, 97, 98, 124, 93])
    | _ => false) = true := by decide +kernel

end deviation

/-! ### 4. non-vacuity: compiled programs with groups and back-references inside alternatives -/
section examples

private def env1 : Env :=
  { lower := id, closure := fun _ => [], category := fun _ => none, block := fun _ => none,
    digit := [], word := [], nameStart := [], nameChar := [] }

private theorem matchAt_mk {ctx : Ctx} {op : Op} {i : Nat} {st : St} (h : (matchAt ctx op i st).1 = true) :
    matchAt ctx op i st = (true, (matchAt ctx op i st).2) :=
  matchAt_true_eq h

private def groups4 (st' : St) : List (Option Nat) :=
  [getParenStart st' 0, getParenEnd st' 0, getParenStart st' 1, getParenEnd st' 1,
   getParenStart st' 2, getParenEnd st' 2, getParenStart st' 3, getParenEnd st' 3]

/-- `(x)(?:(a)\1|(a)\3)c` on "xaac": the first alternative sets group 2, its back-reference `\1` fails, the
    sequence iterator restores group 2 (absent); the second alternative sets group 3 and `\3` matches -/
private def t5 : Op :=
  .seq [.capture 1 (.atom [120]),
        .choice [.seq [.capture 2 (.atom [97]), .backref 1], .seq [.capture 3 (.atom [97]), .backref 3]],
        .atom [99], .endProgram]
private def ctx5 : Ctx :=
  { input := [120, 97, 97, 99], caseBlind := false, multiLine := false, hasBackrefs := true, maxParens := 4, lower := id }

example : (match compileCore env1 {}
      [40, 120, 41, 40, 63, 58, 40, 97, 41, 92, 49, 124, 40, 97, 41, 92, 51, 41, 99] true with
    | .ok pr => opEq pr.op t5 && (pr.hasBackrefs == true) && (pr.maxParens == 4) && !pr.caseBlind && !pr.multiLine &&
        altOK pr.hasBackrefs pr.maxParens pr.op
    | _ => false) = true := by decide +kernel

example : ∃ n e', MatchRes2 ctx5 t5 0 n e' (matchAt ctx5 t5 0 {}).2 :=
  matchAt_caps_alt ctx5 t5 (by decide) 0 (by decide) {} _ ⟨cap2_of_nil _ _ rfl rfl, rfl⟩
    (matchAt_mk (by decide +kernel))
example : groups4 (matchAt ctx5 t5 0 {}).2 = [some 0, some 4, some 0, some 1, none, none, some 1, some 2] ∧
    (enumC2 ctx5 t5 0 CEnv.empty).map (fun x => (x.1, x.2 1, x.2 2, x.2 3)) =
      [(4, some (0, 1), none, some (1, 2))] := ⟨by decide +kernel, by decide +kernel⟩

/-- `(?:(a)|(ab))c` on "abc": group 1 of the abandoned alternative is reported empty, group 2 exact -/
private def t6 : Op :=
  .seq [.choice [.capture 1 (.atom [97]), .capture 2 (.atom [97, 98])], .atom [99], .endProgram]
private def ctx6 : Ctx :=
  { input := [97, 98, 99], caseBlind := false, multiLine := false, hasBackrefs := false, maxParens := 3, lower := id }

example : (match compileCore env1 {} [40, 63, 58, 40, 97, 41, 124, 40, 97, 98, 41, 41, 99] true with
    | .ok pr => opEq pr.op t6 && (pr.hasBackrefs == false) && (pr.maxParens == 3) &&
        altOK pr.hasBackrefs pr.maxParens pr.op
    | _ => false) = true := by decide +kernel
example : ∃ n e', MatchRes2 ctx6 t6 0 n e' (matchAt ctx6 t6 0 {}).2 :=
  matchAt_caps_alt ctx6 t6 (by decide) 0 (by decide) {} _ ⟨cap2_of_nil _ _ rfl rfl, rfl⟩
    (matchAt_mk (by decide +kernel))
example : groups4 (matchAt ctx6 t6 0 {}).2 = [some 0, some 3, some 0, some 0, some 0, some 2, none, none] ∧
    (enumC2 ctx6 t6 0 CEnv.empty).map (fun x => (x.1, x.2 1, x.2 2)) = [(3, none, some (0, 2))] :=
  ⟨by decide +kernel, by decide +kernel⟩

/-- the back-reference arrays: `(?:(a)(b)x|ab)c\1` on "abc".  The abandoned alternative had set groups 1
    and 2; the reported arrays are restored (absent), the back-reference arrays are only emptied:
    `(0, 0)` and `(1, 1)`; `\1` then matches the empty string, as for a group that did not participate.
    (This back-reference is outside `scopeOK2`; the example is evidence, not a theorem.) -/
example : (match compileCore env1 {} [40, 63, 58, 40, 97, 41, 40, 98, 41, 120, 124, 97, 98, 41, 99, 92, 49] true with
    | .ok pr =>
      let r := matchAt (pr.ctx id [97, 98, 99]) pr.op 0 {}
      r.1 && (getParenStart r.2 1 == none) && (getParenStart r.2 2 == none) &&
      (r.2.startBr == [none, some 0, some 1]) && (r.2.endBr == [none, some 0, some 1]) &&
      !altOK pr.hasBackrefs pr.maxParens pr.op
    | _ => false) = true := by decide +kernel

/-- the search loop: `matchesFrom_caps_alt` applied to the program `ReProgram::new` builds for
    `((a)|ab)c`, on "xabc" from 0: the match is found at 1 -/
def exProgD : Prog := mkProgram [40, 40, 97, 41, 124, 97, 98, 41, 99] devTree 3 {} false

example : (match Regex.new env1 [40, 40, 97, 41, 124, 97, 98, 41, 99] [] false with
    | .ok r => progEq r.prog exProgD
    | _ => false) = true := by decide +kernel

example : ∃ j n e', 0 ≤ j ∧ MatchRes2 (exProgD.ctx id [120, 97, 98, 99]) exProgD.op j n e'
      (matchesFrom (exProgD.ctx id [120, 97, 98, 99]) exProgD 0 {}).2 ∧
      (∀ k, 0 ≤ k → k < j → ¬ ∃ n' e'', PathR (exProgD.ctx id [120, 97, 98, 99]) exProgD.op k CEnv.empty n' e'') :=
  matchesFrom_caps_alt exProgD id [120, 97, 98, 99] (by decide +kernel)
    (SearchComplete.mkProgram_searchFacts _ devTree 3 {} false id _ (by decide) (by decide) (by decide))
    (pres_of_all (by decide +kernel))
    (by decide) 0 (by decide) {} _ rfl
    (by
      have h : (matchesFrom (exProgD.ctx id [120, 97, 98, 99]) exProgD 0 {}).1 = true := by decide +kernel
      rw [← h])
example : groups4 (matchesFrom (exProgD.ctx id [120, 97, 98, 99]) exProgD 0 {}).2 =
    [some 1, some 4, some 1, some 3, some 1, some 1, none, none] := by decide +kernel

end examples

end Rx.C03e
