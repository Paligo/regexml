/-
  Props/C03d — the nesting table that `analyze` computes by RE-SCANNING the pattern text
  (`AnalyzeIter::compute_nesting_table`, modelled by `nestingTable`) agrees with the grammar and with
  the compiled tree:

    nesting_of_render      on the rendering of a well-formed tree `a` the scanner returns exactly
                           `tableOf a` (group ↦ innermost enclosing capturing group; latest group first,
                           the order in which the Rust pushes) — it never panics there
    compile_nesting_some   for every accepted non-literal pattern the scanner succeeds on the text
                           stored in the program (flag x: the STRIPPED text — `compileCore` stores the
                           text it is given, and `compileProg` strips before calling it)
    compile_tblOK          … and the table agrees with the capture nesting of the COMPILED tree
                           (`tblOK tbl pr.op 0`, the hypothesis of Props/C03c), optimiser on or off
    analyze_panic_only_builder / api_analyze_no_nesting_panic   `analyze` never panics in `compute_nesting_table`
    analyze_groups_from_text, analyze_match_groups_from_text
                           the C03c theorems without their `tblOK` / table hypotheses

  On every grammar-conformant pattern the second scanner and the parser agree:
  escapes (a backslash skips one character in both), classes incl. nested subtraction `[a-[b]]`,
  `\]`, `[(]` (parentheses inside `[…]` are ignored), `\p{…}` (braces are ordinary), `(?:`,
  quantifier text, back-reference digits.  One hypothesis is needed about the ENVIRONMENT, not the
  crate: the category / block names it knows contain none of `\ [ ] ( )` (`EnvNamesPlain`) — otherwise
  `\p{a(}` would be accepted by the parser and mis-scanned.  It holds for the real tables
  (`envNamesPlain_std`, a kernel-checked test over both tables).
-/
import RxModel.Model.Compile
import RxModel.Model.Unicode
import RxModel.Proofs.NestingLemmas
import RxModel.Proofs.TableLemmas
import RxModel.Props.C03c
import RxModel.Props.C05b
import RxModel.Props.C07d
import RxModel.Props.C14
namespace Rx.C03d
open Rx Rx.Grammar
open Rx.C07b (ParserQuirkFree)

/-! ### 1. the scanner on grammar-conformant text -/

/-- MAIN THEOREM (text).  `compute_nesting_table` on the rendering of a well-formed tree returns the
    syntactic nesting table of that tree. -/
theorem nesting_of_render (env : Env) (henv : EnvNamesPlain env) (xsd : Bool) (a : Ast)
    (hok : a.okFor xsd env = true) : nestingTable a.render = some (tableOf a) :=
  nestingTable_render henv a hok

/-- the table as a function: every group `1 … groups a` has an entry, and the entry is the
    syntactic parent; the keys are strictly decreasing (latest group first) -/
theorem tableOf_keys (a : Ast) :
    (tableOf a).Pairwise (fun p q => q.1 < p.1) ∧ ∀ p ∈ tableOf a, 1 ≤ p.1 ∧ p.1 ≤ a.groups := by
  obtain ⟨h1, h2⟩ := RegExp.tbl_keys 0 0 a
  exact ⟨h1, fun p hp => by have := h2 p hp; omega⟩

theorem tableOf_lookup (a : Ast) (p : Nat × Nat) (hp : p ∈ tableOf a) :
    lookupNat (tableOf a) p.1 = some p.2 := agree_tableOf a p hp

/-! ### the environment hypothesis, for the real tables -/

/-- every key of the category table and every (normalised) block name is free of `\ [ ] ( )` -/
theorem tables_plain :
    Gen.categoryArms.all (fun e => e.1.all plainNameChar) = true ∧
    Gen.allBlocks.all (fun e => (normBlockName e.1).all plainNameChar) = true := by decide +kernel

/-- `propLookup` asks the category table for the name as it stands and the block table for the name behind
    `Is`, so the names of the two tables are all that has to be plain -/
theorem envNamesPlain_of_tables {env : Env}
    (hc : ∀ n, (env.category n).isSome = true → n.all plainNameChar = true)
    (hb : ∀ n, (env.block n).isSome = true → n.all plainNameChar = true) : EnvNamesPlain env := by
  intro name h
  unfold C09.propLookup at h
  split at h
  · exact hc name h
  · split at h
    · rename_i hIs
      rw [← List.take_append_drop 2 name, eq_of_beq hIs, List.all_append, hb _ h]; rfl
    · cases h

/-- the real environment satisfies `EnvNamesPlain` -/
theorem envNamesPlain_std : EnvNamesPlain Env.std := by
  refine envNamesPlain_of_tables (fun name h => ?_) (fun name h => ?_)
  · have hc : (categoryStd name).isSome = true := h
    unfold categoryStd at hc
    cases hl : lookupL Gen.categoryArms name with
    | none => rw [hl] at hc; cases hc
    | some long => exact (List.all_eq_true.1 tables_plain.1) _ (EnvStdL.lookupL_mem _ _ _ hl)
  · have hb : (blockStd name).isSome = true := h
    unfold blockStd at hb
    split at hb
    · rename_i hpu
      rw [eq_of_beq hpu]; decide
    · cases hl : blockLookupLast Gen.allBlocks name none with
      | none => rw [hl] at hb; cases hb
      | some v =>
        rcases EnvStdL.blockLookupLast_mem _ _ _ _ hl with h0 | ⟨e, he, hek, _⟩
        · cases h0
        · have := (List.all_eq_true.1 tables_plain.2) e he
          rw [hek] at this; exact this

/-! ### 2. accepted patterns: the scanner succeeds, and agrees with the compiled tree -/

/-- for every accepted non-literal pattern (scalar values) the scanner computes, from the text stored
    in the program, the table of the tree the pattern renders -/
theorem compile_nesting (env : Env) (henv : EnvNamesPlain env) (fl : CFlags) (hlit : fl.literal = false)
    (pat : List Nat) (hps : ∀ x ∈ pat, x < cpLimit) (opt : Bool) (pr : Prog)
    (h : compileCore env fl pat opt = .ok pr) :
    ∃ a : Ast, a.okFor fl.xsd env = true ∧ ParserQuirkFree a ∧ pat = a.render ∧ pr.pattern = pat ∧
      pr.literal = false ∧ nestingTable pr.pattern = some (tableOf a) ∧
      tblOK (tableOf a) pr.op 0 = true := by
  obtain ⟨a, a1, a2, a3, a4, a5, a6, a7⟩ := compile_table env henv fl hlit pat
    (C07d.classInv_of_scalar { pat := pat, fl := fl, env := env } hps) opt pr h
  exact ⟨a, a1, a2, a3, a4, a5, a6, tblOK_of_tblD _ _ _ a7⟩

/-- `compute_nesting_table` does not panic on an accepted pattern -/
theorem compile_nesting_some (env : Env) (henv : EnvNamesPlain env) (fl : CFlags)
    (hlit : fl.literal = false) (pat : List Nat) (hps : ∀ x ∈ pat, x < cpLimit) (opt : Bool) (pr : Prog)
    (h : compileCore env fl pat opt = .ok pr) : ∃ tbl, nestingTable pr.pattern = some tbl := by
  obtain ⟨a, _, _, _, _, _, a6, _⟩ := compile_nesting env henv fl hlit pat hps opt pr h
  exact ⟨_, a6⟩

/-- … and the table it computes agrees with the capture nesting of the compiled tree: the `tblOK`
    hypothesis of Props/C03c holds for every compiled program -/
theorem compile_tblOK (env : Env) (henv : EnvNamesPlain env) (fl : CFlags) (hlit : fl.literal = false)
    (pat : List Nat) (hps : ∀ x ∈ pat, x < cpLimit) (opt : Bool) (pr : Prog)
    (h : compileCore env fl pat opt = .ok pr) (tbl : List (Nat × Nat))
    (htbl : nestingTable pr.pattern = some tbl) : tblOK tbl pr.op 0 = true := by
  obtain ⟨a, _, _, _, _, _, a6, a7⟩ := compile_nesting env henv fl hlit pat hps opt pr h
  rw [a6] at htbl
  simp only [Option.some.injEq] at htbl
  rw [← htbl]; exact a7

/-- the preservation lemma on its own: `optimize` never re-parents a capture
    (`tblD` = `tblOK` extended below alternations and repeats) -/
theorem tblOK_optimize (env : Env) (fl : CFlags) (T : List (Nat × Nat)) (op : Op) (par : Nat)
    (h : tblD T op par = true) : tblOK T (optimize env fl op) par = true :=
  tblOK_of_tblD _ _ _ (tblD_optimize env fl T op par h)

/-! ### flag x, flag q: `compileProg` -/

/-- the table entry `analyze` uses for a program made by `ReCompiler::compile`: `[]` for a literal
    pattern, otherwise the scanner's table of the stored (stripped) text — it exists, and agrees with
    the compiled tree -/
theorem compileProg_table (env : Env) (henv : EnvNamesPlain env) (fl : Flags) (p : List Nat)
    (hps : ∀ x ∈ p, x < cpLimit) (pr : Prog) (h : compileProg env fl p true = .ok pr) :
    ∃ tbl, (if pr.literal then some [] else nestingTable pr.pattern) = some tbl ∧
      tblOK tbl pr.op 0 = true := by
  unfold compileProg at h
  cases hlit : fl.literal with
  | true =>
    have hl : fl.core.literal = true := hlit
    rw [compileCore_lit hl, if_pos rfl] at h
    rw [← Out.ok.inj h]
    refine ⟨[], by rw [MkProgram.literal, hl]; rfl, ?_⟩
    rw [MkProgram.op]
    rfl
  | false =>
    have hl : fl.core.literal = false := hlit
    obtain ⟨a, _, _, _, _, a5, a6, a7⟩ :=
      compile_nesting env henv fl.core hl _ (C14.effPat_scalar fl p hps) true pr h
    exact ⟨tableOf a, by rw [a5]; exact a6, a7⟩

/-! ### 3. `analyze`: no panic in `compute_nesting_table` -/

/-- with a table, the only panic site left in `analyze` is the tree builder -/
theorem analyze_panic_only_builder (r : Regex) (lower : Nat → Nat) (input : List Nat) (limit : Nat)
    (hs : progOK r.prog = true) (hcp : C02.capsPos r.prog.op = true) (hlen : input.length < usizeMax)
    (tbl : List (Nat × Nat))
    (htbl : (if r.prog.literal then some [] else nestingTable r.prog.pattern) = some tbl)
    (c : Nat) (h : r.analyze lower input limit = .panic c) : c = panicAnalyze := by
  unfold Regex.analyze at h
  split at h
  · cases h
  · dsimp only at h
    rw [htbl] at h
    dsimp only at h
    obtain ⟨st, t, ht⟩ := analyzeLoop_panic _ NoRealPanic (processMatch tbl) input
      (C05b.prog_safeFind r.prog lower input hs hcp hlen) c limit { st := ({} : St) } []
      ⟨.inl rfl, (fun pe hpe => by cases hpe; exact Nat.zero_le _), (fun hx => by cases hx)⟩ h
    exact C05b.processMatch_panic tbl st t c ht

/-- **from the pattern text**: `analyze` on a regex made by `Regex::new` never panics in
    `compute_nesting_table`; the tree builder is the only panic site left (closed for straight-capture
    programs by C03c) -/
theorem api_analyze_no_nesting_panic (env : Env) (henv : EnvNamesPlain env) (p fs : List Nat)
    (xsd : Bool) (fl : Flags) (r : Regex) (hf : parseFlags fs xsd = some fl)
    (h : Regex.new env p fs xsd true = .ok r) (hps : ∀ x ∈ p, x < cpLimit) (hns : Api.NoSat env fl p)
    (input : List Nat) (limit : Nat) (hlen : input.length < usizeMax) (c : Nat)
    (hc : r.analyze env.lower input limit = .panic c) : c = panicAnalyze ∧ c ≠ panicNesting := by
  obtain ⟨tbl, htbl, _⟩ := compileProg_table env henv fl p hps r.prog (C05b.new_compiled env p fs xsd fl r hf h)
  have := analyze_panic_only_builder r env.lower input limit (C05b.new_progOK env p fs xsd fl r hf h hns)
    (Api.new_wf env p fs xsd fl r hf h hns).2.1 hlen tbl htbl c hc
  exact ⟨this, by rw [this]; decide⟩

/-! ### 4. C03c without the table hypotheses -/

/-- `C03c.analyze_match_groups` for a compiled program: the table is the one `analyze` computes from
    the stored text; no `tblOK` hypothesis -/
theorem analyze_match_groups_from_text (env : Env) (henv : EnvNamesPlain env) (fl : CFlags)
    (hlit : fl.literal = false) (pat : List Nat) (hps : ∀ x ∈ pat, x < cpLimit) (pr : Prog)
    (hc : compileCore env fl pat true = .ok pr) (ctx : Ctx)
    (hok : C03b.progOK ctx.hasBackrefs ctx.maxParens pr.op = true)
    (hsorted : (capsOf pr.op).Pairwise (· < ·)) :
    ∃ tbl, nestingTable pr.pattern = some tbl ∧
      ∀ (input : List Nat), ctx.len = input.length → ∀ (j n : Nat) (e' : CEnv) (st' : St),
        MatchRes ctx pr.op j n e' st' → j < n →
        processMatch tbl st' (slice input j n) = .ok (groupTree pr.op input (j, n, e')) := by
  obtain ⟨a, _, _, _, _, _, a6, a7⟩ := compile_nesting env henv fl hlit pat hps true pr hc
  exact ⟨tableOf a, a6, fun input hin j n e' st' hm hjn =>
    C03c.analyze_match_groups ctx pr.op hok hsorted (tableOf a) a7 input hin j n e' st' hm hjn⟩

/-- `C03c.analyze_groups` for a regex made by `Regex::new`: neither the table nor `tblOK` is a
    hypothesis -/
theorem analyze_groups_from_text (env : Env) (henv : EnvNamesPlain env) (p fs : List Nat) (xsd : Bool)
    (fl : Flags) (r : Regex) (hf : parseFlags fs xsd = some fl)
    (hnew : Regex.new env p fs xsd true = .ok r) (hps : ∀ x ∈ p, x < cpLimit)
    (lower : Nat → Nat) (input : List Nat) (S : SearchOK r.prog lower input)
    (hsorted : (capsOf r.prog.op).Pairwise (· < ·))
    (limit : Nat) (hl : 2 * input.length + 1 ≤ limit) (es : List AEntry) (more : Bool)
    (h : r.analyze lower input limit = .ok (es, more)) :
    es = Spec.entries input 0
      ((specSpans (r.prog.ctx lower input) r.prog.op (input.length + 2) 0).map
        (fun y => (y.1, y.2.1, groupTree r.prog.op input y))) ∧ more = false := by
  obtain ⟨tbl, htbl, hok⟩ := compileProg_table env henv fl p hps r.prog (C05b.new_compiled env p fs xsd fl r hf hnew)
  have hnull : r.nullable = false := by
    cases hn : r.nullable with
    | false => rfl
    | true => simp [Regex.analyze, hn] at h
  exact C03c.analyze_groups r lower input S hnull hsorted tbl htbl hok limit hl es more h

/-! ### 5. examples (environment `C09.envT`; `decide +kernel`) -/

theorem envNamesPlain_envT : EnvNamesPlain C09.envT := by
  refine envNamesPlain_of_tables (fun n h => ?_) (fun n h => ?_)
  · simp only [C09.envT] at h
    split at h
    · rename_i hn; rw [hn]; decide
    · split at h
      · rename_i hn; rw [hn]; decide
      · cases h
  · simp only [C09.envT] at h
    split at h
    · rename_i hn; rw [hn]; decide
    · cases h

/-- `((a)|[(\]]+(?:b(c)))\2`: a `(` and an escaped `]` inside a class, a non-capturing group,
    groups 2 and 3 inside group 1 -/
def ex1 : Ast :=
  .one (.cons (.group (.alt (.cons (.group (.one (.cons (.chr 97) none .nil))) none .nil)
      (.one (.cons (.cls (.leaf false [.one (.plain 40), .one (.esc 93)])) (some ⟨.plus, false⟩)
        (.cons (.ncgroup (.one (.cons (.chr 98) none
            (.cons (.group (.one (.cons (.chr 99) none .nil))) none .nil)))) none .nil))))) none
    (.cons (.backref [50]) none .nil))

example : ex1.render = cps "((a)|[(\\]]+(?:b(c)))\\2" := by decide +kernel
example : ex1.okFor false C09.envT = true := by decide
example : tableOf ex1 = [(3, 1), (2, 1), (1, 0)] := by decide
example : nestingTable (cps "((a)|[(\\]]+(?:b(c)))\\2") = some [(3, 1), (2, 1), (1, 0)] := by
  decide +kernel
/-- … and by the theorem -/
example : nestingTable ex1.render = some (tableOf ex1) :=
  nesting_of_render C09.envT envNamesPlain_envT false ex1 (by decide)

/-- `[^a-[b(-[)]]](x)\((y)\)`: nested subtraction with parentheses inside, escaped parentheses
    outside: two groups, both at top level -/
def ex2 : Ast :=
  .one (.cons (.cls (.minus true [.one (.plain 97)]
          (.minus false [.one (.plain 98), .one (.plain 40)] (.leaf false [.one (.plain 41)])))) none
    (.cons (.group (.one (.cons (.chr 120) none .nil))) none
      (.cons (.esc 40) none (.cons (.group (.one (.cons (.chr 121) none .nil))) none
        (.cons (.esc 41) none .nil)))))

example : ex2.render = cps "[^a-[b(-[)]]](x)\\((y)\\)" := by decide +kernel
example : ex2.okFor false C09.envT = true := by decide
example : tableOf ex2 = [(2, 0), (1, 0)] ∧ nestingTable ex2.render = some [(2, 0), (1, 0)] := by
  decide +kernel

/-- `(?:(a)(b(c)){2,3}?)\p{L}`: groups below a non-capturing group and a quantifier; braces of the
    quantifier and of `\p{L}` are ordinary text for the scanner -/
def ex3 : Ast :=
  .one (.cons (.ncgroup (.one (.cons (.group (.one (.cons (.chr 97) none .nil))) none
      (.cons (.group (.one (.cons (.chr 98) none
          (.cons (.group (.one (.cons (.chr 99) none .nil))) none .nil))))
        (some ⟨.range [50] [51], true⟩) .nil)))) none
    (.cons (.prop true [76]) none .nil))

example : ex3.render = cps "(?:(a)(b(c)){2,3}?)\\p{L}" := by decide +kernel
example : ex3.okFor false C09.envT = true := by decide
example : tableOf ex3 = [(3, 2), (2, 0), (1, 0)] ∧
    nestingTable ex3.render = some [(3, 2), (2, 0), (1, 0)] := by decide +kernel

/- the compiled programs: the table `analyze` computes agrees with the compiled tree (checked, and
   by the theorem) -/
example : tblOK [(3, 1), (2, 1), (1, 0)] (progOf (compileCore C09.envT {} ex1.render true)).op 0 = true := by
  decide +kernel
example : tblOK [(3, 2), (2, 0), (1, 0)] (progOf (compileCore C09.envT {} ex3.render true)).op 0 = true := by
  decide +kernel
example (pr : Prog) (h : compileCore C09.envT {} ex1.render true = .ok pr) :
    ∃ tbl, nestingTable pr.pattern = some tbl ∧ tblOK tbl pr.op 0 = true := by
  obtain ⟨a, _, _, _, _, _, a6, a7⟩ := compile_nesting C09.envT envNamesPlain_envT {} rfl ex1.render
    (by decide) true pr h
  exact ⟨_, a6, a7⟩

/-- `analyze` itself on `ex1`: no panic, 3 entries on the input `xaabcz` (non-match, match, non-match) -/
def analyzeCount (pat input : List Nat) : Option Nat :=
  match Regex.new C09.envT pat [] false true with
  | .ok r =>
    (match r.analyze id input 100 with
     | .ok (es, _) => some es.length
     | _ => none)
  | _ => none

example : analyzeCount ex1.render (cps "x(]bcbcz") = some 3 := by decide +kernel
example : analyzeCount ex3.render (cps "abcbcQ") = some 1 := by decide +kernel

/-- why `EnvNamesPlain` is a hypothesis: an environment that knew a category called `a)` would
    make the parser accept `\p{a)}`, on which the scanner panics (`)` with an empty stack).  Not a
    defect of the crate — its names are the Unicode ones (`envNamesPlain_std`). -/
def envOdd : Env := { C09.envT with category := fun n => if n = [97, 41] then some [(0, 1)] else none }

example : (match compileCore envOdd {} (cps "\\p{a)}") true with | .ok _ => true | _ => false) = true ∧
    nestingTable (cps "\\p{a)}") = none := by decide +kernel

end Rx.C03d
