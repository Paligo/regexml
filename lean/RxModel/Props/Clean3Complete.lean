/-
  Props/Clean3Complete — the search-loop theorems (Props/SearchComplete) on the fragment with
  the GENERAL greedy repeat over a deterministic, non-nullable body and `min ≥ 1` (Spec/Enum3, Props/Clean3):
  the optimised programs of `x(?:a|bc)+y`, `(?:ab|c){2,3}d`, `((?:ab|c)+|x)y`, …

  For `pr := mkProgram pat op mp fl false` the conditions are on the program's own tree `pr.op` (the
  numbered tree: every `.rep` has received its memo key — irrelevant here, `min ≥ 1` repeats never touch
  the memo):  `cleanProg3 env fl.caseBlind fl.multiLine pr.op`, `clsCanonB pr.op` (decidable), `wfOp op`,
  `noEmptyAtoms op`, (`capsPos op` for spans), and the data hypotheses `InputOKFor env fl lower input`.

    `clean3_isMatch_iff` / `clean3_isMatch_false`     C01 both directions, never panic / diverge
    `clean3_matchesFrom_iff`
    `clean3_match_is_leftmost_first`                  C02: least start; end = `(enum3 …).head?`
    `clean3_opt_eq_noopt`                             shortcuts on / off: Boolean, start, end
  The fragment is inside that of Spec/Enum4, where `enum4` and `enum3` coincide on it: every theorem here is the
  one of Props/Clean4 through `Clean4.cleanProg4_of_cleanProg3` (and `Clean4.enum4_eq_enum3` for the end).

  NOT covered: `min = 0` (`*`, `{0,n}`): `CompleteAt` is false there (`Clean3.completeAt_min0_false`),
  see Props/Clean3.
-/
import RxModel.Props.Clean4
namespace Rx.Clean3Complete
open Rx Rx.SearchComplete
open Rx.C08 (noEmptyAtoms)

theorem clean3_isMatch_iff (env : Env) (pat : List Nat) (op : Op) (mp : Nat) (fl : CFlags)
    (lower : Nat → Nat) (input : List Nat) (hI : InputOKFor env fl lower input)
    (hc : cleanProg3 env fl.caseBlind fl.multiLine (mkProgram pat op mp fl false).op = true)
    (hwf : wfOp op = true) (hne : noEmptyAtoms op = true)
    (hcan : clsCanonB (mkProgram pat op mp fl false).op = true) (hlen : input.length < usizeMax) :
    (mkProgram pat op mp fl false).isMatch lower input = .ok true ↔
      ∃ j q, j ≤ input.length ∧
        OpR ((mkProgram pat op mp fl false).ctx lower input) (mkProgram pat op mp fl false).op j q :=
  Clean4.clean4_isMatch_iff env pat op mp fl lower input hI (Clean4.cleanProg4_of_cleanProg3 env _ _ _ hc) hwf hne hcan hlen

theorem clean3_isMatch_false (env : Env) (pat : List Nat) (op : Op) (mp : Nat) (fl : CFlags)
    (lower : Nat → Nat) (input : List Nat) (hI : InputOKFor env fl lower input)
    (hc : cleanProg3 env fl.caseBlind fl.multiLine (mkProgram pat op mp fl false).op = true)
    (hwf : wfOp op = true) (hne : noEmptyAtoms op = true)
    (hcan : clsCanonB (mkProgram pat op mp fl false).op = true) (hlen : input.length < usizeMax)
    (hno : ¬ ∃ j q, j ≤ input.length ∧
        OpR ((mkProgram pat op mp fl false).ctx lower input) (mkProgram pat op mp fl false).op j q) :
    (mkProgram pat op mp fl false).isMatch lower input = .ok false :=
  Clean4.clean4_isMatch_false env pat op mp fl lower input hI (Clean4.cleanProg4_of_cleanProg3 env _ _ _ hc) hwf hne hcan hlen hno

theorem clean3_matchesFrom_iff (env : Env) (pat : List Nat) (op : Op) (mp : Nat) (fl : CFlags)
    (lower : Nat → Nat) (input : List Nat) (hI : InputOKFor env fl lower input)
    (hc : cleanProg3 env fl.caseBlind fl.multiLine (mkProgram pat op mp fl false).op = true)
    (hwf : wfOp op = true) (hne : noEmptyAtoms op = true)
    (hcan : clsCanonB (mkProgram pat op mp fl false).op = true) (hlen : input.length < usizeMax)
    (i : Nat) (hi : i ≤ input.length) (st : St) (hst : st.panic = none) :
    ((matchesFrom ((mkProgram pat op mp fl false).ctx lower input) (mkProgram pat op mp fl false) i st).1 = true ↔
      ∃ j q, i ≤ j ∧ j ≤ input.length ∧
        OpR ((mkProgram pat op mp fl false).ctx lower input) (mkProgram pat op mp fl false).op j q) ∧
    (matchesFrom ((mkProgram pat op mp fl false).ctx lower input) (mkProgram pat op mp fl false) i st).2.panic = none :=
  Clean4.clean4_matchesFrom_iff env pat op mp fl lower input hI (Clean4.cleanProg4_of_cleanProg3 env _ _ _ hc) hwf hne hcan hlen i hi st hst

/-- when `matches(i)` succeeds, group 0 is `(j, n)`: `j` the LEAST start `≥ i` from which the language has
    a member, `n` the FIRST element of `enum3` from `j` (ordered choice; greedy = more iterations first) -/
theorem clean3_match_is_leftmost_first (env : Env) (pat : List Nat) (op : Op) (mp : Nat) (fl : CFlags)
    (lower : Nat → Nat) (input : List Nat) (hI : InputOKFor env fl lower input)
    (hc : cleanProg3 env fl.caseBlind fl.multiLine (mkProgram pat op mp fl false).op = true)
    (hwf : wfOp op = true) (hne : noEmptyAtoms op = true)
    (hcan : clsCanonB (mkProgram pat op mp fl false).op = true) (hcp : C02.capsPos op = true)
    (hlen : input.length < usizeMax)
    (i : Nat) (hi : i ≤ input.length) (st st' : St) (hst : st.panic = none)
    (h : matchesFrom ((mkProgram pat op mp fl false).ctx lower input) (mkProgram pat op mp fl false) i st
      = (true, st')) :
    ∃ j n, getParenStart st' 0 = some j ∧ getParenEnd st' 0 = some n ∧
      (enum3 ((mkProgram pat op mp fl false).ctx lower input) (mkProgram pat op mp fl false).op j).head? = some n ∧
      i ≤ j ∧ j ≤ n ∧ n ≤ input.length ∧
      OpR ((mkProgram pat op mp fl false).ctx lower input) (mkProgram pat op mp fl false).op j n ∧
      ∀ k q, i ≤ k → k < j →
        ¬ OpR ((mkProgram pat op mp fl false).ctx lower input) (mkProgram pat op mp fl false).op k q := by
  rw [← Clean4.enum4_eq_enum3 env _ _ (by rw [MkProgram.ctx]; exact hc)]
  exact Clean4.clean4_match_is_leftmost_first env pat op mp fl lower input hI (Clean4.cleanProg4_of_cleanProg3 env _ _ _ hc) hwf hne hcan hcp
    hlen i hi st st' hst h

/-- shortcuts on / off on the same tree: Boolean, start and end -/
theorem clean3_opt_eq_noopt (env : Env) (pat : List Nat) (op : Op) (mp : Nat) (fl : CFlags)
    (lower : Nat → Nat) (input : List Nat) (hI : InputOKFor env fl lower input)
    (hc : cleanProg3 env fl.caseBlind fl.multiLine (mkProgram pat op mp fl false).op = true)
    (hwf : wfOp op = true) (hne : noEmptyAtoms op = true)
    (hcan : clsCanonB (mkProgram pat op mp fl false).op = true) (hcp : C02.capsPos op = true)
    (hlen : input.length < usizeMax)
    (i : Nat) (hi : i ≤ input.length) (st1 st2 : St) (h1 : st1.panic = none) (h2 : st2.panic = none) :
    let pr := mkProgram pat op mp fl false
    let ctx := pr.ctx lower input
    (matchesFrom ctx pr i st1).1 = (matchesNaive ctx pr.op i st2).1 ∧
    ((matchesFrom ctx pr i st1).1 = true →
      getParenStart (matchesFrom ctx pr i st1).2 0 = getParenStart (matchesNaive ctx pr.op i st2).2 0 ∧
      getParenEnd (matchesFrom ctx pr i st1).2 0 = getParenEnd (matchesNaive ctx pr.op i st2).2 0) :=
  Clean4.clean4_opt_eq_noopt env pat op mp fl lower input hI (Clean4.cleanProg4_of_cleanProg3 env _ _ _ hc) hwf hne hcan hcp hlen i hi st1 st2 h1 h2

/-! ## case-sensitive programs -/

theorem clean3_isMatch_iff_cs (env : Env) (pat : List Nat) (op : Op) (mp : Nat) (fl : CFlags)
    (lower : Nat → Nat) (input : List Nat) (hcb : fl.caseBlind = false)
    (hce : ∀ a x, x ∈ env.closure a → x < cpLimit)
    (hin : ∀ c ∈ input, c < cpLimit) (hsc : ∀ c ∈ input, isSurrogate c = false)
    (hc : cleanProg3 env false fl.multiLine (mkProgram pat op mp fl false).op = true)
    (hwf : wfOp op = true) (hne : noEmptyAtoms op = true)
    (hcan : clsCanonB (mkProgram pat op mp fl false).op = true) (hlen : input.length < usizeMax) :
    (mkProgram pat op mp fl false).isMatch lower input = .ok true ↔
      ∃ j q, j ≤ input.length ∧
        OpR ((mkProgram pat op mp fl false).ctx lower input) (mkProgram pat op mp fl false).op j q :=
  clean3_isMatch_iff env pat op mp fl lower input (.of_caseSensitive hcb hce hin hsc)
    (by rw [hcb]; exact hc) hwf hne hcan hlen

/-! ## non-vacuity: `x(?:a|bc)+y` and `(?:ab|c){2,3}d` as the model's compiler builds them -/
section example_

def exEnv : Env :=
  { lower := id, closure := fun _ => [], category := fun _ => none, block := fun _ => none,
    digit := [], word := [], nameStart := [], nameChar := [] }

/-- `x(?:a|bc)+y` as handed to `ReProgram::new` (un-numbered) -/
def exTree : Op :=
  .seq [.atom [120], .rep 0 (.choice [.atom [97], .atom [98, 99]]) 1 usizeMax true, .atom [121], .endProgram]

/-- "zxabcay" -/
def exInput : List Nat := [122, 120, 97, 98, 99, 97, 121]

def exProg : Prog := mkProgram [] exTree 1 {} false

theorem ex_ok : cleanProg3 exEnv false false exProg.op = true ∧ wfOp exTree = true ∧
    noEmptyAtoms exTree = true ∧ clsCanonB exProg.op = true ∧ C02.capsPos exTree = true := by
  refine ⟨?_, ?_, ?_, ?_, ?_⟩ <;> decide +kernel

/-- the compiler's output for the pattern text has this tree, and `(?:ab|c){2,3}d` is in the fragment too -/
theorem ex_compiled :
    (match compileCore exEnv {} [120, 40, 63, 58, 97, 124, 98, 99, 41, 43, 121] true with
     | .ok pr => cleanProg3 exEnv false false pr.op && clsCanonB pr.op &&
         (enum3 (pr.ctx id exInput) pr.op 1 == enum3 (exProg.ctx id exInput) exProg.op 1)
     | _ => false) = true ∧
    (match compileCore exEnv {} [40, 63, 58, 97, 98, 124, 99, 41, 123, 50, 44, 51, 125, 100] true with
     | .ok pr => cleanProg3 exEnv false false pr.op && clsCanonB pr.op && !cleanProg2 exEnv false false pr.op
     | _ => false) = true := by decide +kernel

theorem exInputOK : InputOKFor exEnv {} id exInput :=
  .of_caseSensitive rfl (fun _ _ h => by cases h) (by decide) (by decide)

/-- what the engine computes: `is_match` true, span (1, 7), `enum3` from 1 is [7] -/
theorem ex_computed :
    exProg.isMatch id exInput = .ok true ∧
    (matchesFrom (exProg.ctx id exInput) exProg 0 {}).1 = true ∧
    getParenStart (matchesFrom (exProg.ctx id exInput) exProg 0 {}).2 0 = some 1 ∧
    getParenEnd (matchesFrom (exProg.ctx id exInput) exProg 0 {}).2 0 = some 7 ∧
    enum3 (exProg.ctx id exInput) exProg.op 1 = [7] ∧ enum3 (exProg.ctx id exInput) exProg.op 0 = [] := by
  decide +kernel

/-- C01 instantiated -/
theorem ex_isMatch : ∃ j q, j ≤ exInput.length ∧ OpR (exProg.ctx id exInput) exProg.op j q :=
  (clean3_isMatch_iff exEnv [] exTree 1 {} id exInput exInputOK ex_ok.1 ex_ok.2.1 ex_ok.2.2.1 ex_ok.2.2.2.1
    (by decide)).1 ex_computed.1

/-- C02 instantiated: the predicted span is the computed one -/
theorem ex_leftmost_first :
    ∃ j n, getParenStart (matchesFrom (exProg.ctx id exInput) exProg 0 {}).2 0 = some j ∧
      getParenEnd (matchesFrom (exProg.ctx id exInput) exProg 0 {}).2 0 = some n ∧
      j = 1 ∧ n = 7 ∧ (enum3 (exProg.ctx id exInput) exProg.op j).head? = some n ∧
      ∀ k q, k < j → ¬ OpR (exProg.ctx id exInput) exProg.op k q := by
  obtain ⟨j, n, hs, he, hh, _, _, _, _, hmin⟩ :=
    clean3_match_is_leftmost_first exEnv [] exTree 1 {} id exInput exInputOK ex_ok.1 ex_ok.2.1 ex_ok.2.2.1
      ex_ok.2.2.2.1 ex_ok.2.2.2.2 (by decide) 0 (Nat.zero_le _) {}
      (matchesFrom (exProg.ctx id exInput) exProg 0 {}).2 rfl
      (by
        have := ex_computed.2.1
        show matchesFrom (exProg.ctx id exInput) exProg 0 {} = _
        rw [← this])
  obtain ⟨_, _, hcs, hce, _, _⟩ := ex_computed
  have hj : j = 1 := by rw [hcs] at hs; exact (Option.some.inj hs).symm
  have hn : n = 7 := by rw [hce] at he; exact (Option.some.inj he).symm
  exact ⟨j, n, hs, he, hj, hn, hh, fun k q hk => hmin k q (Nat.zero_le _) hk⟩

end example_

end Rx.Clean3Complete
