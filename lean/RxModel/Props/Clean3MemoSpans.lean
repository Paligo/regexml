/-
  Props/Clean3MemoSpans — the scan functions (`replace_all`, `tokenize`, `analyze`) on programs of the memo
  fragment (`Prog3m` of Props/Clean3MemoScan: a root sequence with skippable greedy repeats `x*`, `x{0,n}` over
  deterministic bodies) that pass the nullability gate see EXACTLY the state-free span list `spans`
  (Props/Clean3ApiComplete: from 0, repeatedly the least start with a match and the head of `enum3` from it,
  continuing at that end) — STARTS AND ENDS — although the zero-length memo is threaded from one `matches`
  call to the next.

  Props/Clean3MemoScan (`SpansSpec`) fixes the starts only; the ends come from Props/Clean3MemoEnd
  (`clean3m_match_is_leftmost_first_from`).

  `FindOK` of Proofs/ApiContract asks the matcher to be correct from EVERY clean state, which the memo
  matcher is not; the scan layer is therefore stated over `FindOKI I`, where a search from `pos` is only asked
  to be correct in states with `I pos st`, and a success reporting `[j, n)` must give `I n st'`.  Here
  `I := HRfrom ctx l` (`clean3m_findOKI`: `clean3m_outcome_from`, `clean3m_match_is_leftmost_first_from`,
  `clean3m_success_keeps`, `Memo.dead_nil`); the statements below are those of Proofs/ApiRegexLemmas.

  The theorems are stated over the bundle `Memo3 env lower r input`; constructors `Memo3.of_prog` — any `Prog3m`
  program — and `Memo3.of_new` — what `Regex::new` returned.
-/
import RxModel.Props.Clean3MemoEnd
import RxModel.Props.Clean3ApiComplete
namespace Rx.Clean3MemoSpans
open Rx Rx.SearchComplete Rx.Spec Rx.Memo Rx.MemoScan Rx.Clean3MemoScan Rx.Clean3MemoEnd
open Rx.ApiGeneric
open Rx.ApiGeneric.Clean3 (headEnum3 spans)
open Rx.ApiComplete (GoodInput hasCapNode compile_maxParens)
open Rx.C08 (noEmptyAtoms)

/-! ## one search, under the scan invariant -/

section
variable {env : Env} {pat : List Nat} {op : Op} {mp : Nat} {fl : CFlags} {lower : Nat → Nat}
  {input : List Nat} {l : List Op}

/-- KEY STEP: the memo-threaded matcher of a non-nullable `Prog3m` program satisfies `FindOKI` with the
    invariant `HRfrom` — every search from a state satisfying `HRfrom pos` finds exactly the state-free
    `firstSpan` (least start, priority-first end) and leaves `HRfrom end` -/
theorem clean3m_findOKI (P : Prog3m env pat op mp fl lower input l)
    (hnull : (mkProgram pat op mp fl false).isMatch lower [] = .ok false) :
    FindOKI (HRfrom ((mkProgram pat op mp fl false).ctx lower input) l)
      ((mkProgram pat op mp fl false).ctx lower input) (mkProgram pat op mp fl false) := by
  obtain ⟨T, _, _⟩ := program_facts env pat op mp fl lower input P.inp l P.hop P.clean P.wf P.ne P.can P.len
  obtain ⟨hwT, hcT⟩ := prog_wf P
  have hlen : ((mkProgram pat op mp fl false).ctx lower input).len = input.length := rfl
  refine findOKI_of_outcome (by rw [P.hop]; exact hwT) (by rw [P.hop]; exact hcT)
    (fun pos => HRfrom_fresh _ l pos) ?_ ?_ ?_ ?_ ?_
  · intro k hk hno
    show (enum3 _ _ k).head? = none
    rw [P.hop]
    simp only [enum3]
    rw [dead_nil env _ T.inp (SeqM.of_prog T.clean T.wf T.ne T.can).1 k hk
      (fun ⟨q, hq⟩ => hno ⟨q, by rw [P.hop]; simpa only [OpR] using hq⟩)]
    rfl
  · intro j hj
    rw [P.hop] at hj
    exact no_zero P hnull j hj
  · intro pos st hpos hst hI
    rw [P.hop]
    exact (clean3m_outcome_from P pos hpos st hst hI).1
  · intro pos st st' hpos hst hI hm
    obtain ⟨j, n, h1, h2, h3, h4, h5, h6, h7, h8⟩ :=
      clean3m_match_is_leftmost_first_from P pos hpos st st' hst hI hm
    exact ⟨j, n, h1, h2, h8, h3, h4, h5, h6, h7⟩
  · intro pos st st' n hpos hst hI hm he
    obtain ⟨_, n', _, g2, _, _, _, _, _, _, gI⟩ := clean3m_success_keeps P hnull pos hpos st st' hst hI hm
    cases Option.some.inj (g2.symm.trans he)
    exact gI

end

/-! ## the bundle -/

/-- `r` is a regex that passed the nullability gate and whose program is a `Prog3m` program (with `input`) -/
structure Memo3 (env : Env) (lower : Nat → Nat) (r : Regex) (input : List Nat) : Prop where
  ex : ∃ pat op mp fl l, r.prog = mkProgram pat op mp fl false ∧ Prog3m env pat op mp fl lower input l ∧
    (mkProgram pat op mp fl false).isMatch lower [] = .ok false
  gate : r.nullable = false
  mp : r.prog.maxParens ≠ 0

/-- from a `Prog3m` program that does not match the empty string -/
theorem Memo3.of_prog {env : Env} {pat : List Nat} {op : Op} {mp : Nat} {fl : CFlags} {lower : Nat → Nat}
    {input : List Nat} {l : List Op} (P : Prog3m env pat op mp fl lower input l)
    (hnull : (mkProgram pat op mp fl false).isMatch lower [] = .ok false)
    (hmp : (mkProgram pat op mp fl false).maxParens ≠ 0) :
    Memo3 env lower ⟨mkProgram pat op mp fl false, false⟩ input :=
  ⟨⟨pat, op, mp, fl, l, rfl, P, hnull⟩, rfl, hmp⟩

/-- from `Regex::new` (hypotheses of `api_clean3m_scan_spans`) -/
theorem Memo3.of_new (env : Env) (p fs : List Nat) (xsd : Bool) (fl : Flags) (r : Regex)
    (hf : parseFlags fs xsd = some fl) (h : Regex.new env p fs xsd true = .ok r) (hns : Api.NoSat env fl p)
    (hclean : Memo.cleanProg3m env fl.caseBlind fl.multiLine r.prog.op = true) (hcan : clsCanonB r.prog.op = true)
    (hnb : r.prog.hasBackrefs = false) (hlit : fl.literal = true → p ≠ []) (hnull : r.nullable = false)
    (input : List Nat) (G : GoodInput env fl input) : Memo3 env env.lower r input := by
  obtain ⟨pat', op', mp, l, heq, _, P⟩ :=
    new_prog3m env p fs xsd fl r hf h hns hclean hcan hnb hlit input G.ok G.len
  have hn := C16.new_nullable env p fs xsd true r h
  rw [hnull, heq] at hn
  have hcomp := ApiL.new_compile env p fs xsd true fl r hf h
  rw [ApiL.compileProg_core] at hcomp
  exact ⟨⟨pat', op', mp, fl.core, l, heq, P, hn⟩, hnull, compile_maxParens env fl.core _ r.prog hcomp⟩

section
variable {env : Env} {lower : Nat → Nat} {r : Regex} {input : List Nat}

/-- the matcher satisfies `FindOKI` for SOME invariant that holds of the fresh matcher -/
theorem Memo3.findOKI (M : Memo3 env lower r input) :
    ∃ I : Nat → St → Prop, FindOKI I (r.prog.ctx lower input) r.prog := by
  obtain ⟨pat, op, mp, fl, l, heq, P, hn⟩ := M.ex
  rw [heq]
  exact ⟨_, clean3m_findOKI P hn⟩

/-! ## 1. the scan sees exactly the state-free spans -/

/-- **THE SCAN SEES EXACTLY THE STATE-FREE SPANS** (starts and ends): the span sequence the three scan loops
    compute with the memo threaded from match to match, from a fresh matcher, is `spans` — the list built
    from `enum3` alone -/
theorem clean3m_scan_sees_spans (M : Memo3 env lower r input) :
    C04.spanPairs (C04.spansOf (r.prog.matcher lower input) input.length (input.length + 2) 0 {}) =
      spans r lower input := by
  obtain ⟨I, F⟩ := M.findOKI
  exact F.scan_spans

/-- the list is strictly left to right, its spans are non-empty and inside the input -/
theorem clean3m_spans_ordered (M : Memo3 env lower r input) :
    C04.Ordered input.length 0 (spans r lower input) := by
  obtain ⟨I, F⟩ := M.findOKI
  exact F.spans_ordered

/-- what an element of the list is, in terms of the language: `firstSpan` from the previous end is a member
    `[j, n)` with `n` the head of `enum3` from `j`, and no member starts in `[pos, j)` -/
theorem clean3m_span_sem (M : Memo3 env lower r input) (pos j n : Nat) (hpos : pos ≤ input.length)
    (h : firstSpan (r.prog.ctx lower input) r.prog.op pos = some (j, n)) :
    pos ≤ j ∧ (enum3 (r.prog.ctx lower input) r.prog.op j).head? = some n ∧
    OpR (r.prog.ctx lower input) r.prog.op j n ∧
    ∀ k q, pos ≤ k → k < j → ¬ OpR (r.prog.ctx lower input) r.prog.op k q := by
  obtain ⟨I, F⟩ := M.findOKI
  obtain ⟨h1, _, h2⟩ := F.span_sem pos j n hpos h
  obtain ⟨g1, _, g3, _⟩ := firstSpan_hd _ _ pos j n h
  exact ⟨g1, g3, h1, h2⟩

/-- link with Props/Clean3MemoScan: the state-free list satisfies the specification `SpansSpec` proved there for
    the memo-threaded scan (which left the ends open) -/
theorem clean3m_spans_spec (M : Memo3 env lower r input) :
    SpansSpec (r.prog.ctx lower input) r.prog.op 0 (spans r lower input) := by
  rw [← clean3m_scan_sees_spans M]
  obtain ⟨pat, op, mp, fl, l, heq, P, hn⟩ := M.ex
  rw [heq, P.hop]
  exact clean3m_scan_spans P hn

/-! ## 2. replace -/

/-- `replace_all` with a well-formed replacement that refers to no group but `$0`: SUCCEEDS and returns the
    input with every span of `spans` replaced by the expansion of the replacement for that span -/
theorem clean3m_replace_spec (M : Memo3 env lower r input) (repl : List Nat)
    (hd : Dep0 (r.prog.maxParens - 1) repl) :
    r.replaceAll lower input repl =
      .ok (replaced input 0 ((spans r lower input).map
        (fun x => (x.1, x.2, ApiGeneric.replText r.prog input repl x.1 x.2)))) := by
  obtain ⟨I, F⟩ := M.findOKI
  exact F.replaceAll_spec M.gate M.mp repl hd

/-- a replacement without `$` and `\`: the pieces between the spans, joined by it -/
theorem clean3m_replace_plain (M : Memo3 env lower r input) (repl : List Nat) (hp : plainRepl repl = true) :
    r.replaceAll lower input repl = .ok (joinWith repl (pieces input 0 (spans r lower input))) := by
  obtain ⟨I, F⟩ := M.findOKI
  exact F.replaceAll_plain M.gate M.mp repl hp

/-- `$0` (without flag q): the input comes back unchanged -/
theorem clean3m_replace_dollar0 (M : Memo3 env lower r input) (hlit : r.prog.literal = false) :
    r.replaceAll lower input [36, 48] = .ok input := by
  obtain ⟨I, F⟩ := M.findOKI
  exact F.replaceAll_dollar0 M.gate M.mp hlit

/-! ## 3. tokenize -/

/-- `tokenize` (pulled to exhaustion): exactly the pieces between consecutive spans of `spans` — including
    empty leading, trailing and adjacent pieces — and then the iterator is exhausted -/
theorem clean3m_tokenize_spec_full (M : Memo3 env lower r input) (hne : input ≠ [])
    (limit : Nat) (hl : input.length + 1 ≤ limit) :
    r.tokenize lower input limit = .ok (pieces input 0 (spans r lower input), false) := by
  obtain ⟨I, F⟩ := M.findOKI
  exact F.tokenize_spec M.gate hne limit hl

theorem clean3m_tokenize_count (M : Memo3 env lower r input) :
    (pieces input 0 (spans r lower input)).length = (spans r lower input).length + 1 ∧
    (spans r lower input).length ≤ input.length := by
  obtain ⟨I, F⟩ := M.findOKI
  exact F.tokenize_count

/-! ## 4. analyze -/

/-- `analyze` (pulled to exhaustion): whatever it answers with `.ok` is the alternating list of non-match /
    match entries over a list `L` whose spans are exactly `spans` -/
theorem clean3m_analyze_spec (M : Memo3 env lower r input)
    (limit : Nat) (hl : 2 * input.length + 1 ≤ limit) (es : List AEntry) (more : Bool)
    (h : r.analyze lower input limit = .ok (es, more)) :
    ∃ L : List (Nat × Nat × List MEntry),
      L.map (fun x => (x.1, x.2.1)) = spans r lower input ∧ es = entries input 0 L ∧ more = false := by
  obtain ⟨I, F⟩ := M.findOKI
  exact F.analyze_spec M.gate limit hl es more h

/-- a regex WITHOUT capturing groups: the Match entry of a span is its text -/
theorem clean3m_analyze_plain (M : Memo3 env lower r input) (hnc : hasCapNode r.prog.op = false)
    (limit : Nat) (hl : 2 * input.length + 1 ≤ limit) (es : List AEntry) (more : Bool)
    (h : r.analyze lower input limit = .ok (es, more)) :
    es = entries input 0 ((spans r lower input).map
      (fun x => (x.1, x.2, [MEntry.str (slice input x.1 x.2)]))) ∧ more = false := by
  obtain ⟨I, F⟩ := M.findOKI
  exact F.analyze_plain M.gate hnc limit hl es more h

/-- … and the texts of all entries concatenate to the input -/
theorem clean3m_analyze_concat (M : Memo3 env lower r input) (hnc : hasCapNode r.prog.op = false)
    (limit : Nat) (hl : 2 * input.length + 1 ≤ limit) (es : List AEntry) (more : Bool)
    (h : r.analyze lower input limit = .ok (es, more)) : aTextL es = input := by
  obtain ⟨I, F⟩ := M.findOKI
  exact F.analyze_concat M.gate hnc limit hl es more h

/-! ## 5. totality -/

/-- `replace_all` with ANY replacement string: `.ok`, or the classified error — never a panic, never
    divergence -/
theorem clean3m_replace_total (M : Memo3 env lower r input) (repl : List Nat) :
    (∃ out, r.replaceAll lower input repl = .ok out) ∨
    r.replaceAll lower input repl = .err .invalidReplacement := by
  obtain ⟨I, F⟩ := M.findOKI
  exact F.replaceAll_total M.gate repl

theorem clean3m_tokenize_total (M : Memo3 env lower r input) (limit : Nat) :
    ∃ toks more, r.tokenize lower input limit = .ok (toks, more) := by
  obtain ⟨I, F⟩ := M.findOKI
  exact F.tokenize_total M.gate limit

/-- `analyze`, any limit: `.ok`, or a panic at one of the two sites of the group-tree builder
    (`process_matching_substring`, `compute_nesting_table`) — never divergence, no other panic -/
theorem clean3m_analyze_total (M : Memo3 env lower r input) (limit : Nat) :
    (∃ es more, r.analyze lower input limit = .ok (es, more)) ∨
    r.analyze lower input limit = .panic panicAnalyze ∨
    r.analyze lower input limit = .panic panicNesting := by
  obtain ⟨I, F⟩ := M.findOKI
  exact F.analyze_total M.gate limit

/-- without capturing groups (and with a nesting table) the builder cannot panic -/
theorem clean3m_analyze_total_plain (M : Memo3 env lower r input) (hnc : hasCapNode r.prog.op = false)
    (htbl : r.prog.literal = true ∨ (nestingTable r.prog.pattern).isSome = true) (limit : Nat) :
    ∃ es more, r.analyze lower input limit = .ok (es, more) := by
  obtain ⟨I, F⟩ := M.findOKI
  exact F.analyze_total_plain M.gate hnc htbl limit

end

/-! ## example: the compiled tree of `(?:ab|c)*c` (`starcProg`, Props/Clean3MemoEnd) -/
section examples
open Rx.Clean3Memo (exEnv exInputOK)

/-- the regex value: `starcProg`, gate bit `false` -/
def starcRegex : Regex := ⟨starcProg, false⟩

theorem starc_gate : starcProg.isMatch id [] = .ok false ∧ starcProg.maxParens ≠ 0 ∧
    hasCapNode starcProg.op = false ∧ starcProg.literal = false := by
  refine ⟨?_, ?_, ?_, ?_⟩ <;> decide +kernel

/-- the hypotheses of all the headline theorems hold for `(?:ab|c)*c` on EVERY input of scalar values -/
theorem starc_memo3 (input : List Nat) (hin : ∀ c ∈ input, c < cpLimit)
    (hsc : ∀ c ∈ input, isSurrogate c = false) (hlen : input.length < usizeMax) :
    Memo3 exEnv id starcRegex input :=
  Memo3.of_prog (l := starcList)
    ⟨exInputOK input hin hsc, starc_op, starc_ok.1, starc_ok.2.1, starc_ok.2.2.1, starc_ok.2.2.2.1,
      starc_ok.2.2.2.2, hlen⟩ starc_gate.1 starc_gate.2.1

/-- "abccxcxabc": the memo-threaded scan and the state-free list are both `(0,4)`, `(5,6)`, `(7,10)` — in the
    first and the last span the repeat gives back its last iteration; computed by kernel evaluation -/
theorem starc_spans_computed :
    spans starcRegex id [97, 98, 99, 99, 120, 99, 120, 97, 98, 99] = [(0, 4), (5, 6), (7, 10)] ∧
    C04.spanPairs (C04.spansOf (starcProg.matcher id [97, 98, 99, 99, 120, 99, 120, 97, 98, 99]) 10 12 0 {}) =
      [(0, 4), (5, 6), (7, 10)] := by
  refine ⟨?_, ?_⟩ <;> decide +kernel

/-- … and the memo IS in play in that scan: the state the first successful `matches` leaves behind (the one
    the second search starts from) has a non-empty memo -/
theorem starc_memo_nonempty :
    (matchesFrom (starcProg.ctx id [97, 98, 99, 99, 120, 99, 120, 97, 98, 99]) starcProg 0 {}).2.hist ≠ [] := by
  decide +kernel

/-- the hypotheses of the headline theorems are satisfiable on a concrete non-trivial instance -/
example : Memo3 exEnv id starcRegex [97, 98, 99, 99, 120, 99, 120, 97, 98, 99] :=
  starc_memo3 _ (by decide +kernel) (by decide +kernel) (by decide)

example (input : List Nat) (hin : ∀ c ∈ input, c < cpLimit) (hsc : ∀ c ∈ input, isSurrogate c = false)
    (hlen : input.length < usizeMax) :
    C04.spanPairs (C04.spansOf (starcProg.matcher id input) input.length (input.length + 2) 0 {}) =
      spans starcRegex id input :=
  clean3m_scan_sees_spans (starc_memo3 input hin hsc hlen)

example (input : List Nat) (hin : ∀ c ∈ input, c < cpLimit) (hsc : ∀ c ∈ input, isSurrogate c = false)
    (hlen : input.length < usizeMax) : starcRegex.replaceAll id input [36, 48] = .ok input :=
  clean3m_replace_dollar0 (starc_memo3 input hin hsc hlen) starc_gate.2.2.2

example (input : List Nat) (hin : ∀ c ∈ input, c < cpLimit) (hsc : ∀ c ∈ input, isSurrogate c = false)
    (hlen : input.length < usizeMax) (hne : input ≠ []) :
    starcRegex.tokenize id input (input.length + 1) = .ok (pieces input 0 (spans starcRegex id input), false) :=
  clean3m_tokenize_spec_full (starc_memo3 input hin hsc hlen) hne _ (Nat.le_refl _)

/-- `analyze` answers `.ok` on every input of scalar values (so the hypothesis of `clean3m_analyze_spec` /
    `clean3m_analyze_plain` is satisfiable), and its entries concatenate to the input -/
example (input : List Nat) (hin : ∀ c ∈ input, c < cpLimit) (hsc : ∀ c ∈ input, isSurrogate c = false)
    (hlen : input.length < usizeMax) :
    ∃ es more, starcRegex.analyze id input (2 * input.length + 1) = .ok (es, more) ∧ aTextL es = input ∧
      es = entries input 0 ((spans starcRegex id input).map
        (fun x => (x.1, x.2, [MEntry.str (slice input x.1 x.2)]))) := by
  have M := starc_memo3 input hin hsc hlen
  obtain ⟨es, more, h⟩ := clean3m_analyze_total_plain M starc_gate.2.2.1 (.inr (by decide +kernel))
    (2 * input.length + 1)
  exact ⟨es, more, h, clean3m_analyze_concat M starc_gate.2.2.1 _ (Nat.le_refl _) es more h,
    (clean3m_analyze_plain M starc_gate.2.2.1 _ (Nat.le_refl _) es more h).1⟩

/-- tokenize "abccxcxabc" at `(?:ab|c)*c`: `["", "x", "x", ""]` -/
theorem starc_tokenize_computed :
    starcRegex.tokenize id [97, 98, 99, 99, 120, 99, 120, 97, 98, 99] 11 = .ok ([[], [120], [120], []], false) := by
  rw [clean3m_tokenize_spec_full (starc_memo3 _ (by decide +kernel) (by decide +kernel) (by decide))
    (by decide) 11 (by decide), starc_spans_computed.1]
  decide +kernel

end examples

/-! ## from `Regex::new`: the example `(?:ab|c)*d` of Props/Clean3MemoScan through the real tables -/
section example_new
open Rx.Clean3Api Rx.Clean2Api

theorem ex0_memo3 (input : List Nat) (hsv : ScalarInput input) (hlen : input.length < usizeMax)
    (r : Regex) (h : Regex.new Env.std exPat0 [] false true = .ok r) : Memo3 Env.std Env.std.lower r input := by
  have hk := Clean3Api.ex_new.2
  have hg := ex0_gate
  rw [h] at hk hg
  simp only [Bool.and_eq_true, Bool.not_eq_true'] at hk hg
  obtain ⟨⟨⟨k1, k2⟩, k3⟩, _⟩ := hk
  exact Memo3.of_new Env.std exPat0 [] false {} r rfl h ex_noSat0 k1 k2 k3 (fun hl => by cases hl) hg input
    (ApiComplete.goodInput_std_cs rfl hsv hlen)

/-- every scan of `(?:ab|c)*d` over scalar values sees exactly the state-free span list -/
example (input : List Nat) (hsv : ScalarInput input) (hlen : input.length < usizeMax)
    (r : Regex) (h : Regex.new Env.std exPat0 [] false true = .ok r) :
    C04.spanPairs (C04.spansOf (r.prog.matcher Env.std.lower input) input.length (input.length + 2) 0 {}) =
      spans r Env.std.lower input :=
  clean3m_scan_sees_spans (ex0_memo3 input hsv hlen r h)

end example_new

/-! ## totality through `Regex::new`, gate included (the shape of `api3_*_total` of Props/Clean3ApiComplete) -/

section
open Rx.Clean3Api Rx.Clean2Api

theorem api_clean3m_replace_total (env : Env) (p fs : List Nat) (xsd : Bool) (fl : Flags) (r : Regex)
    (hf : parseFlags fs xsd = some fl) (h : Regex.new env p fs xsd true = .ok r) (hns : Api.NoSat env fl p)
    (hclean : Memo.cleanProg3m env fl.caseBlind fl.multiLine r.prog.op = true) (hcan : clsCanonB r.prog.op = true)
    (hnb : r.prog.hasBackrefs = false) (hlit : fl.literal = true → p ≠ [])
    (input : List Nat) (G : ApiComplete.GoodInput env fl input) (repl : List Nat) :
    (∃ out, r.replaceAll env.lower input repl = .ok out) ∨
    r.replaceAll env.lower input repl = .err .invalidReplacement ∨
    r.replaceAll env.lower input repl = .err .matchesEmptyString := by
  cases hnull : r.nullable with
  | true => exact .inr (.inr (C16.replace_nullable r _ _ _ hnull))
  | false =>
    rcases clean3m_replace_total
      (Memo3.of_new env p fs xsd fl r hf h hns hclean hcan hnb hlit hnull input G) repl with h1 | h1
    · exact .inl h1
    · exact .inr (.inl h1)

theorem api_clean3m_tokenize_total (env : Env) (p fs : List Nat) (xsd : Bool) (fl : Flags) (r : Regex)
    (hf : parseFlags fs xsd = some fl) (h : Regex.new env p fs xsd true = .ok r) (hns : Api.NoSat env fl p)
    (hclean : Memo.cleanProg3m env fl.caseBlind fl.multiLine r.prog.op = true) (hcan : clsCanonB r.prog.op = true)
    (hnb : r.prog.hasBackrefs = false) (hlit : fl.literal = true → p ≠ [])
    (input : List Nat) (G : ApiComplete.GoodInput env fl input) (limit : Nat) :
    (∃ toks more, r.tokenize env.lower input limit = .ok (toks, more)) ∨
    r.tokenize env.lower input limit = .err .matchesEmptyString := by
  cases hnull : r.nullable with
  | true =>
    by_cases hne : input = []
    · subst hne; exact .inl ⟨_, _, C16.tokenize_empty r _ limit⟩
    · exact .inr (C16.tokenize_nullable r _ input limit hnull hne)
  | false =>
    exact .inl (clean3m_tokenize_total
      (Memo3.of_new env p fs xsd fl r hf h hns hclean hcan hnb hlit hnull input G) limit)

theorem api_clean3m_analyze_total (env : Env) (p fs : List Nat) (xsd : Bool) (fl : Flags) (r : Regex)
    (hf : parseFlags fs xsd = some fl) (h : Regex.new env p fs xsd true = .ok r) (hns : Api.NoSat env fl p)
    (hclean : Memo.cleanProg3m env fl.caseBlind fl.multiLine r.prog.op = true) (hcan : clsCanonB r.prog.op = true)
    (hnb : r.prog.hasBackrefs = false) (hlit : fl.literal = true → p ≠ [])
    (input : List Nat) (G : ApiComplete.GoodInput env fl input) (limit : Nat) :
    (∃ es more, r.analyze env.lower input limit = .ok (es, more)) ∨
    r.analyze env.lower input limit = .err .matchesEmptyString ∨
    r.analyze env.lower input limit = .panic panicAnalyze ∨
    r.analyze env.lower input limit = .panic panicNesting := by
  cases hnull : r.nullable with
  | true => exact .inr (.inl (C16.analyze_nullable r _ _ _ hnull))
  | false =>
    rcases clean3m_analyze_total
      (Memo3.of_new env p fs xsd fl r hf h hns hclean hcan hnb hlit hnull input G) limit with h1 | h1 | h1
    · exact .inl h1
    · exact .inr (.inr (.inl h1))
    · exact .inr (.inr (.inr h1))

end

end Rx.Clean3MemoSpans
