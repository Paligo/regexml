/-
  Props/C05b — C05 ("no API call panics") for programs WITH back-references.

  On the crate before fix a635aaf the claim is FALSE: the patterns

      (?:(a)\1*a){2}        flags ""   input "aaab"        — greedy quantifiers only
      (?:.b?)*?(a)??\1c     flags ""   input "abc"         — a reluctant loop

  made `is_match` (and `replace_all`, `tokenize`, `analyze`) panic with "attempt to subtract with
  overflow" at `let l = e - s;` in op_back_reference.rs: `captureGen` writes `startBr[g] := p` when
  group `g` is ENTERED; if the body then fails the pair is left as `(new p, old e)` with `p > e`, and
  a greedy loop re-extended from its own start, or a reluctant loop that moves forward, reaches a `\g`
  before any `clearBeyond` repairs the pair.  With the fix (`e ≤ s` counts as "no captured text"), which
  the model follows, the claim is a THEOREM.  In the order of the file:

  1. `sem_no_panic_backrefs`, `matchAt_no_panic_backrefs`, `matchesFrom_no_panic_backrefs`,
     `isMatch_no_panic_backrefs` : for EVERY program satisfying `progOK` — `wfOp`, group and
     back-reference numbers below `maxParens`, a back-reference only under the `hasBackrefs` flag,
     plain preconditions, `prefix.len ≤ minimum_length` — no engine step, no `match_at`, no `matches(i)`
     (`i ≤ len`, any start state) and no `is_match` sets a real panic marker.  (This subsumes
     `C05.isMatch_no_panic`, which needed "no back-reference at all".)
     The invariant: no real panic marker, and — when the program has the flag — both back-reference
     arrays have length exactly `maxParens` (`IdxInv`).
  2. `prog1_isMatch_ok`, `prog2_isMatch_ok` : the two witnesses above, as `compileCore` builds them,
     evaluate without panic (regression witnesses of the fix).
  3. `sem_spine_clean` : the "spine" fragment.  When every REFERENCED group is captured
     in spine position (reachable from the root through `.seq` / `.capture` only) every back-reference
     reads a CLEAN pair `s ≤ e`: the repaired branch `e < s` is dead code on such programs, the fix
     changes nothing there.
  4. `compile_progOK`, `api_*` : the compiler establishes `progOK`; C05 for `is_match` from the
     pattern text.
  5. the scan loops `replace_all`, `tokenize`, `analyze` add no panic of their own (Proofs/BrScanLemmas).
-/
import RxModel.Props.C02
import RxModel.Proofs.BrSafeLemmas
import RxModel.Proofs.BrCompileLemmas
import RxModel.Proofs.BrScanLemmas
import RxModel.Proofs.OutErrLemmas
import RxModel.Props.Api
import RxModel.Proofs.OpEq
namespace Rx.C05b
open Rx

/-! ### the side conditions -/

/- `prefixOK`, `presOK`, `progOK` (Proofs/BrSafeLemmas):
   `progOK pr = wfOp pr.op && brOK pr.hasBackrefs pr.maxParens pr.op && presOK pr && prefixOK pr`. -/

theorem noPanic_iff (st : St) : C05.NoPanic st ↔ NoRealPanic st := Iff.rfl

/-! ### 1. no panic, for every program -/

/-- no engine step raises a panic marker, whatever the consumer does (with states in which no
    panic marker is set and the arrays keep their allotted length) -/
theorem sem_no_panic_backrefs (ctx : Ctx) (op : Op) (hwf : wfOp op = true)
    (hg : brOK ctx.hasBackrefs ctx.maxParens op = true)
    (p : Nat) (hp : p ≤ ctx.len) (st : St) (h : IdxInv ctx st) : (sem ctx op p st).Inv (IdxInv ctx) :=
  sem_idx ctx op hwf hg p st hp h

theorem matchAt_no_panic_backrefs (ctx : Ctx) (op : Op) (hwf : wfOp op = true)
    (hg : brOK ctx.hasBackrefs ctx.maxParens op = true)
    (j : Nat) (hj : j ≤ ctx.len) (st : St) (h : C05.NoPanic st) : C05.NoPanic (matchAt ctx op j st).2 :=
  matchAt_idx ctx op hwf hg j hj st h

theorem progOK_parts {pr : Prog} (hs : progOK pr = true) :
    wfOp pr.op = true ∧ brOK pr.hasBackrefs pr.maxParens pr.op = true ∧
    (∀ q ∈ pr.pres, wfOp q.op = true ∧ plainTree q.op = true) ∧
    (∀ pre, pr.prefix_ = some pre → pre.length ≤ pr.minLen ∨ pr.minLen = usizeMax) := by
  simp only [progOK, Bool.and_eq_true] at hs
  obtain ⟨⟨⟨h1, h2⟩, h4⟩, h5⟩ := hs
  refine ⟨h1, h2, fun q hq => ?_, fun pre hpre => ?_⟩
  · simp only [presOK, List.all_eq_true, Bool.and_eq_true] at h4
    exact h4 q hq
  · simp only [prefixOK, hpre, Bool.or_eq_true, decide_eq_true_eq] at h5
    exact h5

/-- `matches(i)` for `i ≤ len` keeps the state panic-free, from ANY panic-free start state (hence
    every step of the iterators of `replace_all`, `tokenize`, `analyze`, which call `matches` again
    from the state it leaves) -/
theorem matchesFrom_no_panic_backrefs (pr : Prog) (lower : Nat → Nat) (input : List Nat)
    (hs : progOK pr = true) (hlen : input.length < usizeMax)
    (i : Nat) (hi : i ≤ input.length) (st : St) (h : C05.NoPanic st) :
    C05.NoPanic (matchesFrom (pr.ctx lower input) pr i st).2 := by
  obtain ⟨hwf, hg, hpres, hpre⟩ := progOK_parts hs
  exact matchesFrom_keeps (ctx := pr.ctx lower input) (I := NoRealPanic) hi (fun _ hs => hs)
    (fun c hc => absurd hc (planOf_no_panic (ctx := pr.ctx lower input) hi hlen hpre c))
    (fun j _ hj st' h' => matchAt_idx (pr.ctx lower input) pr.op hwf hg j hj st' h')
    (fun q hq p st' h' => preHolds_keeps
      (sem_plain _ writes_np noRealPanic_junk q.op (hpres q hq).1 (hpres q hq).2 p st' trivial h')
      (fun _ => h'.setDiv)) st h

/-- **`is_match` never panics** — for every program the compiler can produce -/
theorem isMatch_no_panic_backrefs (pr : Prog) (lower : Nat → Nat) (input : List Nat)
    (hs : progOK pr = true) (hlen : input.length < usizeMax) (c : Nat) :
    pr.isMatch lower input ≠ .panic c :=
  isMatch_np pr lower input
    (matchesFrom_no_panic_backrefs pr lower input hs hlen 0 (Nat.zero_le _) {} (.inl rfl)) c

/-! ### 2. the two witnesses -/

private def env0 : Env :=
  { lower := id, closure := fun _ => [], category := fun _ => none, block := fun _ => none,
    digit := [], word := [], nameStart := [], nameChar := [] }

private def progOf (c : Out Prog) : Prog :=
  match c with
  | .ok pr => pr
  | _ => default

private def isOk (c : Out Prog) : Bool :=
  match c with
  | .ok _ => true
  | _ => false

private theorem eq_ok_progOf {c : Out Prog} (h : isOk c = true) : c = .ok (progOf c) := by
  cases c <;> simp_all [isOk, progOf]

/-- `(?:(a)\1*a){2}` -/
def pat1 : List Nat := [40, 63, 58, 40, 97, 41, 92, 49, 42, 97, 41, 123, 50, 125]
/-- "aaab" -/
def input1 : List Nat := [97, 97, 97, 98]

def compiled1 : Out Prog := compileCore env0 {} pat1 true
/-- the program the compiler produces for `(?:(a)\1*a){2}` -/
def prog1 : Prog := progOf compiled1

theorem compiled1_ok : compiled1 = .ok prog1 := eq_ok_progOf (by decide +kernel)

/-- … it is the tree the crate dumps:
    `(seq (rep 1 (seq (capture 1 (atom 97)) (rep 2 (backref 1) 0 max 1) (atom 97)) 2 2 1) (end))` -/
theorem prog1_tree :
    opEq prog1.op (.seq [.rep 1 (.seq [.capture 1 (.atom [97]), .rep 2 (.backref 1) 0 usizeMax true, .atom [97]]) 2 2 true,
      .endProgram]) = true ∧ prog1.hasBackrefs = true ∧ prog1.maxParens = 2 := by
  refine ⟨by decide +kernel, by decide +kernel, by decide +kernel⟩

theorem prog1_progOK : progOK prog1 = true := by decide +kernel

/-- regression witness of fix a635aaf: `is_match` on "aaab" used to be `.panic 2` (`e - s`) -/
theorem prog1_isMatch_ok : prog1.isMatch id input1 = .ok false := by decide +kernel

/-- the attempt `match_at(1)` (on "aab") used to set the marker; it now fails cleanly -/
theorem prog1_matchAt_ok :
    (matchAt (prog1.ctx id input1) prog1.op 1 {}).1 = false ∧
    (matchAt (prog1.ctx id input1) prog1.op 1 {}).2.panic = none := ⟨by decide +kernel, by decide +kernel⟩

/-- … also with optimisation off (the verification hook's path) -/
theorem prog1_noopt_ok :
    (progOf (compileCore env0 {} pat1 false)).isMatch id input1 = .ok false := by decide +kernel

/-- `(?:.b?)*?(a)??\1c` -/
def pat2 : List Nat := [40, 63, 58, 46, 98, 63, 41, 42, 63, 40, 97, 41, 63, 63, 92, 49, 99]
/-- "abc" -/
def input2 : List Nat := [97, 98, 99]

def compiled2 : Out Prog := compileCore env0 {} pat2 true
def prog2 : Prog := progOf compiled2

theorem compiled2_ok : compiled2 = .ok prog2 := eq_ok_progOf (by decide +kernel)

/-- `(seq (rep 1 (seq (cls . ) (gfixed (atom 98) 0 1 1)) 0 max 0) (rfixed (capture 1 (atom 97)) 0 1 1)
         (backref 1) (atom 99) (end))` -/
theorem prog2_tree :
    opEq prog2.op (.seq [.rep 1 (.seq [.cls [(0, 10), (11, 13), (14, 1114112)], .gfixed (.atom [98]) 0 1 1]) 0 usizeMax false,
      .rfixed (.capture 1 (.atom [97])) 0 1 1, .backref 1, .atom [99], .endProgram]) = true := by
  decide +kernel

theorem prog2_progOK : progOK prog2 = true := by decide +kernel

/-- regression witness of fix a635aaf: `is_match` on "abc" used to be `.panic 2` -/
theorem prog2_isMatch_ok : prog2.isMatch id input2 = .ok true := by decide +kernel

/-- the theorem applies to both (and says more: no input makes them panic) -/
example (input : List Nat) (hlen : input.length < usizeMax) (c : Nat) : prog1.isMatch id input ≠ .panic c :=
  isMatch_no_panic_backrefs prog1 id input prog1_progOK hlen c

/-- neither program is in the spine fragment of part 3: the referenced group is under a quantifier -/
theorem witnesses_not_spine :
    (spineOp prog1.maxParens prog1.op []).isSome = false ∧ (spineOp prog2.maxParens prog2.op []).isSome = false :=
  ⟨by decide +kernel, by decide +kernel⟩

/-! ### 3. referenced groups in spine position: the repaired branch is dead code -/

/-- Started inside the input in a state (`BI ctx R`: no panic, arrays allotted, every group of `R`
    CLEAN — a recorded pair has `start ≤ end`) where `R` are the spine groups closed so far, the
    iterator of a spine-safe tree exposes only such states, at every yield even with the groups `R'`
    closed by the tree itself clean, as long as the consumer hands back states of the latter kind.
    A back-reference in such a tree is to a group of the current `R` (`freeOK`), so it never sees
    `end < start`. -/
theorem sem_spine_clean (ctx : Ctx) (hb : ctx.hasBackrefs = true) (op : Op) (hwf : wfOp op = true)
    (R R' : List Nat) (hsp : spineOp ctx.maxParens op R = some R')
    (p : Nat) (st : St) (hp : p ≤ ctx.len) (h : BI ctx R st) :
    (sem ctx op p st).Inv2 (BI ctx R) (BI ctx R') :=
  (sem_spine_both ctx hb).1 op R R' hsp hwf p st hp h

/-! ### 4. from the pattern text -/

/-- every optimised program `compileCore` produces satisfies `progOK` (side condition as in
    `WF.compile_wf`: no saturated body length) -/
theorem compile_progOK (env : Env) (fl : CFlags) (pat : List Nat) (pr : Prog)
    (h : compileCore env fl pat true = .ok pr)
    (hns : ∀ op s, parseExpr { pat := pat, fl := fl, env := env } (4 * pat.length + 16) {} true = .ok op s →
              WF.noSat (optimize env fl op) = true ∧ WF.noSat op = true) :
    progOK pr = true :=
  Rx.compile_progOK env fl pat pr h hns

/-- the program inside whatever `Regex::new` accepts, and what produced it -/
theorem new_compiled (env : Env) (p fs : List Nat) (xsd : Bool) (fl : Flags) (r : Regex)
    (hf : parseFlags fs xsd = some fl) (h : Regex.new env p fs xsd true = .ok r) :
    compileProg env fl p true = .ok r.prog :=
  ApiL.new_compile env p fs xsd true fl r hf h

/-- whatever `Regex::new` accepts satisfies `progOK` -/
theorem new_progOK (env : Env) (p fs : List Nat) (xsd : Bool) (fl : Flags) (r : Regex)
    (hf : parseFlags fs xsd = some fl) (h : Regex.new env p fs xsd true = .ok r) (hns : Api.NoSat env fl p) :
    progOK r.prog = true :=
  Rx.compile_progOK env fl.core _ r.prog (new_compiled env p fs xsd fl r hf h) hns

/-- **C05 for `is_match`, from the pattern text, for ALL accepted patterns** (back-references or
    not): `is_match` never panics -/
theorem api_isMatch_no_panic (env : Env) (p fs : List Nat) (xsd : Bool) (fl : Flags) (r : Regex)
    (hf : parseFlags fs xsd = some fl) (h : Regex.new env p fs xsd true = .ok r) (hns : Api.NoSat env fl p)
    (input : List Nat) (hlen : input.length < usizeMax) (c : Nat) :
    r.prog.isMatch env.lower input ≠ .panic c :=
  isMatch_no_panic_backrefs r.prog env.lower input (new_progOK env p fs xsd fl r hf h hns) hlen c

/-- … and every call `matches(i)`, `i ≤ len`, from any panic-free matcher state -/
theorem api_matchesFrom_no_panic (env : Env) (p fs : List Nat) (xsd : Bool) (fl : Flags) (r : Regex)
    (hf : parseFlags fs xsd = some fl) (h : Regex.new env p fs xsd true = .ok r) (hns : Api.NoSat env fl p)
    (input : List Nat) (hlen : input.length < usizeMax) (i : Nat) (hi : i ≤ input.length) (st : St)
    (hst : C05.NoPanic st) : C05.NoPanic (matchesFrom (r.prog.ctx env.lower input) r.prog i st).2 :=
  matchesFrom_no_panic_backrefs r.prog env.lower input (new_progOK env p fs xsd fl r hf h hns) hlen i hi st hst

/-- the compiler proper has no panic outcome -/
theorem compileProg_ne_panic (env : Env) (fl : Flags) (p : List Nat) (opt : Bool) (c : Nat) :
    compileProg env fl p opt ≠ .panic c := by
  rcases compileCore_total env fl.core (ApiL.effPat fl p) opt with ⟨_, h⟩ | ⟨_, h⟩ <;>
    rw [ApiL.compileProg_core, h] <;> exact fun hx => by cases hx

/-- `Regex::new` itself never panics (its only engine call is the nullability test `is_match("")`) -/
theorem api_new_no_panic (env : Env) (p fs : List Nat) (xsd : Bool)
    (hns : ∀ fl, parseFlags fs xsd = some fl → Api.NoSat env fl p) (c : Nat) :
    Regex.new env p fs xsd true ≠ .panic c := by
  intro hx
  rw [Regex.new_bind] at hx
  split at hx
  · cases hx
  · rename_i fl hf
    rcases Out.bind_eq_panic hx with hc | ⟨pr, hc, hn⟩
    · exact compileProg_ne_panic env fl p true c hc
    · rcases Out.bind_eq_panic hn with hn | ⟨_, _, hn⟩
      · exact isMatch_no_panic_backrefs pr env.lower []
          (Rx.compile_progOK env fl.core _ pr hc (hns fl hf)) (by decide) c hn
      · cases hn

/-! ### 5. the scan loops: `replace_all`, `tokenize`, `analyze` -/

/-- the concrete matcher of a program with `progOK` and positive group numbers is a `SafeFind`:
    it never fails with a real panic, and reports spans at or after the requested position -/
theorem prog_safeFind (pr : Prog) (lower : Nat → Nat) (input : List Nat)
    (hs : progOK pr = true) (hcp : C02.capsPos pr.op = true) (hlen : input.length < usizeMax) :
    SafeFind (pr.matcher lower input) input.length NoRealPanic where
  step := fun st pos st' m hI hpos hfind => by
    have hfind' : matchesFrom (pr.ctx lower input) pr pos st = (m, st') := hfind
    have hnp : NoRealPanic st' := by
      have := matchesFrom_no_panic_backrefs pr lower input hs hlen pos hpos st hI
      rw [hfind'] at this
      exact this
    refine ⟨hnp, fun c hc => ?_, fun hm _ => ?_⟩
    · have hc' : st'.panic = some c := hc
      rcases hnp with h | h
      · rw [h] at hc'; cases hc'
      · rw [h] at hc'
        simp only [Option.some.injEq] at hc'
        exact hc'.symm
    · subst hm
      obtain ⟨a, b, ha, hb, h1, h2, h3, _⟩ :=
        C02.matchesFrom_span pr lower input (progOK_parts hs).1 hcp pos hpos st st' hfind'
      exact ⟨a, b, ha, hb, h1, h2, h3⟩

/-- **`replace_all` never panics** -/
theorem replaceAll_no_panic (r : Regex) (lower : Nat → Nat) (input repl : List Nat)
    (hs : progOK r.prog = true) (hcp : C02.capsPos r.prog.op = true) (hlen : input.length < usizeMax)
    (c : Nat) : r.replaceAll lower input repl ≠ .panic c := by
  unfold Regex.replaceAll
  split
  · intro hx; cases hx
  · exact replaceWith_no_panic _ NoRealPanic input _ _ (prog_safeFind r.prog lower input hs hcp hlen) {}
      (.inl rfl) c

/-- **`tokenize` (and every step of its iterator, up to any `limit`) never panics** -/
theorem tokenize_no_panic (r : Regex) (lower : Nat → Nat) (input : List Nat) (limit : Nat)
    (hs : progOK r.prog = true) (hcp : C02.capsPos r.prog.op = true) (hlen : input.length < usizeMax)
    (c : Nat) : r.tokenize lower input limit ≠ .panic c := by
  unfold Regex.tokenize
  split
  · intro hx; cases hx
  · split
    · intro hx; cases hx
    · exact tokenLoop_no_panic _ NoRealPanic input (prog_safeFind r.prog lower input hs hcp hlen) c
        limit (some 0) {} [] (.inl rfl) (fun pe hpe => by cases hpe; exact Nat.zero_le _)

/-- the tree builder `process_matching_substring` has one panic code -/
theorem processMatch_panic (tbl : List (Nat × Nat)) (st : St) (cur : List Nat) (c : Nat)
    (h : processMatch tbl st cur = .panic c) : c = panicAnalyze := by
  rcases processMatch_cases tbl st cur with ⟨es, h'⟩ | h'
  · cases h'.symm.trans h
  · exact (Out.panic.inj (h'.symm.trans h)).symm

/-- **`analyze`**: the engine and the scan loop contribute no panic; what remains are the panic
    sites of the nesting table (`compute_nesting_table`, `panicNesting`) and of the tree builder
    (`process_matching_substring`, `panicAnalyze`), which depend on the reported group spans being
    properly nested — proved only for straight-line programs (C03c), open in general -/
theorem analyze_panic_only_tree (r : Regex) (lower : Nat → Nat) (input : List Nat) (limit : Nat)
    (hs : progOK r.prog = true) (hcp : C02.capsPos r.prog.op = true) (hlen : input.length < usizeMax)
    (c : Nat) (h : r.analyze lower input limit = .panic c) : c = panicNesting ∨ c = panicAnalyze := by
  unfold Regex.analyze at h
  split at h
  · cases h
  · dsimp only at h
    split at h
    · simp only [Out.panic.injEq] at h
      exact .inl h.symm
    · rename_i tbl _
      obtain ⟨st, t, ht⟩ := analyzeLoop_panic _ NoRealPanic (processMatch tbl) input
        (prog_safeFind r.prog lower input hs hcp hlen) c limit { st := ({} : St) } []
        ⟨.inl rfl, (fun pe hpe => by cases hpe; exact Nat.zero_le _), (fun hx => by cases hx)⟩ h
      exact .inr (processMatch_panic tbl st t c ht)

/-! #### … from the pattern text -/

theorem api_replaceAll_no_panic (env : Env) (p fs : List Nat) (xsd : Bool) (fl : Flags) (r : Regex)
    (hf : parseFlags fs xsd = some fl) (h : Regex.new env p fs xsd true = .ok r) (hns : Api.NoSat env fl p)
    (input repl : List Nat) (hlen : input.length < usizeMax) (c : Nat) :
    r.replaceAll env.lower input repl ≠ .panic c :=
  replaceAll_no_panic r env.lower input repl (new_progOK env p fs xsd fl r hf h hns)
    (Api.new_wf env p fs xsd fl r hf h hns).2.1 hlen c

theorem api_tokenize_no_panic (env : Env) (p fs : List Nat) (xsd : Bool) (fl : Flags) (r : Regex)
    (hf : parseFlags fs xsd = some fl) (h : Regex.new env p fs xsd true = .ok r) (hns : Api.NoSat env fl p)
    (input : List Nat) (limit : Nat) (hlen : input.length < usizeMax) (c : Nat) :
    r.tokenize env.lower input limit ≠ .panic c :=
  tokenize_no_panic r env.lower input limit (new_progOK env p fs xsd fl r hf h hns)
    (Api.new_wf env p fs xsd fl r hf h hns).2.1 hlen c

theorem api_analyze_panic_only_tree (env : Env) (p fs : List Nat) (xsd : Bool) (fl : Flags) (r : Regex)
    (hf : parseFlags fs xsd = some fl) (h : Regex.new env p fs xsd true = .ok r) (hns : Api.NoSat env fl p)
    (input : List Nat) (limit : Nat) (hlen : input.length < usizeMax) (c : Nat)
    (hc : r.analyze env.lower input limit = .panic c) : c = panicNesting ∨ c = panicAnalyze :=
  analyze_panic_only_tree r env.lower input limit (new_progOK env p fs xsd fl r hf h hns)
    (Api.new_wf env p fs xsd fl r hf h hns).2.1 hlen c hc

end Rx.C05b
