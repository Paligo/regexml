/-
  Props/C11c — flag i, at the level of the ENGINE's answers: on the fragments where the engine is proved
  complete (`cleanOp`, Props/CleanComplete; `cleanProg2`, Props/Clean2Complete) "replacing input
  characters or pattern letters by their case counterparts never changes is_match or the match spans".

    1  `enum_case_invariant`, `enum_pattern_case_invariant` (and `enum2_…`): the priority-ordered
       enumeration of ends is the SAME LIST on case-equivalent inputs / for case-equivalent trees
       (holds for every tree: outside the fragment `enum` is `[]`);
    2  `clean_isMatch_case_invariant`, `clean_span_case_invariant`: same `is_match` answer, same
       Boolean of `matches(i)` and same (start, end) of group 0 on case-equivalent inputs;
    3  `clean_pattern_case_invariant`: the same for two case-equivalent trees on one input;
    4  `clean2_…` (stated in Props/Clean4Laws, as the `cleanProg2` case of the `clean4_…` theorems): 2 and 3
       with the optimiser's `.unamb` nodes (hypothesis `InputOKFor`, which under
       flag i contains the UNRESTRICTED `CaseOK` — false of `Env.std` because of U+0130
       (`EnvStd.caseOK_std_false`); the Clean2 theorems take `CaseOK`, not the alphabet-relative
       `CaseOKOn`, so there is no `Env.std` instance of 4);
    5  `clean_isMatch_case_invariant_std`, `clean_span_case_invariant_std`: 2 for the real tables on
       the alphabet without U+0130, classes checked by `allClsB (clsClosedOnB notDottedI)`;
    6  `OpR_mono_flag_i`: for a FIXED tree everything in the language without i is in the language
       with i; the sentence "everything that matches without i still matches with it" fails for
       PATTERNS with negated classes because the compiler builds a different class under i
       (`negated_class_not_monotone`, the catalogued finding K7);
    7  non-vacuity: `[a-k]x` compiled by the model's compiler under flag i, "HIx" / "hiX".
-/
import RxModel.Proofs.Clean4CaseLemmas
import RxModel.Props.C11b
import RxModel.Props.CleanComplete
import RxModel.Proofs.Clean2SearchLemmas
namespace Rx.C11c
open Rx Rx.C11b Rx.SearchComplete Rx.Clean4Case
open Rx.C08 (noEmptyAtoms)

/-! ## 1. the ordered enumeration -/

theorem enum_inv_any (A : Nat → Bool) (ctx ctx' : Ctx) (hs : SameSettings ctx ctx') (hcb : ctx.caseBlind = true)
    (hin : CaseEquivInputs ctx.lower ctx.input ctx'.input) (hA : Over A ctx.input) (hA' : Over A ctx'.input)
    (hnl : NewlineCaseless ctx.lower) :
    (bs : List Op) → allClsL (clsClosedOn A ctx.lower) bs → ∀ p, enumAny ctx bs p = enumAny ctx' bs p := by
  intro bs hc p
  rw [enumAny_eq_K, enumAny_eq_K, CaseE.enumK_inv_any enumH1 A ctx ctx' hs hcb hin hA hA' hnl bs hc]

theorem enum_inv_seq (A : Nat → Bool) (ctx ctx' : Ctx) (hs : SameSettings ctx ctx') (hcb : ctx.caseBlind = true)
    (hin : CaseEquivInputs ctx.lower ctx.input ctx'.input) (hA : Over A ctx.input) (hA' : Over A ctx'.input)
    (hnl : NewlineCaseless ctx.lower) :
    (ops : List Op) → allClsL (clsClosedOn A ctx.lower) ops → ∀ p, enumSeq ctx ops p = enumSeq ctx' ops p := by
  intro ops hc p
  rw [enumSeq_eq_K, enumSeq_eq_K, CaseE.enumK_inv_seq enumH1 A ctx ctx' hs hcb hin hA hA' hnl ops hc]

theorem enum_pat_any (ctx : Ctx) (hcb : ctx.caseBlind = true) :
    (bs bs' : List Op) → CaseEquivOpsL ctx.lower bs bs' → ∀ p, enumAny ctx bs p = enumAny ctx bs' p := by
  intro bs bs' he p
  rw [enumAny_eq_K, enumAny_eq_K, ((CaseE.enumK_pat enumH1 ctx hcb).2 bs bs' he).1]

theorem enum_pat_seq (ctx : Ctx) (hcb : ctx.caseBlind = true) :
    (ops ops' : List Op) → CaseEquivOpsL ctx.lower ops ops' → ∀ p, enumSeq ctx ops p = enumSeq ctx ops' p := by
  intro ops ops' he p
  rw [enumSeq_eq_K, enumSeq_eq_K, ((CaseE.enumK_pat enumH1 ctx hcb).2 ops ops' he).2]

theorem enum2_inv_any (A : Nat → Bool) (ctx ctx' : Ctx) (hs : SameSettings ctx ctx') (hcb : ctx.caseBlind = true)
    (hin : CaseEquivInputs ctx.lower ctx.input ctx'.input) (hA : Over A ctx.input) (hA' : Over A ctx'.input)
    (hnl : NewlineCaseless ctx.lower) :
    (bs : List Op) → allClsL (clsClosedOn A ctx.lower) bs → ∀ p, enumAny2 ctx bs p = enumAny2 ctx' bs p := by
  intro bs hc p
  rw [enumAny2_eq_K, enumAny2_eq_K, CaseE.enumK_inv_any enumH2 A ctx ctx' hs hcb hin hA hA' hnl bs hc]

theorem enum2_inv_seq (A : Nat → Bool) (ctx ctx' : Ctx) (hs : SameSettings ctx ctx') (hcb : ctx.caseBlind = true)
    (hin : CaseEquivInputs ctx.lower ctx.input ctx'.input) (hA : Over A ctx.input) (hA' : Over A ctx'.input)
    (hnl : NewlineCaseless ctx.lower) :
    (ops : List Op) → allClsL (clsClosedOn A ctx.lower) ops → ∀ p, enumSeq2 ctx ops p = enumSeq2 ctx' ops p := by
  intro ops hc p
  rw [enumSeq2_eq_K, enumSeq2_eq_K, CaseE.enumK_inv_seq enumH2 A ctx ctx' hs hcb hin hA hA' hnl ops hc]

theorem enum2_pat_any (ctx : Ctx) (hcb : ctx.caseBlind = true) :
    (bs bs' : List Op) → CaseEquivOpsL ctx.lower bs bs' → ∀ p, enumAny2 ctx bs p = enumAny2 ctx bs' p := by
  intro bs bs' he p
  rw [enumAny2_eq_K, enumAny2_eq_K, ((CaseE.enumK_pat enumH2 ctx hcb).2 bs bs' he).1]

theorem enum2_pat_seq (ctx : Ctx) (hcb : ctx.caseBlind = true) :
    (ops ops' : List Op) → CaseEquivOpsL ctx.lower ops ops' → ∀ p, enumSeq2 ctx ops p = enumSeq2 ctx ops' p := by
  intro ops ops' he p
  rw [enumSeq2_eq_K, enumSeq2_eq_K, ((CaseE.enumK_pat enumH2 ctx hcb).2 ops ops' he).2]

/-- **the enumeration on case-equivalent inputs**: the same ends in the same priority order -/
theorem enum_case_invariant (A : Nat → Bool) (ctx : Ctx) (ys : List Nat) (hcb : ctx.caseBlind = true)
    (hin : CaseEquivInputs ctx.lower ctx.input ys) (hA : Over A ctx.input) (hA' : Over A ys)
    (hnl : NewlineCaseless ctx.lower) (op : Op) (hc : allClsClosedOn A ctx.lower op) (p : Nat) :
    enum ctx op p = enum { ctx with input := ys } op p := by
  rw [enum_eq_K, enum_eq_K, CaseE.enumK_inv_op enumH1 A ctx _ (sameSettings_input ctx ys) hcb hin hA hA' hnl op hc]

/-- **the enumeration of two case-equivalent trees** -/
theorem enum_pattern_case_invariant (ctx : Ctx) (hcb : ctx.caseBlind = true) (op op' : Op)
    (he : CaseEquivOps ctx.lower op op') (p : Nat) : enum ctx op p = enum ctx op' p := by
  rw [enum_eq_K, enum_eq_K, (CaseE.enumK_pat enumH1 ctx hcb).1 op op' he]

/-- the same with `.unamb` = maximal munch -/
theorem enum2_case_invariant (A : Nat → Bool) (ctx : Ctx) (ys : List Nat) (hcb : ctx.caseBlind = true)
    (hin : CaseEquivInputs ctx.lower ctx.input ys) (hA : Over A ctx.input) (hA' : Over A ys)
    (hnl : NewlineCaseless ctx.lower) (op : Op) (hc : allClsClosedOn A ctx.lower op) (p : Nat) :
    enum2 ctx op p = enum2 { ctx with input := ys } op p := by
  rw [enum2_eq_K, enum2_eq_K, CaseE.enumK_inv_op enumH2 A ctx _ (sameSettings_input ctx ys) hcb hin hA hA' hnl op hc]

theorem enum2_pattern_case_invariant (ctx : Ctx) (hcb : ctx.caseBlind = true) (op op' : Op)
    (he : CaseEquivOps ctx.lower op op') (p : Nat) : enum2 ctx op p = enum2 ctx op' p := by
  rw [enum2_eq_K, enum2_eq_K, (CaseE.enumK_pat enumH2 ctx hcb).1 op op' he]

/-! ## 2. `is_match` and the reported span on case-equivalent inputs (`cleanOp` fragment) -/

/-- **`is_match` on case-equivalent inputs**: the same `.ok` Boolean -/
theorem clean_isMatch_case_invariant (A : Nat → Bool) (pat : List Nat) (op : Op) (mp : Nat) (fl : CFlags)
    (lower : Nat → Nat) (xs ys : List Nat) (hi : fl.caseBlind = true)
    (hc : cleanOp op = true) (hwf : wfOp op = true) (hne : noEmptyAtoms op = true)
    (hcl : allClsClosedOn A lower op) (hnl : NewlineCaseless lower)
    (hin : CaseEquivInputs lower xs ys) (hA : Over A xs) (hA' : Over A ys) (hlen : xs.length < usizeMax) :
    (mkProgram pat op mp fl false).isMatch lower xs = (mkProgram pat op mp fl false).isMatch lower ys :=
  ((clean_progOK pat op mp fl lower xs hc hwf hne hlen).agree
    (clean_progOK pat op mp fl lower ys hc hwf hne (hin.1 ▸ hlen)) hin.1
    (funext (enum_case_invariant A _ ys ((MkProgram.caseBlind pat op mp fl false).trans hi) hin hA hA' hnl _
      (allClsClosedOn_mkProgram A lower pat op mp fl false hcl)))).1

/-- **`matches(i)` on case-equivalent inputs**: the same Boolean and — for a tree whose captures are
    numbered from 1 (`capsPos`) — the same start AND the same end of group 0, from any two clean states -/
theorem clean_span_case_invariant (A : Nat → Bool) (pat : List Nat) (op : Op) (mp : Nat) (fl : CFlags)
    (lower : Nat → Nat) (xs ys : List Nat) (hi : fl.caseBlind = true)
    (hc : cleanOp op = true) (hwf : wfOp op = true) (hne : noEmptyAtoms op = true)
    (hcl : allClsClosedOn A lower op) (hnl : NewlineCaseless lower)
    (hin : CaseEquivInputs lower xs ys) (hA : Over A xs) (hA' : Over A ys) (hlen : xs.length < usizeMax)
    (i : Nat) (hix : i ≤ xs.length) (st1 st2 : St) (h1 : st1.panic = none) (h2 : st2.panic = none) :
    let pr := mkProgram pat op mp fl false
    (matchesFrom (pr.ctx lower xs) pr i st1).1 = (matchesFrom (pr.ctx lower ys) pr i st2).1 ∧
    (C02.capsPos op = true → (matchesFrom (pr.ctx lower xs) pr i st1).1 = true →
      getParenStart (matchesFrom (pr.ctx lower xs) pr i st1).2 0 =
        getParenStart (matchesFrom (pr.ctx lower ys) pr i st2).2 0 ∧
      getParenEnd (matchesFrom (pr.ctx lower xs) pr i st1).2 0 =
        getParenEnd (matchesFrom (pr.ctx lower ys) pr i st2).2 0) := by
  intro pr
  -- both searches are complete with the enumeration `enum`, and `enum` is the same list on the two inputs
  have h := ((clean_progOK pat op mp fl lower xs hc hwf hne hlen).agree
    (clean_progOK pat op mp fl lower ys hc hwf hne (hin.1 ▸ hlen)) hin.1
    (funext (enum_case_invariant A _ ys ((MkProgram.caseBlind pat op mp fl false).trans hi) hin hA hA' hnl _
      (allClsClosedOn_mkProgram A lower pat op mp fl false hcl)))).2 i hix st1 st2 h1 h2
  have hcp' := (mkProgram_tree pat op mp fl false).2.2
  exact ⟨h.1, fun hcp => h.2 (hcp'.trans hcp) (hcp'.trans hcp)⟩

/-! ## 3. pattern letters replaced by case counterparts (`cleanOp` fragment) -/

/-- **two case-equivalent clean trees on one input**: the same `is_match` answer, the same Boolean of
    `matches(i)`, the same start and the same end of group 0 -/
theorem clean_pattern_case_invariant (pat1 pat2 : List Nat) (op1 op2 : Op) (mp : Nat) (fl : CFlags)
    (lower : Nat → Nat) (input : List Nat) (hi : fl.caseBlind = true)
    (hc1 : cleanOp op1 = true) (hwf1 : wfOp op1 = true) (hne1 : noEmptyAtoms op1 = true)
    (hc2 : cleanOp op2 = true) (hwf2 : wfOp op2 = true) (hne2 : noEmptyAtoms op2 = true)
    (he : CaseEquivOps lower op1 op2) (hlen : input.length < usizeMax) :
    let pr1 := mkProgram pat1 op1 mp fl false
    let pr2 := mkProgram pat2 op2 mp fl false
    pr1.isMatch lower input = pr2.isMatch lower input ∧
    ∀ (i : Nat), i ≤ input.length → ∀ (st1 st2 : St), st1.panic = none → st2.panic = none →
      (matchesFrom (pr1.ctx lower input) pr1 i st1).1 = (matchesFrom (pr2.ctx lower input) pr2 i st2).1 ∧
      (C02.capsPos op1 = true → C02.capsPos op2 = true → (matchesFrom (pr1.ctx lower input) pr1 i st1).1 = true →
        getParenStart (matchesFrom (pr1.ctx lower input) pr1 i st1).2 0 =
          getParenStart (matchesFrom (pr2.ctx lower input) pr2 i st2).2 0 ∧
        getParenEnd (matchesFrom (pr1.ctx lower input) pr1 i st1).2 0 =
          getParenEnd (matchesFrom (pr2.ctx lower input) pr2 i st2).2 0) := by
  intro pr1 pr2
  have h := (clean_progOK pat1 op1 mp fl lower input hc1 hwf1 hne1 hlen).agree
    (clean_progOK pat2 op2 mp fl lower input hc2 hwf2 hne2 hlen) rfl
    (MkProgram.ctx_eq pat1 op1 mp fl false pat2 op2 lower input ▸
      funext (enum_pattern_case_invariant _ ((MkProgram.caseBlind pat1 op1 mp fl false).trans hi) _ _
        (caseEquiv_mkProgram lower pat1 pat2 op1 op2 mp fl false he)))
  exact ⟨h.1, fun i hii st1 st2 h1 h2 => ⟨(h.2 i hii st1 st2 h1 h2).1, fun hcp1 hcp2 =>
    (h.2 i hii st1 st2 h1 h2).2 ((mkProgram_tree pat1 op1 mp fl false).2.2.trans hcp1)
      ((mkProgram_tree pat2 op2 mp fl false).2.2.trans hcp2)⟩⟩

/-! ## 5. the real tables (`cleanOp` fragment, alphabet without U+0130) -/

/-- **`is_match` under flag i against the real ICU tables**: for a clean tree whose classes pass the
    decidable check, the answer is the same on case-equivalent inputs that avoid U+0130 -/
theorem clean_isMatch_case_invariant_std (pat : List Nat) (op : Op) (mp : Nat) (fl : CFlags)
    (xs ys : List Nat) (hi : fl.caseBlind = true)
    (hc : cleanOp op = true) (hwf : wfOp op = true) (hne : noEmptyAtoms op = true)
    (hchk : allClsB (clsClosedOnB notDottedI) op = true)
    (hin : CaseEquivInputs Env.std.lower xs ys) (hx : Over notDottedI xs) (hy : Over notDottedI ys)
    (hlen : xs.length < usizeMax) :
    (mkProgram pat op mp fl false).isMatch Env.std.lower xs = (mkProgram pat op mp fl false).isMatch Env.std.lower ys :=
  clean_isMatch_case_invariant notDottedI pat op mp fl Env.std.lower xs ys hi hc hwf hne
    (allClsClosedOn_of_check notDottedI op hchk) newlineCaseless_std hin hx hy hlen

/-- … and so are the Boolean of `matches(i)` and the span of group 0 -/
theorem clean_span_case_invariant_std (pat : List Nat) (op : Op) (mp : Nat) (fl : CFlags)
    (xs ys : List Nat) (hi : fl.caseBlind = true)
    (hc : cleanOp op = true) (hwf : wfOp op = true) (hne : noEmptyAtoms op = true)
    (hchk : allClsB (clsClosedOnB notDottedI) op = true)
    (hin : CaseEquivInputs Env.std.lower xs ys) (hx : Over notDottedI xs) (hy : Over notDottedI ys)
    (hlen : xs.length < usizeMax)
    (i : Nat) (hix : i ≤ xs.length) (st1 st2 : St) (h1 : st1.panic = none) (h2 : st2.panic = none) :
    let pr := mkProgram pat op mp fl false
    (matchesFrom (pr.ctx Env.std.lower xs) pr i st1).1 = (matchesFrom (pr.ctx Env.std.lower ys) pr i st2).1 ∧
    (C02.capsPos op = true → (matchesFrom (pr.ctx Env.std.lower xs) pr i st1).1 = true →
      getParenStart (matchesFrom (pr.ctx Env.std.lower xs) pr i st1).2 0 =
        getParenStart (matchesFrom (pr.ctx Env.std.lower ys) pr i st2).2 0 ∧
      getParenEnd (matchesFrom (pr.ctx Env.std.lower xs) pr i st1).2 0 =
        getParenEnd (matchesFrom (pr.ctx Env.std.lower ys) pr i st2).2 0) :=
  clean_span_case_invariant notDottedI pat op mp fl Env.std.lower xs ys hi hc hwf hne
    (allClsClosedOn_of_check notDottedI op hchk) newlineCaseless_std hin hx hy hlen i hix st1 st2 h1 h2

/-- lower-casing the whole input (real tables; `lower` is idempotent, `EnvStd.lower_idem_std`) -/
theorem clean_isMatch_lowercased_std (pat : List Nat) (op : Op) (mp : Nat) (fl : CFlags)
    (xs : List Nat) (hi : fl.caseBlind = true)
    (hc : cleanOp op = true) (hwf : wfOp op = true) (hne : noEmptyAtoms op = true)
    (hchk : allClsB (clsClosedOnB notDottedI) op = true)
    (hx : Over notDottedI xs) (hy : Over notDottedI (xs.map Env.std.lower)) (hlen : xs.length < usizeMax) :
    (mkProgram pat op mp fl false).isMatch Env.std.lower xs =
      (mkProgram pat op mp fl false).isMatch Env.std.lower (xs.map Env.std.lower) :=
  clean_isMatch_case_invariant_std pat op mp fl xs _ hi hc hwf hne hchk
    (EnvStd.caseEquiv_map_lower_std xs) hx hy hlen

/-! ## 6. "everything that matches without i still matches with it"

  For a FIXED tree the language can only grow when flag i is switched on — for every tree, classes
  included, because a class node is a set and does not read the flag.  The sentence fails for PATTERNS:
  the compiler builds a different class under i (closure first, complement after), so `[^a]` loses
  `A` (finding K7, mandated by F&O §5.6.1.1).  For patterns made of literals only the compiled
  tree does not depend on the flag and the theorem applies as it stands. -/

theorem mono_both (ctx : Ctx) (hcb : ctx.caseBlind = false) :
    (∀ op p q, OpR ctx op p q → OpR { ctx with caseBlind := true } op p q) ∧
    (∀ l, (∀ p q, OpRAny ctx l p q → OpRAny { ctx with caseBlind := true } l p q) ∧
      (∀ p q, OpRSeq ctx l p q → OpRSeq { ctx with caseBlind := true } l p q)) := by
  apply OpR.ind_all
  case bol | eol => intro p q h; simp only [OpR, Ctx.len] at h ⊢; exact h
  case nothing | endProgram => intro p; simp only [OpR]
  case atom =>
    intro cs p q h
    simp only [OpR, Ctx.len] at h ⊢
    exact ⟨h.1, h.2.1, CaseE.prefixMatch_mono_i ctx hcb cs _ h.2.2⟩
  case cls => intro rs p q h; simp only [OpR] at h ⊢; exact h
  case backref => intro g p q h; simp only [OpR, Ctx.len] at h ⊢; exact h
  case capture => intro g c p q _ ih; simp only [OpR]; exact ih
  case choice | seq => intro l p q _ ih; simp only [OpR]; exact ih
  case rpt =>
    intro o c mn mx g e k h1 h2 p q hi
    exact (OpR_rpt _ e p q).2 ⟨k, h1, h2, hi.mono fun _ _ h => h.2⟩
  case anyHead => intro o l p q _ ih; simp only [OpRAny]; exact .inl ih
  case anyTail => intro o l p q _ ih; simp only [OpRAny]; exact .inr ih
  case seqNil => intro p; simp only [OpRSeq]
  case seqCons => intro o l p m q _ ih1 _ ih2; simp only [OpRSeq]; exact ⟨m, ih1, ih2⟩

theorem mono_any (ctx : Ctx) (hcb : ctx.caseBlind = false) :
    (bs : List Op) → ∀ p q, OpRAny ctx bs p q → OpRAny { ctx with caseBlind := true } bs p q :=
  fun bs => ((mono_both ctx hcb).2 bs).1

theorem mono_seq (ctx : Ctx) (hcb : ctx.caseBlind = false) :
    (ops : List Op) → ∀ p q, OpRSeq ctx ops p q → OpRSeq { ctx with caseBlind := true } ops p q :=
  fun ops => ((mono_both ctx hcb).2 ops).2

/-- **monotonicity in flag i for a fixed tree**: every span of the language without i is a span of
    the language with i -/
theorem OpR_mono_flag_i (ctx : Ctx) (hcb : ctx.caseBlind = false) (op : Op) (p q : Nat)
    (h : OpR ctx op p q) : OpR { ctx with caseBlind := true } op p q :=
  (mono_both ctx hcb).1 op p q h

/-- the sentence for patterns … -/
def matches_without_i_matches_with_i : Prop :=
  ∀ (pat input : List Nat) (pr pri : Prog),
    compileCore Env.std {} pat true = .ok pr → compileCore Env.std { caseBlind := true } pat true = .ok pri →
    pr.isMatch Env.std.lower input = .ok true → pri.isMatch Env.std.lower input = .ok true

/-- what the compiler builds for `[^a]` without and with flag i, and what `is_match` answers on "A" -/
theorem negated_class_computed :
    (match compileCore Env.std {} [91, 94, 97, 93] true with
      | .ok pr => (clsList pr.op == [[(0, 97), (98, 1114112)]]) && (pr.isMatch Env.std.lower [65] == .ok true)
      | _ => false) = true ∧
    (match compileCore Env.std { caseBlind := true } [91, 94, 97, 93] true with
      | .ok pr => (clsList pr.op == [[(0, 65), (66, 97), (98, 1114112)]]) && (pr.isMatch Env.std.lower [65] == .ok false)
      | _ => false) = true := by decide +kernel

/-- … is false with a negated class: `[^a]` matches "A" without i and not with i (K7) -/
theorem negated_class_not_monotone : ¬ matches_without_i_matches_with_i := by
  intro h
  obtain ⟨h1, h2⟩ := negated_class_computed
  cases hc1 : compileCore Env.std {} [91, 94, 97, 93] true with
  | ok pr =>
    cases hc2 : compileCore Env.std { caseBlind := true } [91, 94, 97, 93] true with
    | ok pri =>
      rw [hc1] at h1
      rw [hc2] at h2
      simp only [Bool.and_eq_true, beq_iff_eq] at h1 h2
      have := h _ [65] pr pri hc1 hc2 h1.2
      rw [h2.2] at this
      cases this
    | err e => rw [hc2] at h2; cases h2
    | panic c => rw [hc2] at h2; cases h2
    | diverge => rw [hc2] at h2; cases h2
  | err e => rw [hc1] at h1; cases h1
  | panic c => rw [hc1] at h1; cases h1
  | diverge => rw [hc1] at h1; cases h1

/-! ## 7. non-vacuity: `[a-k]x` compiled under flag i against the real tables, "HIx" / "hiX" -/

/-- a successful compilation without back-references is `mkProgram` of a tree that inherits the
    decidable facts checked on the program's tree -/
theorem compile_clean (env : Env) (fl : CFlags) (pat : List Nat) (pr : Prog)
    (h : compileCore env fl pat true = .ok pr) (hnb : pr.hasBackrefs = false)
    (hc : cleanOp pr.op = true) (hwf : wfOp pr.op = true) (hne : noEmptyAtoms pr.op = true)
    (hcp : C02.capsPos pr.op = true) :
    ∃ op mp, pr = mkProgram pat op mp fl false ∧ pr.op = op ∧ cleanOp op = true ∧ wfOp op = true ∧
      noEmptyAtoms op = true ∧ C02.capsPos op = true := by
  obtain ⟨op, mp, hb, heq⟩ := CleanComplete.compile_is_mkProgram env fl pat pr h
  subst heq
  rw [MkProgram.hasBackrefs] at hnb
  subst hnb
  rw [MkProgram.op] at hc hwf hne hcp
  rw [SearchComplete.cleanOp_numberReps] at hc
  rw [WF.wfOp_numberReps] at hwf
  rw [WF.capsPos_numberReps] at hcp
  rw [ApiL.noEmptyAtoms_numberReps] at hne
  exact ⟨op, mp, rfl, mkProgram_op_shape2 pat op mp fl false (CaseE.shape2_of_cleanOp _ hc), hc, hwf, hne, hcp⟩

def exFlags : CFlags := { caseBlind := true }
/-- `[a-k]x` -/
def exPat : List Nat := [91, 97, 45, 107, 93, 120]
/-- "HIx" and "hiX" -/
def exUpper : List Nat := [72, 73, 120]
def exLower : List Nat := [104, 105, 88]

/-- the compiled program is in the `cleanOp` fragment (its tree is `[A-Ka-kK] · x · End`) and meets
    every decidable hypothesis; its class is the one of `C11b.class_ak_check` -/
theorem ex_facts :
    (match compileCore Env.std exFlags exPat true with
      | .ok pr => !pr.hasBackrefs && cleanOp pr.op && wfOp pr.op && noEmptyAtoms pr.op && C02.capsPos pr.op &&
          (clsList pr.op == [[(65, 76), (97, 108), (8490, 8491)]])
      | _ => false) = true := by decide +kernel

theorem ex_inputs : CaseEquivInputs Env.std.lower exUpper exLower ∧ Over notDottedI exUpper ∧ Over notDottedI exLower := by
  -- a character and its lower case compare equal, lower-casing being idempotent: no look-up of `h`, `i`, `x`
  have up : ∀ a b, Env.std.lower a = b → eqCB Env.std.lower a b = true := fun a b h => by
    rw [← h, C11.eqCB_symm, EnvStd.eqCB_lower_left_std, C11.eqCB_refl]
  refine ⟨.cons (up 72 104 (by decide +kernel)) (.cons (up 73 105 (by decide +kernel))
      (.cons ((C11.eqCB_symm _ _ _).trans (up 88 120 (by decide +kernel))) (.nil _))), ?_, ?_⟩ <;>
    intro x hx <;> simp only [exUpper, exLower, List.mem_cons, List.not_mem_nil, or_false] at hx <;>
    rcases hx with rfl | rfl | rfl <;> decide

/-- the theorems applied to the compiled program: same `is_match` answer and same reported span on
    "HIx" and "hiX" … -/
theorem ex_invariant (pr : Prog) (hpr : compileCore Env.std exFlags exPat true = .ok pr) :
    pr.isMatch Env.std.lower exUpper = pr.isMatch Env.std.lower exLower ∧
    (matchesFrom (pr.ctx Env.std.lower exUpper) pr 0 {}).1 = (matchesFrom (pr.ctx Env.std.lower exLower) pr 0 {}).1 ∧
    ((matchesFrom (pr.ctx Env.std.lower exUpper) pr 0 {}).1 = true →
      getParenStart (matchesFrom (pr.ctx Env.std.lower exUpper) pr 0 {}).2 0 =
        getParenStart (matchesFrom (pr.ctx Env.std.lower exLower) pr 0 {}).2 0 ∧
      getParenEnd (matchesFrom (pr.ctx Env.std.lower exUpper) pr 0 {}).2 0 =
        getParenEnd (matchesFrom (pr.ctx Env.std.lower exLower) pr 0 {}).2 0) := by
  have hf := ex_facts
  rw [hpr] at hf
  simp only [Bool.and_eq_true, Bool.not_eq_true', beq_iff_eq] at hf
  obtain ⟨⟨⟨⟨⟨hnb, hc⟩, hwf⟩, hne⟩, hcp⟩, hcls⟩ := hf
  obtain ⟨op, mp, heq, hop, hc', hwf', hne', hcp'⟩ := compile_clean Env.std exFlags exPat pr hpr hnb hc hwf hne hcp
  have hchk : allClsB (clsClosedOnB notDottedI) op = true := by
    simp only [← hop, (allClsB_eq_all _).1, hcls, List.all_cons, List.all_nil, class_ak_check, Bool.and_true]
  obtain ⟨hin, hx, hy⟩ := ex_inputs
  subst heq
  have hs := clean_span_case_invariant_std exPat op mp exFlags exUpper exLower rfl hc' hwf' hne' hchk hin hx hy
    (by decide) 0 (Nat.zero_le _) {} {} rfl rfl
  exact ⟨clean_isMatch_case_invariant_std exPat op mp exFlags exUpper exLower rfl hc' hwf' hne' hchk hin hx hy
    (by decide), hs.1, hs.2 hcp'⟩

/-- … and the computed values agree with the prediction: both `.ok true`, both spans `(1, 3)` -/
theorem ex_computed :
    (match compileCore Env.std exFlags exPat true with
      | .ok pr =>
        (pr.isMatch Env.std.lower exUpper == .ok true) && (pr.isMatch Env.std.lower exLower == .ok true) &&
        (getParenStart (matchesFrom (pr.ctx Env.std.lower exUpper) pr 0 {}).2 0 == some 1) &&
        (getParenEnd (matchesFrom (pr.ctx Env.std.lower exUpper) pr 0 {}).2 0 == some 3) &&
        (getParenStart (matchesFrom (pr.ctx Env.std.lower exLower) pr 0 {}).2 0 == some 1) &&
        (getParenEnd (matchesFrom (pr.ctx Env.std.lower exLower) pr 0 {}).2 0 == some 3)
      | _ => false) = true := by
  simp only [Env.std, EnvStd.stdClosure_seek, EnvStd.stdLower_seek]
  simp only [Gen.lowerTable, Gen.closureTable, List.append_assoc]
  decide +kernel

end Rx.C11c
