/-
  Props/Clean2 — the clean fragment enlarged by the optimiser's `UnambiguousRepeat` (Spec/Enum2).

  `.unamb x mn mx` (x one literal / class) has the full language `x^k, mn ≤ k ≤ mx` but the engine
  yields only the maximal run.  What is proved, and for which trees:

    shape only  (`shape2`: clean + `.unamb` over one literal / class; nothing about what follows)
      a. `sem_seq_enum2`      the iterator yields EXACTLY `enum2 ctx op p`, under every consumer
      b. `enum2_sound`        every listed end is in the language
      e. `sem_noDiv2`, `first1_enum2`; no back-reference, loop bounds covered by the fuel
         (`clean2_noBackref`, `clean2_smallMin`, from `shape2_noBackref`, `shape2_smallMin` of Proofs/EnumFragments)

    compositional fragment  (`cleanOp2`: every `.unamb` is an element of a sequence and is justified by
      `mn = mx`, by a following non-multi-line `$`, or by first sets disjoint from the NEXT element's)
      c1. `enum2_iff_OpR`     FULL equivalence: `enum2` lists exactly the language.  The language of
                              `.unamb x mn mx · next` has no member that does not use the maximal run
                              (`C08.disjoint_maxmunch_wf`), so nothing is lost — in particular every
                              tree WITHOUT `.unamb` and every justified sequence has the full property.

    whole programs  (`cleanProg2`: additionally `… · x{mn,mx} · EndProgram` at the end of the ROOT sequence)
      c2. `enum2_complete`    only the EXISTENCE form: if the language has a member from `p` then
                              `enum2 ctx op p ≠ []`.  (The full form is false there: `a*` on "aa" has the
                              ends 2,1,0; `enum2` — and the engine — list only 2.  See the examples.)
      d. `completeAt_clean2`  `CompleteAt ctx op`: what the search-loop theorems consume
         `matchAt_iff2`, `matchAt_end2`   `match_at` is a correct and complete test; on success the
                              recorded end is `(enum2 ctx op i).head?`

  Hypotheses besides the fragment: `wfOp`, `C08.noEmptyAtoms`, `clsCanonB` (all decidable, all hold of
  compiler output) and, for c/d only, `InputOK env ctx` = the hypotheses of `disjoint_maxmunch_wf`
  (case data adequate if case-blind; closures are code points; the input consists of scalar
  values).  `CaseOK Env.std` fails at U+0130, so the `_cs` corollaries specialise to case-sensitive
  matching, where that hypothesis is vacuous.
-/
import RxModel.Proofs.SearchLemmas
import RxModel.Proofs.Enum4Lemmas
namespace Rx.Clean2
open Rx Rx.SearchComplete
open Rx.C08 (noEmptyAtoms noEmptyAtomsL clsCanon clsCanonL CaseOK)

/-! ### a. the iterator yields exactly `enum2`, in order (shape only) -/

theorem sem_seq_enum2 (ctx : Ctx) (op : Op) (hs : shape2 op = true) (hwf : wfOp op = true)
    (hne : noEmptyAtoms op = true) (p : Nat) (hp : p ≤ ctx.len) (st : St) (_ : anySt st) :
    Step.Seq anySt (sem ctx op p st) (enum2 ctx op p) :=
  sem_ex2_op ctx op hs hwf hne p hp st

theorem sem_seq_enum2_of (I : St → Prop) (ctx : Ctx) (op : Op) (hs : shape2 op = true) (hwf : wfOp op = true)
    (hne : noEmptyAtoms op = true) (p : Nat) (hp : p ≤ ctx.len) (st : St) :
    Step.Seq I (sem ctx op p st) (enum2 ctx op p) :=
  (sem_ex2_op ctx op hs hwf hne p hp st).weaken

/-! ### b. soundness of the enumeration -/

theorem enum2_sound (ctx : Ctx) (op : Op) (hs : shape2 op = true) (hwf : wfOp op = true)
    (hne : noEmptyAtoms op = true) (p q : Nat) (hp : p ≤ ctx.len) (h : q ∈ enum2 ctx op p) :
    OpR ctx op p q :=
  enum2_sound_of_shape ctx op hs hwf hne hp h

/-! ### c1. the compositional fragment: full equivalence -/

theorem enum2_iff_OpR (env : Env) (ctx : Ctx) (hI : InputOK env ctx) (op : Op)
    (hc : cleanOp2 env ctx.caseBlind ctx.multiLine op = true) (hwf : wfOp op = true)
    (hne : noEmptyAtoms op = true) (hcan : clsCanonB op = true) (p q : Nat) (hp : p ≤ ctx.len) :
    q ∈ enum2 ctx op p ↔ OpR ctx op p q :=
  ⟨fun h => enum2_sound ctx op ((shape_of_clean2 env _ _).op hc) hwf hne p q hp h,
   fun h => comp2_op env ctx hI op hc hwf hne (clsCanon_of_B op hcan) p q hp h⟩

/-! ### c2. whole programs: existence-completeness -/

/-- if the language has a member from `p`, the engine's enumeration is non-empty -/
theorem enum2_complete (env : Env) (ctx : Ctx) (hI : InputOK env ctx) (op : Op)
    (hc : cleanProg2 env ctx.caseBlind ctx.multiLine op = true) (hwf : wfOp op = true)
    (hne : noEmptyAtoms op = true) (hcan : clsCanonB op = true) (p : Nat) (hp : p ≤ ctx.len)
    (h : ∃ q, OpR ctx op p q) : enum2 ctx op p ≠ [] :=
  (enumerates_clean2 env ctx hI op hc hwf hne (clsCanon_of_B op hcan)).compl p hp h

/-- the special case of a well-formed root SEQUENCE -/
theorem enum2_complete_seq (env : Env) (ctx : Ctx) (hI : InputOK env ctx) (ops : List Op)
    (hc : cleanSeq2 env ctx.caseBlind ctx.multiLine true ops = true) (hwf : wfOp (.seq ops) = true)
    (hne : noEmptyAtoms (.seq ops) = true) (hcan : clsCanonB (.seq ops) = true) (p : Nat) (hp : p ≤ ctx.len)
    (h : ∃ q, OpR ctx (.seq ops) p q) : enum2 ctx (.seq ops) p ≠ [] :=
  enum2_complete env ctx hI (.seq ops) hc hwf hne hcan p hp h

/-- the compositional fragment is contained in the program fragment -/
theorem cleanProg2_of_cleanOp2 (env : Env) (cb ml : Bool) (op : Op) (h : cleanOp2 env cb ml op = true) :
    cleanProg2 env cb ml op = true := by
  cases op with
  | seq ops =>
    simp only [cleanProg2]
    simp only [cleanOp2, cleanOp2F] at h
    exact mono ops h
  | _ => exact h
where
  justMono (x : Op) (F : List Op) (h : unambJust env cb ml false x F = true) :
      unambJust env cb ml true x F = true := by
    cases F with
    | nil => exact h
    | cons nxt rest =>
      simp only [unambJust, Bool.or_eq_true, Bool.and_eq_true] at h ⊢
      rcases h with (h | h) | h
      · exact .inl (.inl h)
      · exact absurd h.2 (by simp)
      · exact .inr h
  mono : ∀ (ops : List Op), cleanSeq2 env cb ml false ops = true → cleanSeq2 env cb ml true ops = true
    | [], _ => rfl
    | o :: os, h => by
      simp only [cleanSeq2, Bool.and_eq_true] at h ⊢
      refine ⟨?_, mono os h.2⟩
      by_cases hu : isUnamb o = true
      · obtain ⟨x, mn, mx, rfl⟩ := isUnamb_true hu
        have h1 := h.1
        simp only [cleanOp2F, Bool.and_eq_true, Bool.or_eq_true] at h1 ⊢
        exact ⟨h1.1, h1.2.imp id (justMono x os)⟩
      · rw [cleanOp2F_irrel env cb ml true os o hu, ← cleanOp2F_irrel env cb ml false os o hu]; exact h.1

/-! ### d. `CompleteAt`, `match_at` -/

/-- the first pull of a fresh iterator returns the head of the enumeration -/
theorem first1_enum2 (ctx : Ctx) (op : Op) (hs : shape2 op = true) (hwf : wfOp op = true)
    (hne : noEmptyAtoms op = true) (p : Nat) (hp : p ≤ ctx.len) (st : St) :
    (first1 (sem ctx op p st)).1.map (·.1) = (enum2 ctx op p).head? :=
  (sem_ex2_op ctx op hs hwf hne p hp st).first1_head

theorem enumerates2 (env : Env) (ctx : Ctx) (hI : InputOK env ctx) (op : Op)
    (hc : cleanProg2 env ctx.caseBlind ctx.multiLine op = true) (hwf : wfOp op = true)
    (hne : noEmptyAtoms op = true) (hcan : clsCanonB op = true) : Enumerates ctx op (enum2 ctx op) :=
  enumerates_clean2 env ctx hI op hc hwf hne (clsCanon_of_B op hcan)

/-- the engine test is complete on the program fragment (from EVERY state) -/
theorem completeAt_clean2 (env : Env) (ctx : Ctx) (hI : InputOK env ctx) (op : Op)
    (hc : cleanProg2 env ctx.caseBlind ctx.multiLine op = true) (hwf : wfOp op = true)
    (hne : noEmptyAtoms op = true) (hcan : clsCanonB op = true) : CompleteAt ctx op :=
  fun j st hj _ => (enumerates2 env ctx hI op hc hwf hne hcan).first1_iff j hj st

theorem matchAt_iff2 (env : Env) (ctx : Ctx) (hI : InputOK env ctx) (op : Op)
    (hc : cleanProg2 env ctx.caseBlind ctx.multiLine op = true) (hwf : wfOp op = true)
    (hne : noEmptyAtoms op = true) (hcan : clsCanonB op = true) (i : Nat) (hi : i ≤ ctx.len) (st : St) :
    (matchAt ctx op i st).1 = true ↔ ∃ j, OpR ctx op i j :=
  (enumerates2 env ctx hI op hc hwf hne hcan).matchAt_iff i hi st

/-- on success the end recorded for group 0 is the head of `enum2` (shape only) -/
theorem matchAt_end2 (ctx : Ctx) (op : Op) (hs : shape2 op = true) (hwf : wfOp op = true)
    (hne : noEmptyAtoms op = true) (i : Nat) (hi : i ≤ ctx.len) (st : St)
    (h : (matchAt ctx op i st).1 = true) :
    getParenEnd (matchAt ctx op i st).2 0 = (enum2 ctx op i).head? :=
  (Clean.matchAt_of_ex ctx op i _ st (sem_ex2_op ctx op hs hwf hne i hi _)).2 h

/-! ### e. no back-reference, loops covered by the fuel, no divergence -/

theorem clean2_noBackref (env : Env) (cb ml : Bool) (op : Op) (h : cleanProg2 env cb ml op = true) :
    hasBackref op = false :=
  shape2_noBackref.op' op (shape_of_cleanProg2 env cb ml op h)

theorem clean2_smallMin (env : Env) (cb ml : Bool) (n : Nat) (op : Op) (h : cleanProg2 env cb ml op = true)
    (hne : noEmptyAtoms op = true) : C06.smallMin n op = true :=
  (shape2_smallMin n).op' op ⟨shape_of_cleanProg2 env cb ml op h, hne⟩

theorem sem_noDiv2 (ctx : Ctx) (op : Op) (hs : shape2 op = true) (hwf : wfOp op = true)
    (hne : noEmptyAtoms op = true) (p : Nat) (hp : p ≤ ctx.len) (st : St) : (sem ctx op p st).NoDiv :=
  (sem_ex2_op ctx op hs hwf hne p hp st).noDiv

/-! ### case-sensitive matching: no hypothesis on the case tables -/

theorem enum2_iff_OpR_cs (env : Env) (ctx : Ctx) (hcb : ctx.caseBlind = false)
    (hce : ∀ a x, x ∈ env.closure a → x < cpLimit)
    (hin : ∀ c ∈ ctx.input, c < cpLimit) (hsc : ∀ c ∈ ctx.input, isSurrogate c = false) (op : Op)
    (hc : cleanOp2 env false ctx.multiLine op = true) (hwf : wfOp op = true)
    (hne : noEmptyAtoms op = true) (hcan : clsCanonB op = true) (p q : Nat) (hp : p ≤ ctx.len) :
    q ∈ enum2 ctx op p ↔ OpR ctx op p q :=
  enum2_iff_OpR env ctx (.of_caseSensitive hcb hce hin hsc) op (by rw [hcb]; exact hc) hwf hne hcan p q hp

theorem completeAt_clean2_cs (env : Env) (ctx : Ctx) (hcb : ctx.caseBlind = false)
    (hce : ∀ a x, x ∈ env.closure a → x < cpLimit)
    (hin : ∀ c ∈ ctx.input, c < cpLimit) (hsc : ∀ c ∈ ctx.input, isSurrogate c = false) (op : Op)
    (hc : cleanProg2 env false ctx.multiLine op = true) (hwf : wfOp op = true)
    (hne : noEmptyAtoms op = true) (hcan : clsCanonB op = true) : CompleteAt ctx op :=
  completeAt_clean2 env ctx (.of_caseSensitive hcb hce hin hsc) op (by rw [hcb]; exact hc) hwf hne hcan

theorem matchAt_iff2_cs (env : Env) (ctx : Ctx) (hcb : ctx.caseBlind = false)
    (hce : ∀ a x, x ∈ env.closure a → x < cpLimit)
    (hin : ∀ c ∈ ctx.input, c < cpLimit) (hsc : ∀ c ∈ ctx.input, isSurrogate c = false) (op : Op)
    (hc : cleanProg2 env false ctx.multiLine op = true) (hwf : wfOp op = true)
    (hne : noEmptyAtoms op = true) (hcan : clsCanonB op = true) (i : Nat) (hi : i ≤ ctx.len) (st : St) :
    (matchAt ctx op i st).1 = true ↔ ∃ j, OpR ctx op i j :=
  matchAt_iff2 env ctx (.of_caseSensitive hcb hce hin hsc) op (by rw [hcb]; exact hc) hwf hne hcan i hi st

/-! ### non-vacuity -/
section examples

private def env0 : Env :=
  { lower := id, closure := fun _ => [], category := fun _ => none, block := fun _ => none,
    digit := [], word := [], nameStart := [], nameChar := [] }

/-- `a*b(c|d)+e` -/
private def pat1 : List Nat := [97, 42, 98, 40, 99, 124, 100, 41, 43, 101]
private def compiled1 : Out Prog := compileCore env0 {} pat1 true

/-- the tree the model's compiler builds: `a*` has become an UnambiguousRepeat (first sets {a} / {b}) -/
private def tree1 : Op :=
  .seq [.unamb (.atom [97]) 0 usizeMax, .atom [98],
        .gfixed (.capture 1 (.choice [.atom [99], .atom [100]])) 1 usizeMax 1, .atom [101], .endProgram]

private def ctxOf (input : List Nat) : Ctx :=
  { input := input, caseBlind := false, multiLine := false, hasBackrefs := false, maxParens := 2, lower := id }

/-- the compiled program satisfies every hypothesis — it is in the COMPOSITIONAL fragment — and is
    outside the fragment of Spec/Enum -/
example : (match compiled1 with
    | .ok pr => cleanOp2 env0 false false pr.op && cleanProg2 env0 false false pr.op && wfOp pr.op &&
        noEmptyAtoms pr.op && clsCanonB pr.op && !cleanOp pr.op
    | _ => false) = true := by decide +kernel
example : cleanOp2 env0 false false tree1 = true ∧ wfOp tree1 = true ∧ noEmptyAtoms tree1 = true ∧
    clsCanonB tree1 = true := by decide +kernel

/-- "aabcde": the run of two a's, `b`, then `(c|d)+` greedy: ends … only `cd`·`e` survives -/
example : enum2 (ctxOf [97, 97, 98, 99, 100, 101]) tree1 0 = [6] := by decide +kernel
example : (match compiled1 with | .ok pr => enum2 (pr.ctx id [97, 97, 98, 99, 100, 101]) pr.op 0 | _ => []) = [6] := by
  decide +kernel
/-- from 1 the run is one `a` -/
example : enum2 (ctxOf [97, 97, 98, 99, 100, 101]) tree1 1 = [6] ∧
    enum2 (ctxOf [97, 97, 98, 99, 100, 101]) tree1 2 = [6] ∧
    enum2 (ctxOf [97, 97, 98, 99, 100, 101]) tree1 3 = [] := by decide +kernel
example : (matchAt (ctxOf [97, 97, 98, 99, 100, 101]) tree1 0 {}).1 = true ∧
    getParenEnd (matchAt (ctxOf [97, 97, 98, 99, 100, 101]) tree1 0 {}).2 0 = some 6 := by decide +kernel

/-- `a*` : `[unamb a 0 ∞, EndProgram]` is a PROGRAM of the fragment (case 2b) but not compositional:
    the language from 0 on "aa" has the ends 2, 1, 0 — `enum2` (and the engine) list only the first -/
private def treeStar : Op := .seq [.unamb (.atom [97]) 0 usizeMax, .endProgram]
example : (match compileCore env0 {} [97, 42] true with
    | .ok pr => cleanProg2 env0 false false pr.op && !cleanOp2 env0 false false pr.op | _ => false) = true := by
  decide +kernel
example : cleanProg2 env0 false false treeStar = true ∧ cleanOp2 env0 false false treeStar = false := by
  decide +kernel
example : enum2 (ctxOf [97, 97]) treeStar 0 = [2] := by decide +kernel
private theorem star_member : OpR (ctxOf [97, 97]) treeStar 0 1 := by
  simp only [treeStar, OpR, OpRSeq]
  refine ⟨1, ⟨1, by decide, by decide, .succ (.zero 0) ?_⟩, 1, rfl, rfl⟩
  show OpR (ctxOf [97, 97]) (.atom [97]) 0 1
  simp only [OpR]
  decide
/-- so the FULL equivalence is false for programs: only the existence form holds there -/
example : ¬ (∀ q, q ∈ enum2 (ctxOf [97, 97]) treeStar 0 ↔ OpR (ctxOf [97, 97]) treeStar 0 q) := by
  intro h
  have h1 : (1 : Nat) ∈ enum2 (ctxOf [97, 97]) treeStar 0 := (h 1).2 star_member
  revert h1
  decide +kernel

/-- an unjustified `.unamb` (followed by something that starts with the same character) is NOT in
    the fragment — and there the engine does lose matches: `a*` · `ab` on "aab" -/
private def treeBad : Op := .seq [.unamb (.atom [97]) 0 usizeMax, .atom [97, 98], .endProgram]
example : cleanProg2 env0 false false treeBad = false ∧ shape2 treeBad = true := by decide +kernel
example : enum2 (ctxOf [97, 97, 98]) treeBad 0 = [] := by decide +kernel
/-- (the compiler does not build it: `a*ab` keeps the backtracking repeat) -/
example : (match compileCore env0 {} [97, 42, 97, 98] true with
    | .ok pr => cleanOp pr.op | _ => false) = true := by decide +kernel

end examples

end Rx.Clean2
