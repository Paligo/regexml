/-
  Props/SearchComplete — the search loop of `ReMatcher::matches` loses no match and invents none:
  COMPLETENESS of the whole loop (five shortcuts included), PARAMETRISED over completeness of the
  per-position engine test.

  C01 proves soundness (`is_match = true` ⇒ some substring is in the language `OpR`), C08/C08b/C08c
  prove of each shortcut that it "skips no member" of `OpR`.  Here the two are connected through
  the loop itself: for every program whose engine test decides membership at each start
  (`CompleteAt`, to be instantiated on any fragment for which the iterators are proved complete)

      matches(i) = true   ⇔   some start j ≥ i has a match,   and the start reported is the LEAST,

  on every branch of `matchesFrom` (start anchor in single-line and multi-line mode, minimum length, literal
  prefix, initial class, preconditions + plain scan); `is_match` is `.ok` of that Boolean; and the
  search with shortcuts agrees with the search without (`matchesNaive`, `mkBareProgram`) — property
  C08 "optimisations never change a result" as a theorem on that class of programs.

  The definitions `CompleteAt`, `Quiet`, `QuietAll`, `SearchFacts`, `Outcome` are in
  Proofs/SearchLemmas (namespace `Rx.SearchComplete`), because the helper lemmas need them:

    CompleteAt ctx o :  ∀ j ≤ len, ∀ st with clear panic marker,
                          (first1 (sem ctx o j st)).1.isSome ↔ ∃ q, OpR ctx o j q
    Quiet ctx o      :  … sem ctx o j st ≠ .diverge  and the state handed on has a clear marker
                        (from C05 + C06: `quiet_of_wf`;  `QuietAll`: at every start, for
                        precondition trees: `quietAll_of_simplePre`)

  `match_at`, `preHolds`, `findFrom` all test exactly "the stream is a `cons`"; `match_at` first
  re-initialises the capture state — covered by quantifying over every state.  The marker has to be
  CLEAR (not merely "no real panic", `C05.NoPanic`): with the divergence marker set the loops stop
  at the first failing candidate.

  No shortcut loses a match in the model: nothing had to be excluded.  Side conditions besides
  `wfOp`, all decidable and established by the compiler (Props/WF, Props/Api):
    * `noEmptyAtoms op`  (hypothesis of `C08.preconditions_sound`; an empty literal recorded as a
      precondition could never be found in an empty input)
    * `smallMin len op`  (C06: the model's loop fuel covers the tree, so "does not terminate" is
      excluded; without it the divergence marker would stop the candidate loop)
    * `capsPos op`       (C02; only for the statements about the recorded start of group 0).
-/
import RxModel.Proofs.ProgOK
namespace Rx.SearchComplete
open Rx

/-! ## 1. the candidate loop -/

/-- `tryCands` succeeds iff some candidate has a match (candidates inside the input, clean state) -/
theorem tryCands_complete (ctx : Ctx) (op : Op) (hC : CompleteAt ctx op) (hQ : Quiet ctx op)
    (cands : List Nat) (hb : ∀ j ∈ cands, j ≤ ctx.len) (st : St) (hst : st.panic = none) :
    (tryCands ctx op cands st).1 = true ↔ ∃ j ∈ cands, ∃ q, OpR ctx op j q := by
  rcases (tests_clean hC hQ 0).tryOut cands (fun j hj => ⟨Nat.zero_le _, hb j hj⟩) st hst with
    ⟨pre, j, post, _, st', hcs, ht, _, ⟨hmj, _⟩, _, _⟩ | ⟨st', ht, hc, hall⟩
  · rw [ht]
    exact ⟨fun _ => ⟨j, by rw [hcs]; simp, hmj⟩, fun _ => rfl⟩
  · rw [ht]
    constructor
    · intro h; cases h
    · rintro ⟨j, hj, hm⟩
      exact absurd hm (hall hc j hj)

/-- … and neither panics nor diverges -/
theorem tryCands_clean (ctx : Ctx) (op : Op) (hC : CompleteAt ctx op) (hQ : Quiet ctx op)
    (cands : List Nat) (hb : ∀ j ∈ cands, j ≤ ctx.len) (st : St) (hst : st.panic = none) :
    (tryCands ctx op cands st).2.panic = none := by
  rcases (tests_clean hC hQ 0).tryOut cands (fun j hj => ⟨Nat.zero_le _, hb j hj⟩) st hst with
    ⟨_, _, _, _, st', _, ht, _, ⟨_, hc⟩, _, _⟩ | ⟨st', ht, hc, _⟩ <;> (rw [ht]; exact hc)

/-- the start it reports is the FIRST candidate in the list that has a match (strengthens
    `C02.tryCands_first`, which only says "first candidate at which `match_at` succeeds") -/
theorem tryCands_first_match (ctx : Ctx) (op : Op) (hC : CompleteAt ctx op) (hQ : Quiet ctx op)
    (hwf : wfOp op = true) (hcp : C02.capsPos op = true)
    (cands : List Nat) (hb : ∀ j ∈ cands, j ≤ ctx.len) (st st' : St) (hst : st.panic = none)
    (h : tryCands ctx op cands st = (true, st')) :
    ∃ pre j post, cands = pre ++ j :: post ∧ (∀ k ∈ pre, ¬ ∃ q, OpR ctx op k q) ∧
      (∃ q, OpR ctx op j q) ∧ getParenStart st' 0 = some j := by
  rcases (tests_clean hC hQ 0).tryOut cands (fun j hj => ⟨Nat.zero_le _, hb j hj⟩) st hst with
    ⟨pre, j, post, stj, st1, hcs, ht, hma, ⟨hmj, _⟩, hpre, _⟩ | ⟨st1, ht, _, _⟩
  · rw [h] at ht
    simp only [Prod.mk.injEq, true_and] at ht
    subst ht
    have hj : j ≤ ctx.len := hb j (by rw [hcs]; simp)
    exact ⟨pre, j, post, hcs, hpre, hmj, (C02.matchAt_span ctx op hwf hcp j hj stj st' hma).1⟩
  · rw [h] at ht; cases ht

/-- the same with the decidable side conditions of C05 / C06 in place of `Quiet` -/
theorem tryCands_complete_wf (ctx : Ctx) (op : Op) (hC : CompleteAt ctx op)
    (hb : ctx.hasBackrefs = false) (hop : hasBackref op = false) (hwf : wfOp op = true)
    (hs : C06.smallMin ctx.len op = true)
    (cands : List Nat) (hc : ∀ j ∈ cands, j ≤ ctx.len) (st : St) (hst : st.panic = none) :
    (tryCands ctx op cands st).1 = true ↔ ∃ j ∈ cands, ∃ q, OpR ctx op j q :=
  tryCands_complete ctx op hC (quiet_of_wf ctx hb op hop hwf hs) cands hc st hst

/-! ## 2. preconditions -/

/-- `check_preconditions(start)` answers true iff every precondition is satisfiable where it is
    tested: at its fixed position, or at some position `k` with `start ≤ k`, `minPos ≤ k`, `k < len`
    (this is `C08.PreOK`).  Both directions; fixed positions inside the input. -/
theorem checkPre_complete (ctx : Ctx) (start : Nat) (pres : List Pre)
    (hP : ∀ q ∈ pres, CompleteAt ctx q.op ∧ Quiet ctx q.op)
    (hfix : ∀ q ∈ pres, ∀ f, q.fixed = some f → f ≤ ctx.len) (st : St) (hst : st.panic = none) :
    (checkPre ctx start pres st).1 = true ↔
      ∀ q ∈ pres, (match q.fixed with
        | some f => ∃ n, OpR ctx q.op f n
        | none => ∃ k n, start ≤ k ∧ q.minPos ≤ k ∧ k < ctx.len ∧ OpR ctx q.op k n) := by
  rcases checkPre_spec start pres st hP hfix hst with ⟨hall, st', he, _⟩ | ⟨hno, st', he, _⟩
  · rw [he]
    exact ⟨fun _ => hall, fun _ => rfl⟩
  · rw [he]
    constructor
    · intro h; cases h
    · intro h; exact absurd h hno

theorem checkPre_clean' (ctx : Ctx) (start : Nat) (pres : List Pre)
    (hP : ∀ q ∈ pres, QuietAll ctx q.op) (st : St) (hst : st.panic = none) :
    (checkPre ctx start pres st).2.panic = none :=
  checkPre_clean start pres st hP hst

/-! ## 3. the search loop with all five shortcuts -/

/-- generic form: ANY program whose recorded facts are true of its language (`SearchFacts`) -/
theorem matchesFrom_complete_of_facts (ctx : Ctx) (pr : Prog) (F : SearchFacts ctx pr)
    (hlen : ctx.len < usizeMax) (hC : CompleteAt ctx pr.op) (hQ : Quiet ctx pr.op)
    (hP : ∀ q ∈ pr.pres, CompleteAt ctx q.op ∧ QuietAll ctx q.op)
    (i : Nat) (hi : i ≤ ctx.len) (st : St) (hst : st.panic = none) :
    ((matchesFrom ctx pr i st).1 = true ↔ ∃ j q, i ≤ j ∧ j ≤ ctx.len ∧ OpR ctx pr.op j q) ∧
    (matchesFrom ctx pr i st).2.panic = none :=
  let h := matchesFrom_outcome F hlen hC hQ hP i hi st hst
  ⟨h.iff, h.clean⟩

theorem matchesFrom_leftmost_of_facts (ctx : Ctx) (pr : Prog) (F : SearchFacts ctx pr)
    (hlen : ctx.len < usizeMax) (hC : CompleteAt ctx pr.op) (hQ : Quiet ctx pr.op)
    (hP : ∀ q ∈ pr.pres, CompleteAt ctx q.op ∧ QuietAll ctx q.op)
    (hwf : wfOp pr.op = true) (hcp : C02.capsPos pr.op = true)
    (i : Nat) (hi : i ≤ ctx.len) (st st' : St) (hst : st.panic = none)
    (h : matchesFrom ctx pr i st = (true, st')) :
    ∃ j n, getParenStart st' 0 = some j ∧ getParenEnd st' 0 = some n ∧
      i ≤ j ∧ j ≤ n ∧ n ≤ ctx.len ∧ OpR ctx pr.op j n ∧
      ∀ k q, i ≤ k → k < j → ¬ OpR ctx pr.op k q := by
  have := (matchesFrom_outcome F hlen hC hQ hP i hi st hst).leftmost hwf hcp (by rw [h])
  rw [h] at this
  exact this

/-- `ReProgram::new` establishes the facts -/
theorem mkProgram_facts (pat : List Nat) (op : Op) (mp : Nat) (fl : CFlags) (hb : Bool)
    (lower : Nat → Nat) (input : List Nat)
    (hwf : wfOp op = true) (hne : C08.noEmptyAtoms op = true) (hlen : input.length < usizeMax) :
    SearchFacts ((mkProgram pat op mp fl hb).ctx lower input) (mkProgram pat op mp fl hb) :=
  mkProgram_searchFacts pat op mp fl hb lower input hwf hne hlen

/-- NO shortcut ever loses a match and none invents one: on a program built by `ReProgram::new`,
    `matches(i)` is true iff some start `j ≥ i` has a match — relative to completeness of the
    engine test on the main tree.  (On the precondition trees it is a theorem, `mkProgram_pres_completeAt`:
    the hypothesis `hP` of this and the following statements is not used; `mkProgram_outcome` is without it.) -/
theorem matchesFrom_complete (pat : List Nat) (op : Op) (mp : Nat) (fl : CFlags)
    (lower : Nat → Nat) (input : List Nat)
    (hwf : wfOp op = true) (hnb : hasBackref op = false) (hne : C08.noEmptyAtoms op = true)
    (hsm : C06.smallMin input.length op = true) (hlen : input.length < usizeMax)
    (hC : CompleteAt ((mkProgram pat op mp fl false).ctx lower input) (mkProgram pat op mp fl false).op)
    (hP : ∀ pre ∈ (mkProgram pat op mp fl false).pres,
      CompleteAt ((mkProgram pat op mp fl false).ctx lower input) pre.op)
    (i : Nat) (hi : i ≤ input.length) (st : St) (hst : st.panic = none) :
    (matchesFrom ((mkProgram pat op mp fl false).ctx lower input) (mkProgram pat op mp fl false) i st).1 = true ↔
      ∃ j q, i ≤ j ∧ j ≤ input.length ∧
        OpR ((mkProgram pat op mp fl false).ctx lower input) (mkProgram pat op mp fl false).op j q :=
  (mkProgram_outcome pat op mp fl lower input hwf hnb hne hsm hlen hC i hi st hst).iff

/-- … and it neither panics nor diverges -/
theorem matchesFrom_clean (pat : List Nat) (op : Op) (mp : Nat) (fl : CFlags)
    (lower : Nat → Nat) (input : List Nat)
    (hwf : wfOp op = true) (hnb : hasBackref op = false) (hne : C08.noEmptyAtoms op = true)
    (hsm : C06.smallMin input.length op = true) (hlen : input.length < usizeMax)
    (hC : CompleteAt ((mkProgram pat op mp fl false).ctx lower input) (mkProgram pat op mp fl false).op)
    (hP : ∀ pre ∈ (mkProgram pat op mp fl false).pres,
      CompleteAt ((mkProgram pat op mp fl false).ctx lower input) pre.op)
    (i : Nat) (hi : i ≤ input.length) (st : St) (hst : st.panic = none) :
    (matchesFrom ((mkProgram pat op mp fl false).ctx lower input) (mkProgram pat op mp fl false) i st).2.panic = none :=
  (mkProgram_outcome pat op mp fl lower input hwf hnb hne hsm hlen hC i hi st hst).clean

/-- LEFTMOST, on the path with shortcuts (strengthens `C02.matchesNaive_leftmost`): when
    `matches(i)` is true, group 0 starts at the LEAST `j ≥ i` that has a match, and ends at a
    member of the language from there -/
theorem matchesFrom_leftmost (pat : List Nat) (op : Op) (mp : Nat) (fl : CFlags)
    (lower : Nat → Nat) (input : List Nat)
    (hwf : wfOp op = true) (hnb : hasBackref op = false) (hne : C08.noEmptyAtoms op = true)
    (hcp : C02.capsPos op = true)
    (hsm : C06.smallMin input.length op = true) (hlen : input.length < usizeMax)
    (hC : CompleteAt ((mkProgram pat op mp fl false).ctx lower input) (mkProgram pat op mp fl false).op)
    (hP : ∀ pre ∈ (mkProgram pat op mp fl false).pres,
      CompleteAt ((mkProgram pat op mp fl false).ctx lower input) pre.op)
    (i : Nat) (hi : i ≤ input.length) (st st' : St) (hst : st.panic = none)
    (h : matchesFrom ((mkProgram pat op mp fl false).ctx lower input) (mkProgram pat op mp fl false) i st
      = (true, st')) :
    ∃ j n, getParenStart st' 0 = some j ∧ getParenEnd st' 0 = some n ∧
      i ≤ j ∧ j ≤ n ∧ n ≤ input.length ∧
      OpR ((mkProgram pat op mp fl false).ctx lower input) (mkProgram pat op mp fl false).op j n ∧
      ∀ k q, i ≤ k → k < j →
        ¬ OpR ((mkProgram pat op mp fl false).ctx lower input) (mkProgram pat op mp fl false).op k q := by
  obtain ⟨hw, _, hc⟩ := mkProgram_tree pat op mp fl false
  have := (mkProgram_outcome pat op mp fl lower input hwf hnb hne hsm hlen hC i hi st hst).leftmost
    (hw.trans hwf) (hc.trans hcp) (by rw [h])
  rw [h] at this
  exact this

/-! ## 4. `is_match` -/

/-- `is_match` is `.ok` of "some substring is in the language" — never a panic, never divergence -/
theorem isMatch_eq (pat : List Nat) (op : Op) (mp : Nat) (fl : CFlags)
    (lower : Nat → Nat) (input : List Nat)
    (hwf : wfOp op = true) (hnb : hasBackref op = false) (hne : C08.noEmptyAtoms op = true)
    (hsm : C06.smallMin input.length op = true) (hlen : input.length < usizeMax)
    (hC : CompleteAt ((mkProgram pat op mp fl false).ctx lower input) (mkProgram pat op mp fl false).op)
    (hP : ∀ pre ∈ (mkProgram pat op mp fl false).pres,
      CompleteAt ((mkProgram pat op mp fl false).ctx lower input) pre.op) :
    ∃ b, (mkProgram pat op mp fl false).isMatch lower input = .ok b ∧
      (b = true ↔ ∃ j q, j ≤ input.length ∧
        OpR ((mkProgram pat op mp fl false).ctx lower input) (mkProgram pat op mp fl false).op j q) :=
  isMatch_of_outcome (mkProgram_outcome pat op mp fl lower input hwf hnb hne hsm hlen hC 0 (Nat.zero_le _) {} rfl)

theorem isMatch_iff (pat : List Nat) (op : Op) (mp : Nat) (fl : CFlags)
    (lower : Nat → Nat) (input : List Nat)
    (hwf : wfOp op = true) (hnb : hasBackref op = false) (hne : C08.noEmptyAtoms op = true)
    (hsm : C06.smallMin input.length op = true) (hlen : input.length < usizeMax)
    (hC : CompleteAt ((mkProgram pat op mp fl false).ctx lower input) (mkProgram pat op mp fl false).op)
    (hP : ∀ pre ∈ (mkProgram pat op mp fl false).pres,
      CompleteAt ((mkProgram pat op mp fl false).ctx lower input) pre.op) :
    (mkProgram pat op mp fl false).isMatch lower input = .ok true ↔
      ∃ j q, j ≤ input.length ∧
        OpR ((mkProgram pat op mp fl false).ctx lower input) (mkProgram pat op mp fl false).op j q :=
  ok_true_iff (isMatch_eq pat op mp fl lower input hwf hnb hne hsm hlen hC hP)

/-- … and `.ok false` otherwise -/
theorem isMatch_false (pat : List Nat) (op : Op) (mp : Nat) (fl : CFlags)
    (lower : Nat → Nat) (input : List Nat)
    (hwf : wfOp op = true) (hnb : hasBackref op = false) (hne : C08.noEmptyAtoms op = true)
    (hsm : C06.smallMin input.length op = true) (hlen : input.length < usizeMax)
    (hC : CompleteAt ((mkProgram pat op mp fl false).ctx lower input) (mkProgram pat op mp fl false).op)
    (hP : ∀ pre ∈ (mkProgram pat op mp fl false).pres,
      CompleteAt ((mkProgram pat op mp fl false).ctx lower input) pre.op)
    (hno : ¬ ∃ j q, j ≤ input.length ∧
        OpR ((mkProgram pat op mp fl false).ctx lower input) (mkProgram pat op mp fl false).op j q) :
    (mkProgram pat op mp fl false).isMatch lower input = .ok false :=
  ok_false_of_not (isMatch_eq pat op mp fl lower input hwf hnb hne hsm hlen hC hP) hno

/-! ## 5. optimisations never change a result (C08, as a theorem on this class of programs) -/

/-- the search with every shortcut off has the same characterisation -/
theorem matchesNaive_complete (ctx : Ctx) (op : Op) (hC : CompleteAt ctx op) (hQ : Quiet ctx op)
    (i : Nat) (st : St) (hst : st.panic = none) :
    (matchesNaive ctx op i st).1 = true ↔ ∃ j q, i ≤ j ∧ j ≤ ctx.len ∧ OpR ctx op j q :=
  (matchesNaive_outcome hC hQ i st hst).iff

theorem opt_eq_noopt_of_facts (ctx : Ctx) (pr : Prog) (F : SearchFacts ctx pr)
    (hlen : ctx.len < usizeMax) (hC : CompleteAt ctx pr.op) (hQ : Quiet ctx pr.op)
    (hP : ∀ q ∈ pr.pres, CompleteAt ctx q.op ∧ QuietAll ctx q.op)
    (hwf : wfOp pr.op = true) (hcp : C02.capsPos pr.op = true)
    (i : Nat) (hi : i ≤ ctx.len) (st1 st2 : St) (h1 : st1.panic = none) (h2 : st2.panic = none) :
    (matchesFrom ctx pr i st1).1 = (matchesNaive ctx pr.op i st2).1 ∧
    ((matchesFrom ctx pr i st1).1 = true →
      getParenStart (matchesFrom ctx pr i st1).2 0 = getParenStart (matchesNaive ctx pr.op i st2).2 0 ∧
      ∃ j, getParenStart (matchesFrom ctx pr i st1).2 0 = some j) :=
  (matchesFrom_outcome F hlen hC hQ hP i hi st1 h1).agree hwf hcp (matchesNaive_outcome hC hQ i st2 h2)

/-- the search with all shortcuts and the search with none give the same Boolean and, on success,
    the same recorded start of group 0 — from any two clean states (the end of the match is the
    engine's first result at that start and may depend on the zero-length-match memo, i.e. on
    which positions were tried before: no claim) -/
theorem opt_eq_noopt (pat : List Nat) (op : Op) (mp : Nat) (fl : CFlags)
    (lower : Nat → Nat) (input : List Nat)
    (hwf : wfOp op = true) (hnb : hasBackref op = false) (hne : C08.noEmptyAtoms op = true)
    (hcp : C02.capsPos op = true)
    (hsm : C06.smallMin input.length op = true) (hlen : input.length < usizeMax)
    (hC : CompleteAt ((mkProgram pat op mp fl false).ctx lower input) (mkProgram pat op mp fl false).op)
    (hP : ∀ pre ∈ (mkProgram pat op mp fl false).pres,
      CompleteAt ((mkProgram pat op mp fl false).ctx lower input) pre.op)
    (i : Nat) (hi : i ≤ input.length) (st1 st2 : St) (h1 : st1.panic = none) (h2 : st2.panic = none) :
    let pr := mkProgram pat op mp fl false
    let ctx := pr.ctx lower input
    (matchesFrom ctx pr i st1).1 = (matchesNaive ctx pr.op i st2).1 ∧
    ((matchesFrom ctx pr i st1).1 = true →
      getParenStart (matchesFrom ctx pr i st1).2 0 = getParenStart (matchesNaive ctx pr.op i st2).2 0 ∧
      ∃ j, getParenStart (matchesFrom ctx pr i st1).2 0 = some j) := by
  intro pr ctx
  obtain ⟨hw, _, hc⟩ := mkProgram_tree pat op mp fl false
  exact (mkProgram_outcome pat op mp fl lower input hwf hnb hne hsm hlen hC i hi st1 h1).agree
    (hw.trans hwf) (hc.trans hcp)
    (matchesNaive_outcome hC (mkProgram_quiet pat op mp fl lower input hwf hnb hsm) i st2 h2)

/-- C08 for `is_match`-style searches: optimised program vs. bare program -/
theorem opt_eq_bare (pat : List Nat) (op : Op) (mp : Nat) (fl : CFlags)
    (lower : Nat → Nat) (input : List Nat)
    (hwf : wfOp op = true) (hnb : hasBackref op = false) (hne : C08.noEmptyAtoms op = true)
    (hcp : C02.capsPos op = true)
    (hsm : C06.smallMin input.length op = true) (hlen : input.length < usizeMax)
    (hC : CompleteAt ((mkProgram pat op mp fl false).ctx lower input) (mkProgram pat op mp fl false).op)
    (hP : ∀ pre ∈ (mkProgram pat op mp fl false).pres,
      CompleteAt ((mkProgram pat op mp fl false).ctx lower input) pre.op)
    (i : Nat) (hi : i ≤ input.length) (st1 st2 : St) (h1 : st1.panic = none) (h2 : st2.panic = none) :
    let pr := mkProgram pat op mp fl false
    let bare := mkBareProgram pat op mp fl false
    (matchesFrom (pr.ctx lower input) pr i st1).1 = (matchesFrom (bare.ctx lower input) bare i st2).1 ∧
    ((matchesFrom (pr.ctx lower input) pr i st1).1 = true →
      getParenStart (matchesFrom (pr.ctx lower input) pr i st1).2 0 =
        getParenStart (matchesFrom (bare.ctx lower input) bare i st2).2 0) := by
  intro pr bare
  rw [bare_matchesFrom pat op op mp fl false lower input i hi st2]
  have := opt_eq_noopt pat op mp fl lower input hwf hnb hne hcp hsm hlen hC hP i hi st1 st2 h1 h2
  exact ⟨this.1, fun ht => (this.2 ht).1⟩

/-! ## 6. non-vacuity: concrete compiled programs, one per branch of `matchesFrom`, whose trees are in the
    fragment of Spec/Enum, where `CompleteAt` is proved (`completeAt_clean`); the trees are what the model's
    compiler produces for the pattern texts (checked by `decide +kernel` for the first one) -/

section nonvacuity

/-- `ab|ac` — plain scan behind the minimum-length cut-off, no preconditions -/
def opAbAc : Op := .seq [.choice [.atom [97, 98], .atom [97, 99]], .endProgram]
/-- `a(?:b|c)` — literal prefix (and one recorded precondition) -/
def opPrefix : Op := .seq [.atom [97], .choice [.atom [98], .atom [99]], .endProgram]
/-- `[ab]c` — initial character class (and two recorded preconditions) -/
def opIcc : Op := .seq [.cls [(97, 99)], .atom [99], .endProgram]
/-- `^a(?:b|c)` — start anchor (single-line: one `match_at(0)` behind `check_preconditions`;
    multi-line: after every newline) -/
def opBol : Op := .seq [.bol, .atom [97], .choice [.atom [98], .atom [99]], .endProgram]

private def env0 : Env :=
  { lower := id, closure := fun _ => [], category := fun _ => none, block := fun _ => none,
    digit := [], word := [], nameStart := [], nameChar := [] }

/-- the tree really is what the model's compiler builds for the pattern text `ab|ac` -/
theorem opAbAc_compiled :
    (match compileCore env0 {} [97, 98, 124, 97, 99] true with
     | .ok pr =>
       (match pr.op with
        | .seq [.choice [.atom [97, 98], .atom [97, 99]], .endProgram] => true
        | _ => false) && pr.pres.isEmpty && pr.minLen == 2
     | _ => false) = true := by decide +kernel

/-- `ab|ac`: `is_match` decides "some substring is in the language", on every input -/
theorem nonvacuous_abac (pat : List Nat) (lower : Nat → Nat) (input : List Nat)
    (hlen : input.length < usizeMax) :
    (mkProgram pat opAbAc 1 {} false).isMatch lower input = .ok true ↔
      ∃ j q, j ≤ input.length ∧ OpR ((mkProgram pat opAbAc 1 {} false).ctx lower input) opAbAc j q :=
  isMatch_iff pat opAbAc 1 {} lower input rfl rfl rfl rfl hlen (completeAt_clean _ _ rfl rfl)
    (mkProgram_pres_completeAt pat opAbAc 1 {} false _ rfl rfl)

/-- `a(?:b|c)`: the literal-prefix scan -/
theorem nonvacuous_prefix (pat : List Nat) (lower : Nat → Nat) (input : List Nat)
    (hlen : input.length < usizeMax) :
    (mkProgram pat opPrefix 1 {} false).prefix_ = some [97] ∧
    ((mkProgram pat opPrefix 1 {} false).isMatch lower input = .ok true ↔
      ∃ j q, j ≤ input.length ∧ OpR ((mkProgram pat opPrefix 1 {} false).ctx lower input) opPrefix j q) :=
  ⟨rfl, isMatch_iff pat opPrefix 1 {} lower input rfl rfl rfl rfl hlen (completeAt_clean _ _ rfl rfl)
    (mkProgram_pres_completeAt pat opPrefix 1 {} false _ rfl rfl)⟩

/-- `[ab]c`: the initial-character-class filter -/
theorem nonvacuous_icc (pat : List Nat) (lower : Nat → Nat) (input : List Nat)
    (hlen : input.length < usizeMax) :
    (mkProgram pat opIcc 1 {} false).icc = some [(97, 99)] ∧
    ((mkProgram pat opIcc 1 {} false).isMatch lower input = .ok true ↔
      ∃ j q, j ≤ input.length ∧ OpR ((mkProgram pat opIcc 1 {} false).ctx lower input) opIcc j q) :=
  ⟨rfl, isMatch_iff pat opIcc 1 {} lower input rfl rfl rfl rfl hlen (completeAt_clean _ _ rfl rfl)
    (mkProgram_pres_completeAt pat opIcc 1 {} false _ rfl rfl)⟩

/-- `^a(?:b|c)`, single-line and multi-line: the start-anchor path (with a precondition at the
    fixed position 0 in single-line mode) -/
theorem nonvacuous_bol (ml : Bool) (pat : List Nat) (lower : Nat → Nat) (input : List Nat)
    (hlen : input.length < usizeMax) :
    (mkProgram pat opBol 1 { multiLine := ml } false).hasBol = true ∧
    ((mkProgram pat opBol 1 { multiLine := ml } false).isMatch lower input = .ok true ↔
      ∃ j q, j ≤ input.length ∧
        OpR ((mkProgram pat opBol 1 { multiLine := ml } false).ctx lower input) opBol j q) :=
  ⟨rfl, isMatch_iff pat opBol 1 { multiLine := ml } lower input rfl rfl rfl rfl hlen (completeAt_clean _ _ rfl rfl)
    (mkProgram_pres_completeAt pat opBol 1 { multiLine := ml } false _ rfl rfl)⟩

/-- and C08 on a concrete program: the prefix scan and the plain scan report the same start -/
theorem nonvacuous_opt_eq (pat : List Nat) (lower : Nat → Nat) (input : List Nat)
    (hlen : input.length < usizeMax) (i : Nat) (hi : i ≤ input.length) :
    (matchesFrom ((mkProgram pat opPrefix 1 {} false).ctx lower input) (mkProgram pat opPrefix 1 {} false) i {}).1 =
      (matchesNaive ((mkProgram pat opPrefix 1 {} false).ctx lower input) opPrefix i {}).1 :=
  (opt_eq_noopt pat opPrefix 1 {} lower input rfl rfl rfl rfl rfl hlen (completeAt_clean _ _ rfl rfl)
    (mkProgram_pres_completeAt pat opPrefix 1 {} false _ rfl rfl) i hi {} {} rfl rfl).1

end nonvacuity

/-! ## the hypotheses are needed -/

section needed

/-- `CompleteAt` quantified over the states of `C05.NoPanic`
    (marker clear OR the divergence marker).  It implies the one used here. -/
def CompleteAtNP (ctx : Ctx) (o : Op) : Prop :=
  ∀ j st, j ≤ ctx.len → C05.NoPanic st →
    (((first1 (sem ctx o j st)).1.isSome = true) ↔ ∃ q, OpR ctx o j q)

theorem CompleteAtNP.completeAt {ctx : Ctx} {o : Op} (h : CompleteAtNP ctx o) : CompleteAt ctx o :=
  fun j st hj hst => h j st hj (.inl hst)

/-- the statement of `matchesFrom_complete` with the start state only required to satisfy
    `C05.NoPanic` — FALSE: `NoPanic` allows the divergence marker, and with the marker set
    the candidate loop gives up after the first failing candidate (`if st'.panic.isSome then …`).
    Kept as a `Prop`, refuted by `matchesFrom_complete_noPanic_false`; the true statement
    (marker clear: `st.panic = none`, which is what every API entry point starts from and what the
    loop preserves) is `matchesFrom_complete`. -/
def matchesFrom_complete_noPanic : Prop :=
  ∀ (pat : List Nat) (op : Op) (mp : Nat) (fl : CFlags) (lower : Nat → Nat) (input : List Nat),
    wfOp op = true → hasBackref op = false → C08.noEmptyAtoms op = true →
    C06.smallMin input.length op = true → input.length < usizeMax →
    CompleteAt ((mkProgram pat op mp fl false).ctx lower input) (mkProgram pat op mp fl false).op →
    (∀ pre ∈ (mkProgram pat op mp fl false).pres,
      CompleteAt ((mkProgram pat op mp fl false).ctx lower input) pre.op) →
    ∀ (i : Nat), i ≤ input.length → ∀ (st : St), C05.NoPanic st →
    ((matchesFrom ((mkProgram pat op mp fl false).ctx lower input) (mkProgram pat op mp fl false) i st).1 = true ↔
      ∃ j q, i ≤ j ∧ j ≤ input.length ∧
        OpR ((mkProgram pat op mp fl false).ctx lower input) (mkProgram pat op mp fl false).op j q)

/-- `ab|ac` on "xab" from a state carrying the divergence marker: no match reported, one exists -/
theorem matchesFrom_complete_noPanic_false : ¬ matchesFrom_complete_noPanic := by
  intro h
  have h1 := h [] opAbAc 1 {} id [120, 97, 98] rfl rfl rfl rfl (by decide)
    (completeAt_clean _ _ rfl rfl) (fun pre hpre => by cases hpre) 0 (Nat.zero_le _)
    { panic := some panicDiverge } (.inr rfl)
  have h2 : (matchesFrom ((mkProgram [] opAbAc 1 {} false).ctx id [120, 97, 98])
      (mkProgram [] opAbAc 1 {} false) 0 { panic := some panicDiverge }).1 = false := by decide +kernel
  rw [h2] at h1
  have h3 := h1.2 ⟨1, 3, Nat.zero_le _, by decide, by
    show OpR _ opAbAc 1 3
    simp only [opAbAc, OpR, OpRSeq, OpRAny]
    exact ⟨3, .inl ⟨rfl, by decide, by decide⟩, 3, rfl, rfl⟩⟩
  cases h3

/-- a tree with an EMPTY literal behind a non-literal first element (the compiler never builds
    one: it emits `nothing` for every empty construct; the only compiled tree with an empty literal
    is the literal program for the pattern "" under flag `q`, which has a prefix and is the subject
    of Proofs/LiteralLemmas) -/
def opEmptyAtom : Op := .seq [.nothing, .atom [], .endProgram]

/-- why `noEmptyAtoms` is a hypothesis: on such a tree the PRECONDITION shortcut loses a match.
    `add_precondition` records the empty literal as "must occur at some position `< len`"; on the
    empty input there is no such position, `check_preconditions` refuses, although the tree
    matches the empty string at 0 — the engine test is complete there, and the bare program
    finds it. -/
theorem noEmptyAtoms_needed :
    C08.noEmptyAtoms opEmptyAtom = false ∧
    CompleteAt ((mkProgram [] opEmptyAtom 1 {} false).ctx id []) opEmptyAtom ∧
    (mkProgram [] opEmptyAtom 1 {} false).isMatch id [] = .ok false ∧
    (mkBareProgram [] opEmptyAtom 1 {} false).isMatch id [] = .ok true ∧
    OpR ((mkProgram [] opEmptyAtom 1 {} false).ctx id []) opEmptyAtom 0 0 := by
  refine ⟨rfl, completeAt_clean _ _ rfl rfl, by decide +kernel, by decide +kernel, ?_⟩
  simp only [opEmptyAtom, OpR, OpRSeq]
  exact ⟨0, rfl, 0, ⟨rfl, Nat.zero_le _, rfl⟩, 0, rfl, rfl⟩

end needed

end Rx.SearchComplete
