/-
  Props/Clean4Laws — two families of laws carried over to the larger fragments `cleanProg3` (greedy variable
  repeats over deterministic bodies, Spec/Enum3) and `cleanProg4` (plus general reluctant repeats, Spec/Enum4).

  A. CASE INVARIANCE (C11), the `enum4` versions of Props/C11c:
       `enum4_case_invariant`, `enum4_pattern_case_invariant` (and `enum3_…`): the ordered enumerations are
         EQUAL LISTS on case-equivalent inputs / for case-equivalent trees (every tree; `CaseEquivOps` of
         Spec/InputPreds relates `.rep` nodes with case-equivalent bodies).
       `clean4_isMatch_case_invariant`, `clean4_span_case_invariant`, `clean4_pattern_case_invariant`:
         same `is_match`, same Boolean of `matches(i)`, same (start, end) of group 0.
       `clean4_…_case_invariant_std`: the real lower-case table `Env.std.lower` on inputs without U+0130.
         As for Clean2 (Props/C11c, header item 4) the Clean4 completeness theorems need under flag i the
         UNRESTRICTED `CaseOK env lower` of the tables `env` used for the side conditions of `cleanProg4`;
         that is false of `env = Env.std` (`EnvStd.caseOK_std_false`), so `env` stays a parameter here.
       `clean3_…`, `C11c.clean2_…`: the `cleanProg3` and `cleanProg2` corollaries.
  B. EQUIVALENT SPELLINGS (C20): `api4_same_language`, `api4_same_spans`, `api4_same_spans_of_unique`
     (the `RegexOK` theorems of Proofs/ApiRegexLemmas at `Clean4Regex`).
-/
import RxModel.Proofs.Clean4CaseLemmas
import RxModel.Props.Clean4Api
import RxModel.Proofs.OpEq
import RxModel.Props.C11c
namespace Rx.Clean4Laws
open Rx Rx.C11b Rx.SearchComplete Rx.Clean4Case
open Rx.C08 (noEmptyAtoms)

/-! ## A.1 the ordered enumeration -/

/-- **`enum4` on case-equivalent inputs**: the same ends in the same priority order (every tree) -/
theorem enum4_case_invariant (A : Nat → Bool) (ctx : Ctx) (ys : List Nat) (hcb : ctx.caseBlind = true)
    (hin : CaseEquivInputs ctx.lower ctx.input ys) (hA : Over A ctx.input) (hA' : Over A ys)
    (hnl : NewlineCaseless ctx.lower) (op : Op) (hc : allClsClosedOn A ctx.lower op) (p : Nat) :
    enum4 ctx op p = enum4 { ctx with input := ys } op p := by
  rw [enum4_eq_K, enum4_eq_K, CaseE.enumK_inv_op enumH4 A ctx _ (sameSettings_input ctx ys) hcb hin hA hA' hnl op hc]

/-- **`enum4` of two case-equivalent trees** (`CaseEquivOps` relates `.rep` nodes with the same id, bounds
    and greediness and case-equivalent bodies) -/
theorem enum4_pattern_case_invariant (ctx : Ctx) (hcb : ctx.caseBlind = true) (op op' : Op)
    (he : CaseEquivOps ctx.lower op op') (p : Nat) : enum4 ctx op p = enum4 ctx op' p := by
  rw [enum4_eq_K, enum4_eq_K, (CaseE.enumK_pat enumH4 ctx hcb).1 op op' he]

theorem enum3_case_invariant (A : Nat → Bool) (ctx : Ctx) (ys : List Nat) (hcb : ctx.caseBlind = true)
    (hin : CaseEquivInputs ctx.lower ctx.input ys) (hA : Over A ctx.input) (hA' : Over A ys)
    (hnl : NewlineCaseless ctx.lower) (op : Op) (hc : allClsClosedOn A ctx.lower op) (p : Nat) :
    enum3 ctx op p = enum3 { ctx with input := ys } op p := by
  rw [enum3_eq_K, enum3_eq_K, CaseE.enumK_inv_op enumH3 A ctx _ (sameSettings_input ctx ys) hcb hin hA hA' hnl op hc]

theorem enum3_pattern_case_invariant (ctx : Ctx) (hcb : ctx.caseBlind = true) (op op' : Op)
    (he : CaseEquivOps ctx.lower op op') (p : Nat) : enum3 ctx op p = enum3 ctx op' p := by
  rw [enum3_eq_K, enum3_eq_K, (CaseE.enumK_pat enumH3 ctx hcb).1 op op' he]

/-! ## A.2 `is_match` and the reported span on case-equivalent inputs (`cleanProg4` fragment)

  `InputOKFor` is needed for BOTH inputs (their characters differ).  The side conditions `detB`, `nonNull`,
  first sets of `cleanProg4` refer to the tree only. -/

/-- **`is_match` on case-equivalent inputs**, general greedy and reluctant repeats allowed -/
theorem clean4_isMatch_case_invariant (A : Nat → Bool) (env : Env) (pat : List Nat) (op : Op) (mp : Nat)
    (fl : CFlags) (lower : Nat → Nat) (xs ys : List Nat) (hi : fl.caseBlind = true)
    (hIx : InputOKFor env fl lower xs) (hIy : InputOKFor env fl lower ys)
    (hc : cleanProg4 env fl.caseBlind fl.multiLine (mkProgram pat op mp fl false).op = true)
    (hwf : wfOp op = true) (hne : noEmptyAtoms op = true)
    (hcan : clsCanonB (mkProgram pat op mp fl false).op = true)
    (hcl : allClsClosedOn A lower op) (hnl : NewlineCaseless lower)
    (hin : CaseEquivInputs lower xs ys) (hA : Over A xs) (hA' : Over A ys) (hlen : xs.length < usizeMax) :
    (mkProgram pat op mp fl false).isMatch lower xs = (mkProgram pat op mp fl false).isMatch lower ys :=
  ((clean4_progOK env pat op mp fl lower xs hIx hc hwf hne hcan hlen).agree
    (clean4_progOK env pat op mp fl lower ys hIy hc hwf hne hcan (hin.1 ▸ hlen)) hin.1
    (funext (enum4_case_invariant A _ ys ((MkProgram.caseBlind pat op mp fl false).trans hi) hin hA hA' hnl _
      (allClsClosedOn_mkProgram A lower pat op mp fl false hcl)))).1

/-- **`matches(i)` on case-equivalent inputs**: same Boolean, same start AND same end of group 0, from any
    two clean states -/
theorem clean4_span_case_invariant (A : Nat → Bool) (env : Env) (pat : List Nat) (op : Op) (mp : Nat)
    (fl : CFlags) (lower : Nat → Nat) (xs ys : List Nat) (hi : fl.caseBlind = true)
    (hIx : InputOKFor env fl lower xs) (hIy : InputOKFor env fl lower ys)
    (hc : cleanProg4 env fl.caseBlind fl.multiLine (mkProgram pat op mp fl false).op = true)
    (hwf : wfOp op = true) (hne : noEmptyAtoms op = true)
    (hcan : clsCanonB (mkProgram pat op mp fl false).op = true)
    (hcl : allClsClosedOn A lower op) (hnl : NewlineCaseless lower)
    (hin : CaseEquivInputs lower xs ys) (hA : Over A xs) (hA' : Over A ys) (hlen : xs.length < usizeMax)
    (i : Nat) (hix : i ≤ xs.length) (st1 st2 : St) (h1 : st1.panic = none) (h2 : st2.panic = none) :
    let pr := mkProgram pat op mp fl false
    (matchesFrom (pr.ctx lower xs) pr i st1).1 = (matchesFrom (pr.ctx lower ys) pr i st2).1 ∧
    (C02.capsPos op = true → (matchesFrom (pr.ctx lower xs) pr i st1).1 = true →
      getParenStart (matchesFrom (pr.ctx lower xs) pr i st1).2 0 =
        getParenStart (matchesFrom (pr.ctx lower ys) pr i st2).2 0 ∧
      getParenEnd (matchesFrom (pr.ctx lower xs) pr i st1).2 0 =
        getParenEnd (matchesFrom (pr.ctx lower ys) pr i st2).2 0) := by
  intro pr
  -- both searches are complete with the enumeration `enum4`, and `enum4` is the same list on the two inputs
  have h := ((clean4_progOK env pat op mp fl lower xs hIx hc hwf hne hcan hlen).agree
    (clean4_progOK env pat op mp fl lower ys hIy hc hwf hne hcan (hin.1 ▸ hlen)) hin.1
    (funext (enum4_case_invariant A _ ys ((MkProgram.caseBlind pat op mp fl false).trans hi) hin hA hA' hnl _
      (allClsClosedOn_mkProgram A lower pat op mp fl false hcl)))).2 i hix st1 st2 h1 h2
  have hcp' := (mkProgram_tree pat op mp fl false).2.2
  exact ⟨h.1, fun hcp => h.2 (hcp'.trans hcp) (hcp'.trans hcp)⟩

/-! ## A.3 pattern letters replaced by case counterparts -/

/-- **two case-equivalent trees on one input**: the same `is_match` answer, the same Boolean of
    `matches(i)`, the same start and the same end of group 0 -/
theorem clean4_pattern_case_invariant (env : Env) (pat1 pat2 : List Nat) (op1 op2 : Op) (mp : Nat) (fl : CFlags)
    (lower : Nat → Nat) (input : List Nat) (hi : fl.caseBlind = true) (hI : InputOKFor env fl lower input)
    (hc1 : cleanProg4 env fl.caseBlind fl.multiLine (mkProgram pat1 op1 mp fl false).op = true)
    (hwf1 : wfOp op1 = true) (hne1 : noEmptyAtoms op1 = true)
    (hcan1 : clsCanonB (mkProgram pat1 op1 mp fl false).op = true)
    (hc2 : cleanProg4 env fl.caseBlind fl.multiLine (mkProgram pat2 op2 mp fl false).op = true)
    (hwf2 : wfOp op2 = true) (hne2 : noEmptyAtoms op2 = true)
    (hcan2 : clsCanonB (mkProgram pat2 op2 mp fl false).op = true)
    (he : CaseEquivOps lower op1 op2) (hlen : input.length < usizeMax) :
    let pr1 := mkProgram pat1 op1 mp fl false
    let pr2 := mkProgram pat2 op2 mp fl false
    pr1.isMatch lower input = pr2.isMatch lower input ∧
    ∀ (i : Nat), i ≤ input.length → ∀ (st1 st2 : St), st1.panic = none → st2.panic = none →
      (matchesFrom (pr1.ctx lower input) pr1 i st1).1 = (matchesFrom (pr2.ctx lower input) pr2 i st2).1 ∧
      (C02.capsPos op1 = true → C02.capsPos op2 = true → (matchesFrom (pr1.ctx lower input) pr1 i st1).1 = true →
        getParenStart (matchesFrom (pr1.ctx lower input) pr1 i st1).2 0 =
          getParenStart (matchesFrom (pr2.ctx lower input) pr2 i st2).2 0 ∧
        getParenEnd (matchesFrom (pr1.ctx lower input) pr1 i st1).2 0 =
          getParenEnd (matchesFrom (pr2.ctx lower input) pr2 i st2).2 0) := by
  intro pr1 pr2
  have h := (clean4_progOK env pat1 op1 mp fl lower input hI hc1 hwf1 hne1 hcan1 hlen).agree
    (clean4_progOK env pat2 op2 mp fl lower input hI hc2 hwf2 hne2 hcan2 hlen) rfl
    (MkProgram.ctx_eq pat1 op1 mp fl false pat2 op2 lower input ▸
      funext (enum4_pattern_case_invariant _ ((MkProgram.caseBlind pat1 op1 mp fl false).trans hi) _ _
        (caseEquiv_mkProgram lower pat1 pat2 op1 op2 mp fl false he)))
  exact ⟨h.1, fun i hii st1 st2 h1 h2 => ⟨(h.2 i hii st1 st2 h1 h2).1, fun hcp1 hcp2 =>
    (h.2 i hii st1 st2 h1 h2).2 ((mkProgram_tree pat1 op1 mp fl false).2.2.trans hcp1)
      ((mkProgram_tree pat2 op2 mp fl false).2.2.trans hcp2)⟩⟩

/-! ## A.4 the real lower-case table, inputs without U+0130 -/

/-- **`is_match` under flag i with the real lower-case table**: classes checked by the decidable
    `allClsB (clsClosedOnB notDottedI)`, inputs case-equivalent and without U+0130.  `env` (the tables used by
    the side conditions of `cleanProg4`) must be case-adequate for `Env.std.lower` (`InputOKFor`). -/
theorem clean4_isMatch_case_invariant_std (env : Env) (pat : List Nat) (op : Op) (mp : Nat) (fl : CFlags)
    (xs ys : List Nat) (hi : fl.caseBlind = true)
    (hIx : InputOKFor env fl Env.std.lower xs) (hIy : InputOKFor env fl Env.std.lower ys)
    (hc : cleanProg4 env fl.caseBlind fl.multiLine (mkProgram pat op mp fl false).op = true)
    (hwf : wfOp op = true) (hne : noEmptyAtoms op = true)
    (hcan : clsCanonB (mkProgram pat op mp fl false).op = true)
    (hchk : allClsB (clsClosedOnB notDottedI) op = true)
    (hin : CaseEquivInputs Env.std.lower xs ys) (hx : Over notDottedI xs) (hy : Over notDottedI ys)
    (hlen : xs.length < usizeMax) :
    (mkProgram pat op mp fl false).isMatch Env.std.lower xs = (mkProgram pat op mp fl false).isMatch Env.std.lower ys :=
  clean4_isMatch_case_invariant notDottedI env pat op mp fl Env.std.lower xs ys hi hIx hIy hc hwf hne hcan
    (allClsClosedOn_of_check notDottedI op hchk) newlineCaseless_std hin hx hy hlen

/-- … and so are the Boolean of `matches(i)` and the span of group 0 -/
theorem clean4_span_case_invariant_std (env : Env) (pat : List Nat) (op : Op) (mp : Nat) (fl : CFlags)
    (xs ys : List Nat) (hi : fl.caseBlind = true)
    (hIx : InputOKFor env fl Env.std.lower xs) (hIy : InputOKFor env fl Env.std.lower ys)
    (hc : cleanProg4 env fl.caseBlind fl.multiLine (mkProgram pat op mp fl false).op = true)
    (hwf : wfOp op = true) (hne : noEmptyAtoms op = true)
    (hcan : clsCanonB (mkProgram pat op mp fl false).op = true)
    (hchk : allClsB (clsClosedOnB notDottedI) op = true)
    (hin : CaseEquivInputs Env.std.lower xs ys) (hx : Over notDottedI xs) (hy : Over notDottedI ys)
    (hlen : xs.length < usizeMax)
    (i : Nat) (hix : i ≤ xs.length) (st1 st2 : St) (h1 : st1.panic = none) (h2 : st2.panic = none) :
    let pr := mkProgram pat op mp fl false
    (matchesFrom (pr.ctx Env.std.lower xs) pr i st1).1 = (matchesFrom (pr.ctx Env.std.lower ys) pr i st2).1 ∧
    (C02.capsPos op = true → (matchesFrom (pr.ctx Env.std.lower xs) pr i st1).1 = true →
      getParenStart (matchesFrom (pr.ctx Env.std.lower xs) pr i st1).2 0 =
        getParenStart (matchesFrom (pr.ctx Env.std.lower ys) pr i st2).2 0 ∧
      getParenEnd (matchesFrom (pr.ctx Env.std.lower xs) pr i st1).2 0 =
        getParenEnd (matchesFrom (pr.ctx Env.std.lower ys) pr i st2).2 0) :=
  clean4_span_case_invariant notDottedI env pat op mp fl Env.std.lower xs ys hi hIx hIy hc hwf hne hcan
    (allClsClosedOn_of_check notDottedI op hchk) newlineCaseless_std hin hx hy hlen i hix st1 st2 h1 h2

/-! ## A.5 the `cleanProg3` corollaries (greedy variable repeats only) -/

theorem clean3_isMatch_case_invariant (A : Nat → Bool) (env : Env) (pat : List Nat) (op : Op) (mp : Nat)
    (fl : CFlags) (lower : Nat → Nat) (xs ys : List Nat) (hi : fl.caseBlind = true)
    (hIx : InputOKFor env fl lower xs) (hIy : InputOKFor env fl lower ys)
    (hc : cleanProg3 env fl.caseBlind fl.multiLine (mkProgram pat op mp fl false).op = true)
    (hwf : wfOp op = true) (hne : noEmptyAtoms op = true)
    (hcan : clsCanonB (mkProgram pat op mp fl false).op = true)
    (hcl : allClsClosedOn A lower op) (hnl : NewlineCaseless lower)
    (hin : CaseEquivInputs lower xs ys) (hA : Over A xs) (hA' : Over A ys) (hlen : xs.length < usizeMax) :
    (mkProgram pat op mp fl false).isMatch lower xs = (mkProgram pat op mp fl false).isMatch lower ys :=
  clean4_isMatch_case_invariant A env pat op mp fl lower xs ys hi hIx hIy
    (Clean4.cleanProg4_of_cleanProg3 env _ _ _ hc) hwf hne hcan hcl hnl hin hA hA' hlen

theorem clean3_span_case_invariant (A : Nat → Bool) (env : Env) (pat : List Nat) (op : Op) (mp : Nat)
    (fl : CFlags) (lower : Nat → Nat) (xs ys : List Nat) (hi : fl.caseBlind = true)
    (hIx : InputOKFor env fl lower xs) (hIy : InputOKFor env fl lower ys)
    (hc : cleanProg3 env fl.caseBlind fl.multiLine (mkProgram pat op mp fl false).op = true)
    (hwf : wfOp op = true) (hne : noEmptyAtoms op = true)
    (hcan : clsCanonB (mkProgram pat op mp fl false).op = true)
    (hcl : allClsClosedOn A lower op) (hnl : NewlineCaseless lower)
    (hin : CaseEquivInputs lower xs ys) (hA : Over A xs) (hA' : Over A ys) (hlen : xs.length < usizeMax)
    (i : Nat) (hix : i ≤ xs.length) (st1 st2 : St) (h1 : st1.panic = none) (h2 : st2.panic = none) :
    let pr := mkProgram pat op mp fl false
    (matchesFrom (pr.ctx lower xs) pr i st1).1 = (matchesFrom (pr.ctx lower ys) pr i st2).1 ∧
    (C02.capsPos op = true → (matchesFrom (pr.ctx lower xs) pr i st1).1 = true →
      getParenStart (matchesFrom (pr.ctx lower xs) pr i st1).2 0 =
        getParenStart (matchesFrom (pr.ctx lower ys) pr i st2).2 0 ∧
      getParenEnd (matchesFrom (pr.ctx lower xs) pr i st1).2 0 =
        getParenEnd (matchesFrom (pr.ctx lower ys) pr i st2).2 0) :=
  clean4_span_case_invariant A env pat op mp fl lower xs ys hi hIx hIy
    (Clean4.cleanProg4_of_cleanProg3 env _ _ _ hc) hwf hne hcan hcl hnl hin hA hA' hlen i hix st1 st2 h1 h2

end Rx.Clean4Laws

namespace Rx.C11c
open Rx Rx.C11b Rx.SearchComplete Rx.Clean4Laws
open Rx.C08 (noEmptyAtoms)

/-! ## A.6 the same with the optimiser's `.unamb` nodes (`cleanProg2` fragment)

  `InputOKFor env fl lower input` (Spec/InputPreds): under flag i the case tables are coherent
  (`CaseOK env lower`), closure members and input characters are code points, no surrogate in the
  input.  It is needed for BOTH inputs (their characters differ). -/

/- A program of `cleanProg2` is one of `cleanProg4` and is its own numbered tree, so these are the
   `clean4_…` theorems. -/

/-- **`is_match` on case-equivalent inputs**, `.unamb` allowed -/
theorem clean2_isMatch_case_invariant (A : Nat → Bool) (env : Env) (pat : List Nat) (op : Op) (mp : Nat)
    (fl : CFlags) (lower : Nat → Nat) (xs ys : List Nat) (hi : fl.caseBlind = true)
    (hIx : InputOKFor env fl lower xs) (hIy : InputOKFor env fl lower ys)
    (hc : cleanProg2 env fl.caseBlind fl.multiLine op = true) (hwf : wfOp op = true)
    (hne : noEmptyAtoms op = true) (hcan : clsCanonB op = true)
    (hcl : allClsClosedOn A lower op) (hnl : NewlineCaseless lower)
    (hin : CaseEquivInputs lower xs ys) (hA : Over A xs) (hA' : Over A ys) (hlen : xs.length < usizeMax) :
    (mkProgram pat op mp fl false).isMatch lower xs = (mkProgram pat op mp fl false).isMatch lower ys := by
  have hop := mkProgram_op_shape2 pat op mp fl false (shape_of_cleanProg2 env _ _ _ hc)
  exact clean4_isMatch_case_invariant A env pat op mp fl lower xs ys hi hIx hIy
    (by rw [hop]; exact Clean4.cleanProg4_of_cleanProg2 env _ _ _ hc) hwf hne (by rw [hop]; exact hcan)
    hcl hnl hin hA hA' hlen

/-- **`matches(i)` on case-equivalent inputs**, `.unamb` allowed: same Boolean, same start, same end -/
theorem clean2_span_case_invariant (A : Nat → Bool) (env : Env) (pat : List Nat) (op : Op) (mp : Nat)
    (fl : CFlags) (lower : Nat → Nat) (xs ys : List Nat) (hi : fl.caseBlind = true)
    (hIx : InputOKFor env fl lower xs) (hIy : InputOKFor env fl lower ys)
    (hc : cleanProg2 env fl.caseBlind fl.multiLine op = true) (hwf : wfOp op = true)
    (hne : noEmptyAtoms op = true) (hcan : clsCanonB op = true)
    (hcl : allClsClosedOn A lower op) (hnl : NewlineCaseless lower)
    (hin : CaseEquivInputs lower xs ys) (hA : Over A xs) (hA' : Over A ys) (hlen : xs.length < usizeMax)
    (i : Nat) (hix : i ≤ xs.length) (st1 st2 : St) (h1 : st1.panic = none) (h2 : st2.panic = none) :
    let pr := mkProgram pat op mp fl false
    (matchesFrom (pr.ctx lower xs) pr i st1).1 = (matchesFrom (pr.ctx lower ys) pr i st2).1 ∧
    (C02.capsPos op = true → (matchesFrom (pr.ctx lower xs) pr i st1).1 = true →
      getParenStart (matchesFrom (pr.ctx lower xs) pr i st1).2 0 =
        getParenStart (matchesFrom (pr.ctx lower ys) pr i st2).2 0 ∧
      getParenEnd (matchesFrom (pr.ctx lower xs) pr i st1).2 0 =
        getParenEnd (matchesFrom (pr.ctx lower ys) pr i st2).2 0) := by
  have hop := mkProgram_op_shape2 pat op mp fl false (shape_of_cleanProg2 env _ _ _ hc)
  exact clean4_span_case_invariant A env pat op mp fl lower xs ys hi hIx hIy
    (by rw [hop]; exact Clean4.cleanProg4_of_cleanProg2 env _ _ _ hc) hwf hne (by rw [hop]; exact hcan)
    hcl hnl hin hA hA' hlen i hix st1 st2 h1 h2

/-- **two case-equivalent trees on one input**, `.unamb` allowed -/
theorem clean2_pattern_case_invariant (env : Env) (pat1 pat2 : List Nat) (op1 op2 : Op) (mp : Nat) (fl : CFlags)
    (lower : Nat → Nat) (input : List Nat) (hi : fl.caseBlind = true) (hI : InputOKFor env fl lower input)
    (hc1 : cleanProg2 env fl.caseBlind fl.multiLine op1 = true) (hwf1 : wfOp op1 = true)
    (hne1 : noEmptyAtoms op1 = true) (hcan1 : clsCanonB op1 = true)
    (hc2 : cleanProg2 env fl.caseBlind fl.multiLine op2 = true) (hwf2 : wfOp op2 = true)
    (hne2 : noEmptyAtoms op2 = true) (hcan2 : clsCanonB op2 = true)
    (he : CaseEquivOps lower op1 op2) (hlen : input.length < usizeMax) :
    let pr1 := mkProgram pat1 op1 mp fl false
    let pr2 := mkProgram pat2 op2 mp fl false
    pr1.isMatch lower input = pr2.isMatch lower input ∧
    ∀ (i : Nat), i ≤ input.length → ∀ (st1 st2 : St), st1.panic = none → st2.panic = none →
      (matchesFrom (pr1.ctx lower input) pr1 i st1).1 = (matchesFrom (pr2.ctx lower input) pr2 i st2).1 ∧
      (C02.capsPos op1 = true → C02.capsPos op2 = true → (matchesFrom (pr1.ctx lower input) pr1 i st1).1 = true →
        getParenStart (matchesFrom (pr1.ctx lower input) pr1 i st1).2 0 =
          getParenStart (matchesFrom (pr2.ctx lower input) pr2 i st2).2 0 ∧
        getParenEnd (matchesFrom (pr1.ctx lower input) pr1 i st1).2 0 =
          getParenEnd (matchesFrom (pr2.ctx lower input) pr2 i st2).2 0) := by
  have hop1 := mkProgram_op_shape2 pat1 op1 mp fl false (shape_of_cleanProg2 env _ _ _ hc1)
  have hop2 := mkProgram_op_shape2 pat2 op2 mp fl false (shape_of_cleanProg2 env _ _ _ hc2)
  exact clean4_pattern_case_invariant env pat1 pat2 op1 op2 mp fl lower input hi hI
    (by rw [hop1]; exact Clean4.cleanProg4_of_cleanProg2 env _ _ _ hc1) hwf1 hne1 (by rw [hop1]; exact hcan1)
    (by rw [hop2]; exact Clean4.cleanProg4_of_cleanProg2 env _ _ _ hc2) hwf2 hne2 (by rw [hop2]; exact hcan2)
    he hlen

end Rx.C11c

namespace Rx.Clean4Laws
open Rx Rx.C11b Rx.SearchComplete Rx.Clean4Case
open Rx.C08 (noEmptyAtoms)

/-! ## A.7 non-vacuity: `(?:ab|c)+?c` under flag i with toy ASCII case tables, "xABcC" / "xabcc" -/

section example_

/-- ASCII lower-casing -/
def lowerA (x : Nat) : Nat := if 65 ≤ x ∧ x ≤ 90 then x + 32 else x
/-- tables whose case closure is the ASCII one -/
def envA : Env :=
  { lower := lowerA,
    closure := fun a => if 65 ≤ a ∧ a ≤ 90 then [a + 32] else if 97 ≤ a ∧ a ≤ 122 then [a - 32] else [],
    category := fun _ => none, block := fun _ => none, digit := [], word := [], nameStart := [], nameChar := [] }

theorem caseOK_A : C08.CaseOK envA lowerA := by
  refine ⟨fun a x h => ?_, fun a x h => ?_⟩
  · -- `x` and `a` have the same lower-case form: equal, or one is the capital of the other
    rw [C11.eqCB_iff_lower] at h
    have hl : ∀ y, lowerA y = if 65 ≤ y ∧ y ≤ 90 then y + 32 else y := fun _ => rfl
    rw [hl x, hl a] at h
    show x = a ∨ x ∈ (if 65 ≤ a ∧ a ≤ 90 then [a + 32] else if 97 ≤ a ∧ a ≤ 122 then [a - 32] else [])
    by_cases ha : 65 ≤ a ∧ a ≤ 90
    · rw [if_pos ha] at h ⊢
      by_cases hx : 65 ≤ x ∧ x ≤ 90
      · rw [if_pos hx] at h; exact .inl (by omega)
      · rw [if_neg hx] at h; exact .inr (List.mem_singleton.2 h)
    · rw [if_neg ha] at h ⊢
      by_cases hx : 65 ≤ x ∧ x ≤ 90
      · rw [if_pos hx] at h
        rw [if_pos (by omega)]
        exact .inr (List.mem_singleton.2 (by omega))
      · rw [if_neg hx] at h; exact .inl h
  · simp only [envA] at h
    split at h
    · simp only [List.mem_cons, List.not_mem_nil, or_false] at h
      simp only [cpLimit]; omega
    · split at h
      · simp only [List.mem_cons, List.not_mem_nil, or_false] at h
        simp only [cpLimit]; omega
      · cases h

theorem newlineCaseless_A : NewlineCaseless lowerA := newlineCaseless_ascii

def flI : CFlags := { caseBlind := true }
/-- "xABcC" and "xabcc" -/
def exUpper : List Nat := [120, 65, 66, 99, 67]
def exLower : List Nat := [120, 97, 98, 99, 99]

theorem inputOK_A (xs : List Nat) (h1 : ∀ c ∈ xs, c < cpLimit) (h2 : ∀ c ∈ xs, isSurrogate c = false) :
    InputOKFor envA flI lowerA xs :=
  ⟨fun _ => caseOK_A, caseOK_A.2, h1, h2⟩

/-- the decidable hypotheses for the tree of `(?:ab|c)+?c` (Props/Clean4 `exTree`) under flag i -/
theorem ex_ok_i :
    cleanProg4 envA flI.caseBlind flI.multiLine (mkProgram [] Clean4.exTree 1 flI false).op = true ∧
    wfOp Clean4.exTree = true ∧ noEmptyAtoms Clean4.exTree = true ∧
    clsCanonB (mkProgram [] Clean4.exTree 1 flI false).op = true ∧ C02.capsPos Clean4.exTree = true := by
  refine ⟨?_, ?_, ?_, ?_, ?_⟩ <;> decide +kernel

theorem ex_inputs : CaseEquivInputs lowerA exUpper exLower :=
  .cons (by decide) (.cons (by decide) (.cons (by decide) (.cons (by decide) (.cons (by decide) (.nil _)))))

/-- the hypotheses of `clean4_isMatch_case_invariant` / `clean4_span_case_invariant` are satisfiable: a general
    RELUCTANT repeat under flag i, the inputs "xABcC" and "xabcc" — same answer, same span -/
example :
    let pr := mkProgram [] Clean4.exTree 1 flI false
    pr.isMatch lowerA exUpper = pr.isMatch lowerA exLower ∧
    (matchesFrom (pr.ctx lowerA exUpper) pr 0 {}).1 = (matchesFrom (pr.ctx lowerA exLower) pr 0 {}).1 ∧
    ((matchesFrom (pr.ctx lowerA exUpper) pr 0 {}).1 = true →
      getParenStart (matchesFrom (pr.ctx lowerA exUpper) pr 0 {}).2 0 =
        getParenStart (matchesFrom (pr.ctx lowerA exLower) pr 0 {}).2 0 ∧
      getParenEnd (matchesFrom (pr.ctx lowerA exUpper) pr 0 {}).2 0 =
        getParenEnd (matchesFrom (pr.ctx lowerA exLower) pr 0 {}).2 0) := by
  obtain ⟨hc, hwf, hne, hcan, hcp⟩ := ex_ok_i
  have hIx := inputOK_A exUpper (by decide) (by decide)
  have hIy := inputOK_A exLower (by decide) (by decide)
  have hcl : allClsClosedOn (fun _ => true) lowerA Clean4.exTree := by
    simp only [allClsClosedOn, Clean4.exTree, allCls, allClsL, and_self]
  have hA : ∀ xs : List Nat, Over (fun _ => true) xs := fun _ _ _ => rfl
  have hs := clean4_span_case_invariant (fun _ => true) envA [] Clean4.exTree 1 flI lowerA exUpper exLower rfl
    hIx hIy hc hwf hne hcan hcl newlineCaseless_A ex_inputs (hA _) (hA _) (by decide) 0 (Nat.zero_le _) {} {} rfl rfl
  exact ⟨clean4_isMatch_case_invariant (fun _ => true) envA [] Clean4.exTree 1 flI lowerA exUpper exLower rfl
    hIx hIy hc hwf hne hcan hcl newlineCaseless_A ex_inputs (hA _) (hA _) (by decide), hs.1, hs.2 hcp⟩

/-- … and the computed values agree: both `.ok true`, both spans `(1, 4)`; the enumerations from 1 are the
    same list `[4, 5]` (`enum4_case_invariant`) -/
theorem ex_computed_i :
    let pr := mkProgram [] Clean4.exTree 1 flI false
    ((pr.isMatch lowerA exUpper == .ok true) && (pr.isMatch lowerA exLower == .ok true) &&
     (getParenStart (matchesFrom (pr.ctx lowerA exUpper) pr 0 {}).2 0 == some 1) &&
     (getParenEnd (matchesFrom (pr.ctx lowerA exUpper) pr 0 {}).2 0 == some 4) &&
     (getParenStart (matchesFrom (pr.ctx lowerA exLower) pr 0 {}).2 0 == some 1) &&
     (getParenEnd (matchesFrom (pr.ctx lowerA exLower) pr 0 {}).2 0 == some 4) &&
     (enum4 (pr.ctx lowerA exUpper) pr.op 1 == [4, 5]) && (enum4 (pr.ctx lowerA exLower) pr.op 1 == [4, 5])) = true := by
  decide +kernel

/-- `enum4_pattern_case_invariant` applies to `(?:ab|c)+?c` against `(?:AB|c)+?C` -/
example (ctx : Ctx) (hcb : ctx.caseBlind = true) (hl : ctx.lower = lowerA) (p : Nat) :
    enum4 ctx Clean4.exTree p =
      enum4 ctx (.seq [.rep 0 (.choice [.atom [65, 66], .atom [99]]) 1 usizeMax false, .atom [67], .endProgram]) p :=
  enum4_pattern_case_invariant ctx hcb _ _ (by
    simp only [Clean4.exTree, CaseEquivOps, CaseEquivOpsL, hl, and_true, true_and]
    exact ⟨⟨CaseEquivInputs.cons (by decide) (CaseEquivInputs.cons (by decide) (CaseEquivInputs.nil _)),
      CaseEquivInputs.refl _ _⟩, CaseEquivInputs.cons (by decide) (CaseEquivInputs.nil _)⟩) p

end example_

/-! ## B. C20 at API level — equivalent spellings, `Clean4Regex` (Props/Clean4Api) -/

section spellings
open Rx.ApiGeneric Rx.ApiGeneric.Clean4Api Rx.Clean2Api
open Rx.ApiComplete (GoodInput)

/-- **two regexes of the Clean4 fragment whose trees have the same language**: the same gate bit, the same
    `is_match` on every good input, and — if they pass the gate — from every position the NEXT match starts
    at the same place -/
theorem api4_same_language {env : Env} {fl : Flags} {r1 r2 : Regex} (R1 : Clean4Regex env fl r1)
    (R2 : Clean4Regex env fl r2)
    (hlang : ∀ ctx p q, OpR ctx r1.prog.op p q ↔ OpR ctx r2.prog.op p q)
    {input : List Nat} (G : GoodInput env fl input) :
    r1.nullable = r2.nullable ∧
    r1.prog.isMatch env.lower input = r2.prog.isMatch env.lower input ∧
    (r1.nullable = false → ∀ pos, pos ≤ input.length →
      (firstSpan (r1.prog.ctx env.lower input) r1.prog.op pos).map (·.1) =
      (firstSpan (r2.prog.ctx env.lower input) r2.prog.op pos).map (·.1)) :=
  R1.ok.same_language R2.ok hlang G

/-- … and the same span list outright — hence the same `replace_all`, `tokenize`, `analyze` spans
    (`api4_replace_spec`, `api4_tokenize_spec`, `api4_analyze_spec` are functions of `spans`) —
    when in addition the heads of the two priority enumerations `enum4` agree at every start -/
theorem api4_same_spans {r1 r2 : Regex} (lower : Nat → Nat) (input : List Nat)
    (hheads : ∀ j, j ≤ input.length →
      (enum4 (r1.prog.ctx lower input) r1.prog.op j).head? = (enum4 (r2.prog.ctx lower input) r2.prog.op j).head?) :
    spans r1 lower input = spans r2 lower input :=
  same_spans_of_heads lower input hheads

/-- … hence the same span list -/
theorem api4_same_spans_of_unique {env : Env} {fl : Flags} {r1 r2 : Regex} (R1 : Clean4Regex env fl r1)
    (R2 : Clean4Regex env fl r2) (hn1 : r1.nullable = false)
    (hlang : ∀ ctx p q, OpR ctx r1.prog.op p q ↔ OpR ctx r2.prog.op p q)
    {input : List Nat} (G : GoodInput env fl input)
    (huniq : ∀ j q q', OpR (r1.prog.ctx env.lower input) r1.prog.op j q →
      OpR (r1.prog.ctx env.lower input) r1.prog.op j q' → q = q') :
    spans r1 env.lower input = spans r2 env.lower input :=
  api4_same_spans env.lower input (R1.ok.heads_of_unique R2.ok hn1 hlang G huniq)

/-! ### example: the reluctant spellings `(?:ab|c)+?c` and `(?:c|ab)+?c` (real tables, "xabcc-cc")

  (The pair `(?:ab|c)+?c` / `(?:ab|c)(?:ab|c)*?c` does NOT satisfy the hypothesis `hlang`, which
  quantifies over every context: `+?` is `{1,usizeMax}` while `x x*?` allows `usizeMax + 1` iterations, and
  `OpR` reads the bound literally.  The alternation-order pair below has different trees, different priority
  order inside the body, and the same language.) -/
section example_spellings
open Rx.Api (noSat_of)

/-- `(?:c|ab)+?c` -/
def exPatB : List Nat := [40, 63, 58, 99, 124, 97, 98, 41, 43, 63, 99]
def treeA : Op := .seq [.rep 1 (.choice [.atom [97, 98], .atom [99]]) 1 usizeMax false, .atom [99], .endProgram]
def treeB : Op := .seq [.rep 1 (.choice [.atom [99], .atom [97, 98]]) 1 usizeMax false, .atom [99], .endProgram]

theorem exAB_new :
    (match Regex.new Env.std Clean4Api.exPat [] false true with
     | .ok r => opEq r.prog.op treeA
     | _ => false) = true ∧
    (match Regex.new Env.std exPatB [] false true with
     | .ok r => cleanProg4 Env.std false false r.prog.op && clsCanonB r.prog.op && !r.prog.hasBackrefs &&
         !r.nullable && opEq r.prog.op treeB
     | _ => false) = true := by decide +kernel

theorem lang_AB (ctx : Ctx) (p q : Nat) : OpR ctx treeA p q ↔ OpR ctx treeB p q := by
  have hb : ∀ a b, OpR ctx (.choice [.atom [97, 98], .atom [99]]) a b ↔ OpR ctx (.choice [.atom [99], .atom [97, 98]]) a b := by
    intro a b
    simp only [OpR, OpRAny, or_false]
    exact Or.comm
  simp only [treeA, treeB, OpR, OpRSeq]
  constructor
  · rintro ⟨m, ⟨k, h1, h2, hi⟩, rest⟩
    exact ⟨m, ⟨k, h1, h2, IterR.mono (fun a b => (hb a b).1) hi⟩, rest⟩
  · rintro ⟨m, ⟨k, h1, h2, hi⟩, rest⟩
    exact ⟨m, ⟨k, h1, h2, IterR.mono (fun a b => (hb a b).2) hi⟩, rest⟩

/-- `api4_same_language` applies to the two spellings on "xabcc-cc": the same gate bit, the same `is_match`
    answer, the same next start from every position -/
example (r1 r2 : Regex) (h1 : Regex.new Env.std Clean4Api.exPat [] false true = .ok r1)
    (h2 : Regex.new Env.std exPatB [] false true = .ok r2) :
    r1.nullable = r2.nullable ∧
    r1.prog.isMatch Env.std.lower Clean4Api.exInput2 = r2.prog.isMatch Env.std.lower Clean4Api.exInput2 ∧
    (r1.nullable = false → ∀ pos, pos ≤ Clean4Api.exInput2.length →
      (firstSpan (r1.prog.ctx Env.std.lower Clean4Api.exInput2) r1.prog.op pos).map (·.1) =
      (firstSpan (r2.prog.ctx Env.std.lower Clean4Api.exInput2) r2.prog.op pos).map (·.1)) := by
  have ka := exAB_new.1
  have kb := exAB_new.2
  rw [h1] at ka
  rw [h2] at kb
  simp only [Bool.and_eq_true, Bool.not_eq_true'] at kb
  obtain ⟨⟨⟨⟨k1, k2⟩, k3⟩, _⟩, k5⟩ := kb
  have o1 := opEq_sound _ _ ka
  have o2 := opEq_sound _ _ k5
  have R1 := (Clean4Api.ex_regex r1 h1).1
  have R2 : Clean4Regex Env.std {} r2 :=
    ⟨exPatB, [], false, ⟨rfl, h2, noSat_of exPatB (by decide +kernel), k1, k2, k3, fun hl => by cases hl⟩⟩
  exact api4_same_language R1 R2 (fun ctx p q => by rw [o1, o2]; exact lang_AB ctx p q)
    (Rx.ApiComplete.goodInput_std_cs rfl Clean4Api.ex_scalar (by decide))

end example_spellings

end spellings

end Rx.Clean4Laws
