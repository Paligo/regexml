/-
  Props/C07d — C07 as ONE theorem, nothing left as a hypothesis except that the pattern consists of
  code points (which a Rust `&str` guarantees): the compiler accepts a pattern if and only if the
  pattern is the rendering of a tree of the XPath / XSD regular-expression grammar
  (`Spec/Grammar.lean`, character classes via `C09.CExpr`) that is well formed for the dialect and
  the environment, with quantities below 2^64 (`ParserQuirkFree`, the one deviation kept visible);
  every rejection is `Error::Syntax`.  Obtained by plugging the class-parser inversion
  (`C09.parse_class_inv`, Props/C09d) into `C07c.compile_iff`.
-/
import RxModel.Props.C07c
import RxModel.Props.C09d
namespace Rx.C07d
open Rx Rx.Grammar
open Rx.C07b (ParserQuirkFree)

/-- the class-parser inversion is exactly the hypothesis `ClassInv` of C07c -/
theorem classInv_of_scalar (c : PC) (hps : C09.PatScalar c) : ClassInv c := by
  intro fuel s R s' h
  obtain ⟨e, hok, htake, _, hlt, hle, _⟩ := C09.parse_class_inv c hps fuel s s' R h
  exact ⟨e, hok, htake, hlt, hle⟩

/-- `Regex::xpath(p)` / `Regex::xsd(p)` (before the nullability probe) succeeds iff `p` conforms to the grammar -/
theorem compile_iff_full (env : Env) (fl : CFlags) (hlit : fl.literal = false) (pat : List Nat)
    (hps : ∀ x ∈ pat, x < cpLimit) (opt : Bool) :
    (∃ pr, compileCore env fl pat opt = .ok pr) ↔
      ∃ a : Ast, a.okFor fl.xsd env = true ∧ ParserQuirkFree a ∧ pat = a.render :=
  C07c.compile_iff env fl hlit pat (classInv_of_scalar { pat := pat, fl := fl, env := env } hps) opt

/-- the compiler itself never panics or diverges on a non-literal pattern: its result is `.ok` or `.err` -/
theorem compileCore_ok_or_err (env : Env) (fl : CFlags) (hlit : fl.literal = false) (pat : List Nat) (opt : Bool) :
    (∃ pr, compileCore env fl pat opt = .ok pr) ∨ (∃ e, compileCore env fl pat opt = .err e) :=
  compileCore_total env fl pat opt

/-- … and a pattern outside the grammar is rejected with `Error::Syntax` (never `Error::Internal`) -/
theorem reject_syntax_full (env : Env) (fl : CFlags) (hlit : fl.literal = false) (pat : List Nat)
    (hps : ∀ x ∈ pat, x < cpLimit) (opt : Bool)
    (hno : ¬ ∃ a : Ast, a.okFor fl.xsd env = true ∧ ParserQuirkFree a ∧ pat = a.render) :
    compileCore env fl pat opt = .err .syntax := by
  have hnot : ¬ ∃ pr, compileCore env fl pat opt = .ok pr :=
    fun h => hno ((compile_iff_full env fl hlit pat hps opt).1 h)
  rcases compileCore_ok_or_err env fl hlit pat opt with h | ⟨e, he⟩
  · exact absurd h hnot
  · rw [he, C07c.compileCore_err_syntax env fl pat opt e he]

end Rx.C07d
