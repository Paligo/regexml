/-
  Props/C14 — flag x ignores pattern whitespace outside character classes.

  `compileProg` applies `stripWs` and then calls `compileCore` with `Flags.core`, which has no
  field for x: no function after the pre-pass can read the flag (by typing).  So a regex compiled
  with x *is* the regex compiled from the stripped pattern — same program or same error.
-/
import RxModel.Model.Compile
import RxModel.Proofs.CompileLemmas
import RxModel.Proofs.ApiLemmas
namespace Rx.C14
open Rx

def isXsdWs (c : Nat) : Bool := c == 9 || c == 10 || c == 13 || c == 32

/-- compiling with x = compiling the stripped pattern without x: same program, same error -/
theorem x_only_strips (env : Env) (fl : Flags) (hx : fl.allowWs = true) (hq : fl.literal = false)
    (p : List Nat) (opt : Bool) :
    compileProg env fl p opt = compileProg env { fl with allowWs := false } (stripWs p 0 false) opt := by
  simp [ApiL.compileProg_core, ApiL.effPat, Flags.core, hx, hq]

/-- … also for the whole constructor (incl. the nullability bit) -/
theorem new_x_only_strips (env : Env) (fl fl' : Flags) (fs fs' : List Nat) (xsd : Bool)
    (h1 : parseFlags fs xsd = some fl) (h2 : parseFlags fs' xsd = some fl')
    (hx : fl.allowWs = true) (hq : fl.literal = false) (hsame : fl' = { fl with allowWs := false })
    (p : List Nat) (opt : Bool) :
    Regex.new env p fs xsd opt = Regex.new env (stripWs p 0 false) fs' xsd opt := by
  subst hsame
  rw [Regex.new_some h1, Regex.new_some h2, x_only_strips env fl hx hq p opt]

/-- with q the flag x has no effect -/
theorem q_ignores_x (env : Env) (fl : Flags) (hq : fl.literal = true) (p : List Nat) (opt : Bool) :
    compileProg env fl p opt = compileProg env { fl with allowWs := false } p opt := by
  simp [ApiL.compileProg_core, ApiL.effPat, Flags.core, hq]

/-! ### the pre-pass character by character -/

theorem stripWs_cons (ch : Nat) (rest : List Nat) (n : Int) (e : Bool) :
    stripWs (ch :: rest) n e =
      if ch == 92 && !e then ch :: stripWs rest n true
      else if ch == 91 && !e then ch :: stripWs rest (n + 1) e
      else if ch == 93 && !e then ch :: stripWs rest (n - 1) e
      else if n == 0 && (ch == 9 || ch == 10 || ch == 13 || ch == 32) then stripWs rest n e
      else ch :: stripWs rest n false := by
  rw [stripWs]

/-- a character is kept, or it is one of the four and is dropped; which of the two (and the state
    after it) does not depend on the rest of the pattern -/
theorem stripWs_step (ch : Nat) (n : Int) (e : Bool) :
    (∃ n' e', ∀ rest, stripWs (ch :: rest) n e = ch :: stripWs rest n' e') ∨
    (isXsdWs ch = true ∧ ∀ rest, stripWs (ch :: rest) n e = stripWs rest n e) := by
  by_cases h1 : (ch == 92 && !e) = true
  · exact .inl ⟨_, _, fun rest => by rw [stripWs_cons, if_pos h1]⟩
  by_cases h2 : (ch == 91 && !e) = true
  · exact .inl ⟨_, _, fun rest => by rw [stripWs_cons, if_neg h1, if_pos h2]⟩
  by_cases h3 : (ch == 93 && !e) = true
  · exact .inl ⟨_, _, fun rest => by rw [stripWs_cons, if_neg h1, if_neg h2, if_pos h3]⟩
  by_cases h4 : (n == 0 && (ch == 9 || ch == 10 || ch == 13 || ch == 32)) = true
  · exact .inr ⟨(Bool.and_eq_true _ _ ▸ h4).2,
      fun rest => by rw [stripWs_cons, if_neg h1, if_neg h2, if_neg h3, if_pos h4]⟩
  · exact .inl ⟨_, _, fun rest => by rw [stripWs_cons, if_neg h1, if_neg h2, if_neg h3, if_neg h4]⟩

theorem ws_not_special (c : Nat) (hc : isXsdWs c = true) : c ≠ 92 ∧ c ≠ 91 ∧ c ≠ 93 := by
  simp only [isXsdWs, Bool.or_eq_true, beq_iff_eq] at hc
  omega

/-- only the four whitespace characters are ever removed -/
theorem strip_removes_only_ws (p : List Nat) (n : Int) (e : Bool) :
    (stripWs p n e).filter (fun c => !isXsdWs c) = p.filter (fun c => !isXsdWs c) := by
  induction p generalizing n e with
  | nil => rw [stripWs]
  | cons ch rest ih =>
    rcases stripWs_step ch n e with ⟨n', e', h⟩ | ⟨hw, h⟩
    · rw [h, List.filter_cons, List.filter_cons, ih]
    · rw [h, ih, List.filter_cons_of_neg (by rw [hw]; exact Bool.false_ne_true)]

/-- the result is a sublist of the pattern (order kept, nothing added) -/
theorem strip_sublist (p : List Nat) (n : Int) (e : Bool) : (stripWs p n e).Sublist p := by
  induction p generalizing n e with
  | nil => rw [stripWs]; exact List.Sublist.slnil
  | cons ch rest ih =>
    rcases stripWs_step ch n e with ⟨n', e', h⟩ | ⟨-, h⟩
    · rw [h]; exact (ih _ _).cons_cons _
    · rw [h]; exact (ih _ _).cons _

/-- a pattern without any of the four characters is left alone -/
theorem strip_id (p : List Nat) (h : p.all (fun c => !isXsdWs c) = true) (n : Int) (e : Bool) :
    stripWs p n e = p := by
  induction p generalizing n e with
  | nil => rw [stripWs]
  | cons ch rest ih =>
    rw [List.all_cons, Bool.and_eq_true] at h
    rcases stripWs_step ch n e with ⟨n', e', hs⟩ | ⟨hw, -⟩
    · rw [hs, ih h.2]
    · rw [hw] at h
      exact absurd h.1 Bool.false_ne_true

/-- outside brackets (depth 0, after a non-escape) whitespace is dropped … -/
theorem strip_ws_outside (c : Nat) (hc : isXsdWs c = true) (rest : List Nat) (e : Bool) :
    stripWs (c :: rest) 0 e = stripWs rest 0 e := by
  have h := ws_not_special c hc
  rw [isXsdWs] at hc
  rw [stripWs_cons]
  simp [h.1, h.2.1, h.2.2, hc]

/-- … inside brackets it is kept (and resets the escape state) -/
theorem strip_ws_inside (c : Nat) (hc : isXsdWs c = true) (rest : List Nat) (n : Int) (hn : n ≠ 0) (e : Bool) :
    stripWs (c :: rest) n e = c :: stripWs rest n false := by
  have h := ws_not_special c hc
  rw [stripWs_cons]
  simp [h.1, h.2.1, h.2.2, hn]

/-- a character that is neither whitespace, bracket nor backslash is kept at every depth -/
theorem strip_other (c : Nat) (hc : isXsdWs c = false) (h1 : c ≠ 92) (h2 : c ≠ 91) (h3 : c ≠ 93)
    (rest : List Nat) (n : Int) (e : Bool) :
    stripWs (c :: rest) n e = c :: stripWs rest n false := by
  rw [isXsdWs] at hc
  rw [stripWs_cons]
  simp [h1, h2, h3, hc]

theorem stripWs_idem (p : List Nat) (n : Int) (e : Bool) :
    stripWs (stripWs p n e) n e = stripWs p n e := by
  induction p generalizing n e with
  | nil => rw [stripWs, stripWs]
  | cons ch rest ih =>
    rcases stripWs_step ch n e with ⟨n', e', h⟩ | ⟨-, h⟩
    · rw [h rest, h, ih]
    · rw [h rest, ih]

/-- stripping is idempotent -/
theorem strip_idempotent (p : List Nat) : stripWs (stripWs p 0 false) 0 false = stripWs p 0 false :=
  stripWs_idem p 0 false

example : stripWs [97, 32, 91, 32, 93, 9, 98, 92, 32, 99] 0 false = [97, 91, 32, 93, 98, 92, 99] := by decide

/-- the pattern the compiler sees consists of scalar values when the pattern does -/
theorem effPat_scalar (fl : Flags) (p : List Nat) (hps : ∀ x ∈ p, x < cpLimit) :
    ∀ x ∈ ApiL.effPat fl p, x < cpLimit := by
  intro x hx
  unfold ApiL.effPat at hx
  split at hx
  · exact hps x ((strip_sublist _ _ _).subset hx)
  · exact hps x hx

end Rx.C14
