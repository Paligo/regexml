/-
  Props/C10 — category, block and name-character escapes match the Unicode / XML data.

  Nearly everything here is a kernel computation (`decide +kernel`) over tables REGENERATED ON EVERY
  RUN from /repo's working tree (bin/translate.py → Generated/*): block.rs, Blocks.txt,
  CompatBlocks.txt, the arms of `get_category_group`, the add_char/add_range calls of
  name_start_char / name_char, and the ICU general-category data linked into the crate.
  A swapped arm, a mutated range, a dropped or stale block makes the generated file differ and the
  corresponding theorem fail to check.  The facts that relate whole category tables (partition,
  unions, equalities, complement) are tests on the bit masks of the tables (Proofs/RangeSetLemmas)
  in one evaluation, `cat_check`, on which all of them rest: a mutated category table makes that one
  fail.
-/
import RxModel.Model.Unicode
import RxModel.Model.Parser
import RxModel.Generated.UcdBlocks
import RxModel.Spec.Tables
import RxModel.Proofs.RangeSetLemmas
import RxModel.Proofs.CanonBLemmas
namespace Rx.C10
open Rx Rx.Spec Rx.EnvStdL Rx.RangeSet

/-! ### look-ups by name, and the Boolean tests (structural recursions, which the kernel evaluates) -/

/-- the ranges, in this order, tile `[next, cpLimit)` exactly: no gap, no overlap, none empty -/
def tiles : Nat → Ranges → Bool
  | next, [] => next == cpLimit
  | next, (a, b) :: rs => a == next && decide (a < b) && tiles b rs

def gcShort (n : String) : Ranges := (lookupL Gen.gcAll (s n)).getD []
def grp (n : String) : Ranges := (lookupL Gen.grpAll (s n)).getD []

def canonB : Ranges → Bool
  | [] => true
  | [(a, b)] => decide (a < b) && decide (b ≤ cpLimit)
  | (a, b) :: (c, d) :: rs => decide (a < b) && decide (b < c) && canonB ((c, d) :: rs)

def sortedDisjoint : List (List Nat × Nat × Nat) → Bool
  | [] => true
  | [_] => true
  | a :: b :: rest => decide (a.2.2 < b.2.1) && sortedDisjoint (b :: rest)

def nodupB : List (List Nat) → Bool
  | [] => true
  | x :: xs => !xs.contains x && nodupB xs

/-- the first range starts at the least point covered -/
theorem tiles_of_count : ∀ (l : Ranges) (next : Nat), next ≤ cpLimit → ByStart l →
    (∀ r ∈ l, r.1 < r.2 ∧ r.2 ≤ cpLimit) →
    (∀ c, l.countP (covers c) = if next ≤ c ∧ c < cpLimit then 1 else 0) → tiles next l = true
  | [], next, hn, _, _, hc => by
    have := hc next
    simp only [List.countP_nil, Nat.le_refl, true_and] at this
    simp only [tiles, beq_iff_eq]
    split at this <;> omega
  | (a, b) :: rs, next, hn, hs, hr, hc => by
    have hab := hr (a, b) List.mem_cons_self
    have hs' := List.pairwise_cons.1 hs
    simp only at hab
    have hcov : ∀ c, covers c (a, b) = (decide (a ≤ c) && decide (c < b)) := fun _ => rfl
    -- `a` itself is covered, so `next ≤ a`
    have h1 : next ≤ a := by
      have := hc a
      rw [List.countP_cons, hcov] at this
      simp only [Nat.le_refl, hab.1, decide_true, Bool.and_self, if_true] at this
      split at this <;> omega
    -- no range starts before `a`, so nothing below `a` is covered
    have h2 : a ≤ next := Nat.le_of_not_lt fun hlt => by
      have := hc next
      rw [if_pos ⟨Nat.le_refl _, by omega⟩, List.countP_eq_zero.2] at this
      · cases this
      · intro r hr'
        have : a ≤ r.1 := by
          rcases List.mem_cons.1 hr' with rfl | hr'
          · exact Nat.le_refl _
          · exact hs'.1 r hr'
        simp only [covers, Bool.and_eq_true, decide_eq_true_eq]
        omega
    obtain rfl : a = next := Nat.le_antisymm h2 h1
    have ih := tiles_of_count rs b hab.2 hs'.2 (fun r hr' => hr r (List.mem_cons_of_mem _ hr')) fun c => by
      have := hc c
      rw [List.countP_cons, hcov] at this
      by_cases h3 : a ≤ c ∧ c < b
      · simp only [h3.1, h3.2, decide_true, Bool.and_self, if_true] at this
        rw [if_neg (by omega)]
        split at this <;> omega
      · have hf : (decide (a ≤ c) && decide (c < b)) = false := by simpa using h3
        rw [hf, if_neg Bool.false_ne_true, Nat.add_zero] at this
        rw [this]
        congr 1
        exact propext ⟨fun h => ⟨by omega, h.2⟩, fun h => ⟨by omega, h.2⟩⟩
    simp only [tiles, beq_self_eq_true, hab.1, decide_true, ih, Bool.and_self]

theorem tiles_of_partM {acc : Nat} {w : Ranges} (hw : IsMask acc w) {ts : List Ranges} (hts : ∀ t ∈ ts, C09.Chain 0 t)
    (h : partM acc (ts.map rangesMask) = true) : tiles 0 (mergeAll (w :: ts)) = true := by
  obtain ⟨h1, h2, h3⟩ := partM_merged hw hts h
  exact tiles_of_count _ 0 (Nat.zero_le _) h1 h2 fun c => by simp only [h3 c, Nat.zero_le, true_and]

/-- (`mergeAll ([] :: ts)` computes to `mergeAll ts`; for a variable `ts`, since with the tables in
    its place the elaborator does not find this) -/
theorem tiles_of_partM_nil {ts : List Ranges} (hts : ∀ t ∈ ts, C09.Chain 0 t)
    (h : partM 0 (ts.map rangesMask) = true) : tiles 0 (mergeAll ts) = true :=
  tiles_of_partM isMask_nil hts h

theorem canonB_of_canon : ∀ (rs : Ranges), C09.Canon rs → canonB rs = true
  | [], _ => rfl
  | [(a, b)], h => by
    simp only [C09.Canon] at h
    simp only [canonB, h.1, h.2, decide_true, Bool.and_self]
  | (a, b) :: (c, d) :: rs, h => by
    simp only [C09.Canon] at h
    simp only [canonB, h.1, h.2.1, decide_true, canonB_of_canon _ h.2.2, Bool.and_self]

/-- `canonB`, with which the tables are tested, is `canonB` of Spec/Enum2 -/
theorem canonB_eq : ∀ (rs : Ranges), canonB rs = Rx.canonB rs
  | [] => rfl
  | [(_, _)] => rfl
  | (a, b) :: (c, d) :: rs => by simp only [canonB, Rx.canonB, canonB_eq ((c, d) :: rs)]

theorem canonB_sound (rs : Ranges) (h : canonB rs = true) : C09.Canon rs :=
  canon_of_canonB rs (canonB_eq rs ▸ h)

/-! ### general categories -/

/-- the arms `get_category_group` has for the two-letter names -/
def arms2 : List (List Nat × List Nat) := Gen.categoryArms.filter (fun x => x.1.length == 2)

/-- `G`: the masks of the two-letter categories, `H`: those of the groups (ICU's sets for the one-
    and two-letter names).  In this order: the categories partition the code points; each one-letter
    group is the union of its members; the group of a two-letter name is its category; the groups
    that `word_char()` removes, their complement `w`, and L, M, N, S. -/
def catFactsB (G H : List (List Nat × Nat)) : Bool :=
  partM 0 (G.map (·.2)) &&
  (groupMembers.all (fun g => maskAt H (s g.1) == orL ((g.2.map s).map (maskAt G))) &&
  (arms2.all (fun x => maskAt H x.2 == maskAt G x.1) &&
  (let removed := Gen.wordCharRemoved.map (maskAt H)
   let w := orL (0 :: removed) ^^^ (2 ^ cpLimit - 1)
   partM w removed && w == orL ((["Letter", "Mark", "Number", "Symbol"].map s).map (maskAt H)))))

theorem cat_check : withMasks Gen.gcAll Gen.grpAll catFactsB = true := by decide +kernel

theorem gc_chain : ∀ e ∈ Gen.gcAll, C09.Chain 0 e.2 := (withMasks_spec cat_check).1
theorem grp_chain : ∀ e ∈ Gen.grpAll, C09.Chain 0 e.2 := (withMasks_spec cat_check).2.1

theorem cat_facts : catFactsB (masks Gen.gcAll) (masks Gen.grpAll) = true := (withMasks_spec cat_check).2.2

/-- the 30 two-letter categories (Cs = the surrogate code points included) partition all code
    points: merged by start they tile `[0, 0x110000)` with no gap and no overlap -/
theorem categories_partition : tiles 0 (mergeAll (Gen.gcAll.map (·.2))) = true := by
  have h := cat_facts
  rw [catFactsB, Bool.and_eq_true, masks_snd] at h
  refine tiles_of_partM_nil (fun t ht => ?_) h.1
  obtain ⟨e, he, rfl⟩ := List.mem_map.1 ht
  exact gc_chain e he

/-- every table is a canonical inversion list (so the set-algebra theorems of C09 apply) -/
theorem categories_canon : (Gen.gcAll.all (fun t => canonB t.2) && Gen.grpAll.all (fun t => canonB t.2)) = true := by
  simp only [Bool.and_eq_true, List.all_eq_true]
  exact ⟨fun e he => canonB_of_canon _ (C09.canon_of_chain _ 0 (gc_chain e he)),
    fun e he => canonB_of_canon _ (C09.canon_of_chain _ 0 (grp_chain e he))⟩

/-- Cs is exactly the surrogate range, so the other 29 categories partition the scalar values -/
theorem surrogates : gcShort "Cs" = [(0xD800, 0xE000)] := by decide +kernel

/-- each one-letter group is the union of its two-letter members -/
theorem groups_are_unions :
    groupMembers.all (fun g => grp g.1 == unionSorted (g.2.map gcShort)) = true := by
  have h := cat_facts
  simp only [catFactsB, Bool.and_eq_true, List.all_eq_true, beq_iff_eq] at h ⊢
  intro g hg
  have hu := isMask_unionAt gc_chain (g.2.map s)
  rw [← h.2.1 g hg, show (g.2.map s).map (tableAt Gen.gcAll) = g.2.map gcShort from List.map_map] at hu
  exact (isMask_at grp_chain (s g.1)).ext hu

def str (l : List Nat) : String := String.ofList (l.map Char.ofNat)

theorem toNat_ofNat {n : Nat} (h : n < 0xD800) : (Char.ofNat n).toNat = n := by
  have hv : n.isValidChar := .inl h
  simp only [Char.ofNat, hv, dite_true, Char.toNat, Char.ofNatAux]
  rfl

theorem s_str (l : List Nat) (h : l.all (Nat.blt · 0xD800) = true) : s (str l) = l := by
  rw [s, str, String.toList_ofList, List.map_map]
  rw [List.all_eq_true] at h
  conv => rhs; rw [← List.map_id l]
  exact List.map_congr_left fun n hn => toNat_ofNat (by simpa only [Nat.blt_eq] using h n hn)

/-- the category-name → group arms of `get_category_group` are the expected 36.  (Compared as
    strings: the kernel encodes a list of characters as a string several times faster than it
    decodes a string literal, which is what `s` asks for.) -/
theorem arms_expected : Gen.categoryArms = expectedArms.map (fun p => (s p.1, s p.2)) := by
  have h1 : expectedArms = Gen.categoryArms.map (fun p => (str p.1, str p.2)) := by decide +kernel
  have h2 : Gen.categoryArms.all (fun p => p.1.all (Nat.blt · 0xD800) && p.2.all (Nat.blt · 0xD800)) = true := by
    decide +kernel
  rw [h1, List.map_map]
  conv => lhs; rw [← List.map_id Gen.categoryArms]
  rw [List.all_eq_true] at h2
  refine List.map_congr_left fun p hp => ?_
  have := h2 p hp
  rw [Bool.and_eq_true] at this
  simp only [Function.comp, s_str _ this.1, s_str _ this.2, id]

/-- the two typed-in tables agree: the two-letter names of the arm table, with their groups -/
theorem twoLetter_of_arms : twoLetterGroups = expectedArms.filter (fun p => p.1.length == 2) := by decide +kernel

theorem s_length (x : String) : (s x).length = x.length := List.length_map _

/-- each two-letter name selects the ICU set of exactly that category.  (The kernel takes thousands
    of steps to convert one character of a string, so the test runs on the arm table, whose names
    `arms_expected` has converted.) -/
theorem two_letter_groups : twoLetterGroups.all (fun p => grp p.2 == gcShort p.1) = true := by
  have h : arms2.all (fun x => tableAt Gen.grpAll x.2 == tableAt Gen.gcAll x.1) = true := by
    have h := cat_facts
    simp only [catFactsB, Bool.and_eq_true, List.all_eq_true, beq_iff_eq] at h ⊢
    exact fun x hx => (isMask_at grp_chain x.2).ext (h.2.2.1 x hx ▸ isMask_at gc_chain x.1)
  rw [arms2, arms_expected, List.filter_map, List.all_map] at h
  simp only [Function.comp_def, s_length] at h
  rw [twoLetter_of_arms]
  exact h

/-- `\d` = Nd -/
theorem digit_is_Nd : digitStd = gcShort "Nd" := by decide +kernel

/-- what `word_char()` removes and from what: the full range minus exactly P, Z, C -/
theorem word_sources : Gen.wordCharBase = (0, 0x10FFFF) ∧
    Gen.wordCharRemoved = [s "Punctuation", s "Separator", s "Other"] ∧ Gen.decimalNumberCategory = s "DecimalNumber" := by
  decide +kernel

theorem word_isMask :
    IsMask (orL (0 :: Gen.wordCharRemoved.map (maskAt (masks Gen.grpAll))) ^^^ (2 ^ cpLimit - 1)) wordStd := by
  unfold wordStd
  -- the base range is all code points: nothing is outside it
  rw [show complR (addRange Gen.wordCharBase.1 (Gen.wordCharBase.2 + 1) []) = [] by decide +kernel]
  exact isMask_compl_unionAt grp_chain Gen.wordCharRemoved

theorem word_removed : Gen.wordCharRemoved.map (tableAt Gen.grpAll) = [grp "Punctuation", grp "Separator", grp "Other"] := by
  rw [word_sources.2.1]; rfl

/-- `\w` = everything outside P, Z and C: the four sets tile the code points … -/
theorem word_complement :
    tiles 0 (mergeAll [wordStd, grp "Punctuation", grp "Separator", grp "Other"]) = true := by
  have h := cat_facts
  rw [catFactsB] at h
  simp only [Bool.and_eq_true] at h
  rw [← word_removed]
  exact tiles_of_partM word_isMask (chain_map_tableAt grp_chain _) (map_maskAt _ _ ▸ h.2.2.2.1)

/-- … which, the categories being a partition, is L ∪ M ∪ N ∪ S -/
theorem word_is_LMNS : wordStd = unionSorted [grp "Letter", grp "Mark", grp "Number", grp "Symbol"] := by
  have h := cat_facts
  rw [catFactsB] at h
  simp only [Bool.and_eq_true, beq_iff_eq] at h
  have hu := isMask_unionAt grp_chain (["Letter", "Mark", "Number", "Symbol"].map s)
  rw [← h.2.2.2.2] at hu
  exact word_isMask.ext hu

/-! ### XML name characters -/

theorem name_start_is_xml : rangesOfInclusive Gen.nameStartRanges = rangesOfInclusive xmlNameStart := by decide +kernel
theorem name_char_is_xml :
    rangesOfInclusive Gen.nameCharRanges = rangesOfInclusive (xmlNameStart ++ xmlNameCharExtra) := by decide +kernel

/-! ### blocks -/

/-- block.rs is exactly Blocks.txt followed by CompatBlocks.txt (through `==`: fewer steps for the
    kernel than `DecidableEq` on lists of lists) -/
theorem blocks_are_ucd : Gen.allBlocks = Gen.ucdBlocks ++ Gen.compatBlocks :=
  eq_of_beq (by decide +kernel)

/-- every block range is well formed -/
theorem blocks_wellformed : Gen.allBlocks.all (fun b => decide (b.2.1 ≤ b.2.2) && decide (b.2.2 < cpLimit)) = true := by
  decide +kernel

/-- the UCD blocks are listed in increasing order and are pairwise disjoint -/
theorem ucd_blocks_disjoint : sortedDisjoint Gen.ucdBlocks = true := by decide +kernel

theorem nodupB_iff : ∀ (l : List (List Nat)), nodupB l = true ↔ l.Nodup
  | [] => by simp only [nodupB, List.nodup_nil]
  | x :: xs => by
    simp only [nodupB, Bool.and_eq_true, Bool.not_eq_true', List.contains_eq_mem, decide_eq_false_iff_not,
      List.nodup_cons, nodupB_iff xs]

/-- normalised names (spaces and underscores removed) are collision-free: read as a number in base
    256, each finds its own position in the search tree of all of them -/
theorem block_names_nodup : (Gen.allBlocks.map (fun b => normBlockName b.1)).Nodup :=
  nodup_of_distinctB (List.foldl (fun k c => k * 256 + c) 0) _ (by decide +kernel)

/-- … in the form of the Boolean test -/
theorem block_names_unique : nodupB (Gen.allBlocks.map (fun b => normBlockName b.1)) = true :=
  (nodupB_iff _).2 block_names_nodup

/-- the compatibility name that `block()` tests first, as Model/Unicode spells it -/
theorem privateUse_name : s "PrivateUse" = [80, 114, 105, 118, 97, 116, 101, 85, 115, 101] := by decide +kernel

theorem no_block_PrivateUse : Gen.allBlocks.all (fun b => normBlockName b.1 != s "PrivateUse") = true := by
  decide +kernel

/-- `\p{IsB}` looks up exactly the range of block B, for every block of the list: the names being
    distinct, "a later block with the same key wins" never applies -/
theorem block_lookup_correct :
    Gen.allBlocks.all (fun b => blockStd (normBlockName b.1) == some (addRange b.2.1 (b.2.2 + 1) [])) = true := by
  rw [List.all_eq_true]
  intro e he
  have hp := List.all_eq_true.1 no_block_PrivateUse e he
  simp only [privateUse_name, bne_iff_ne, ne_eq, ← beq_eq_false_iff_ne] at hp
  simp only [blockStd, hp, Bool.false_eq_true, if_false, blockLookupLast_of_nodup _ none block_names_nodup e he,
    beq_self_eq_true]

/-- `\p{IsPrivateUse}` is the three private-use ranges -/
theorem private_use : Gen.privateUseRanges = privateUse ∧
    blockStd (s "PrivateUse") = some [(0xE000, 0xF900), (0xF0000, 0xFFFFE), (0x100000, 0x10FFFE)] := by decide +kernel

/-- an unknown category name is rejected by the compiler (`Error::Syntax`): the pattern has
    `\p{name}` or `\P{name}` at `st.idx` (a one- or two-letter name, `}` right after it) and the
    category table does not know the name -/
theorem unknown_category_rejected (c : PC) (st : PS) (inBr : Bool) (name : List Nat)
    (hp : c.at st.idx = 92) (he : c.at (st.idx + 1) = 112 ∨ c.at (st.idx + 1) = 80)
    (hlt : st.idx + 1 < c.len)
    (hidx : st.idx + 2 < c.len) (hb : c.at (st.idx + 2) = 123)
    (hclose : findClose c (c.len + 1) (st.idx + 3) = some (st.idx + 3 + name.length))
    (hblock : (c.pat.drop (st.idx + 3)).take name.length = name)
    (hlen : name.length = 1 ∨ name.length = 2)
    (hunk : c.env.category name = none) :
    escape c st inBr = .err .syntax := by
  have hlen' : (name.length == 1 || name.length == 2) = true := by simpa using hlen
  have hblk : (c.pat.drop (st.idx + 2 + 1)).take (st.idx + 3 + name.length - (st.idx + 2 + 1)) = name := by
    rw [show st.idx + 3 + name.length - (st.idx + 2 + 1) = name.length by omega]; exact hblock
  have c1 : ¬ st.idx + 1 ≥ c.len := Nat.not_le.mpr hlt
  have c2 : (st.idx + 2 == c.len) = false := by rw [beq_eq_false_iff_ne]; omega
  unfold escape
  rcases he with he | he <;>
    simp only [hp, he, hb, hclose, hblk, hlen', hunk, c1, c2, bne_self_eq_false, Bool.false_eq_true, if_false,
      Nat.reduceBEq, Bool.or_false, Bool.or_true, if_true, Nat.reduceLeDiff]

/-- the category table knows exactly the 36 names of the arm table -/
theorem category_names : ∀ n, (categoryStd n).isSome = (Gen.categoryArms.map (·.1)).contains n := by
  intro n
  -- every arm names a group that exists, so the second look-up succeeds whenever the first does
  have harms : Gen.categoryArms.all (fun p => (lookupL Gen.grpAll p.2).isSome) = true := by decide +kernel
  rw [← lookupL_isSome, categoryStd]
  cases h : lookupL Gen.categoryArms n with
  | none => rfl
  | some long => exact List.all_eq_true.1 harms _ (lookupL_mem _ _ _ h)

example : categoryStd (s "Lu") = some (gcShort "Lu") ∧ categoryStd (s "Xx") = none ∧ categoryStd (s "Cs") = none := by
  decide +kernel
example : blockStd (s "BasicLatin") = some [(0, 128)] ∧ blockStd (s "NoSuchBlock") = none := by decide +kernel

end Rx.C10
