/-
  Props/C19 — back-references match a copy of what their group captured.
-/
import RxModel.Proofs.LeafLemmas
import RxModel.Proofs.ArrayLemmas
namespace Rx.C19
open Rx

/-- `l` characters at `p` equal (up to case under flag i) the `l` characters at `s` -/
theorem sameText_spec (ctx : Ctx) (l p s : Nat) :
    sameText ctx l p s = true ↔
      ∀ k, k < l → ∃ a b, ctx.input[p + k]? = some a ∧ ctx.input[s + k]? = some b ∧ ctx.eqAt a b = true := by
  exact Leaf.sameText_iff ctx l p s

/-- the back-reference generator, given the recorded span of its group:
    a copy of the captured text must follow (then it is consumed), the state is never changed -/
theorem backref_copy (ctx : Ctx) (g p : Nat) (st : St) (hg : g < st.startBr.length) (s e : Nat)
    (hs : getO st.startBr g = some s) (he : getO st.endBr g = some e) (hse : s < e) :
    backrefGen ctx g p st =
      if p + (e - s) ≤ ctx.len ∧ sameText ctx (e - s) p s = true then Step.once (p + (e - s)) st else Step.nil st := by
  rw [backrefGen_some ctx g p st s e hs he, if_neg (Nat.not_le.2 hse)]

/-- a group that captured the empty string: the back-reference matches the empty string -/
theorem backref_empty (ctx : Ctx) (g p : Nat) (st : St) (hg : g < st.startBr.length) (s : Nat)
    (hs : getO st.startBr g = some s) (he : getO st.endBr g = some s) :
    backrefGen ctx g p st = Step.once p st := by
  rw [backrefGen_some ctx g p st s s hs he, if_pos (Nat.le_refl _)]

/-- a group that has not participated in the match: the back-reference matches the empty string -/
theorem backref_unset (ctx : Ctx) (g p : Nat) (st : St) (hg : g < st.startBr.length)
    (h : getO st.startBr g = none ∨ getO st.endBr g = none) :
    backrefGen ctx g p st = Step.once p st := by
  unfold backrefGen
  have h1 : ¬ (g ≥ st.startBr.length) := by omega
  rcases h with h | h
  · simp [h1, h]
  · cases getO st.startBr g <;> simp [h1, h]

/-- `\N` followed by digits: one more digit is taken exactly when the longer number still does not
    exceed the number of groups opened so far -/
theorem backrefDigits_step (c : PC) (parens f idx n : Nat) (hlt : idx < c.len) (hd : isDigit (c.at idx) = true) :
    backrefDigits c parens (f + 1) idx n =
      if n * 10 + (c.at idx - 48) > parens - 1 then (idx, n)
      else backrefDigits c parens f (idx + 1) (n * 10 + (c.at idx - 48)) := by
  simp [backrefDigits, hlt, hd]

theorem backrefDigits_stop (c : PC) (parens f idx n : Nat) (h : ¬ (idx < c.len ∧ isDigit (c.at idx) = true)) :
    backrefDigits c parens (f + 1) idx n = (idx, n) := by
  have : (decide (idx < c.len) && isDigit (c.at idx)) = false := by simpa using h
  simp [backrefDigits, this]

/-- the number never exceeds the number of groups opened so far (if the first digit did not) -/
theorem backrefDigits_le (c : PC) (parens f idx n : Nat) (hn : n ≤ parens - 1) :
    (backrefDigits c parens f idx n).2 ≤ parens - 1 ∧ idx ≤ (backrefDigits c parens f idx n).1 := by
  induction f generalizing idx n with
  | zero => simp [backrefDigits, hn]
  | succ f ih =>
    simp only [backrefDigits]
    split
    · split
      · exact ⟨hn, Nat.le_refl _⟩
      · have := ih (idx + 1) (n * 10 + (c.at idx - 48)) (by omega)
        exact ⟨this.1, by omega⟩
    · exact ⟨hn, Nat.le_refl _⟩

/-- a back-reference is accepted only outside brackets, only in the XPath dialect, and only to a
    group that is already closed -/
theorem escape_backref_valid (c : PC) (s s' : PS) (inBr : Bool) (n : Nat)
    (h : escape c s inBr = .ok (.backref n) s') :
    inBr = false ∧ c.fl.xsd = false ∧ n ∈ s.captures ∧ s'.hasBackrefs = true ∧ 1 ≤ n := by
  exact Leaf.escape_backref c s s' inBr n h

example : backrefGen { input := [97, 98, 97, 98], caseBlind := false, multiLine := false, hasBackrefs := true, maxParens := 2, lower := id }
    1 2 { startBr := [none, some 0], endBr := [none, some 2] } = Step.once 4 { startBr := [none, some 0], endBr := [none, some 2] } := by rfl

end Rx.C19
