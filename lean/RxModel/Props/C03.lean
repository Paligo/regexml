/-
  Props/C03 — captured groups (the part that is a theorem about the executable model): the
  analyze tree builder keeps the text — pushing characters, group events and the walk over the
  matched substring; when the walk ends with every group closed, `process_matching_substring`
  returns entries whose text is the matched substring —, groups are numbered by their opening
  parenthesis, and the nesting table maps a group to a smaller number.  That the capture *state*
  the engine leaves is the one of the selected match path is false of the pinned tree in the listed
  findings (K5, K6) and is otherwise decided by correspondence + the ordered reference.
-/
import RxModel.Spec.Pieces
import RxModel.Proofs.AnalyzeLemmas
import RxModel.Proofs.ParserWalk
namespace Rx.C03
open Rx Rx.Spec

/-- pushing characters adds exactly those characters -/
theorem hChars_text (stk stk' : HStack) (s : List Nat) (h : hChars stk s = some stk') :
    stackText stk' = stackText stk ++ s := by
  cases stk with
  | nil => simp [hChars] at h
  | cons hd t =>
    obtain ⟨nr, es⟩ := hd
    simp only [hChars, Option.some.injEq] at h
    subst h
    simp [stackText_cons, mTextL_append, mTextL_cons, mTextL_nil, mText_str]

/-- group start / end events move entries between levels but keep the text -/
theorem hEvents_text (evs : List Ev) (stk stk' : HStack) (h : hEvents evs stk = some stk') :
    stackText stk' = stackText stk := by
  induction evs generalizing stk with
  | nil =>
    simp only [hEvents, Option.some.injEq] at h
    subst h; rfl
  | cons ev evs ih =>
    obtain ⟨b, g⟩ := ev
    cases b with
    | true =>
      simp only [hEvents] at h
      rw [ih _ h, stackText_cons, mTextL_nil, List.append_nil]
    | false =>
      match stk, h with
      | [], h => simp [hEvents] at h
      | [_], h => simp [hEvents] at h
      | (nr, es) :: (nr2, es2) :: t, h =>
        simp only [hEvents] at h
        rw [ih _ h]
        simp [stackText_cons, mTextL_append, mTextL_cons, mTextL_nil, mText_group, List.append_assoc]

/-- the "flush the pending buffer" step of `walk` -/
theorem flush_text (buf : Option (List Nat)) (stk stk' : HStack)
    (h : (match buf with | some b => hChars stk b | none => some stk) = some stk') :
    stackText stk' = stackText stk ++ buf.getD [] := by
  cases buf with
  | none =>
    simp only [Option.some.injEq] at h
    subst h; simp
  | some b => simpa using hChars_text _ _ _ h

/-- the walk over the matched substring emits every character exactly once, in order -/
theorem walk_text (acts : Actions) (rest : List Nat) (i : Nat) (buf : Option (List Nat)) (stk stk' : HStack)
    (h : walk acts rest i buf stk = some stk') :
    stackText stk' = stackText stk ++ buf.getD [] ++ rest := by
  induction rest generalizing i buf stk with
  | nil =>
    unfold walk at h
    split at h
    · split at h
      · simp at h
      · rename_i stk1 hfl
        rw [hEvents_text _ _ _ h, flush_text _ _ _ hfl]; simp
    · rw [flush_text _ _ _ h]; simp
  | cons c rest ih =>
    unfold walk at h
    split at h
    · split at h
      · simp at h
      · rename_i stk1 hfl
        split at h
        · simp at h
        · rename_i stk2 hev
          rw [ih _ _ _ h, hEvents_text _ _ _ hev, flush_text _ _ _ hfl]
          simp [List.append_assoc]
    · rw [ih _ _ _ h]
      simp [List.append_assoc]

/-- hence: when every group that was opened inside the match is closed inside it, the String leaves
    of the Match entry concatenate to the matched substring -/
theorem processMatch_text (tbl : List (Nat × Nat)) (st : St) (cur : List Nat) (es : List MEntry)
    (acts : Actions) (start0 : Nat)
    (hpc : st.cap.parenCount ≠ 0) (hc : st.cap.parenCount - 1 ≠ 0)
    (hs0 : getParenStart st 0 = some start0)
    (hacts : buildActions st tbl start0 (st.cap.parenCount - 1) 1 [] = some acts)
    (hclosed : ∃ nr, walk acts cur 0 none [(0, [])] = some [(nr, es)]) :
    processMatch tbl st cur = .ok es ∧ mTextL es = cur := by
  obtain ⟨nr, hw⟩ := hclosed
  refine ⟨?_, ?_⟩
  · unfold processMatch
    simp [hpc, hc, hs0, hacts, hw]
  · have := walk_text acts cur 0 none [(0, [])] [(nr, es)] hw
    simpa [stackText_cons, stackText_nil, mTextL_nil] using this

/-- without groups the Match entry is the matched text -/
theorem processMatch_plain (tbl : List (Nat × Nat)) (st : St) (cur : List Nat) (h : st.cap.parenCount = 1) :
    processMatch tbl st cur = .ok [.str cur] := by
  unfold processMatch
  simp [h]

/-- groups are numbered by their opening parenthesis: a capturing group opened when `n` groups
    (incl. group 0) have been opened so far is group `n`, and inner groups get larger numbers -/
theorem group_numbering (c : PC) (f : Nat) (s s' : PS) (op : Op)
    (hopen : c.at s.idx = 40)
    (hcap : ¬ (s.idx + 2 < c.len ∧ c.at (s.idx + 1) = 63 ∧ c.at (s.idx + 2) = 58))
    (h : parseExpr c (f + 1) s false = .ok op s') :
    ∃ body, op = .capture s.parens body ∧ s.parens < s'.parens ∧ s.parens ∈ s'.captures := by
  cases parseExpr_res h with
  | plain h0 =>
    rcases h0 with h0 | h0
    · cases h0
    · exact absurd hopen h0
  | group _ _ _ hb hbs =>
    -- the counter was raised at the `(` and never goes down
    have h1 := (parseBranch_MS hb).1
    have h2 := (parseBranches_MS hbs).1
    exact ⟨_, rfl, Nat.lt_of_lt_of_le (Nat.lt_succ_self _) (Nat.le_trans h1 h2), List.mem_cons_self⟩
  | cluster _ _ _ hq => exact absurd hq hcap

/-- the nesting table maps every group to a smaller group number (its enclosing group, 0 = none) -/
theorem nesting_parent_lt (pat : List Nat) (tbl : List (Nat × Nat)) (h : nestingTable pat = some tbl) :
    ∀ g p, (g, p) ∈ tbl → p < g :=
  nestingGo_inv pat pat.length (pat.length + 1) 0 [0] [] 1 0 [] tbl
    ⟨Nat.le_refl 1, fun x hx => by cases List.mem_singleton.mp hx; exact Nat.one_pos,
      fun g p hgp => by cases hgp⟩ h

example : nestingTable [40, 97, 40, 98, 41, 41, 40, 99, 41] = some [(3, 0), (2, 1), (1, 0)] := by decide

end Rx.C03
