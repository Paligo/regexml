/-
  Props/C09e — the class parser UNDER FLAG i (`c.fl.caseBlind = true`), for the full class grammar
  of Props/C09c (`CExpr`: single characters, ranges, literal hyphens, class escapes, negation,
  nested subtraction).

  What the model parser does under flag i (`Model/Parser.lean`, `addCharCI`, `addClosureRange`,
  `clsSimple`):
    * a single character `a` (also a literal hyphen) adds `a` and every member of `env.closure a`;
    * a range `a-b` adds the whole interval `[a, b]` (surrogates included, exactly as without the
      flag) and then the closure of every NON-surrogate `y` with `a ≤ y ≤ b` (the loop skips
      surrogates; its fuel `b - a + 2` always reaches `b`);
    * class escapes (`\d`, `\P{L}`, ...) are NOT closed;
    * negation complements the closed set, subtraction removes the (closed) subtrahend.

  Besides what the parser returns and what that list contains (`denoteI_member`): a positive class of
  characters and ranges is closed under `closure` when the closure relation is transitive AND
  surrogates have no closure — false without the last hypothesis
  (`positive_class_case_closed_false`); flag i only adds members to a positive class without
  subtraction (`superset_of_cs`).
-/
import RxModel.Model.Parser
import RxModel.Props.C09c
import RxModel.Proofs.ClassCaseLemmas
import RxModel.Props.EnvStd
namespace Rx.C09
open Rx

/-! ### the denotation under flag i -/

/-- the inversion list of a class expression under flag i: as `CExpr.denote`, with the case
    closure added at single characters, literal hyphens and ranges -/
def CExpr.denoteI (env : Env) (e : CExpr) : Ranges := e.denoteG env true

/-- effect of a member on the character builder under flag i -/
theorem addBI_eq (env : Env) (b : Ranges) :
    (Item.one a).addBG env true b = addChars (env.closure a.val) (addChar a.val b) ∧
    (Item.range a a').addBG env true b =
      closRange env (a'.val - a.val + 2) a.val a'.val (addRange a.val (a'.val + 1) b) ∧
    Item.hyphen.addBG env true b = addChars (env.closure 45) (addChar 45 b) ∧
    (Item.cls e).addBG env true b = b ∧ (Item.prop pos name).addBG env true b = b :=
  ⟨rfl, rfl, rfl, rfl, rfl⟩

/-- compositional shape: `U` = (characters and ranges with their closures) ∪ class escapes;
    `[items]` = `U`, `[^items]` = complement of `U`, `[…-[sub]]` = … minus `sub.denoteI` -/
theorem denoteI_eq (env : Env) (neg : Bool) (items : List Item) (sub : CExpr) :
    let k := items.foldl (Item.stepG env true) { positive := !neg }
    let U := match k.addend with | some a => unionR k.builder a | none => k.builder
    (CExpr.leaf neg items).denoteI env = (if neg then complR U else U) ∧
    (CExpr.minus neg items sub).denoteI env =
      diffR (if neg then complR U else U) (sub.denoteI env) := by
  have hp := (foldl_stepG_fields env true items { positive := !neg }).2.2.1
  have hs := (foldl_stepG_fields env true items { positive := !neg }).2.2.2
  simp only [CExpr.denoteI, CExpr.denoteG, ClsSt.finish, hp, hs]
  cases neg <;> exact ⟨rfl, rfl⟩

/-! ### the parser under flag i -/

/-- for EITHER value of flag i the parser returns `e.denoteG c.env c.fl.caseBlind` and consumes
    exactly `e.render` -/
theorem parse_class_denote_any (c : PC) (e : CExpr)
    (hok : e.ok c.fl.xsd c.env = true) (s : PS) (rest : List Nat)
    (hpat : c.pat.drop s.idx = e.render ++ rest) (fuel : Nat) (hfuel : e.render.length ≤ fuel) :
    parseClass c fuel s =
      .ok (e.denoteG c.env c.fl.caseBlind) { s with idx := s.idx + e.render.length } :=
  parseClass_renderG e s rest fuel hok hpat hfuel

/-- UNDER FLAG i: the parser returns exactly `e.denoteI c.env`, consumes exactly `e.render` and
    leaves the rest of the parser state (group counters, captures, …) alone -/
theorem parse_class_denote_i (c : PC) (hci : c.fl.caseBlind = true) (e : CExpr)
    (hok : e.ok c.fl.xsd c.env = true) (s : PS) (rest : List Nat)
    (hpat : c.pat.drop s.idx = e.render ++ rest) (fuel : Nat) (hfuel : e.render.length ≤ fuel) :
    parseClass c fuel s = .ok (e.denoteI c.env) { s with idx := s.idx + e.render.length } := by
  rw [parse_class_denote_any c e hok s rest hpat fuel hfuel, hci]
  rfl

/-- the case-sensitive theorem of C09c is the other instance -/
theorem parse_class_denote_cs' (c : PC) (hci : c.fl.caseBlind = false) (e : CExpr)
    (hok : e.ok c.fl.xsd c.env = true) (s : PS) (rest : List Nat)
    (hpat : c.pat.drop s.idx = e.render ++ rest) (fuel : Nat) (hfuel : e.render.length ≤ fuel) :
    parseClass c fuel s = .ok (e.denote c.env) { s with idx := s.idx + e.render.length } :=
  parse_class_denote c hci e hok s rest hpat fuel hfuel

/-- `e.denoteI` is the set algebra under flag i: canonical, and `x` is in it iff `x` is (a member
    of some item or of the closure of a character of some item, XOR the class is negated) and not
    in the subtrahend -/
theorem denoteI_member (env : Env) (henv : EnvCanon env) (hc : ClosureOK env) (xsd : Bool) (e : CExpr)
    (hok : e.ok xsd env = true) :
    Canon (e.denoteI env) ∧
      ∀ x, x < cpLimit → (clsContains (e.denoteI env) x = true ↔ e.MemberI env x) :=
  have h := denoteG_den henv (ci := true) (fun _ => hc) e hok
  ⟨h.canon, fun x hx => ((h.mem x).trans (and_iff_right hx)).trans (CExpr.memberG_true env x e)⟩

/-- MAIN THEOREM under flag i -/
theorem parse_class_full_i (c : PC) (hci : c.fl.caseBlind = true) (henv : EnvCanon c.env)
    (hc : ClosureOK c.env) (e : CExpr)
    (hok : e.ok c.fl.xsd c.env = true) (s : PS) (rest : List Nat)
    (hpat : c.pat.drop s.idx = e.render ++ rest) (fuel : Nat) (hfuel : e.render.length ≤ fuel) :
    ∃ R, parseClass c fuel s = .ok R { s with idx := s.idx + e.render.length } ∧
      R = e.denoteI c.env ∧ Canon R ∧
      ∀ x, x < cpLimit → (clsContains R x = true ↔ e.MemberI c.env x) := by
  obtain ⟨h1, h2⟩ := denoteI_member c.env henv hc c.fl.xsd e hok
  exact ⟨_, parse_class_denote_i c hci e hok s rest hpat fuel hfuel, rfl, h1, h2⟩

/-- the fuel `parse_terminal` passes (`c.len + 2`) is always enough -/
theorem parse_class_full_i_terminal (c : PC) (hci : c.fl.caseBlind = true) (e : CExpr)
    (hok : e.ok c.fl.xsd c.env = true) (s : PS) (rest : List Nat)
    (hpat : c.pat.drop s.idx = e.render ++ rest) :
    parseClass c (c.len + 2) s = .ok (e.denoteI c.env) { s with idx := s.idx + e.render.length } := by
  apply parse_class_denote_i c hci e hok s rest hpat
  have := PC.drop_len hpat
  simp only [List.length_append] at this
  omega

/-! ### case closure of positive classes -/

/-- the closure relation is symmetric and transitive on its domain -/
def ClosureEquiv (env : Env) : Prop :=
  (∀ x y, y ∈ env.closure x → x ∈ env.closure y) ∧
  (∀ x y z, y ∈ env.closure x → z ∈ env.closure y → z = x ∨ z ∈ env.closure x)

/-- surrogates have no case closure -/
def SurrogateFree (env : Env) : Prop := ∀ s, isSurrogate s = true → env.closure s = []

/-- single characters, literal hyphens and ranges only -/
def CharsOnly (items : List Item) : Prop := ∀ i ∈ items, i.isChars = true

/-- for a negation-free, subtraction-free class of characters and ranges, the set denoted under flag i is closed under `closure` -/
def PositiveClassCaseClosed (env : Env) : Prop :=
  ClosureEquiv env → ∀ items, CharsOnly items → ∀ x y,
    (CExpr.leaf false items).MemberI env x → y ∈ env.closure x → (CExpr.leaf false items).MemberI env y

/-- closure of a positive class under `closure`; of `ClosureEquiv` only the transitivity clause
    is used -/
theorem positive_class_case_closed_of_trans (env : Env) (hsur : SurrogateFree env)
    (htr : ∀ x y z, y ∈ env.closure x → z ∈ env.closure y → z = x ∨ z ∈ env.closure x)
    (items : List Item) (hitems : CharsOnly items) (x y : Nat)
    (hx : (CExpr.leaf false items).MemberI env x) (hy : y ∈ env.closure x) :
    (CExpr.leaf false items).MemberI env y := by
  simp only [CExpr.MemberI, iff_true] at hx ⊢
  obtain ⟨i, hi, hm⟩ := hx
  exact ⟨i, hi, Item.memI_closed htr hsur (hitems i hi) hm hy⟩

/-- `PositiveClassCaseClosed` holds when surrogates have no closure (`SurrogateFree`).  A range adds the surrogates it spans (as without the flag) but the closure
    loop skips them, so a surrogate with a non-empty closure would be a member whose case variants
    are not.  (Every environment whose closures are symmetric and consist of scalar values is
    `SurrogateFree`: `surrogateFree_of_scalar`.) -/
theorem positive_class_case_closed_partial (env : Env) (hsur : SurrogateFree env) :
    PositiveClassCaseClosed env := by
  intro heq items hitems x y hx hy
  exact positive_class_case_closed_of_trans env hsur heq.2 items hitems x y hx hy

/-- symmetric closures that contain only scalar values: surrogates have no closure -/
theorem surrogateFree_of_scalar (env : Env) (hsym : ∀ x y, y ∈ env.closure x → x ∈ env.closure y)
    (hsc : ∀ a x, x ∈ env.closure a → isSurrogate x = false) : SurrogateFree env := by
  intro s hs
  apply List.eq_nil_iff_forall_not_mem.2
  intro y hy
  have := hsc y s (hsym s y hy)
  rw [hs] at this
  cases this

theorem closureEquiv_swap (env : Env) (a b : Nat) (hab : a ≠ b)
    (h : ∀ x, env.closure x = if x = a then [b] else if x = b then [a] else []) :
    ClosureEquiv env := by
  have hmem : ∀ x y, y ∈ env.closure x ↔ (x = a ∧ y = b) ∨ (x = b ∧ y = a) := by
    intro x y
    rw [h x]
    by_cases h1 : x = a
    · subst h1
      simp [hab]
    · by_cases h2 : x = b
      · subst h2
        simp [hab.symm]
      · simp [h1, h2]
  constructor
  · intro x y hxy
    rw [hmem] at hxy ⊢
    exact hxy.symm.imp (fun h => ⟨h.2, h.1⟩) (fun h => ⟨h.2, h.1⟩)
  · intro x y z hxy hyz
    rw [hmem] at hxy hyz
    rcases hxy with ⟨rfl, rfl⟩ | ⟨rfl, rfl⟩
    · rcases hyz with ⟨h1, _⟩ | ⟨_, h2⟩
      · exact absurd h1.symm hab
      · exact Or.inl h2
    · rcases hyz with ⟨_, h2⟩ | ⟨h1, _⟩
      · exact Or.inl h2
      · exact absurd h1 hab

/-- an environment in which the surrogate U+D800 and the character 5 are case variants of each
    other -/
def envBad : Env :=
  { envT with closure := fun x => if x = 55296 then [5] else if x = 5 then [55296] else [] }

theorem envBad_equiv : ClosureEquiv envBad :=
  closureEquiv_swap envBad 55296 5 (by decide) (fun _ => rfl)

/-- `PositiveClassCaseClosed` fails without `SurrogateFree`: in `envBad` the class
    `[\x{D800}-\x{D801}]` contains U+D800 under flag i but not its case variant 5 -/
theorem positive_class_case_closed_false : ∃ env, ¬ PositiveClassCaseClosed env := by
  refine ⟨envBad, fun h => ?_⟩
  have h1 := h envBad_equiv [.range (.plain 55296) (.plain 55297)]
    (by intro i hi; simp only [List.mem_singleton] at hi; subst hi; rfl) 55296 5
    (by
      simp only [CExpr.MemberI, iff_true]
      exact ⟨_, List.mem_singleton.2 rfl, Or.inl ⟨by simp [Single.val], by simp [Single.val]⟩⟩)
    (by simp [envBad])
  simp only [CExpr.MemberI, iff_true] at h1
  obtain ⟨i, hi, hm⟩ := h1
  simp only [List.mem_singleton] at hi
  subst hi
  rcases hm with ⟨h2, _⟩ | ⟨y, h2, h3, h4, _⟩
  · simp [Single.val] at h2
  · simp only [Single.val] at h2 h3
    have : y = 55296 ∨ y = 55297 := by omega
    rcases this with rfl | rfl <;> simp [isSurrogate] at h4

/-- flag i only ADDS members to a positive class without subtraction (class escapes included) -/
theorem superset_of_cs (env : Env) (items : List Item) (x : Nat)
    (h : (CExpr.leaf false items).Member env x) : (CExpr.leaf false items).MemberI env x := by
  simp only [CExpr.Member, CExpr.MemberI, iff_true] at h ⊢
  obtain ⟨i, hi, hm⟩ := h
  exact ⟨i, hi, Item.memI_of_mem hm⟩

/-- … and, dually, only REMOVES members from a negated class without subtraction -/
theorem subset_of_cs_neg (env : Env) (items : List Item) (x : Nat)
    (h : (CExpr.leaf true items).MemberI env x) : (CExpr.leaf true items).Member env x := by
  simp only [CExpr.Member, CExpr.MemberI, iff_false, Bool.true_eq_false] at h ⊢
  rintro ⟨i, hi, hm⟩
  exact h ⟨i, hi, Item.memI_of_mem hm⟩

/-! ### non-vacuity: a small environment in which `a` (97) and `A` (65) are case variants -/

def envI : Env :=
  { envT with closure := fun x => if x = 97 then [65] else if x = 65 then [97] else [] }

theorem envI_canon : EnvCanon envI where
  digit := envT_canon.digit
  word := envT_canon.word
  nameStart := envT_canon.nameStart
  nameChar := envT_canon.nameChar
  category := envT_canon.category
  block := envT_canon.block

theorem envI_closureOK : ClosureOK envI := by
  intro a x h
  simp only [envI] at h
  split at h
  · simp only [List.mem_singleton] at h; subst h; decide
  · split at h
    · simp only [List.mem_singleton] at h; subst h; decide
    · cases h

theorem envI_equiv : ClosureEquiv envI :=
  closureEquiv_swap envI 97 65 (by decide) (fun _ => rfl)

theorem envI_surrogateFree : SurrogateFree envI := by
  intro s hs
  simp only [envI]
  have h1 : s ≠ 97 := by rintro rfl; simp [isSurrogate] at hs
  have h2 : s ≠ 65 := by rintro rfl; simp [isSurrogate] at hs
  simp [h1, h2]

/-- the class parser on a whole pattern under flag i, XPath dialect -/
def runI (pat : List Nat) : Res :=
  resOf (parseClass ⟨pat, { caseBlind := true }, envI⟩ (pat.length + 2) {})

/-- `[a-c]` -/
def exAC : CExpr := .leaf false [.range (.plain 97) (.plain 99)]

example : exAC.render = [91, 97, 45, 99, 93] := by decide
example : exAC.ok false envI = true := by decide
/-- `[a-c]` under i is `{A, a, b, c}`: it contains 65 -/
example : runI exAC.render = .ok ([(65, 66), (97, 100)], 5) := by decide +kernel
example : exAC.denoteI envI = [(65, 66), (97, 100)] := by decide +kernel
example : clsContains (exAC.denoteI envI) 65 = true ∧ clsContains (exAC.denoteI envI) 66 = false := by
  decide +kernel
/-- … and without the flag it does not -/
example : exAC.denote envI = [(97, 100)] := by decide +kernel

/-- `parse_class_full_i` applies (all hypotheses are met) -/
example : ∃ R, parseClass ⟨exAC.render, { caseBlind := true }, envI⟩ 7 {} = .ok R { idx := 5 } ∧
    R = exAC.denoteI envI ∧ Canon R ∧
    ∀ x, x < cpLimit → (clsContains R x = true ↔ exAC.MemberI envI x) :=
  parse_class_full_i ⟨exAC.render, { caseBlind := true }, envI⟩ rfl envI_canon envI_closureOK exAC
    (by decide) {} [] (by decide) 7 (by decide)

/-- `denoteI_member`, `positive_class_case_closed_partial`, `superset_of_cs` apply -/
example : exAC.MemberI envI 65 :=
  ((denoteI_member envI envI_canon envI_closureOK false exAC (by decide)).2 65 (by decide)).1
    (by decide +kernel)
example : exAC.MemberI envI 65 :=
  positive_class_case_closed_partial envI envI_surrogateFree envI_equiv _
    (by intro i hi; simp only [List.mem_singleton] at hi; subst hi; rfl) 97 65
    (superset_of_cs envI _ 97 (by
      simp only [CExpr.Member, iff_true]
      exact ⟨_, List.mem_singleton.2 rfl, by simp [Item.Mem, Single.val]⟩))
    (by simp [envI])

/-- negation complements the closed set, subtraction removes the closed subtrahend:
    `[^a]` under i excludes `A`; `[a-c-[A]]` under i is `{b, c}`; class escapes are not closed:
    `[\p{Nd}a]` -/
example : runI [91, 94, 97, 93] = .ok ([(0, 65), (66, 97), (98, 1114112)], 4) := by decide +kernel
example : runI [91, 97, 45, 99, 45, 91, 65, 93, 93] = .ok ([(98, 100)], 9) := by decide +kernel
example : (CExpr.minus false [.range (.plain 97) (.plain 99)] (.leaf false [.one (.plain 65)])).denoteI envI
    = [(98, 100)] := by decide +kernel
example : runI [91, 92, 112, 123, 78, 100, 125, 97, 93] = .ok ([(48, 58), (65, 66), (97, 98)], 9) := by
  decide +kernel

/-! ### the standard environment (the generated ICU tables) -/

theorem closureOK_std : ClosureOK Env.std := EnvStd.closure_bound_std

/-- under flag i, with the real tables: the parser builds the canonical list of `e.MemberI` -/
theorem parse_class_full_i_std (c : PC) (hci : c.fl.caseBlind = true) (henv : c.env = Env.std)
    (e : CExpr) (hok : e.ok c.fl.xsd c.env = true) (s : PS) (rest : List Nat)
    (hpat : c.pat.drop s.idx = e.render ++ rest) (fuel : Nat) (hfuel : e.render.length ≤ fuel) :
    ∃ R, parseClass c fuel s = .ok R { s with idx := s.idx + e.render.length } ∧
      R = e.denoteI c.env ∧ Canon R ∧
      ∀ x, x < cpLimit → (clsContains R x = true ↔ e.MemberI c.env x) :=
  parse_class_full_i c hci (henv ▸ EnvStd.envStd_canon) (henv ▸ closureOK_std) e hok s rest hpat
    fuel hfuel

/-- the hypotheses of `parse_class_full_i_std` are satisfiable: `[a-c]` against the real tables -/
example : ∃ R, parseClass ⟨exAC.render, { caseBlind := true }, Env.std⟩ 7 {} = .ok R { idx := 5 } ∧
    R = exAC.denoteI Env.std ∧ Canon R ∧
    ∀ x, x < cpLimit → (clsContains R x = true ↔ exAC.MemberI Env.std x) :=
  parse_class_full_i_std ⟨exAC.render, { caseBlind := true }, Env.std⟩ rfl rfl exAC (by decide) {} []
    (by decide) 7 (by decide)

end Rx.C09
