/-
  Props/Clean3Memo — SKIPPABLE general greedy repeats (`(?:ab|c)*d`, `x(?:a|bc)*y`, `{0,n}`) at the level of
  the whole search, by a MEMO INVARIANT.

  `CompleteAt` (Props/SearchComplete) is false for these programs (`Clean3.completeAt_min0_false`): the
  zero-length-match memo `st.hist` is written when a `min = 0` repeat is ENTERED, suppresses the
  zero-iteration alternative when the same repeat is entered again at the same position, and is never
  cleared by `matches` (Model/Search).  What is true instead:

  SHAPE COVERED (`Memo.cleanProg3m`): the program's tree is a root sequence whose elements are either in
  the fragment of Spec/Enum3 (anchors, literals, classes, captures, alternations, nested sequences, fixed
  quantifiers, justified `UnambiguousRepeat`s, general repeats with `min ≥ 1` — none of which writes the
  memo) or a SKIPPABLE general greedy repeat `.rep id c 0 mx true` over a rep-free, non-nullable,
  end-deterministic body; the keys `id` of the skippable repeats pairwise distinct (what `numberReps` builds).
  Skippable repeats under a capture / alternation of the root are NOT covered.

  THE INVARIANT (`Memo.HR ctx l st`): for every skippable repeat `id` of the root sequence `l`, with
  followers `B`, and every entry `(id, p)` of the memo: the followers have NO match from `p`
  (`¬ ∃ q, OpRSeq ctx B p q`) — skipping the repeat at `p` is hopeless, so suppressing that alternative
  loses nothing.  It depends on the memo only, holds of the empty memo, and:

    `matchAt_complete`     from a state satisfying it, `match_at(j)` succeeds IFF the language has a member
                           from `j` (sound and complete), and a FAILED attempt leaves it intact
                           — although entries are written on entry: an entry `(id, p)` is exposed to the
                           followers only (whose own invariant does not mention `id`), and when the
                           repeat's iterator is exhausted every end, `p` included, has been tried
    `clean3m_outcome`      `matches(i)` with all five shortcuts: the outcome of Props/SearchComplete
                           (least start, clean state) from every state with `panic = none ∧ HR`;
                           a failed search leaves such a state
    `clean3m_isMatch_iff` / `clean3m_isMatch_false`      C01 both directions for `mkProgram` programs
    `clean3m_matchesFrom_iff`, `clean3m_match_is_leftmost`

  AFTER A SUCCESSFUL `matches` the invariant can FAIL (`memo_after_success`): the entry on the successful
  path was written but its zero-iteration alternative never explored.  The scan loops (`replace`,
  `tokenize`, `analyze`) keep the matcher state between `matches` calls, so this is where a K3-like bug
  could surface.  Kernel-checked: for the NULLABLE pattern `x?(?:ab|c)*` on "x" the second `matches` (from
  1) fails with the threaded state and succeeds (empty match at 1) from a fresh one.  It is not
  observable through the API: every scan entry point rejects nullable regexes (`Regex.replaceAll`,
  `tokenize`, `analyze`: `matchesEmptyString`), and for NON-nullable patterns a live entry `(id, p)` from a
  successful match `[j, n)` has `p ≤ n`, the next search starts at `n`, and re-entering the repeat at `n`
  with everything around it empty would make the pattern nullable.  That is proved: for a non-nullable pattern
  the span sequence the scan loops see with the threaded memo is the state-free one, starts (Props/Clean3MemoScan:
  the invariant relative to the positions still to be searched survives a success) and ends
  (Props/Clean3MemoEnd, Props/Clean3MemoSpans).
-/
import RxModel.Proofs.MemoSeqLemmas
import RxModel.Proofs.ProgOK
namespace Rx.Clean3Memo
open Rx Rx.SearchComplete Rx.Memo
open Rx.C08 (noEmptyAtoms)

/-! ## `match_at` -/

/-- sound, complete, and invariant-preserving on failure -/
theorem matchAt_complete (env : Env) (ctx : Ctx) (hIn : InputOK env ctx) (l : List Op)
    (hc : cleanProg3m env ctx.caseBlind ctx.multiLine (.seq l) = true) (hw : wfOp (.seq l) = true)
    (hn : noEmptyAtoms (.seq l) = true) (hcan : clsCanonB (.seq l) = true)
    (j : Nat) (hj : j ≤ ctx.len) (st : St) (hst : HR ctx l st) :
    ((matchAt ctx (.seq l) j st).1 = true ↔ ∃ q, OpR ctx (.seq l) j q) ∧
    ((matchAt ctx (.seq l) j st).1 = false → HR ctx l (matchAt ctx (.seq l) j st).2) :=
  matchAt_memo env ctx hIn l hc hw hn (clsCanon_of_B _ hcan) j hj st hst

/-- the invariant holds of a fresh matcher -/
theorem HR_fresh (ctx : Ctx) (l : List Op) : HR ctx l {} := HR_of_nil ctx l {} rfl

/-! ## `matches` -/

theorem clean3m_outcome (env : Env) (pat : List Nat) (op : Op) (mp : Nat) (fl : CFlags)
    (lower : Nat → Nat) (input : List Nat) (hI : InputOKFor env fl lower input) (l : List Op)
    (hop : (mkProgram pat op mp fl false).op = .seq l)
    (hc : cleanProg3m env fl.caseBlind fl.multiLine (.seq l) = true)
    (hwf : wfOp op = true) (hne : noEmptyAtoms op = true) (hcan : clsCanonB (.seq l) = true)
    (hlen : input.length < usizeMax)
    (i : Nat) (hi : i ≤ input.length) (st : St) (hp : st.panic = none)
    (hm : HR ((mkProgram pat op mp fl false).ctx lower input) l st) :
    OutcomeM ((mkProgram pat op mp fl false).ctx lower input) l i
      (matchesFrom ((mkProgram pat op mp fl false).ctx lower input) (mkProgram pat op mp fl false) i st) := by
  obtain ⟨T, F, hP⟩ := program_facts env pat op mp fl lower input hI l hop hc hwf hne hcan hlen
  exact matchesFrom_outcome_memo hop T F hlen hP i hi st hp hm

/-- `matches(i)` from a state satisfying the invariant: true iff some start `≥ i` has a match; the state
    stays panic-free; after a failure the invariant still holds -/
theorem clean3m_matchesFrom_iff (env : Env) (pat : List Nat) (op : Op) (mp : Nat) (fl : CFlags)
    (lower : Nat → Nat) (input : List Nat) (hI : InputOKFor env fl lower input) (l : List Op)
    (hop : (mkProgram pat op mp fl false).op = .seq l)
    (hc : cleanProg3m env fl.caseBlind fl.multiLine (.seq l) = true)
    (hwf : wfOp op = true) (hne : noEmptyAtoms op = true) (hcan : clsCanonB (.seq l) = true)
    (hlen : input.length < usizeMax)
    (i : Nat) (hi : i ≤ input.length) (st : St) (hp : st.panic = none)
    (hm : HR ((mkProgram pat op mp fl false).ctx lower input) l st) :
    ((matchesFrom ((mkProgram pat op mp fl false).ctx lower input) (mkProgram pat op mp fl false) i st).1 = true ↔
      ∃ j q, i ≤ j ∧ j ≤ input.length ∧
        OpR ((mkProgram pat op mp fl false).ctx lower input) (mkProgram pat op mp fl false).op j q) ∧
    (matchesFrom ((mkProgram pat op mp fl false).ctx lower input) (mkProgram pat op mp fl false) i st).2.panic = none ∧
    ((matchesFrom ((mkProgram pat op mp fl false).ctx lower input) (mkProgram pat op mp fl false) i st).1 = false →
      HR ((mkProgram pat op mp fl false).ctx lower input) l
        (matchesFrom ((mkProgram pat op mp fl false).ctx lower input) (mkProgram pat op mp fl false) i st).2) := by
  have ho := clean3m_outcome env pat op mp fl lower input hI l hop hc hwf hne hcan hlen i hi st hp hm
  rw [hop]
  exact ⟨ho.1.iff, ho.1.clean, ho.2⟩

/-- on success group 0 starts at the LEAST start `≥ i` that has a match and ends at a member of the
    language from there -/
theorem clean3m_match_is_leftmost (env : Env) (pat : List Nat) (op : Op) (mp : Nat) (fl : CFlags)
    (lower : Nat → Nat) (input : List Nat) (hI : InputOKFor env fl lower input) (l : List Op)
    (hop : (mkProgram pat op mp fl false).op = .seq l)
    (hc : cleanProg3m env fl.caseBlind fl.multiLine (.seq l) = true)
    (hwf : wfOp op = true) (hne : noEmptyAtoms op = true) (hcan : clsCanonB (.seq l) = true)
    (hcp : C02.capsPos op = true) (hlen : input.length < usizeMax)
    (i : Nat) (hi : i ≤ input.length) (st st' : St) (hp : st.panic = none)
    (hm : HR ((mkProgram pat op mp fl false).ctx lower input) l st)
    (h : matchesFrom ((mkProgram pat op mp fl false).ctx lower input) (mkProgram pat op mp fl false) i st
      = (true, st')) :
    ∃ j n, getParenStart st' 0 = some j ∧ getParenEnd st' 0 = some n ∧ i ≤ j ∧ j ≤ n ∧ n ≤ input.length ∧
      OpR ((mkProgram pat op mp fl false).ctx lower input) (mkProgram pat op mp fl false).op j n ∧
      ∀ k q, i ≤ k → k < j →
        ¬ OpR ((mkProgram pat op mp fl false).ctx lower input) (mkProgram pat op mp fl false).op k q := by
  have ho := clean3m_outcome env pat op mp fl lower input hI l hop hc hwf hne hcan hlen i hi st hp hm
  have hnum := MkProgram.op pat op mp fl false
  have hwT : wfOp (.seq l) = true := by rw [← hop, hnum, WF.wfOp_numberReps]; exact hwf
  have hcT : C02.capsPos (.seq l) = true := by rw [← hop, hnum, WF.capsPos_numberReps]; exact hcp
  have := ho.1.leftmost hwT hcT (by rw [h])
  rw [h] at this
  rw [hop]
  exact this

/-! ## `is_match` -/

theorem clean3m_outcome0 (env : Env) (pat : List Nat) (op : Op) (mp : Nat) (fl : CFlags)
    (lower : Nat → Nat) (input : List Nat) (hI : InputOKFor env fl lower input) (l : List Op)
    (hop : (mkProgram pat op mp fl false).op = .seq l)
    (hc : cleanProg3m env fl.caseBlind fl.multiLine (.seq l) = true)
    (hwf : wfOp op = true) (hne : noEmptyAtoms op = true) (hcan : clsCanonB (.seq l) = true)
    (hlen : input.length < usizeMax) :
    Outcome ((mkProgram pat op mp fl false).ctx lower input) (mkProgram pat op mp fl false).op 0
      (matchesFrom ((mkProgram pat op mp fl false).ctx lower input) (mkProgram pat op mp fl false) 0 {}) := by
  rw [hop]
  exact (clean3m_outcome env pat op mp fl lower input hI l hop hc hwf hne hcan hlen 0 (Nat.zero_le _) {} rfl
    (HR_fresh _ l)).1

/-- C01, both directions, for programs with skippable general repeats in their root sequence -/
theorem clean3m_isMatch_iff (env : Env) (pat : List Nat) (op : Op) (mp : Nat) (fl : CFlags)
    (lower : Nat → Nat) (input : List Nat) (hI : InputOKFor env fl lower input) (l : List Op)
    (hop : (mkProgram pat op mp fl false).op = .seq l)
    (hc : cleanProg3m env fl.caseBlind fl.multiLine (.seq l) = true)
    (hwf : wfOp op = true) (hne : noEmptyAtoms op = true) (hcan : clsCanonB (.seq l) = true)
    (hlen : input.length < usizeMax) :
    (mkProgram pat op mp fl false).isMatch lower input = .ok true ↔
      ∃ j q, j ≤ input.length ∧
        OpR ((mkProgram pat op mp fl false).ctx lower input) (mkProgram pat op mp fl false).op j q :=
  ok_true_iff (isMatch_of_outcome (clean3m_outcome0 env pat op mp fl lower input hI l hop hc hwf hne hcan hlen))

theorem clean3m_isMatch_false (env : Env) (pat : List Nat) (op : Op) (mp : Nat) (fl : CFlags)
    (lower : Nat → Nat) (input : List Nat) (hI : InputOKFor env fl lower input) (l : List Op)
    (hop : (mkProgram pat op mp fl false).op = .seq l)
    (hc : cleanProg3m env fl.caseBlind fl.multiLine (.seq l) = true)
    (hwf : wfOp op = true) (hne : noEmptyAtoms op = true) (hcan : clsCanonB (.seq l) = true)
    (hlen : input.length < usizeMax)
    (hno : ¬ ∃ j q, j ≤ input.length ∧
        OpR ((mkProgram pat op mp fl false).ctx lower input) (mkProgram pat op mp fl false).op j q) :
    (mkProgram pat op mp fl false).isMatch lower input = .ok false :=
  ok_false_of_not
    (isMatch_of_outcome (clean3m_outcome0 env pat op mp fl lower input hI l hop hc hwf hne hcan hlen)) hno

/-! ## examples: `(?:ab|c)*d` and `x(?:a|bc)*y` -/
section examples

def exEnv : Env :=
  { lower := id, closure := fun _ => [], category := fun _ => none, block := fun _ => none,
    digit := [], word := [], nameStart := [], nameChar := [] }

/-- `(?:ab|c)*d`, as handed to `ReProgram::new` -/
def starTree : Op :=
  .seq [.rep 0 (.choice [.atom [97, 98], .atom [99]]) 0 usizeMax true, .atom [100], .endProgram]
/-- … and numbered -/
def starList : List Op :=
  [.rep 1 (.choice [.atom [97, 98], .atom [99]]) 0 usizeMax true, .atom [100], .endProgram]
def starProg : Prog := mkProgram [] starTree 1 {} false

/-- `x(?:a|bc)*y` -/
def xyTree : Op :=
  .seq [.atom [120], .rep 0 (.choice [.atom [97], .atom [98, 99]]) 0 usizeMax true, .atom [121], .endProgram]
def xyList : List Op :=
  [.atom [120], .rep 1 (.choice [.atom [97], .atom [98, 99]]) 0 usizeMax true, .atom [121], .endProgram]
def xyProg : Prog := mkProgram [] xyTree 1 {} false

theorem star_op : starProg.op = .seq starList := rfl
theorem xy_op : xyProg.op = .seq xyList := rfl

/-- the decidable hypotheses — and the compiler's output for the pattern texts has these trees -/
theorem ex_ok :
    cleanProg3m exEnv false false (.seq starList) = true ∧ wfOp starTree = true ∧ noEmptyAtoms starTree = true ∧
    clsCanonB (.seq starList) = true ∧
    cleanProg3m exEnv false false (.seq xyList) = true ∧ wfOp xyTree = true ∧ noEmptyAtoms xyTree = true ∧
    clsCanonB (.seq xyList) = true := by
  refine ⟨?_, ?_, ?_, ?_, ?_, ?_, ?_, ?_⟩ <;> decide +kernel

theorem ex_compiled :
    (match compileCore exEnv {} [40, 63, 58, 97, 98, 124, 99, 41, 42, 100] true with
     | .ok pr => cleanProg3m exEnv false false pr.op && (pr.isMatch id [97, 98, 99, 100] == starProg.isMatch id [97, 98, 99, 100])
     | _ => false) = true ∧
    (match compileCore exEnv {} [120, 40, 63, 58, 97, 124, 98, 99, 41, 42, 121] true with
     | .ok pr => cleanProg3m exEnv false false pr.op && (pr.isMatch id [120, 97, 98, 99, 121] == xyProg.isMatch id [120, 97, 98, 99, 121])
     | _ => false) = true := by decide +kernel

theorem exInputOK (input : List Nat) (hin : ∀ c ∈ input, c < cpLimit) (hsc : ∀ c ∈ input, isSurrogate c = false) :
    InputOKFor exEnv {} id input :=
  .of_caseSensitive rfl (fun _ _ h => by cases h) hin hsc

/-- `clean3m_isMatch_iff` instantiated: for EVERY input of scalar values -/
theorem star_isMatch_iff (input : List Nat) (hin : ∀ c ∈ input, c < cpLimit)
    (hsc : ∀ c ∈ input, isSurrogate c = false) (hlen : input.length < usizeMax) :
    starProg.isMatch id input = .ok true ↔
      ∃ j q, j ≤ input.length ∧ OpR (starProg.ctx id input) starProg.op j q :=
  clean3m_isMatch_iff exEnv [] starTree 1 {} id input (exInputOK input hin hsc) starList star_op
    ex_ok.1 ex_ok.2.1 ex_ok.2.2.1 ex_ok.2.2.2.1 hlen

theorem xy_isMatch_iff (input : List Nat) (hin : ∀ c ∈ input, c < cpLimit)
    (hsc : ∀ c ∈ input, isSurrogate c = false) (hlen : input.length < usizeMax) :
    xyProg.isMatch id input = .ok true ↔
      ∃ j q, j ≤ input.length ∧ OpR (xyProg.ctx id input) xyProg.op j q :=
  clean3m_isMatch_iff exEnv [] xyTree 1 {} id input (exInputOK input hin hsc) xyList xy_op
    ex_ok.2.2.2.2.1 ex_ok.2.2.2.2.2.1 ex_ok.2.2.2.2.2.2.1 ex_ok.2.2.2.2.2.2.2 hlen

/-- the computed answers (kernel evaluation) on a few inputs: "xabcd" ✓, "abcab" ✗, "d" ✓, "" ✗;
    "zxabcay" ✓, "xy" ✓, "xaby" ✗ -/
theorem ex_computed :
    starProg.isMatch id [120, 97, 98, 99, 100] = .ok true ∧ starProg.isMatch id [97, 98, 99, 97, 98] = .ok false ∧
    starProg.isMatch id [100] = .ok true ∧ starProg.isMatch id [] = .ok false ∧
    xyProg.isMatch id [122, 120, 97, 98, 99, 97, 121] = .ok true ∧ xyProg.isMatch id [120, 121] = .ok true ∧
    xyProg.isMatch id [120, 97, 98, 121] = .ok false := by decide +kernel

/-- … agree with the right-hand side: e.g. the language of `(?:ab|c)*d` has a member in "xabcd" (1 → 5) and
    none in "abcab" -/
theorem ex_rhs :
    (∃ j q, j ≤ 5 ∧ OpR (starProg.ctx id [120, 97, 98, 99, 100]) starProg.op j q) ∧
    ¬ (∃ j q, j ≤ 5 ∧ OpR (starProg.ctx id [97, 98, 99, 97, 98]) starProg.op j q) :=
  ⟨(star_isMatch_iff _ (by decide) (by decide) (by decide)).1 ex_computed.1,
   fun h => by
     have := (star_isMatch_iff [97, 98, 99, 97, 98] (by decide) (by decide) (by decide)).2 h
     rw [ex_computed.2.1] at this
     cases this⟩

end examples

/-! ## after a SUCCESSFUL `matches` the invariant can fail — visible only for nullable patterns -/
section after_success

/-- `x?(?:ab|c)*` as the compiler builds it (nullable: every scan API rejects it) -/
def nullProg : Prog :=
  mkProgram [] (.seq [.gfixed (.atom [120]) 0 1 1, .rep 0 (.choice [.atom [97, 98], .atom [99]]) 0 usizeMax true,
    .endProgram]) 1 {} false

theorem nullProg_compiled :
    (match compileCore exEnv {} [120, 63, 40, 63, 58, 97, 98, 124, 99, 41, 42] true with
     | .ok pr => (pr.isMatch id [] == .ok true) &&
         ((matchesFrom (pr.ctx id [120]) pr 1 (matchesFrom (pr.ctx id [120]) pr 0 {}).2).1 ==
          (matchesFrom (nullProg.ctx id [120]) nullProg 1 (matchesFrom (nullProg.ctx id [120]) nullProg 0 {}).2).1)
     | _ => false) = true := by decide +kernel

/-- on "x": the first `matches(0)` reports (0, 1) and leaves the entry (1, 1) although skipping the repeat at
    1 DOES lead to a match; the second `matches(1)` from that state fails, from a fresh state it succeeds
    with the empty match at 1 -/
theorem memo_after_success :
    (matchesFrom (nullProg.ctx id [120]) nullProg 0 {}).1 = true ∧
    getParenEnd (matchesFrom (nullProg.ctx id [120]) nullProg 0 {}).2 0 = some 1 ∧
    memPair (matchesFrom (nullProg.ctx id [120]) nullProg 0 {}).2.hist 1 1 = true ∧
    (matchesFrom (nullProg.ctx id [120]) nullProg 1 (matchesFrom (nullProg.ctx id [120]) nullProg 0 {}).2).1 = false ∧
    (matchesFrom (nullProg.ctx id [120]) nullProg 1 {}).1 = true ∧
    nullProg.isMatch id [] = .ok true := by decide +kernel

end after_success

end Rx.Clean3Memo
