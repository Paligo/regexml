/-
  Props/Clean2Opt — `optimize` maps the clean fragment of Spec/Enum into that of Spec/Enum2: compiler output
  satisfies `cleanProg2` by construction.

  For an un-optimised tree `op` with `cleanOp op`, `wfOp op` and two shape facts that hold of every tree
  the parser builds —
      `seqGe2 op`  every sequence has at least two elements (so `optimize` never unwraps `.seq [o]`),
      `endTop op`  EndProgram occurs only as the last element of the root sequence —
  `optimize_clean2`:  `cleanProg2 env fl.caseBlind fl.multiLine (optimize env fl op) = true`.

  What `optimize` does on this fragment: it recurses through captures, alternations and the bodies of
  `gfixed` / `rfixed` (the `gfixed` special cases `max = 0` / zero-length body do not arise for
  well-formed trees), and in a sequence of ≥ 2 elements replaces an element `gfixed / rfixed x mn mx`
  (x one literal / class) by `.unamb x mn mx` under exactly the condition `cleanOp2F` checks.  It creates
  no `rep` and leaves `matches_empty_string` and the first set of every sub-tree UNCHANGED.

  The induction over `optimize` is that of Proofs/Clean4OptLemmas for the larger parser fragment `src4`
  (general repeats over bodies of `cleanOp`), of which `cleanOp` is the part without general repeats
  (`src4_of_cleanOp`); a tree of the fragment of Spec/Enum4 without general repeat is in that of Spec/Enum2
  (`clean2_of_clean4`).
-/
import RxModel.Proofs.Clean4OptLemmas
import RxModel.Proofs.Clean2SearchLemmas
import RxModel.Props.Clean2
namespace Rx.Clean2Opt
open Rx Rx.Clean4OptL

theorem optOK_choice (env : Env) (fl : CFlags) : (bs : List Op) → cleanOps bs = true → wfOps bs = true →
    seqGe2L bs = true → noEndL bs = true →
    mzsChoice (optimizeL env fl bs) = mzsChoice bs ∧
    initialClassChoice env fl.caseBlind (optimizeL env fl bs) = initialClassChoice env fl.caseBlind bs ∧
    cleanAll2 env fl.caseBlind fl.multiLine (optimizeL env fl bs) = true := by
  intro bs hc hwf h2 he
  have hs := (src4_of_cleanOp env fl).all hc
  obtain ⟨i1, i2, i3⟩ := optOK4_choice env fl bs hs hwf h2 he
  exact ⟨i1, i2, (clean2_of_clean4 env _ _).all ⟨shape2_optimizeL env fl bs hc, i3⟩⟩

/-- `optimize` maps a clean well-formed parser tree to a program of the enlarged fragment -/
theorem optimize_clean2 (env : Env) (fl : CFlags) (op : Op) (hc : cleanOp op = true) (hwf : wfOp op = true)
    (h2 : seqGe2 op = true) (he : endTop op = true) :
    cleanProg2 env fl.caseBlind fl.multiLine (optimize env fl op) = true :=
  cleanProg2_of_cleanProg4 env _ _ _ (shape2_optimize env fl op hc)
    (clean4_optimize_prog op ⟨(src4_of_cleanOp env fl).op' op hc, hwf, h2⟩ he)

/-- in the compositional case (no EndProgram at all) the result is even in `cleanOp2` -/
theorem optimize_cleanOp2 (env : Env) (fl : CFlags) (op : Op) (hc : cleanOp op = true) (hwf : wfOp op = true)
    (h2 : seqGe2 op = true) (he : noEnd op = true) :
    cleanOp2 env fl.caseBlind fl.multiLine (optimize env fl op) = true :=
  (clean2_of_clean4 env _ _).op' _ ⟨shape2_optimize env fl op hc,
    clean4_optimize op ⟨(src4_of_cleanOp env fl).op' op hc, hwf, h2⟩ he⟩

/-- the first set and `matches_empty_string` of a clean tree survive optimisation unchanged -/
theorem optimize_initialClass (env : Env) (fl : CFlags) (op : Op) (hc : cleanOp op = true) (hwf : wfOp op = true)
    (h2 : seqGe2 op = true) (he : noEnd op = true) :
    initialClass env fl.caseBlind (optimize env fl op) = initialClass env fl.caseBlind op ∧
    mzs (optimize env fl op) = mzs op :=
  ⟨ic_optimize op ⟨(src4_of_cleanOp env fl).op' op hc, hwf, h2⟩, mzs_optimize env fl op hwf h2⟩

/-! ### from the two compilations of a pattern -/

/-- if the UN-optimised compilation of a pattern (the verification hook's `compileCore … false`) is in
    the fragment `cleanOp` and has the two parser shape facts, then the optimised compilation is a program of
    the fragment `cleanProg2`, its tree is `optimize` of the un-optimised tree, and neither tree contains a
    general repeat to be numbered -/
theorem compile_clean2 (env : Env) (fl : CFlags) (pat : List Nat) (pr bare : Prog)
    (h1 : compileCore env fl pat true = .ok pr) (h0 : compileCore env fl pat false = .ok bare)
    (hc : cleanOp bare.op = true) (hwf : wfOp bare.op = true)
    (h2 : seqGe2 bare.op = true) (he : endTop bare.op = true) :
    cleanProg2 env fl.caseBlind fl.multiLine pr.op = true ∧
    (pr.op = bare.op ∨ pr.op = optimize env fl bare.op) := by
  obtain ⟨op, mp, hbr, rfl, rfl⟩ := compile_pair env fl pat pr bare h1 h0
  have hb : (mkBareProgram pat op mp fl hbr).op = (numberReps op 0).1 := rfl
  rw [hb] at hc hwf h2 he ⊢
  rw [SearchComplete.cleanOp_numberReps] at hc
  have hs := (shape_of_clean2 env fl.caseBlind fl.multiLine).op
    (Clean2.cleanOp2_of_cleanOp env _ _ op hc)
  rw [SearchComplete.numberReps_shape2 op hs 0] at hwf h2 he ⊢
  have hcl := optimize_clean2 env fl op hc hwf h2 he
  have hs' := shape_of_cleanProg2 env _ _ _ hcl
  rw [SearchComplete.mkProgram_op_shape2 pat _ mp fl hbr hs']
  exact ⟨hcl, .inr rfl⟩

end Rx.Clean2Opt
