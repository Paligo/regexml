import RxModel.Model.Basic
import RxModel.Model.Stream
import RxModel.Model.Engine
import RxModel.Model.Search
import RxModel.Model.Scan
import RxModel.Model.Api
import RxModel.Spec.Pieces
import RxModel.Proofs.PullLoop
import RxModel.Proofs.ScanRun
import RxModel.Props.C04
import RxModel.Spec.Repl
import RxModel.Props.C15
import RxModel.Model.CharSet
import RxModel.Model.Flags
import RxModel.Model.Optimize
import RxModel.Model.Program
import RxModel.Model.Parser
import RxModel.Model.Compile
import RxModel.Model.Unicode
import RxModel.Proofs.StreamCalc
import RxModel.Proofs.SatCalc
import RxModel.Proofs.EngineBase
import RxModel.Proofs.SatGen
import RxModel.Proofs.SatSem
import RxModel.Proofs.ProgFacts
import RxModel.Proofs.FirstHit
import RxModel.Proofs.OpEq
import RxModel.Proofs.ApiContract
import RxModel.Proofs.PreComplete
import RxModel.Proofs.ProgOK
import RxModel.Proofs.NewProg
import RxModel.Proofs.RegexOKNew
import RxModel.Spec.OpLang
import RxModel.Spec.Preds
import RxModel.Spec.InputPreds
import RxModel.Spec.MemoPreds
import RxModel.Props.C01
import RxModel.Props.C09
import RxModel.Props.C17
import RxModel.Props.C14
import RxModel.Props.C16
import RxModel.Props.C07
import RxModel.Props.C12
import RxModel.Props.C11
import RxModel.Props.C19
import RxModel.Props.C05
import RxModel.Props.C02
import RxModel.Props.C06
import RxModel.Props.C10
import RxModel.Props.C08
import RxModel.Props.C20
import RxModel.Props.C13
import RxModel.Props.C03
import RxModel.Model.World
import RxModel.Props.C18
import RxModel.Props.WF
import RxModel.Props.C08b
import RxModel.Props.Api
import RxModel.Props.C08c
import RxModel.Props.C09b
import RxModel.Props.Findings
import RxModel.Props.Clean
import RxModel.Props.SearchComplete
import RxModel.Props.C11b
import RxModel.Props.C09c
import RxModel.Props.CleanComplete
import RxModel.Props.C07b
import RxModel.Props.C03b
import RxModel.Props.Clean2
import RxModel.Props.Clean2Complete
import RxModel.Props.Clean2Opt
import RxModel.Props.Clean2End
import RxModel.Props.CaseTables
import RxModel.Proofs.StdInput
import RxModel.Proofs.CapsFragments
import RxModel.Props.EnvStd
import RxModel.Props.C03c
import RxModel.Props.Clean2Api
import RxModel.Props.C09d
import RxModel.Props.C07c
import RxModel.Props.C07d
import RxModel.Props.C11c
import RxModel.Props.C05b
import RxModel.Props.ApiComplete
import RxModel.Props.C03d
import RxModel.Props.C07e
import RxModel.Props.Clean3
import RxModel.Props.Clean3Complete
import RxModel.Props.Clean3Memo
import RxModel.Props.C06b
import RxModel.Props.C03e
import RxModel.Props.C12b
import RxModel.Props.Clean3Api
import RxModel.Props.Clean3MemoScan
import RxModel.Props.Clean3ApiComplete
import RxModel.Props.Clean4
import RxModel.Props.C09e
import RxModel.Props.Clean3MemoEnd
import RxModel.Props.Clean4Api
import RxModel.Props.C11d
import RxModel.Props.Clean3MemoSpans
import RxModel.Props.C03f
import RxModel.Props.Clean4Laws
import RxModel.Props.Clean4Opt
import RxModel.Props.C03g
import RxModel.Props.Clean4End
import RxModel.Proofs.IterRLemmas
import RxModel.Proofs.OpRCalc
import RxModel.Proofs.RangeSetLemmas
import RxModel.Proofs.CanonBLemmas
import RxModel.Proofs.TreePred
import RxModel.Proofs.ClassText
import RxModel.Proofs.DenLemmas
import RxModel.Proofs.ArrayLemmas
import RxModel.Proofs.GroupTree
import RxModel.Proofs.TreePredInst
import RxModel.Proofs.Enumerates
import RxModel.Proofs.NodesC
